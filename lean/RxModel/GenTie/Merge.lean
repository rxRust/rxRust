import RxModel.Gen.Merge
import RxModel.GenTie.Tactics
/-! Tie: `MergeObserver` (one cell, the same observer type for both inputs) generated from
    src/ops/merge.rs IS the `St2.merge` cell of the model, for either input. -/
namespace Rx.GenTie
open Rx Rx.Gen.Merge

def absMerge (g : MergeObserver) : St2 := .merge g.observer.isSome g.completed_one

theorem tie_Merge_next (g : MergeObserver) (sd : Side) (v : Val) :
    (MergeObserver.next g v).map (fun r => (absMerge r.1, r.2)) = some (Rs.lift (St2.step (absMerge g) sd (.next v))) := by
  rcases g with ⟨_ | _, c⟩ <;> rfl

theorem tie_Merge_error (g : MergeObserver) (sd : Side) (e : Err) :
    (MergeObserver.error g e).map (fun r => (absMerge r.1, r.2)) = some (Rs.lift (St2.step (absMerge g) sd (.error e))) := by
  rcases g with ⟨_ | _, c⟩ <;> rfl

theorem tie_Merge_complete (g : MergeObserver) (sd : Side) :
    (MergeObserver.complete g).map (fun r => (absMerge r.1, r.2)) = some (Rs.lift (St2.step (absMerge g) sd .complete)) := by
  rcases g with ⟨_ | _, _ | _⟩ <;> rfl


theorem tie_Merge_init : absMerge MergeObserver.init = Kind2.init .merge := rfl

end Rx.GenTie
