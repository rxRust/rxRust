import RxModel.Gen.Collect
import RxModel.GenTie.Tactics
/-! Tie: `CollectObserver` generated from `/repo/src` IS the `St1` machine of the hand-written model. -/
namespace Rx.GenTie
open Rx Rx.Gen.Collect

def absCollect (g : CollectObserver) : St1 := .collect g.collection

theorem tie_Collect_next (g : CollectObserver) (v : Val) :
    (CollectObserver.next g v).map (fun r => (absCollect r.1, r.2)) = some (Rs.lift (St1.onNext (absCollect g) v)) := rfl

theorem tie_Collect_error (g : CollectObserver) (e : Err) :
    (CollectObserver.error g e).map (fun r => r.2) = some ((St1.onError' (absCollect g) e).2.map Rs.Ev.n) := rfl

theorem tie_Collect_complete (g : CollectObserver) :
    (CollectObserver.complete g).map (fun r => r.2) = some ((St1.onComplete' (absCollect g)).2.map Rs.Ev.n) := by
  have h : Rs.ToVal.toVal g.collection = Val.ofList g.collection := congrArg Val.ofList (List.map_id _)
  simp only [CollectObserver.complete, Rs.emitNext, h]
  rfl


theorem tie_Collect_init  :
    absCollect (CollectObserver.init []) = Spec.Op1.init (.collect) := rfl

end Rx.GenTie
