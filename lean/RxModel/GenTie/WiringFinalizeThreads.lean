import RxModel.Gen.FinalizeThreads
/-! Tie (topology): `FinalizeOpThreads::actual_subscribe` — one `func` cell, held by the observer handed to the source AND by the
    returned subscription. -/
namespace Rx.GenTie
open Rx.Gen.FinalizeThreads

theorem wiring_FinalizeThreads_lets : FinalizeOpThreads.lets =
  [("func", "MutArc::own(Some(self.func))"),
   ("subscription", "self.source.actual_subscribe(FinalizerObserver { observer, func : func })")] := rfl

theorem wiring_FinalizeThreads_views : FinalizeOpThreads.views =
  [("FinalizerObserver", "observer", "observer"),
   ("FinalizerObserver", "func", "func"),
   ("FinalizerSubscription", "subscription", "subscription"),
   ("FinalizerSubscription", "func", "func")] := rfl

theorem wiring_FinalizeThreads_order : FinalizeOpThreads.order =
  [("self.source", "FinalizerObserver { observer, func : func }")] := rfl

end Rx.GenTie
