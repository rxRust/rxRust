import RxModel.Gen.Finalize
/-! Tie (topology): `FinalizeOp::actual_subscribe` — one `func` cell, held by the observer handed to the source AND by the
    returned subscription. -/
namespace Rx.GenTie
open Rx.Gen.Finalize

theorem wiring_Finalize_lets : FinalizeOp.lets =
  [("func", "MutRc::own(Some(self.func))"),
   ("subscription", "self.source.actual_subscribe(FinalizerObserver { observer, func : func })")] := rfl

theorem wiring_Finalize_views : FinalizeOp.views =
  [("FinalizerObserver", "observer", "observer"),
   ("FinalizerObserver", "func", "func"),
   ("FinalizerSubscription", "subscription", "subscription"),
   ("FinalizerSubscription", "func", "func")] := rfl

theorem wiring_Finalize_order : FinalizeOp.order =
  [("self.source", "FinalizerObserver { observer, func : func }")] := rfl

end Rx.GenTie
