import RxModel.Gen.Last
import RxModel.GenTie.Tactics
/-! Tie: `LastObserver` generated from `/repo/src` IS the `St1` machine of the hand-written model. -/
namespace Rx.GenTie
open Rx Rx.Gen.Last

def absLast (g : LastObserver) : St1 := .last g.last

theorem tie_Last_next (g : LastObserver) (v : Val) :
    (LastObserver.next g v).map (fun r => (absLast r.1, r.2)) = some (Rs.lift (St1.onNext (absLast g) v)) := rfl

theorem tie_Last_error (g : LastObserver) (e : Err) :
    (LastObserver.error g e).map (fun r => r.2) = some ((St1.onError' (absLast g) e).2.map Rs.Ev.n) := rfl

theorem tie_Last_complete (g : LastObserver) :
    (LastObserver.complete g).map (fun r => r.2) = some ((St1.onComplete' (absLast g)).2.map Rs.Ev.n) := by
  rcases g with ⟨o, _ | l⟩ <;> rfl


theorem tie_Last_init  :
    absLast (LastObserver.init none) = Spec.Op1.init (.last) := rfl

end Rx.GenTie
