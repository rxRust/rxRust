import RxModel.Gen.Prelude
import RxModel.Ops.Single
import RxModel.Ops.Init
import RxModel.Ops.Multi
/-!
  What the tie theorems (`RxModel/GenTie/*.lean`) state and how they are proved.  Each one says that an observer
  GENERATED from `/repo/src` by `rs2lean` is, method by method and for every state and argument, the machine of the
  hand-written model that all property theorems are about:

      (Gen.X.next g v).map (fun r => (abs r.1, r.2)) = some (Rs.lift (St1.onNext (abs g) v))

  `abs : Gen.X → St1` reads a Rust state as a model state.  The left side being `some _` also says that
  the Rust method cannot panic (no `unwrap()` of `None`, no `usize` underflow, loops terminate).

  Proof.  The generated method is a `do` block over the `Rs.*` vocabulary of `Gen/Prelude.lean`, the model function a
  `match` on its state.  Once the state is a constructor term in the fields the Rust code matches on
  (`rcases g with ⟨_ | _, c, h⟩`: slot empty / full) both sides reduce to the same normal form and the proof is `rfl`:
  Lean unfolds both definitions and compares, so nothing is assumed about the generated code, and a regenerated
  definition that differs in one branch fails in that branch.  A test that does not reduce on variables is split
  first: `cases p v` for a Bool test; for `Rs.lt a b` / `Rs.eq a b` (a `decide`) against the model's `if a < b`,
  `simp only [decide_eq_true_eq]` leaves both `if`s with the same decision instance, then `cases Nat.decLt a b`.
  A loop (`Rs.forEach`, `Rs.whileFuel`, `Rs.loopFuel`) goes through one lemma with the body as a variable and its
  equation as a hypothesis.  Cells and scheduler stages: every method in closed form first
  (`tie_X_next : X.next g v = some (..)`), the simulation from the closed forms.
-/
namespace Rx.GenTie
open Rx

/-- one round of a `while` whose condition holds -/
theorem loopFuel_succ {σ} (n : Nat) (c : σ → Bool) (body : σ → Option (σ × Bool)) (s : σ) (h : c s = true) :
    Rs.loopFuel (n + 1) c body s = (body s).bind (fun r => if r.2 then some r.1 else Rs.loopFuel n c body r.1) :=
  if_pos h

end Rx.GenTie
