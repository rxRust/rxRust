import RxModel.Gen.MapTo
import RxModel.GenTie.Tactics
/-! Tie: `MapToObserver` generated from `/repo/src` IS the `St1` machine of the hand-written model. -/
namespace Rx.GenTie
open Rx Rx.Gen.MapTo

def absMapTo (g : MapToObserver) : St1 := .mapTo g.value

theorem tie_MapTo_next (g : MapToObserver) (v : Val) :
    (MapToObserver.next g v).map (fun r => (absMapTo r.1, r.2)) = some (Rs.lift (St1.onNext (absMapTo g) v)) := rfl

theorem tie_MapTo_error (g : MapToObserver) (e : Err) :
    (MapToObserver.error g e).map (fun r => r.2) = some ((St1.onError' (absMapTo g) e).2.map Rs.Ev.n) := rfl

theorem tie_MapTo_complete (g : MapToObserver) :
    (MapToObserver.complete g).map (fun r => r.2) = some ((St1.onComplete' (absMapTo g)).2.map Rs.Ev.n) := rfl


theorem tie_MapTo_init (v : Val) :
    absMapTo (MapToObserver.init v) = Spec.Op1.init (.mapTo v) := rfl

end Rx.GenTie
