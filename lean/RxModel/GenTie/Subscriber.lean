import RxModel.Gen.Subscriber
import RxModel.GenTie.RcObserver
import RxModel.Subject.Subject
/-! Tie: `Subscriber<O>` (a newtype around the slot cell `MutRc<Option<O>>`, src/subscriber.rs) generated from the
    source: as Observer / Publisher it is the slot (`impl_rc_observer!`), as Subscription `unsubscribe` empties
    the cell, `is_closed` = cell empty, `p_is_closed` = finished or closed — the `Slot.alive` bit of the subject
    model (`Slot.recv` leaves it, `Slot.finish` and `Slot.kill` clear it). -/
namespace Rx.GenTie
open Rx Rx.Gen.Subscriber

theorem tie_Subscriber_p_next (g : Subscriber) (v : Val) :
    Subscriber.p_next g v = some (g, if g.isSome then [Rs.Ev.n (Notif.next v)] else []) := by
  cases g <;> rfl

theorem tie_Subscriber_p_error (g : Subscriber) (e : Err) :
    Subscriber.p_error g e = some (none, if g.isSome then [Rs.Ev.n (Notif.error e)] else []) := by
  cases g <;> rfl

theorem tie_Subscriber_p_complete (g : Subscriber) :
    Subscriber.p_complete g = some (none, if g.isSome then [Rs.Ev.n Notif.complete] else []) := by
  cases g <;> rfl

theorem tie_Subscriber_unsubscribe (g : Subscriber) :
    Subscriber.unsubscribe g = some (none, []) ∧ Subscriber.p_unsubscribe g = some (none, []) := by
  cases g <;> exact ⟨rfl, rfl⟩

theorem tie_Subscriber_is_closed (g : Subscriber) (c : Nat → Bool) : Subscriber.is_closed g c = !g.isSome := rfl

theorem tie_Subscriber_p_is_closed (g : Subscriber) (d : Bool) (c : Nat → Bool) :
    Subscriber.p_is_closed g d c = (!g.isSome || d) := by
  cases g <;> cases d <;> rfl

theorem tie_Subscriber_finished (g : Subscriber) (d : Bool) : Subscriber.is_finished g d = (!g.isSome || d) := by
  cases g <;> rfl

/-- the model's slot operations on the `alive` bit -/
theorem slot_alive_bits (x : Subj.Slot) (v : Val) (n : Notif) :
    (x.recv v).alive = x.alive ∧ (x.finish n).alive = false ∧ x.kill.alive = false := by
  simp [Subj.Slot.recv, Subj.Slot.finish, Subj.Slot.kill]

end Rx.GenTie
