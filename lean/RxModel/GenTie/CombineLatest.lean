import RxModel.Gen.CombineLatest
import RxModel.GenTie.Tactics
/-! Tie: `CombineLatestObserver` behind its cell and the tagged `AObserver` / `BObserver` generated from
    src/ops/combine_latest.rs ARE the `St2.combine` cell of the model (the model's and the harness' binary
    operation is pairing, hence the hypothesis on `binary_op`). -/
namespace Rx.GenTie
open Rx Rx.Gen.CombineLatest

def absCombine (g : CombineLatestObserver) : St2 := .combine g.observer.isSome g.a g.b g.completed_one

theorem tie_Combine_a_next (g : CombineLatestObserver) (h : g.binary_op = Val.pair) (v : Val) :
    (AObserver.next g v).map (fun r => (absCombine r.1, r.2)) = some (Rs.lift (St2.step (absCombine g) .a (.next v))) := by
  rcases g with ⟨_ | _, a, _ | b, op, c⟩ <;> cases h <;> rfl

theorem tie_Combine_b_next (g : CombineLatestObserver) (h : g.binary_op = Val.pair) (v : Val) :
    (BObserver.next g v).map (fun r => (absCombine r.1, r.2)) = some (Rs.lift (St2.step (absCombine g) .b (.next v))) := by
  rcases g with ⟨_ | _, _ | a, b, op, c⟩ <;> cases h <;> rfl

theorem tie_Combine_next_keeps_op (g : CombineLatestObserver) (v : Val) :
    (∀ r, AObserver.next g v = some r → r.1.binary_op = g.binary_op) ∧
    (∀ r, BObserver.next g v = some r → r.1.binary_op = g.binary_op) := by
  constructor
  · rcases g with ⟨_ | _, a, _ | b, op, c⟩ <;> intro r h <;> cases h <;> rfl
  · rcases g with ⟨_ | _, _ | a, b, op, c⟩ <;> intro r h <;> cases h <;> rfl

theorem tie_Combine_a_error (g : CombineLatestObserver) (e : Err) :
    (AObserver.error g e).map (fun r => (absCombine r.1, r.2)) = some (Rs.lift (St2.step (absCombine g) .a (.error e))) := by
  rcases g with ⟨_ | _, a, b, op, c⟩ <;> rfl

theorem tie_Combine_b_error (g : CombineLatestObserver) (e : Err) :
    (BObserver.error g e).map (fun r => (absCombine r.1, r.2)) = some (Rs.lift (St2.step (absCombine g) .b (.error e))) := by
  rcases g with ⟨_ | _, a, b, op, c⟩ <;> rfl

theorem tie_Combine_a_complete (g : CombineLatestObserver) :
    (AObserver.complete g).map (fun r => (absCombine r.1, r.2)) = some (Rs.lift (St2.step (absCombine g) .a .complete)) := by
  rcases g with ⟨_ | _, a, b, op, _ | _⟩ <;> rfl

theorem tie_Combine_b_complete (g : CombineLatestObserver) :
    (BObserver.complete g).map (fun r => (absCombine r.1, r.2)) = some (Rs.lift (St2.step (absCombine g) .b .complete)) := by
  rcases g with ⟨_ | _, a, b, op, _ | _⟩ <;> rfl


theorem tie_Combine_init (op : Val → Val → Val) : absCombine (CombineLatestObserver.init op) = Kind2.init .combine := rfl

end Rx.GenTie
