import RxModel.Gen.Filter
import RxModel.GenTie.Tactics
/-! Tie: `FilterObserver` generated from `/repo/src` IS the `St1` machine of the hand-written model. -/
namespace Rx.GenTie
open Rx Rx.Gen.Filter

def absFilter (g : FilterObserver) : St1 := .filter g.filter

theorem tie_Filter_next (g : FilterObserver) (v : Val) :
    (FilterObserver.next g v).map (fun r => (absFilter r.1, r.2)) = some (Rs.lift (St1.onNext (absFilter g) v)) := by
  unfold FilterObserver.next absFilter St1.onNext
  dsimp only
  cases g.filter v <;> rfl

theorem tie_Filter_error (g : FilterObserver) (e : Err) :
    (FilterObserver.error g e).map (fun r => r.2) = some ((St1.onError' (absFilter g) e).2.map Rs.Ev.n) := rfl

theorem tie_Filter_complete (g : FilterObserver) :
    (FilterObserver.complete g).map (fun r => r.2) = some ((St1.onComplete' (absFilter g)).2.map Rs.Ev.n) := rfl


theorem tie_Filter_init (p : Val → Bool) :
    absFilter (FilterObserver.init p) = Spec.Op1.init (.filter p) := rfl

end Rx.GenTie
