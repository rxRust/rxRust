import RxModel.Gen.OnComplete
import RxModel.GenTie.Tactics
/-! Tie: `OnCompleteObserver` generated from `/repo/src` IS the `St1` machine of the hand-written model. -/
namespace Rx.GenTie
open Rx Rx.Gen.OnComplete

def absOnComplete (g : OnCompleteObserver) : St1 := .onComplete g.func

theorem tie_OnComplete_next (g : OnCompleteObserver) (v : Val) :
    (OnCompleteObserver.next g v).map (fun r => (absOnComplete r.1, r.2)) = some (Rs.lift (St1.onNext (absOnComplete g) v)) := rfl

theorem tie_OnComplete_error (g : OnCompleteObserver) (e : Err) :
    (OnCompleteObserver.error g e).map (fun r => r.2) = some ((St1.onError' (absOnComplete g) e).2.map Rs.Ev.n) := rfl

theorem tie_OnComplete_complete (g : OnCompleteObserver) :
    (OnCompleteObserver.complete g).map (fun r => r.2) = some ((St1.onComplete' (absOnComplete g)).2.map Rs.Ev.n) := rfl


end Rx.GenTie
