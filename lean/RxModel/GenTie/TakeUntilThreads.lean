import RxModel.Gen.TakeUntilThreads
import RxModel.Gen.RcObserver
import RxModel.GenTie.Tactics
/-! Tie (thread-safe flavour, C18: the `MutArc` / atomic instantiation of the same source is the SAME model cell): the source side of take_until IS the shared slot itself (`impl_rc_observer!`, src/observer.rs), the
    notifier side is `TakeUntilNotifierObserver` generated from src/ops/take_until.rs; together they ARE the
    `St2.takeUntil` cell.  DECLARED topology: `main_observer` is the same slot cell the source feeds. -/
namespace Rx.GenTie
open Rx Rx.Gen.TakeUntilThreads Rx.Gen.RcObserver

def absTTuA (g : RcObserver) : St2 := .takeUntil g.isSome
def absTTuB (g : TakeUntilNotifierObserver) : St2 := .takeUntil g.main_observer.isSome

theorem tieT_Tu_a_next (g : RcObserver) (v : Val) :
    (RcObserver.next g v).map (fun r => (absTTuA r.1, r.2)) = some (Rs.lift (St2.step (absTTuA g) .a (.next v))) := by
  cases g <;> rfl

theorem tieT_Tu_a_error (g : RcObserver) (e : Err) :
    (RcObserver.error g e).map (fun r => (absTTuA r.1, r.2)) = some (Rs.lift (St2.step (absTTuA g) .a (.error e))) := by
  cases g <;> rfl

theorem tieT_Tu_a_complete (g : RcObserver) :
    (RcObserver.complete g).map (fun r => (absTTuA r.1, r.2)) = some (Rs.lift (St2.step (absTTuA g) .a .complete)) := by
  cases g <;> rfl

theorem tieT_Tu_b_next (g : TakeUntilNotifierObserver) (v : Val) :
    (TakeUntilNotifierObserver.next g v).map (fun r => (absTTuB r.1, r.2)) = some (Rs.lift (St2.step (absTTuB g) .b (.next v))) := by
  rcases g with ⟨_ | _⟩ <;> rfl

theorem tieT_Tu_b_error (g : TakeUntilNotifierObserver) (e : Err) :
    (TakeUntilNotifierObserver.error g e).map (fun r => (absTTuB r.1, r.2)) = some (Rs.lift (St2.step (absTTuB g) .b (.error e))) := rfl

theorem tieT_Tu_b_complete (g : TakeUntilNotifierObserver) :
    (TakeUntilNotifierObserver.complete g).map (fun r => (absTTuB r.1, r.2)) = some (Rs.lift (St2.step (absTTuB g) .b .complete)) := rfl


end Rx.GenTie
