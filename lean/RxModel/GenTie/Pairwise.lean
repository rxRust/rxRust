import RxModel.Gen.Pairwise
import RxModel.GenTie.Tactics
/-! Tie: `PairwiseObserver` generated from `/repo/src` IS the `St1` machine of the hand-written model. -/
namespace Rx.GenTie
open Rx Rx.Gen.Pairwise

def absPairwise (g : PairwiseObserver) : St1 := .pairwise g.pair.1 g.pair.2

theorem tie_Pairwise_next (g : PairwiseObserver) (v : Val) :
    (PairwiseObserver.next g v).map (fun r => (absPairwise r.1, r.2)) = some (Rs.lift (St1.onNext (absPairwise g) v)) := by
  rcases g with ⟨o, x, _ | y⟩ <;> rfl

theorem tie_Pairwise_error (g : PairwiseObserver) (e : Err) :
    (PairwiseObserver.error g e).map (fun r => r.2) = some ((St1.onError' (absPairwise g) e).2.map Rs.Ev.n) := rfl

theorem tie_Pairwise_complete (g : PairwiseObserver) :
    (PairwiseObserver.complete g).map (fun r => r.2) = some ((St1.onComplete' (absPairwise g)).2.map Rs.Ev.n) := rfl


theorem tie_Pairwise_init  :
    absPairwise (PairwiseObserver.init ) = Spec.Op1.init (.pairwise) := rfl

end Rx.GenTie
