import RxModel.Gen.TakeWhile
import RxModel.GenTie.Tactics
/-! Tie: `TakeWhileObserver` generated from `/repo/src` IS the `St1` machine of the hand-written model. -/
namespace Rx.GenTie
open Rx Rx.Gen.TakeWhile

def absTakeWhile (g : TakeWhileObserver) : St1 := .takeWhile g.callback g.inclusive g.observer.isSome

theorem tie_TakeWhile_next (g : TakeWhileObserver) (v : Val) :
    (TakeWhileObserver.next g v).map (fun r => (absTakeWhile r.1, r.2)) = some (Rs.lift (St1.onNext (absTakeWhile g) v)) := by
  rcases g with ⟨_ | o, p, _ | _⟩
  case' some.false | some.true =>
    show Option.map _ (if p v = true then _ else _) = some (Rs.lift (if p v = true then _ else _))
    cases p v
  all_goals rfl

theorem tie_TakeWhile_error (g : TakeWhileObserver) (e : Err) :
    (TakeWhileObserver.error g e).map (fun r => r.2) = some ((St1.onError' (absTakeWhile g) e).2.map Rs.Ev.n) := by
  rcases g with ⟨_ | _, _, _⟩ <;> rfl

theorem tie_TakeWhile_complete (g : TakeWhileObserver) :
    (TakeWhileObserver.complete g).map (fun r => r.2) = some ((St1.onComplete' (absTakeWhile g)).2.map Rs.Ev.n) := by
  rcases g with ⟨_ | _, _, _⟩ <;> rfl


theorem tie_TakeWhile_init (p : Val → Bool) (incl : Bool) :
    absTakeWhile (TakeWhileObserver.init p incl) = Spec.Op1.init (.takeWhile p incl) := rfl

end Rx.GenTie
