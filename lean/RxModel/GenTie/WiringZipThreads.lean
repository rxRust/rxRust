import RxModel.Gen.ZipThreads
/-! Tie (topology, thread-safe flavour): as GenTie/WiringZip.lean, for `ZipOpThreads`. -/
namespace Rx.GenTie
open Rx.Gen.ZipThreads

theorem wiringT_Zip_lets : ZipOpThreads.lets =
  [("o_zip", "ZipObserver::new(observer)"),
   ("o_zip", "MutArc::own(o_zip)"),
   ("a_unsub", "self.a.actual_subscribe(AObserver(o_zip , TypeHint::new()))"),
   ("b_unsub", "self.b.actual_subscribe(BObserver(o_zip, TypeHint::new()))")] := rfl

theorem wiringT_Zip_views : ZipOpThreads.views =
  [("AObserver", "0", "o_zip"),
   ("AObserver", "1", "TypeHint::new()"),
   ("BObserver", "0", "o_zip"),
   ("BObserver", "1", "TypeHint::new()")] := rfl

theorem wiringT_Zip_order : ZipOpThreads.order =
  [("self.a", "AObserver(o_zip , TypeHint::new())"),
   ("self.b", "BObserver(o_zip, TypeHint::new())")] := rfl

end Rx.GenTie
