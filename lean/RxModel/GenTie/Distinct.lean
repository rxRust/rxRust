import RxModel.Gen.Distinct
import RxModel.GenTie.Tactics
/-! Tie: the four observers of `src/ops/distinct.rs` ARE the `St1` machines of the hand-written model
    (`HashSet` read as a list with the newest member first; only membership is observable). -/
namespace Rx.GenTie
open Rx Rx.Gen.Distinct

def absDistinct (g : DistinctObserver) : St1 := .distinct g.seen

theorem tie_Distinct_next (g : DistinctObserver) (v : Val) :
    (DistinctObserver.next g v).map (fun r => (absDistinct r.1, r.2)) = some (Rs.lift (St1.onNext (absDistinct g) v)) := by
  unfold DistinctObserver.next absDistinct St1.onNext
  by_cases h : v ∈ g.seen <;> simp [Rs.contains, Rs.setInsert, Rs.lift, Rs.emitNext, Rs.ToVal.toVal, h]

theorem tie_Distinct_error (g : DistinctObserver) (e : Err) :
    (DistinctObserver.error g e).map (fun r => r.2) = some ((St1.onError' (absDistinct g) e).2.map Rs.Ev.n) := rfl

theorem tie_Distinct_complete (g : DistinctObserver) :
    (DistinctObserver.complete g).map (fun r => r.2) = some ((St1.onComplete' (absDistinct g)).2.map Rs.Ev.n) := rfl


theorem tie_Distinct_init  :
    absDistinct (DistinctObserver.init ) = Spec.Op1.init (.distinct) := rfl

def absDistinctKey (g : DistinctKeyObserver) : St1 := .distinctKey g.key g.seen

theorem tie_DistinctKey_next (g : DistinctKeyObserver) (v : Val) :
    (DistinctKeyObserver.next g v).map (fun r => (absDistinctKey r.1, r.2)) = some (Rs.lift (St1.onNext (absDistinctKey g) v)) := by
  unfold DistinctKeyObserver.next absDistinctKey St1.onNext
  by_cases h : g.key v ∈ g.seen <;> simp [Rs.contains, Rs.setInsert, Rs.lift, Rs.emitNext, Rs.ToVal.toVal, h]

theorem tie_DistinctKey_error (g : DistinctKeyObserver) (e : Err) :
    (DistinctKeyObserver.error g e).map (fun r => r.2) = some ((St1.onError' (absDistinctKey g) e).2.map Rs.Ev.n) := rfl

theorem tie_DistinctKey_complete (g : DistinctKeyObserver) :
    (DistinctKeyObserver.complete g).map (fun r => r.2) = some ((St1.onComplete' (absDistinctKey g)).2.map Rs.Ev.n) := rfl


theorem tie_DistinctKey_init (key : Val → Val) :
    absDistinctKey (DistinctKeyObserver.init key) = Spec.Op1.init (.distinctKey key) := rfl

def absDistinctUntilChanged (g : DistinctUntilChangedObserver) : St1 := .distinctUntilChanged g.last

theorem tie_DistinctUntilChanged_next (g : DistinctUntilChangedObserver) (v : Val) :
    (DistinctUntilChangedObserver.next g v).map (fun r => (absDistinctUntilChanged r.1, r.2)) = some (Rs.lift (St1.onNext (absDistinctUntilChanged g) v)) := by
  rcases g with ⟨o, _ | l⟩
  · rfl
  · unfold DistinctUntilChangedObserver.next absDistinctUntilChanged St1.onNext
    by_cases h : l = v <;> simp [Rs.eq, Rs.isSome, Rs.unwrap, Rs.lift, Rs.emitNext, Rs.ToVal.toVal, h]

theorem tie_DistinctUntilChanged_error (g : DistinctUntilChangedObserver) (e : Err) :
    (DistinctUntilChangedObserver.error g e).map (fun r => r.2) = some ((St1.onError' (absDistinctUntilChanged g) e).2.map Rs.Ev.n) := rfl

theorem tie_DistinctUntilChanged_complete (g : DistinctUntilChangedObserver) :
    (DistinctUntilChangedObserver.complete g).map (fun r => r.2) = some ((St1.onComplete' (absDistinctUntilChanged g)).2.map Rs.Ev.n) := rfl


theorem tie_DistinctUntilChanged_init  :
    absDistinctUntilChanged (DistinctUntilChangedObserver.init ) = Spec.Op1.init (.distinctUntilChanged) := rfl

def absDistinctUntilKeyChanged (g : DistinctUntilKeyChangedObserver) : St1 := .distinctUntilKeyChanged g.key g.last

theorem tie_DistinctUntilKeyChanged_next (g : DistinctUntilKeyChangedObserver) (v : Val) :
    (DistinctUntilKeyChangedObserver.next g v).map (fun r => (absDistinctUntilKeyChanged r.1, r.2)) = some (Rs.lift (St1.onNext (absDistinctUntilKeyChanged g) v)) := by
  rcases g with ⟨o, k, _ | l⟩
  · rfl
  · unfold DistinctUntilKeyChangedObserver.next absDistinctUntilKeyChanged St1.onNext
    by_cases h : k l = k v <;> simp [Rs.eq, Rs.lift, Rs.emitNext, Rs.ToVal.toVal, h]

theorem tie_DistinctUntilKeyChanged_error (g : DistinctUntilKeyChangedObserver) (e : Err) :
    (DistinctUntilKeyChangedObserver.error g e).map (fun r => r.2) = some ((St1.onError' (absDistinctUntilKeyChanged g) e).2.map Rs.Ev.n) := rfl

theorem tie_DistinctUntilKeyChanged_complete (g : DistinctUntilKeyChangedObserver) :
    (DistinctUntilKeyChangedObserver.complete g).map (fun r => r.2) = some ((St1.onComplete' (absDistinctUntilKeyChanged g)).2.map Rs.Ev.n) := rfl


theorem tie_DistinctUntilKeyChanged_init (key : Val → Val) :
    absDistinctUntilKeyChanged (DistinctUntilKeyChangedObserver.init key) = Spec.Op1.init (.distinctUntilKeyChanged key) := rfl

end Rx.GenTie
