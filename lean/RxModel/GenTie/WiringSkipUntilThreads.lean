import RxModel.Gen.SkipUntilThreads
/-! Tie (topology, thread-safe flavour): as GenTie/WiringSkipUntil.lean, for `SkipUntilOpThreads`. -/
namespace Rx.GenTie
open Rx.Gen.SkipUntilThreads

theorem wiringT_SkipUntil_lets : SkipUntilOpThreads.lets =
  [("share_observer", "ShareObserverThreads::new(observer)"),
   ("notify_observer", "SkipUntilNotifierObserver(share_observer)"),
   ("b", "self.notifier.actual_subscribe(notify_observer)"),
   ("a", "self.source.actual_subscribe(share_observer)")] := rfl

theorem wiringT_SkipUntil_views : SkipUntilOpThreads.views =
  [("SkipUntilNotifierObserver", "0", "share_observer")] := rfl

theorem wiringT_SkipUntil_order : SkipUntilOpThreads.order =
  [("self.notifier", "notify_observer"),
   ("self.source", "share_observer")] := rfl

end Rx.GenTie
