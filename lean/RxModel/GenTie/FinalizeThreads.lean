import RxModel.Gen.FinalizeThreads
import RxModel.GenTie.Tactics
import RxModel.Ops.Finalize
/-! Tie (thread-safe flavour): `FinalizerObserver` and `FinalizerSubscription` generated from src/ops/finalize.rs ARE the `Fin` cell of
    the model (`Ops/Finalize.lean`): the downstream call FIRST, then the callback iff the shared `Option<F>` is
    still full, which empties it; `unsubscribe()` tears the source down FIRST, then the same.  DECLARED topology
    (pinned in GenTie/WiringFinalize.lean): observer and subscription hold the SAME `func` cell. -/
namespace Rx.GenTie
open Rx Rx.Gen.FinalizeThreads Rx.Finalize

/-- a marker / notification of the model's log as an effect of the generated code -/
def foutEvT : FOut → Rs.Ev
  | .n x => .n x
  | .f id => .call id

/-- the shared cell as the model sees it -/
def cellOfT (c : Fin) : Option Rs.Callback := if c.armed then some ⟨c.id⟩ else none

theorem tieT_Finalize_next (c : Fin) (o : Rs.Obs) (v : Val) :
    FinalizerObserver.next ⟨o, cellOfT c⟩ v =
      some (⟨o, cellOfT (c.onNotif (.next v)).1⟩, (c.onNotif (.next v)).2.map foutEvT) := rfl

theorem tieT_Finalize_error (c : Fin) (o : Rs.Obs) (e : Err) :
    FinalizerObserver.error ⟨o, cellOfT c⟩ e =
      some (⟨o, cellOfT (c.onNotif (.error e)).1⟩, (c.onNotif (.error e)).2.map foutEvT) := by
  rcases c with ⟨id, _ | _, k⟩ <;> rfl

theorem tieT_Finalize_complete (c : Fin) (o : Rs.Obs) :
    FinalizerObserver.complete ⟨o, cellOfT c⟩ =
      some (⟨o, cellOfT (c.onNotif .complete).1⟩, (c.onNotif .complete).2.map foutEvT) := by
  rcases c with ⟨id, _ | _, k⟩ <;> rfl

/-- `FinalizerSubscription::unsubscribe`: the wrapped subscription first, then the callback (`Fin.fire`). -/
theorem tieT_Finalize_unsubscribe (c : Fin) (u : Rs.Sub) :
    FinalizerSubscription.unsubscribe ⟨u, cellOfT c⟩ =
      some (⟨u, cellOfT c.fire.1⟩, Rs.Ev.unsub u.id :: c.fire.2.map foutEvT) := by
  rcases c with ⟨id, _ | _, k⟩ <;> rfl

theorem tieT_Finalize_is_closed (g : FinalizerSubscription) (closedOf : Nat → Bool) :
    FinalizerSubscription.is_closed g closedOf = closedOf g.subscription.id := rfl

theorem tieT_Finalize_finished (g : FinalizerObserver) (d : Bool) : FinalizerObserver.is_finished g d = d := rfl

/-- `actual_subscribe`: both halves start with the callback in the cell. -/
theorem tieT_Finalize_init (f : Rs.Callback) :
    (FinalizerObserver.init f).func = cellOfT (Fin.new f.id) ∧ (FinalizerSubscription.init f).func = cellOfT (Fin.new f.id) :=
  ⟨rfl, rfl⟩

end Rx.GenTie
