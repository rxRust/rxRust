import RxModel.Gen.MergeThreads
/-! Tie (topology, thread-safe flavour): as GenTie/WiringMerge.lean, for `MergeOpThreads`. -/
namespace Rx.GenTie
open Rx.Gen.MergeThreads

theorem wiringT_Merge_lets : MergeOpThreads.lets =
  [("observer", "MergeObserver { observer : Some(observer), completed_one : false, }"),
   ("observer", "MutArc::own(observer)"),
   ("a", "self.source1.actual_subscribe(observer)"),
   ("b", "self.source2.actual_subscribe(observer)")] := rfl

theorem wiringT_Merge_views : MergeOpThreads.views =
  [("MergeObserver", "observer", "Some(observer)"),
   ("MergeObserver", "completed_one", "false")] := rfl

theorem wiringT_Merge_order : MergeOpThreads.order =
  [("self.source1", "observer"),
   ("self.source2", "observer")] := rfl

end Rx.GenTie
