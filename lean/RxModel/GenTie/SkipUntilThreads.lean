import RxModel.Gen.SkipUntilThreads
import RxModel.GenTie.Tactics
/-! Tie (thread-safe flavour, C18: the `MutArc` / atomic instantiation of the same source is the SAME model cell): `ShareObserverThreads` (source side) and `SkipUntilNotifierObserver` (a newtype around a clone of it) generated
    from src/ops/skip_until.rs ARE the `St2.skipUntil` cell.  DECLARED topology: the clone shares the slot cell
    and the `skip` flag cell. -/
namespace Rx.GenTie
open Rx Rx.Gen.SkipUntilThreads

def absTSkipUntil (g : ShareObserverThreads) : St2 := .skipUntil g.observer.isSome g.skip

theorem tieT_Su_a_next (g : ShareObserverThreads) (v : Val) :
    (ShareObserverThreads.next g v).map (fun r => (absTSkipUntil r.1, r.2)) = some (Rs.lift (St2.step (absTSkipUntil g) .a (.next v))) := by
  rcases g with ⟨_ | _, _ | _⟩ <;> rfl

theorem tieT_Su_a_error (g : ShareObserverThreads) (e : Err) :
    (ShareObserverThreads.error g e).map (fun r => (absTSkipUntil r.1, r.2)) = some (Rs.lift (St2.step (absTSkipUntil g) .a (.error e))) := by
  rcases g with ⟨_ | _, s⟩ <;> rfl

theorem tieT_Su_a_complete (g : ShareObserverThreads) :
    (ShareObserverThreads.complete g).map (fun r => (absTSkipUntil r.1, r.2)) = some (Rs.lift (St2.step (absTSkipUntil g) .a .complete)) := by
  rcases g with ⟨_ | _, s⟩ <;> rfl

theorem tieT_Su_b_next (g : SkipUntilNotifierObserver) (v : Val) :
    (SkipUntilNotifierObserver.next g v).map (fun r => (absTSkipUntil r.1, r.2)) = some (Rs.lift (St2.step (absTSkipUntil g) .b (.next v))) := rfl

theorem tieT_Su_b_error (g : SkipUntilNotifierObserver) (e : Err) :
    (SkipUntilNotifierObserver.error g e).map (fun r => (absTSkipUntil r.1, r.2)) = some (Rs.lift (St2.step (absTSkipUntil g) .b (.error e))) := rfl

theorem tieT_Su_b_complete (g : SkipUntilNotifierObserver) :
    (SkipUntilNotifierObserver.complete g).map (fun r => (absTSkipUntil r.1, r.2)) = some (Rs.lift (St2.step (absTSkipUntil g) .b .complete)) := rfl


theorem tieT_Su_init : absTSkipUntil ShareObserverThreads.init = Kind2.init .skipUntil := rfl

end Rx.GenTie
