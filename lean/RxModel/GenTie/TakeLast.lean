import RxModel.Gen.TakeLast
import RxModel.GenTie.Tactics
/-! Tie: `TakeLastObserver` generated from `/repo/src` IS the `St1.takeLast` machine (the `while` loop that
    trims the queue computes `lastN`, within its fuel). -/
namespace Rx.GenTie
open Rx Rx.Gen.TakeLast

def absTakeLast (g : TakeLastObserver) : St1 := .takeLast g.count g.queue

theorem lastN_cons_of_lt (c : Nat) (h : Val) (t : List Val) (hl : c < (h :: t).length) :
    lastN c (h :: t) = lastN c t := by
  unfold lastN
  rw [List.length_cons, Nat.succ_sub (Nat.le_of_lt_succ hl), List.drop_succ_cons]

theorem lastN_of_le (c : Nat) (q : List Val) (hl : q.length ≤ c) : lastN c q = q := by
  simp [lastN, Nat.sub_eq_zero_of_le hl]

/-- the trimming loop of `TakeLastObserver::next` -/
theorem takeLast_loop (o : Rs.Obs) (c : Nat) (out : Rs.Out) :
    ∀ (n : Nat) (q : List Val), q.length < n →
      Rs.whileFuel n (fun (p : TakeLastObserver × Rs.Out) => decide (p.fst.count < p.fst.queue.length))
        (fun p => some ({ observer := p.fst.observer, count := p.fst.count, queue := p.fst.queue.tail }, p.snd))
        ({ observer := o, count := c, queue := q }, out)
      = some ({ observer := o, count := c, queue := lastN c q }, out) := by
  intro n
  induction n with
  | zero => intro q h; omega
  | succ n ih =>
    intro q h
    by_cases hc : c < q.length
    · cases q with
      | nil => simp at hc
      | cons x t =>
        simp only [Rs.whileFuel, hc, decide_true, if_true, Option.bind, List.tail_cons]
        rw [ih t (by simpa using h), lastN_cons_of_lt c x t hc]
    · simp only [Rs.whileFuel, hc, decide_false]
      simp [lastN_of_le c q (by omega)]

theorem tie_TakeLast_next (g : TakeLastObserver) (v : Val) :
    (TakeLastObserver.next g v).map (fun r => (absTakeLast r.1, r.2)) = some (Rs.lift (St1.onNext (absTakeLast g) v)) := by
  rcases g with ⟨o, c, q⟩
  simp only [TakeLastObserver.next, Rs.pushBack, Rs.popFront, Option.pure_def, Option.bind_eq_bind]
  rw [takeLast_loop o c [] _ _ (Nat.lt_succ_self _)]
  rfl

theorem tie_TakeLast_error (g : TakeLastObserver) (e : Err) :
    (TakeLastObserver.error g e).map (fun r => r.2) = some ((St1.onError' (absTakeLast g) e).2.map Rs.Ev.n) := rfl

/-- the draining `for` loop of `TakeLastObserver::complete` -/
theorem takeLast_drain (s : TakeLastObserver) :
    ∀ (q : List Val) (out : Rs.Out),
      Rs.forEach q (s, out) (fun (p : TakeLastObserver × Rs.Out) value => some (p.fst, p.snd ++ [Rs.Ev.n (Notif.next value)]))
      = some (s, out ++ q.map (fun v => Rs.Ev.n (Notif.next v))) := by
  intro q
  induction q with
  | nil => intro out; simp
  | cons x t ih => intro out; simp [ih, List.append_assoc]

theorem tie_TakeLast_complete (g : TakeLastObserver) :
    (TakeLastObserver.complete g).map (fun r => r.2) = some ((St1.onComplete' (absTakeLast g)).2.map Rs.Ev.n) := by
  rcases g with ⟨o, c, q⟩
  simp only [TakeLastObserver.complete, Rs.emitNext, Rs.ToVal.toVal, id, Option.pure_def, Option.bind_eq_bind]
  rw [takeLast_drain]
  simp [absTakeLast, St1.onComplete', Rs.emitComplete]


theorem tie_TakeLast_init (n : Nat) :
    absTakeLast (TakeLastObserver.init n) = Spec.Op1.init (.takeLast n) := rfl

end Rx.GenTie
