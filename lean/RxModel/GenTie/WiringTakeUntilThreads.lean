import RxModel.Gen.TakeUntilThreads
/-! Tie (topology, thread-safe flavour): as GenTie/WiringTakeUntil.lean, for `TakeUntilOpThreads`. -/
namespace Rx.GenTie
open Rx.Gen.TakeUntilThreads

theorem wiringT_TakeUntil_lets : TakeUntilOpThreads.lets =
  [("main_observer", "MutArc::own(Some(observer))"),
   ("a", "self.source.actual_subscribe(main_observer)"),
   ("notify_observer", "TakeUntilNotifierObserver { main_observer, _hint : TypeHint::default(), }"),
   ("b", "self.notifier.actual_subscribe(notify_observer)")] := rfl

theorem wiringT_TakeUntil_views : TakeUntilOpThreads.views =
  [("TakeUntilNotifierObserver", "main_observer", "main_observer"),
   ("TakeUntilNotifierObserver", "_hint", "TypeHint::default()")] := rfl

theorem wiringT_TakeUntil_order : TakeUntilOpThreads.order =
  [("self.source", "main_observer"),
   ("self.notifier", "notify_observer")] := rfl

end Rx.GenTie
