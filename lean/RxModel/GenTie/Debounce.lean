import RxModel.Gen.Debounce
import RxModel.GenTie.Subscription
import RxModel.GenTie.RcObserver
/-! Tie: `DebounceObserver` and its task `debounce_task` (src/ops/debounce.rs, compiler-expanded, translated) in
    closed form — the `debounce` stage of the chain model (`Stage.debounce d alive trailing handler`):
      next v    the value is STORED (overwriting the previous candidate), the pending task — if any — is cancelled,
                ONE new task is scheduled with the window as delay and kept in the handler cell; nothing is delivered
      the task  takes the stored value and delivers it through the slot (nothing if a later `next` / `complete` took it)
      complete  flushes the stored value (always the final item), then completes; error: forwarded at once. -/
namespace Rx.GenTie
open Rx Rx.Gen.Debounce

theorem tie_Debounce_next (g : DebounceObserver) (v : Val) (h : Rs.Sub) :
    DebounceObserver.next g v h =
      some ({ g with trailing_value := some v, task_handler := some h },
            (match g.task_handler with | some old => [Rs.Ev.unsub old.id] | none => []) ++
              [Rs.Ev.sched "debounce_task" [] (some g.delay) h.id]) := by
  rcases g with ⟨o, sc, d, tv, _ | old⟩ <;> rfl

theorem tie_Debounce_task (g : DebounceObserver) :
    DebounceObserver.task_debounce_task g =
      some ({ g with trailing_value := none },
            match g.trailing_value with
            | some v => if g.observer.isSome then [Rs.Ev.n (Notif.next v)] else []
            | none => []) := by
  rcases g with ⟨_ | o, sc, d, _ | v, th⟩ <;> rfl

theorem tie_Debounce_complete (g : DebounceObserver) :
    DebounceObserver.complete g =
      some ({ g with trailing_value := none, observer := none },
            if g.observer.isSome then
              (match g.trailing_value with | some v => [Rs.Ev.n (Notif.next v)] | none => []) ++ [Rs.Ev.n Notif.complete]
            else []) := by
  rcases g with ⟨_ | o, sc, d, _ | v, th⟩ <;> rfl

theorem tie_Debounce_error (g : DebounceObserver) (e : Err) :
    DebounceObserver.error g e =
      some ({ g with observer := none }, if g.observer.isSome then [Rs.Ev.n (Notif.error e)] else []) := by
  rcases g with ⟨_ | o, sc, d, tv, th⟩ <;> rfl

theorem tie_Debounce_finished (g : DebounceObserver) (d : Bool) :
    DebounceObserver.is_finished g d = (!g.observer.isSome || d) := by
  rcases g with ⟨_ | o, sc, dl, tv, th⟩ <;> rfl

end Rx.GenTie
