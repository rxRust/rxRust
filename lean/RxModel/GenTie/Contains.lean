import RxModel.Gen.Contains
import RxModel.GenTie.Tactics
/-! Tie: `ContainsObserver` generated from `/repo/src` IS the `St1` machine of the hand-written model. -/
namespace Rx.GenTie
open Rx Rx.Gen.Contains

def absContains (g : ContainsObserver) : St1 := .contains g.target g.observer.isSome

theorem tie_Contains_next (g : ContainsObserver) (v : Val) :
    (ContainsObserver.next g v).map (fun r => (absContains r.1, r.2)) = some (Rs.lift (St1.onNext (absContains g) v)) := by
  rcases g with ⟨_ | o, t⟩ <;> unfold ContainsObserver.next absContains St1.onNext <;>
    simp only [Rs.eq, decide_eq_true_eq] <;> cases instDecidableEqVal t v <;> rfl

theorem tie_Contains_error (g : ContainsObserver) (e : Err) :
    (ContainsObserver.error g e).map (fun r => r.2) = some ((St1.onError' (absContains g) e).2.map Rs.Ev.n) := by
  rcases g with ⟨_ | _, _⟩ <;> rfl

theorem tie_Contains_complete (g : ContainsObserver) :
    (ContainsObserver.complete g).map (fun r => r.2) = some ((St1.onComplete' (absContains g)).2.map Rs.Ev.n) := by
  rcases g with ⟨_ | _, _⟩ <;> rfl


theorem tie_Contains_init (t : Val) :
    absContains (ContainsObserver.init t) = Spec.Op1.init (.contains t) := rfl

end Rx.GenTie
