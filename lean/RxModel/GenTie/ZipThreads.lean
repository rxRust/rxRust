import RxModel.Gen.ZipThreads
import RxModel.GenTie.Tactics
/-! Tie (thread-safe flavour, C18: the `MutArc` / atomic instantiation of the same source is the SAME model cell): `ZipObserver` behind its cell and the tagged `AObserver` / `BObserver` generated from
    src/ops/zip.rs ARE the `St2.zip` cell of the model. -/
namespace Rx.GenTie
open Rx Rx.Gen.ZipThreads

def absTZip (g : ZipObserver) : St2 := .zip g.observer.isSome g.a g.b g.completed_one

theorem tieT_Zip_a_next (g : ZipObserver) (v : Val) :
    (AObserver.next g v).map (fun r => (absTZip r.1, r.2)) = some (Rs.lift (St2.step (absTZip g) .a (.next v))) := by
  rcases g with ⟨_ | _, qa, _ | ⟨w, qb⟩, c⟩ <;> rfl

theorem tieT_Zip_b_next (g : ZipObserver) (v : Val) :
    (BObserver.next g v).map (fun r => (absTZip r.1, r.2)) = some (Rs.lift (St2.step (absTZip g) .b (.next v))) := by
  rcases g with ⟨_ | _, _ | ⟨w, qa⟩, qb, c⟩ <;> rfl

theorem tieT_Zip_a_error (g : ZipObserver) (e : Err) :
    (AObserver.error g e).map (fun r => (absTZip r.1, r.2)) = some (Rs.lift (St2.step (absTZip g) .a (.error e))) := by
  rcases g with ⟨_ | _, qa, qb, c⟩ <;> rfl

theorem tieT_Zip_b_error (g : ZipObserver) (e : Err) :
    (BObserver.error g e).map (fun r => (absTZip r.1, r.2)) = some (Rs.lift (St2.step (absTZip g) .b (.error e))) := by
  rcases g with ⟨_ | _, qa, qb, c⟩ <;> rfl

theorem tieT_Zip_a_complete (g : ZipObserver) :
    (AObserver.complete g).map (fun r => (absTZip r.1, r.2)) = some (Rs.lift (St2.step (absTZip g) .a .complete)) := by
  rcases g with ⟨_ | _, qa, qb, _ | _⟩ <;> rfl

theorem tieT_Zip_b_complete (g : ZipObserver) :
    (BObserver.complete g).map (fun r => (absTZip r.1, r.2)) = some (Rs.lift (St2.step (absTZip g) .b .complete)) := by
  rcases g with ⟨_ | _, qa, qb, _ | _⟩ <;> rfl


theorem tieT_Zip_init : absTZip ZipObserver.init = Kind2.init .zip := rfl

end Rx.GenTie
