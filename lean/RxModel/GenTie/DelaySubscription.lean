import RxModel.Gen.DelaySubscription
import RxModel.GenTie.Tactics
/-! Tie: `delay_subscription` (src/ops/delay.rs, compiler-expanded): ONE task `subscribe_task` holding the source, outer delay
    = the configured delay; the task subscribes the source (nothing else). -/
namespace Rx.GenTie
open Rx Rx.Gen.DelaySubscription

theorem tie_DelaySubscription_subscribe (g : DelaySubscriptionOp) (o : Rs.Obs) (h : Rs.Sub) :
    DelaySubscriptionOp.actual_subscribe g o h =
      some (g, [Rs.Ev.sched "subscribe_task" [Val.obs g.source.id] (some g.delay) h.id]) := rfl

theorem tie_DelaySubscription_task (o : Rs.Obs) (src : Rs.Inner) :
    Observer.task_subscribe_task o src = some (o, [Rs.Ev.start src.id]) := rfl

end Rx.GenTie
