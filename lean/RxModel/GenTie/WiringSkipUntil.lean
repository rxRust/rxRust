import RxModel.Gen.SkipUntil
/-! Tie (topology): the cells `SkipUntilOp::actual_subscribe` allocates, which observer field holds which cell, and the
    order in which the inputs are subscribed — extracted from /repo/src by rs2lean, pinned here.  The behaviour
    ties (GenTie/SkipUntil.lean) read the observers' fields as views of ONE shared state; this is the declaration
    they rest on (`firstSide` of the model = the first entry of `order`). -/
namespace Rx.GenTie
open Rx.Gen.SkipUntil

theorem wiring_SkipUntil_lets : SkipUntilOp.lets =
  [("share_observer", "ShareObserver::new(observer)"),
   ("notify_observer", "SkipUntilNotifierObserver(share_observer)"),
   ("b", "self.notifier.actual_subscribe(notify_observer)"),
   ("a", "self.source.actual_subscribe(share_observer)")] := rfl

theorem wiring_SkipUntil_views : SkipUntilOp.views =
  [("SkipUntilNotifierObserver", "0", "share_observer")] := rfl

theorem wiring_SkipUntil_order : SkipUntilOp.order =
  [("self.notifier", "notify_observer"),
   ("self.source", "share_observer")] := rfl

end Rx.GenTie
