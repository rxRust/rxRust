import RxModel.Gen.WithLatestFrom
/-! Tie (topology): the cells `WithLatestFromOp::actual_subscribe` allocates, which observer field holds which cell, and the
    order in which the inputs are subscribed — extracted from /repo/src by rs2lean, pinned here.  The behaviour
    ties (GenTie/WithLatestFrom.lean) read the observers' fields as views of ONE shared state; this is the declaration
    they rest on (`firstSide` of the model = the first entry of `order`). -/
namespace Rx.GenTie
open Rx.Gen.WithLatestFrom

theorem wiring_WithLatestFrom_lets : WithLatestFromOp.lets =
  [("item", "MutRc::own(None)"),
   ("source_observer", "MutRc::own(Some(observer))"),
   ("from_observer", "BObserver { observer : source_observer , value : item , _marker : std::marker::PhantomData::< ItemA >, }"),
   ("from_unsub", "self.from.actual_subscribe(from_observer)"),
   ("source_unsub", "self.source.actual_subscribe(AObserver { observer : source_observer, value : item, })")] := rfl

theorem wiring_WithLatestFrom_views : WithLatestFromOp.views =
  [("BObserver", "observer", "source_observer"),
   ("BObserver", "value", "item"),
   ("BObserver", "_marker", "std::marker::PhantomData::< ItemA >"),
   ("AObserver", "observer", "source_observer"),
   ("AObserver", "value", "item")] := rfl

theorem wiring_WithLatestFrom_order : WithLatestFromOp.order =
  [("self.from", "from_observer"),
   ("self.source", "AObserver { observer : source_observer, value : item, }")] := rfl

end Rx.GenTie
