import RxModel.Gen.Skip
import RxModel.GenTie.Tactics
/-! Tie: `SkipObserver` generated from `/repo/src` IS the `St1` machine of the hand-written model. -/
namespace Rx.GenTie
open Rx Rx.Gen.Skip

def absSkip (g : SkipObserver) : St1 := .skip g.count g.hits

theorem tie_Skip_next (g : SkipObserver) (v : Val) :
    (SkipObserver.next g v).map (fun r => (absSkip r.1, r.2)) = some (Rs.lift (St1.onNext (absSkip g) v)) := by
  unfold SkipObserver.next absSkip St1.onNext
  simp only [decide_eq_true_eq, gt_iff_lt]
  cases Nat.decLt g.count (g.hits + 1) <;> rfl

theorem tie_Skip_error (g : SkipObserver) (e : Err) :
    (SkipObserver.error g e).map (fun r => r.2) = some ((St1.onError' (absSkip g) e).2.map Rs.Ev.n) := rfl

theorem tie_Skip_complete (g : SkipObserver) :
    (SkipObserver.complete g).map (fun r => r.2) = some ((St1.onComplete' (absSkip g)).2.map Rs.Ev.n) := rfl


theorem tie_Skip_init (n : Nat) :
    absSkip (SkipObserver.init n) = Spec.Op1.init (.skip n) := rfl

end Rx.GenTie
