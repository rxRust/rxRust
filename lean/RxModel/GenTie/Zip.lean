import RxModel.Gen.Zip
import RxModel.GenTie.Tactics
/-! Tie: `ZipObserver` behind its cell and the tagged `AObserver` / `BObserver` generated from
    src/ops/zip.rs ARE the `St2.zip` cell of the model. -/
namespace Rx.GenTie
open Rx Rx.Gen.Zip

def absZip (g : ZipObserver) : St2 := .zip g.observer.isSome g.a g.b g.completed_one

theorem tie_Zip_a_next (g : ZipObserver) (v : Val) :
    (AObserver.next g v).map (fun r => (absZip r.1, r.2)) = some (Rs.lift (St2.step (absZip g) .a (.next v))) := by
  rcases g with ⟨_ | _, qa, _ | ⟨w, qb⟩, c⟩ <;> rfl

theorem tie_Zip_b_next (g : ZipObserver) (v : Val) :
    (BObserver.next g v).map (fun r => (absZip r.1, r.2)) = some (Rs.lift (St2.step (absZip g) .b (.next v))) := by
  rcases g with ⟨_ | _, _ | ⟨w, qa⟩, qb, c⟩ <;> rfl

theorem tie_Zip_a_error (g : ZipObserver) (e : Err) :
    (AObserver.error g e).map (fun r => (absZip r.1, r.2)) = some (Rs.lift (St2.step (absZip g) .a (.error e))) := by
  rcases g with ⟨_ | _, qa, qb, c⟩ <;> rfl

theorem tie_Zip_b_error (g : ZipObserver) (e : Err) :
    (BObserver.error g e).map (fun r => (absZip r.1, r.2)) = some (Rs.lift (St2.step (absZip g) .b (.error e))) := by
  rcases g with ⟨_ | _, qa, qb, c⟩ <;> rfl

theorem tie_Zip_a_complete (g : ZipObserver) :
    (AObserver.complete g).map (fun r => (absZip r.1, r.2)) = some (Rs.lift (St2.step (absZip g) .a .complete)) := by
  rcases g with ⟨_ | _, qa, qb, _ | _⟩ <;> rfl

theorem tie_Zip_b_complete (g : ZipObserver) :
    (BObserver.complete g).map (fun r => (absZip r.1, r.2)) = some (Rs.lift (St2.step (absZip g) .b .complete)) := by
  rcases g with ⟨_ | _, qa, qb, _ | _⟩ <;> rfl


theorem tie_Zip_init : absZip ZipObserver.init = Kind2.init .zip := rfl

end Rx.GenTie
