import RxModel.Gen.WithLatestFrom
import RxModel.GenTie.Tactics
/-! Tie: `AObserver` (source side) and `BObserver` (from side) generated from src/ops/with_latest_from.rs ARE
    the two inputs of the `St2.withLatest` cell.  DECLARED topology (actual_subscribe, pinned in
    GenTie/WiringWithLatestFrom.lean): both observers hold the SAME slot cell (`observer`) and the SAME value cell (`value`);
    hence both views read one model state. -/
namespace Rx.GenTie
open Rx Rx.Gen.WithLatestFrom

def absWlfA (g : AObserver) : St2 := .withLatest g.observer.isSome g.value
def absWlfB (g : BObserver) : St2 := .withLatest g.observer.isSome g.value

theorem tie_Wlf_a_next (g : AObserver) (v : Val) :
    (AObserver.next g v).map (fun r => (absWlfA r.1, r.2)) = some (Rs.lift (St2.step (absWlfA g) .a (.next v))) := by
  rcases g with ⟨_ | _, _ | w⟩ <;> rfl

theorem tie_Wlf_a_error (g : AObserver) (e : Err) :
    (AObserver.error g e).map (fun r => (absWlfA r.1, r.2)) = some (Rs.lift (St2.step (absWlfA g) .a (.error e))) := by
  rcases g with ⟨_ | _, w⟩ <;> rfl

theorem tie_Wlf_a_complete (g : AObserver) :
    (AObserver.complete g).map (fun r => (absWlfA r.1, r.2)) = some (Rs.lift (St2.step (absWlfA g) .a .complete)) := by
  rcases g with ⟨_ | _, w⟩ <;> rfl

theorem tie_Wlf_b_next (g : BObserver) (v : Val) :
    (BObserver.next g v).map (fun r => (absWlfB r.1, r.2)) = some (Rs.lift (St2.step (absWlfB g) .b (.next v))) := rfl

theorem tie_Wlf_b_error (g : BObserver) (e : Err) :
    (BObserver.error g e).map (fun r => (absWlfB r.1, r.2)) = some (Rs.lift (St2.step (absWlfB g) .b (.error e))) := by
  rcases g with ⟨_ | _, w⟩ <;> rfl

theorem tie_Wlf_b_complete (g : BObserver) :
    (BObserver.complete g).map (fun r => (absWlfB r.1, r.2)) = some (Rs.lift (St2.step (absWlfB g) .b .complete)) := rfl


end Rx.GenTie
