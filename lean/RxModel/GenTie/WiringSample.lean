import RxModel.Gen.Sample
/-! Tie (topology): the cells `SampleOp::actual_subscribe` allocates, which observer field holds which cell, and the
    order in which the inputs are subscribed — extracted from /repo/src by rs2lean, pinned here.  The behaviour
    ties (GenTie/Sample.lean) read the observers' fields as views of ONE shared state; this is the declaration
    they rest on (`firstSide` of the model = the first entry of `order`). -/
namespace Rx.GenTie
open Rx.Gen.Sample

theorem wiring_Sample_lets : SampleOp.lets =
  [("value", "MutRc::own(None)"),
   ("observer", "MutRc::own(Some(observer))"),
   ("source_observer", "SourceObserver { observer : observer , value : value , }"),
   ("sample_observer", "SampleObserver { observer, value }"),
   ("source_unsub", "self.source.actual_subscribe(source_observer)"),
   ("sample_unsub", "self.sample.actual_subscribe(sample_observer)")] := rfl

theorem wiring_Sample_views : SampleOp.views =
  [("SourceObserver", "observer", "observer"),
   ("SourceObserver", "value", "value"),
   ("SampleObserver", "observer", "observer"),
   ("SampleObserver", "value", "value")] := rfl

theorem wiring_Sample_order : SampleOp.order =
  [("self.source", "source_observer"),
   ("self.sample", "sample_observer")] := rfl

end Rx.GenTie
