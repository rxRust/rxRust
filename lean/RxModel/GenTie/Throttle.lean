import RxModel.Gen.Throttle
import RxModel.GenTie.Subscription
import RxModel.GenTie.RcObserver
/-! Tie: `ThrottleObserver` and its task `throttle_task` (src/ops/throttle.rs, compiler-expanded, translated) in
    closed form — the `throttle` stage of the chain model (`Stage.throttle d edge alive trailing handler`):
      next v    no edge: nothing.  Trailing edge: `v` becomes the candidate.  Window over (no handler, or its task
                closed): on the leading edge the candidate is CLEARED and `v` delivered at once; then ONE window task is
                scheduled with `duration_selector(v)` and kept in the handler cell.  Window open: nothing else.
      the task  delivers the candidate, if any, and clears it
      complete  flushes the candidate, cancels the window task, completes; error: forwarded, window task cancelled. -/
namespace Rx.GenTie
open Rx Rx.Gen.Throttle

/-- the window is over -/
def windowOver (g : ThrottleObserver) (c : Nat → Bool) : Bool :=
  match g.task_handler with | some h => c h.id | none => true

theorem tie_Throttle_next_no_edge (g : ThrottleObserver) (v : Val) (h : Rs.Sub) (c : Nat → Bool)
    (he : g.edge.leading = false ∧ g.edge.tailing = false) :
    ThrottleObserver.next g v h c = some (g, []) := by
  rcases g with ⟨sc, o, ⟨t, l⟩, ds, tv, th⟩
  obtain ⟨h1, h2⟩ := he
  cases h1; cases h2; rfl

theorem tie_Throttle_next_open (g : ThrottleObserver) (v : Val) (h : Rs.Sub) (c : Nat → Bool)
    (he : g.edge.leading = true ∨ g.edge.tailing = true) (hw : windowOver g c = false) :
    ThrottleObserver.next g v h c =
      some ({ g with trailing_value := if g.edge.tailing then some v else g.trailing_value }, []) := by
  rcases g with ⟨sc, o, ⟨t, l⟩, ds, tv, _ | old⟩
  · cases hw
  · have hw' : Rs.isClosed old c = false := hw
    unfold ThrottleObserver.next
    simp only [hw']
    cases t <;> cases l
    case false.false => rcases he with h | h <;> cases h
    all_goals rfl

theorem tie_Throttle_next_over (g : ThrottleObserver) (v : Val) (h : Rs.Sub) (c : Nat → Bool)
    (he : g.edge.leading = true ∨ g.edge.tailing = true) (hw : windowOver g c = true) :
    ThrottleObserver.next g v h c =
      some ({ g with
              trailing_value := if g.edge.leading then none else if g.edge.tailing then some v else g.trailing_value,
              task_handler := some h },
            (if g.edge.leading ∧ g.observer.isSome then [Rs.Ev.n (Notif.next v)] else []) ++
              [Rs.Ev.sched "throttle_task" [] (some (g.duration_selector v)) h.id]) := by
  rcases g with ⟨sc, o, ⟨t, l⟩, ds, tv, _ | old⟩
  case' some =>
    have hw' : Rs.isClosed old c = true := hw
    unfold ThrottleObserver.next
    simp only [hw']
  all_goals cases t <;> cases l
  case none.false.false | some.false.false => rcases he with h | h <;> cases h
  case none.true.false | some.true.false => rfl
  case none.true.true | some.true.true => cases o <;> rfl
  all_goals cases o <;> cases tv <;> rfl

theorem tie_Throttle_task (g : ThrottleObserver) :
    ThrottleObserver.task_throttle_task g =
      some ({ g with trailing_value := none },
            match g.trailing_value with
            | some v => if g.observer.isSome then [Rs.Ev.n (Notif.next v)] else []
            | none => []) := by
  rcases g with ⟨sc, _ | o, e, ds, _ | v, th⟩ <;> rfl

theorem tie_Throttle_complete (g : ThrottleObserver) :
    ThrottleObserver.complete g =
      some ({ g with trailing_value := none, task_handler := none, observer := none },
            (match g.trailing_value with
              | some v => if g.observer.isSome then [Rs.Ev.n (Notif.next v)] else []
              | none => []) ++
            (match g.task_handler with | some t => [Rs.Ev.unsub t.id] | none => []) ++
            (if g.observer.isSome then [Rs.Ev.n Notif.complete] else [])) := by
  rcases g with ⟨sc, _ | o, e, ds, _ | v, _ | t⟩ <;> rfl

theorem tie_Throttle_error (g : ThrottleObserver) (e : Err) :
    ThrottleObserver.error g e =
      some ({ g with task_handler := none, observer := none },
            (if g.observer.isSome then [Rs.Ev.n (Notif.error e)] else []) ++
            (match g.task_handler with | some t => [Rs.Ev.unsub t.id] | none => [])) := by
  rcases g with ⟨sc, _ | o, ed, ds, tv, _ | t⟩ <;> rfl

theorem tie_Throttle_finished (g : ThrottleObserver) (d : Bool) :
    ThrottleObserver.is_finished g d = (!g.observer.isSome || d) := by
  rcases g with ⟨sc, _ | o, e, ds, tv, th⟩ <;> rfl

end Rx.GenTie
