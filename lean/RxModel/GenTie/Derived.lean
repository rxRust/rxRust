import RxModel.Gen.Derived
import RxModel.Lemmas.SingleChain
/-! Tie: the derived-operator layer — the provided methods of `trait ObservableExt` (src/observable.rs), translated as the
    operator chain each one BUILDS (with the closures the library itself supplies) — against

      (1) the hand-written chains `Derived.*` of the model (Ops/Init.lean), and
      (2) the DOCUMENTED list semantics (`Spec.first`, `Spec.all`, `Spec.reduceInitial`, … of Spec/ListSem.lean), for
          EVERY input stream (items and terminal) and every parameter / user closure:

          applyChain (ObservableExt.first_or I d) s = Spec.firstOr d s      etc.

    For the aggregates the closures are the library's own (`|acc, v| acc + v`, `|acc, _| acc + 1`, `max_fn`, `min_fn`,
    `accumulate_item`, `average_floats`), over an arbitrary item type (`Rs.ItemOps`: its `Add`, `PartialOrd`, `Default`,
    `Mul<f64>`): count = the number of items; sum = the left fold of `+` from `Default`; max / min = the left fold of
    "keep the old one iff old > new" (`<`) from the first item — nothing for an empty source, the `unwrap()` is never
    reached on `None`; average = `(Σ items) * (1.0 / n)`. -/
namespace Rx.GenTie
open Rx Rx.Spec Rx.Gen.Derived

/-! ### primitive wrappers: one operator each -/

theorem tie_D_take (I) (n : Nat) : ObservableExt.take I n = [.take n] := rfl
theorem tie_D_skip (I) (n : Nat) : ObservableExt.skip I n = [.skip n] := rfl
theorem tie_D_take_last (I) (n : Nat) : ObservableExt.take_last I n = [.takeLast n] := rfl
theorem tie_D_skip_last (I) (n : Nat) : ObservableExt.skip_last I n = [.skipLast n] := rfl
theorem tie_D_take_while (I) (p : Val → Bool) : ObservableExt.take_while I p = [.takeWhile p false] := rfl
theorem tie_D_take_while_inclusive (I) (p : Val → Bool) :
    ObservableExt.take_while_inclusive I p = [.takeWhile p true] := rfl
theorem tie_D_skip_while (I) (p : Val → Bool) : ObservableExt.skip_while I p = [.skipWhile p] := rfl
theorem tie_D_map (I) (f : Val → Val) : ObservableExt.map I f = [.map f] := rfl
theorem tie_D_map_to (I) (v : Val) : ObservableExt.map_to I v = [.mapTo v] := rfl
theorem tie_D_filter (I) (p : Val → Bool) : ObservableExt.filter I p = [.filter p] := rfl
theorem tie_D_filter_map (I) (f : Val → Option Val) : ObservableExt.filter_map I f = [.filterMap f] := rfl
theorem tie_D_tap (I) (f : Val → Unit) : ObservableExt.tap I f = [.tap] := rfl
theorem tie_D_on_error_map (I) (f : Err → Err) : ObservableExt.on_error_map I f = [.onErrorMap f] := rfl
theorem tie_D_last (I) : ObservableExt.last I = [.last] := rfl
theorem tie_D_default_if_empty (I) (d : Val) : ObservableExt.default_if_empty I d = [.defaultIfEmpty d] := rfl
theorem tie_D_scan_initial (I) (a : Val) (op : Val → Val → Val) : ObservableExt.scan_initial I a op = [.scan op a] := rfl
/-- `scan(op)` starts from `OutputItem::default()` -/
theorem tie_D_scan (I) (d : Val) (op : Val → Val → Val) : ObservableExt.scan I d op = [.scan op d] := rfl
theorem tie_D_distinct (I) : ObservableExt.distinct I = [.distinct] := rfl
theorem tie_D_distinct_key (I) (k : Val → Val) : ObservableExt.distinct_key I k = [.distinctKey k] := rfl
theorem tie_D_distinct_until_changed (I) : ObservableExt.distinct_until_changed I = [.distinctUntilChanged] := rfl
theorem tie_D_distinct_until_key_changed (I) (k : Val → Val) :
    ObservableExt.distinct_until_key_changed I k = [.distinctUntilKeyChanged k] := rfl
theorem tie_D_pairwise (I) : ObservableExt.pairwise I = [.pairwise] := rfl
theorem tie_D_buffer_with_count (I) (n : Nat) : ObservableExt.buffer_with_count I n = [.bufferCount n] := rfl
theorem tie_D_contains (I) (v : Val) : ObservableExt.contains I v = [.contains v] := rfl
/-- `collect()` starts from `C::default()`, the empty collection -/
theorem tie_D_collect (I) : ObservableExt.collect I = [.collect] := rfl

/-! ### compositions = the model's `Derived.*` chains -/

theorem tie_D_first (I) : ObservableExt.first I = Derived.first := rfl
theorem tie_D_first_or (I) (d : Val) : ObservableExt.first_or I d = Derived.firstOr d := rfl
theorem tie_D_last_or (I) (d : Val) : ObservableExt.last_or I d = Derived.lastOr d := rfl
theorem tie_D_element_at (I) (n : Nat) : ObservableExt.element_at I n = Derived.elementAt n := rfl
theorem tie_D_ignore_elements (I) : ObservableExt.ignore_elements I = Derived.ignoreElements := rfl
theorem tie_D_reduce_initial (I) (a : Val) (op : Val → Val → Val) :
    ObservableExt.reduce_initial I a op = Derived.reduceInitial op a := rfl
theorem tie_D_reduce (I) (d : Val) (op : Val → Val → Val) :
    ObservableExt.reduce I d op = Derived.reduceInitial op d := rfl

/-- the library's `not` on the booleans that `map(pred)` produces = the model's `isFalse` -/
theorem filter_not_map (p : Val → Bool) (xs : List Val) :
    (xs.map (Rs.enc1 p)).filter (Rs.encPred (fun (b : Bool) => !b)) =
      (xs.map fun v => Val.bool (p v)).filter Derived.isFalse := by
  refine List.filter_congr fun v hv => ?_
  obtain ⟨x, _, rfl⟩ := List.mem_map.1 hv
  rfl

theorem tie_D_all (I) (p : Val → Bool) (s : Stream) :
    applyChain (ObservableExt.all I p) s = applyChain (Derived.all p) s := by
  obtain ⟨xs, t⟩ := s
  -- the two chains differ in the `filter` only; after it the streams are the same
  exact congrArg (fun l => applyChain [.take 1, .defaultIfEmpty (.bool true)] ⟨l, t⟩) (filter_not_map p xs)

/-! ### the documented list semantics, for every input stream -/

theorem D_first (I) (s : Stream) : applyChain (ObservableExt.first I) s = Spec.first s := derived_first s
theorem D_first_or (I) (d : Val) (s : Stream) : applyChain (ObservableExt.first_or I d) s = Spec.firstOr d s :=
  derived_firstOr d s
theorem D_last_or (I) (d : Val) (s : Stream) : applyChain (ObservableExt.last_or I d) s = Spec.lastOr d s :=
  derived_lastOr d s
theorem D_element_at (I) (n : Nat) (s : Stream) : applyChain (ObservableExt.element_at I n) s = Spec.elementAt n s :=
  derived_elementAt n s
theorem D_ignore_elements (I) (s : Stream) : applyChain (ObservableExt.ignore_elements I) s = Spec.ignoreElements s :=
  derived_ignoreElements s
theorem D_all (I) (p : Val → Bool) (s : Stream) : applyChain (ObservableExt.all I p) s = Spec.all p s := by
  rw [tie_D_all]; exact derived_all p s
theorem D_reduce_initial (I) (a : Val) (op : Val → Val → Val) (s : Stream) :
    applyChain (ObservableExt.reduce_initial I a op) s = Spec.reduceInitial op a s := derived_reduceInitial op a s
theorem D_reduce (I) (d : Val) (op : Val → Val → Val) (s : Stream) :
    applyChain (ObservableExt.reduce I d op) s = Spec.reduceInitial op d s := derived_reduceInitial op d s

/-- `sum()`: the left fold of the item type's `+` from its `Default`, emitted on completion -/
theorem D_sum (I : Rs.ItemOps) (s : Stream) :
    applyChain (ObservableExt.sum I) s = Spec.reduceInitial I.add I.dflt s := derived_reduceInitial _ _ s

theorem count_fold (xs : List Val) (n : Nat) :
    xs.foldl (Rs.enc2 (fun (acc : Nat) (_ : Val) => acc + 1)) (Val.int n) = Val.int (n + xs.length : Nat) := by
  induction xs generalizing n with
  | nil => rfl
  | cons x xs ih =>
    have : Rs.enc2 (fun (acc : Nat) (_ : Val) => acc + 1) (Val.int n) x = Val.int ((n + 1 : Nat)) :=
      congrArg (fun k : Nat => Val.int ((k + 1 : Nat))) (Int.toNat_natCast n)
    rw [List.foldl_cons, this, ih, Nat.add_right_comm]; rfl

/-- `count()`: the number of items, emitted on completion (0 for an empty source; nothing with an error) -/
theorem D_count (I : Rs.ItemOps) (s : Stream) :
    applyChain (ObservableExt.count I) s = ⟨onlyOnComplete s.term [Val.int s.items.length], s.term⟩ := by
  have h := derived_reduceInitial (Rs.enc2 (fun (acc : Nat) (_ : Val) => acc + 1)) (Val.int (0 : Nat)) s
  obtain ⟨xs, t⟩ := s
  have hc := count_fold xs 0
  simp only [Nat.zero_add] at hc
  have e : ObservableExt.count I = Derived.reduceInitial (Rs.enc2 (fun (acc : Nat) (_ : Val) => acc + 1)) (Val.int (0 : Nat)) := rfl
  rw [e, h]; simp only [Spec.reduceInitial]; rw [hc]

/-- "keep the old one iff `old ≻ new`", from the first item -/
def pick (better : Val → Val → Bool) (x : Val) (xs : List Val) : Val :=
  xs.foldl (fun m v => if better m v then m else v) x

def maxFn (I : Rs.ItemOps) : Val → Val → Val :=
  Rs.enc2 (fun (max : Option Val) (v : Val) => match max with | some max => if I.gt max v then some max else some v | _ => some v)
def minFn (I : Rs.ItemOps) : Val → Val → Val :=
  Rs.enc2 (fun (min : Option Val) (v : Val) => match min with | some min => if I.lt min v then some min else some v | _ => some v)

theorem pick_fold (better : Val → Val → Bool) (f : Val → Val → Val)
    (hf : ∀ m v, f (Val.some m) v = Val.some (if better m v then m else v)) (x : Val) (xs : List Val) :
    xs.foldl f (Val.some x) = Val.some (pick better x xs) := by
  induction xs generalizing x with
  | nil => rfl
  | cons y ys ih => rw [List.foldl_cons, hf, ih]; rfl

theorem maxFn_some (I : Rs.ItemOps) (m v : Val) : maxFn I (Val.some m) v = Val.some (if I.gt m v then m else v) := by
  show Rs.ToVal.toVal (if I.gt m v = true then some m else some v) = _
  cases I.gt m v <;> rfl
theorem maxFn_none (I : Rs.ItemOps) (v : Val) : maxFn I Val.none v = Val.some v := rfl
theorem minFn_some (I : Rs.ItemOps) (m v : Val) : minFn I (Val.some m) v = Val.some (if I.lt m v then m else v) := by
  show Rs.ToVal.toVal (if I.lt m v = true then some m else some v) = _
  cases I.lt m v <;> rfl
theorem minFn_none (I : Rs.ItemOps) (v : Val) : minFn I Val.none v = Val.some v := rfl

theorem unwrap_some (x : Val) : Rs.enc1 (fun (v : Option Val) => Rs.unwrapP v) (Val.some x) = x := rfl

/-- `max()`: on completion the running maximum w.r.t. the item type's `>` (the EARLIER of two items neither of which
    is greater is replaced by the later one), nothing for an empty source; the closure's `unwrap()` only ever sees
    `Some(_)` -/
theorem D_max (I : Rs.ItemOps) (s : Stream) :
    applyChain (ObservableExt.max I) s =
      ⟨onlyOnComplete s.term (match s.items with | [] => [] | x :: xs => [pick I.gt x xs]), s.term⟩ := by
  have e : ObservableExt.max I = Derived.aggregate (maxFn I) Val.none (Rs.enc1 (fun (v : Option Val) => Rs.unwrapP v)) := rfl
  rw [e, derived_aggregate]
  obtain ⟨xs, t⟩ := s
  cases xs with
  | nil => rfl
  | cons x r =>
    have h : Rs.enc1 (fun (v : Option Val) => Rs.unwrapP v) (r.foldl (maxFn I) (maxFn I Val.none x)) = pick I.gt x r := by
      rw [maxFn_none, pick_fold I.gt (maxFn I) (maxFn_some I), unwrap_some]
    exact congrArg (fun v => (⟨onlyOnComplete t [v], t⟩ : Stream)) h

theorem D_min (I : Rs.ItemOps) (s : Stream) :
    applyChain (ObservableExt.min I) s =
      ⟨onlyOnComplete s.term (match s.items with | [] => [] | x :: xs => [pick I.lt x xs]), s.term⟩ := by
  have e : ObservableExt.min I = Derived.aggregate (minFn I) Val.none (Rs.enc1 (fun (v : Option Val) => Rs.unwrapP v)) := rfl
  rw [e, derived_aggregate]
  obtain ⟨xs, t⟩ := s
  cases xs with
  | nil => rfl
  | cons x r =>
    have h : Rs.enc1 (fun (v : Option Val) => Rs.unwrapP v) (r.foldl (minFn I) (minFn I Val.none x)) = pick I.lt x r := by
      rw [minFn_none, pick_fold I.lt (minFn I) (minFn_some I), unwrap_some]
    exact congrArg (fun v => (⟨onlyOnComplete t [v], t⟩ : Stream)) h

def avgAccFn (I : Rs.ItemOps) : Val → Val → Val :=
  Rs.enc2 (fun (acc : Val × Nat) (v : Val) => (I.add acc.1 v, acc.2 + 1))

theorem avg_fold (I : Rs.ItemOps) (xs : List Val) (a : Val) (n : Nat) :
    xs.foldl (avgAccFn I) (Val.pair a (Val.int n)) = Val.pair (xs.foldl I.add a) (Val.int (n + xs.length : Nat)) := by
  induction xs generalizing a n with
  | nil => rfl
  | cons x xs ih =>
    have : avgAccFn I (Val.pair a (Val.int n)) x = Val.pair (I.add a x) (Val.int ((n + 1 : Nat))) :=
      congrArg (fun k : Nat => Val.pair (I.add a x) (Val.int ((k + 1 : Nat)))) (Int.toNat_natCast n)
    rw [List.foldl_cons, this, ih, Nat.add_right_comm]; rfl

/-- `average()`: on completion `(Σ items) * (1.0 / n)` with the item type's `+`, `Default` and `Mul<f64>`; nothing
    for an empty source (so the division is never by zero) -/
theorem D_average (I : Rs.ItemOps) (s : Stream) :
    applyChain (ObservableExt.average I) s =
      ⟨onlyOnComplete s.term (if s.items.isEmpty then [] else
          [I.mulf (s.items.foldl I.add I.dflt) (Rs.F64.div (Rs.F64.lit "1.0") (Rs.F64.ofNat s.items.length))]), s.term⟩ := by
  have e : ObservableExt.average I = Derived.aggregate (avgAccFn I) (Val.pair I.dflt (Val.int (0 : Nat)))
      (Rs.enc1 (fun (acc : Val × Nat) => I.mulf acc.1 (Rs.F64.div (Rs.F64.lit "1.0") (Rs.F64.ofNat acc.2)))) := rfl
  rw [e, derived_aggregate]
  obtain ⟨xs, t⟩ := s
  simp only [Spec.aggregate, avg_fold]
  simp [Rs.enc1, Rs.ToVal.toVal, Rs.FromVal.fromVal]

end Rx.GenTie
