import RxModel.Gen.Merge
/-! Tie (topology): the cells `MergeOp::actual_subscribe` allocates, which observer field holds which cell, and the
    order in which the inputs are subscribed — extracted from /repo/src by rs2lean, pinned here.  The behaviour
    ties (GenTie/Merge.lean) read the observers' fields as views of ONE shared state; this is the declaration
    they rest on (`firstSide` of the model = the first entry of `order`). -/
namespace Rx.GenTie
open Rx.Gen.Merge

theorem wiring_Merge_lets : MergeOp.lets =
  [("observer", "MergeObserver { observer : Some(observer), completed_one : false, }"),
   ("observer", "MutRc::own(observer)"),
   ("a", "self.source1.actual_subscribe(observer)"),
   ("b", "self.source2.actual_subscribe(observer)")] := rfl

theorem wiring_Merge_views : MergeOp.views =
  [("MergeObserver", "observer", "Some(observer)"),
   ("MergeObserver", "completed_one", "false")] := rfl

theorem wiring_Merge_order : MergeOp.order =
  [("self.source1", "observer"),
   ("self.source2", "observer")] := rfl

end Rx.GenTie
