import RxModel.Gen.Scan
import RxModel.GenTie.Tactics
/-! Tie: `ScanObserver` generated from `/repo/src` IS the `St1` machine of the hand-written model. -/
namespace Rx.GenTie
open Rx Rx.Gen.Scan

def absScan (g : ScanObserver) : St1 := .scan g.binary_op g.acc

theorem tie_Scan_next (g : ScanObserver) (v : Val) :
    (ScanObserver.next g v).map (fun r => (absScan r.1, r.2)) = some (Rs.lift (St1.onNext (absScan g) v)) := rfl

theorem tie_Scan_error (g : ScanObserver) (e : Err) :
    (ScanObserver.error g e).map (fun r => r.2) = some ((St1.onError' (absScan g) e).2.map Rs.Ev.n) := rfl

theorem tie_Scan_complete (g : ScanObserver) :
    (ScanObserver.complete g).map (fun r => r.2) = some ((St1.onComplete' (absScan g)).2.map Rs.Ev.n) := rfl


theorem tie_Scan_init (op : Val → Val → Val) (i : Val) :
    absScan (ScanObserver.init op i) = Spec.Op1.init (.scan op i) := rfl

end Rx.GenTie
