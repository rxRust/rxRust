import RxModel.Gen.Subscription
import RxModel.GenTie.Tactics
import RxModel.Sub.Composite
/-! Tie: the subscription algebra of src/subscription.rs (compiler-expanded, translated): `ZipSubscription`,
    `MultiSubscription` / `MultiSubscriptionThreads` (one macro), `SubscriptionGuard::drop`, the blanket impl for
    a cell holding an optional subscription.  Each operation in closed form over ONE composite cell, which is
    what the clauses of the composite model (`Sub/Composite.lean`: `unsubAt`, `takeCell`, `cellClosed`,
    `appendChild Model.fixed`) say cell by cell:
      unsubscribe   take the vector FIRST (the cell is `None` from then on), then every entry in order
      is_closed     `None` ⇒ true; `Some v` ⇒ every entry closed (vacuously true when empty)
      append        `Some v` ⇒ push; `None` ⇒ the late subscription is unsubscribed AT ONCE
      retain        keeps the `Some(_)` entries; teardown_size: `None` ⇒ 0
      zip           `a` then `b`; closed iff both. -/
namespace Rx.GenTie
open Rx Rx.Gen.Subscription

/-- the entries of a taken vector that hold a subscription, in order -/
def liveEntries (v : List (Option Rs.Sub)) : List Rs.Sub := v.filterMap id

theorem multi_unsub_loop (g : MultiSubscription)
    (f : MultiSubscription × Rs.Out → Option Rs.Sub → Option (MultiSubscription × Rs.Out))
    (hf : ∀ p u, f p u = some (p.fst, p.snd ++ (match u with | some s => [Rs.Ev.unsub s.id] | none => []))) :
    ∀ (v : List (Option Rs.Sub)) (out : Rs.Out),
      Rs.forEach v (g, out) f = some (g, out ++ (liveEntries v).map (fun s => Rs.Ev.unsub s.id)) := by
  intro v
  induction v with
  | nil => intro out; simp [liveEntries]
  | cons x t ih =>
    intro out
    rw [Rs.forEach_cons, hf, Option.bind_some, ih]
    cases x <;> simp [liveEntries]

theorem tie_Multi_unsubscribe (g : MultiSubscription) :
    MultiSubscription.unsubscribe g =
      some (none, ((g.getD []) |> liveEntries).map (fun s => Rs.Ev.unsub s.id)) := by
  cases g with
  | none => rfl
  | some v =>
    unfold MultiSubscription.unsubscribe
    dsimp only
    rw [multi_unsub_loop none _ (fun p u => by cases u; exact congrArg (fun o => some (p.1, o)) (List.append_nil _).symm; rfl) v []]
    rfl

theorem tie_Multi_is_closed (g : MultiSubscription) (c : Nat → Bool) :
    MultiSubscription.is_closed g c =
      match g with
      | none => true
      | some v => v.all (fun u => match u with | some s => c s.id | none => true) := by
  cases g <;> rfl

theorem tie_Multi_append (g : MultiSubscription) (s : Rs.Sub) :
    MultiSubscription.append g s =
      match g with
      | some v => some (some (v ++ [some s]), [])
      | none => some (none, [Rs.Ev.unsub s.id]) := by
  cases g <;> rfl

theorem tie_Multi_retain (g : MultiSubscription) :
    MultiSubscription.retain g = some (g.map (List.filter Option.isSome), []) := by
  cases g <;> rfl

theorem tie_Multi_size (g : MultiSubscription) :
    MultiSubscription.teardown_size g = (g.map List.length).getD 0 := by
  cases g <;> rfl

theorem tie_Multi_init : MultiSubscription.init = some [] := rfl

/-- after `unsubscribe` the composite is closed, empty, and a later `append` is torn down at once -/
theorem tie_Multi_after_unsubscribe (g : MultiSubscription) (c : Nat → Bool) (s : Rs.Sub) :
    ∃ out, MultiSubscription.unsubscribe g = some (none, out) ∧
      MultiSubscription.is_closed none c = true ∧
      MultiSubscription.append none s = some (none, [Rs.Ev.unsub s.id]) :=
  ⟨_, tie_Multi_unsubscribe g, rfl, rfl⟩

theorem tieT_Multi_retain (g : MultiSubscriptionThreads) :
    MultiSubscriptionThreads.retain g = some (g.map (List.filter Option.isSome), []) := by
  cases g <;> rfl

theorem tieT_Multi_append (g : MultiSubscriptionThreads) (s : Rs.Sub) :
    MultiSubscriptionThreads.append g s =
      match g with
      | some v => some (some (v ++ [some s]), [])
      | none => some (none, [Rs.Ev.unsub s.id]) := by
  cases g <;> rfl

theorem tieT_Multi_is_closed (g : MultiSubscriptionThreads) (c : Nat → Bool) :
    MultiSubscriptionThreads.is_closed g c =
      match g with
      | none => true
      | some v => v.all (fun u => match u with | some s => c s.id | none => true) := by
  cases g <;> rfl

theorem tieT_Multi_unsubscribe (g : MultiSubscriptionThreads) :
    MultiSubscriptionThreads.unsubscribe g =
      some (none, ((g.getD []) |> liveEntries).map (fun s => Rs.Ev.unsub s.id)) := by
  cases g with
  | none => rfl
  | some v =>
    unfold MultiSubscriptionThreads.unsubscribe
    dsimp only
    rw [multi_unsub_loop none _ (fun p u => by cases u; exact congrArg (fun o => some (p.1, o)) (List.append_nil _).symm; rfl) v []]
    rfl

theorem tie_Zip_sub_unsubscribe (g : ZipSubscription) :
    ZipSubscription.unsubscribe g = some (g, [Rs.Ev.unsub g.a.id, Rs.Ev.unsub g.b.id]) := rfl

theorem tie_Zip_sub_is_closed (g : ZipSubscription) (c : Nat → Bool) :
    ZipSubscription.is_closed g c = (c g.a.id && c g.b.id) := rfl

theorem tie_Guard_drop (g : SubscriptionGuard) :
    SubscriptionGuard.drop g = some (none, match g with | some u => [Rs.Ev.unsub u.id] | none => []) := by
  cases g <;> rfl

theorem tie_RcSub (g : RcSubscription) (c : Nat → Bool) :
    RcSubscription.unsubscribe g = some (none, match g with | some u => [Rs.Ev.unsub u.id] | none => []) ∧
    RcSubscription.is_closed g c = !g.isSome := by
  cases g <;> exact ⟨rfl, rfl⟩

/-! The same clauses in the composite model (definitional unfoldings, so that the correspondence is visible). -/

theorem model_takeCell (u : Comp.Sub → Comp.W → Comp.W) (j : Nat) (w : Comp.W) (cs : List Comp.Child)
    (h : w.cell j = some cs) :
    Comp.takeCell u j w = cs.foldl (fun w c => Comp.unsubChild u c w) (w.setCell j none) := by
  simp [Comp.takeCell, h]

theorem model_cellClosed (f : Comp.Sub → Bool) (w : Comp.W) (j : Nat) :
    Comp.cellClosed f w j = match w.cell j with | none => true | some cs => cs.all (Comp.childClosed f) := rfl

theorem model_append_fixed (j : Nat) (s : Comp.Sub) (w : Comp.W) :
    Comp.appendChild .fixed j (.sub s) w =
      match w.cell j with
      | some cs => w.setCell j (some (cs ++ [.sub s]))
      | none => Comp.unsub s w := by
  unfold Comp.appendChild; cases w.cell j <;> rfl

theorem model_zip (k : Nat → Comp.W → Comp.W) (a b : Comp.Sub) (w : Comp.W) (look : Nat → Bool) :
    Comp.unsubAt k (.zip a b) w = Comp.unsubAt k b (Comp.unsubAt k a w) ∧
    Comp.isClosedAt look w (.zip a b) = (Comp.isClosedAt look w a && Comp.isClosedAt look w b) := ⟨rfl, rfl⟩

end Rx.GenTie
