import RxModel.Gen.MergeThreads
import RxModel.GenTie.Tactics
/-! Tie (thread-safe flavour, C18: the `MutArc` / atomic instantiation of the same source is the SAME model cell): `MergeObserver` (one cell, the same observer type for both inputs) generated from
    src/ops/merge.rs IS the `St2.merge` cell of the model, for either input. -/
namespace Rx.GenTie
open Rx Rx.Gen.MergeThreads

def absTMerge (g : MergeObserver) : St2 := .merge g.observer.isSome g.completed_one

theorem tieT_Merge_next (g : MergeObserver) (sd : Side) (v : Val) :
    (MergeObserver.next g v).map (fun r => (absTMerge r.1, r.2)) = some (Rs.lift (St2.step (absTMerge g) sd (.next v))) := by
  rcases g with ⟨_ | _, c⟩ <;> rfl

theorem tieT_Merge_error (g : MergeObserver) (sd : Side) (e : Err) :
    (MergeObserver.error g e).map (fun r => (absTMerge r.1, r.2)) = some (Rs.lift (St2.step (absTMerge g) sd (.error e))) := by
  rcases g with ⟨_ | _, c⟩ <;> rfl

theorem tieT_Merge_complete (g : MergeObserver) (sd : Side) :
    (MergeObserver.complete g).map (fun r => (absTMerge r.1, r.2)) = some (Rs.lift (St2.step (absTMerge g) sd .complete)) := by
  rcases g with ⟨_ | _, _ | _⟩ <;> rfl


theorem tieT_Merge_init : absTMerge MergeObserver.init = Kind2.init .merge := rfl

end Rx.GenTie
