import RxModel.Gen.Delay
import RxModel.GenTie.Subscription
import RxModel.GenTie.RcObserver
/-! Tie: `DelayObserver` (src/ops/delay.rs, compiler-expanded, translated) in closed form — the `delay` stage of the
    chain model (`Sched/Chain.lean`):
      next v     ONE task `delay_emit_value [v]` scheduled with `Some(delay)`, its handle appended to the operator's
                 MultiSubscription (after `retain`); nothing is delivered synchronously; the task's observer is the
                 operator's own slot (the translator refuses anything else) and its body is `observer.next(v)`
      complete   ONE task `delay_complete []`, same delay, handle appended; body `observer.complete()`
      error      forwarded AT ONCE through the slot (which it empties): pending item tasks find it empty
      is_finished  the slot's answer. -/
namespace Rx.GenTie
open Rx Rx.Gen.Delay Rx.Gen.Subscription

theorem tie_Delay_next (g : DelayObserver) (v : Val) (h : Rs.Sub) :
    DelayObserver.next g v h =
      (MultiSubscription.append (g.subscription.map (List.filter Option.isSome)) h).map (fun r =>
        ({ g with subscription := r.1 }, Rs.Ev.sched "delay_emit_value" [v] (some g.delay) h.id :: r.2)) := by
  rcases g with ⟨d, sc, o, _ | sub⟩ <;> rfl

theorem tie_Delay_complete (g : DelayObserver) (h : Rs.Sub) :
    DelayObserver.complete g h =
      (MultiSubscription.append (g.subscription.map (List.filter Option.isSome)) h).map (fun r =>
        ({ g with subscription := r.1 }, Rs.Ev.sched "delay_complete" [] (some g.delay) h.id :: r.2)) := by
  rcases g with ⟨d, sc, o, _ | sub⟩ <;> rfl

theorem tie_Delay_error (g : DelayObserver) (e : Err) :
    DelayObserver.error g e =
      some ({ g with observer := none }, if g.observer.isSome then [Rs.Ev.n (Notif.error e)] else []) := by
  rcases g with ⟨d, sc, _ | o, sub⟩ <;> rfl

theorem tie_Delay_finished (g : DelayObserver) (d : Bool) :
    DelayObserver.is_finished g d = (!g.observer.isSome || d) := by
  rcases g with ⟨dl, sc, _ | o, sub⟩ <;> rfl

/-- the bodies of the two tasks: one call on the observer they are handed -/
theorem tie_Delay_tasks (o : Rs.Obs) (v : Val) :
    DelayObserver.next__delay_emit_value o v = some [Rs.Ev.n (Notif.next v)] ∧
    DelayObserver.complete__delay_complete o = some [Rs.Ev.n Notif.complete] :=
  ⟨rfl, rfl⟩

end Rx.GenTie
