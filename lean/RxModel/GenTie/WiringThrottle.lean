import RxModel.Gen.Throttle
/-! Tie (topology): `ThrottleOp::actual_subscribe` — the slot, the candidate cell and the handler cell; the handler cell is
    also the second half of the returned `ZipSubscription(source subscription, handler cell)`. -/
namespace Rx.GenTie
open Rx.Gen.Throttle

theorem wiring_Throttle_lets : ThrottleOp.lets =
  [("task_handler", "MutArc::own(None)"),
   ("u", "source.actual_subscribe(ThrottleObserver { observer : MutArc::own(Some(observer)), edge, duration_selector, trailing_value : MutArc::own(None), task_handler : task_handler , scheduler, })")] := rfl

theorem wiring_Throttle_views : ThrottleOp.views =
  [("ThrottleObserver", "observer", "MutArc::own(Some(observer))"),
   ("ThrottleObserver", "edge", "edge"),
   ("ThrottleObserver", "duration_selector", "duration_selector"),
   ("ThrottleObserver", "trailing_value", "MutArc::own(None)"),
   ("ThrottleObserver", "task_handler", "task_handler"),
   ("ThrottleObserver", "scheduler", "scheduler")] := rfl

theorem wiring_Throttle_order : ThrottleOp.order =
  [("source", "ThrottleObserver { observer : MutArc::own(Some(observer)), edge, duration_selector, trailing_value : MutArc::own(None), task_handler : task_handler , scheduler, }")] := rfl

end Rx.GenTie
