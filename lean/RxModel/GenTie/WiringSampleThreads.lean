import RxModel.Gen.SampleThreads
/-! Tie (topology, thread-safe flavour): as GenTie/WiringSample.lean, for `SampleOpThreads`. -/
namespace Rx.GenTie
open Rx.Gen.SampleThreads

theorem wiringT_Sample_lets : SampleOpThreads.lets =
  [("value", "MutArc::own(None)"),
   ("observer", "MutArc::own(Some(observer))"),
   ("source_observer", "SourceObserver { observer : observer , value : value , }"),
   ("sample_observer", "SampleObserver { observer, value }"),
   ("source_unsub", "self.source.actual_subscribe(source_observer)"),
   ("sample_unsub", "self.sample.actual_subscribe(sample_observer)")] := rfl

theorem wiringT_Sample_views : SampleOpThreads.views =
  [("SourceObserver", "observer", "observer"),
   ("SourceObserver", "value", "value"),
   ("SampleObserver", "observer", "observer"),
   ("SampleObserver", "value", "value")] := rfl

theorem wiringT_Sample_order : SampleOpThreads.order =
  [("self.source", "source_observer"),
   ("self.sample", "sample_observer")] := rfl

end Rx.GenTie
