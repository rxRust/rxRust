import RxModel.Gen.DefaultIfEmpty
import RxModel.GenTie.Tactics
/-! Tie: `DefaultIfEmptyObserver` generated from `/repo/src` IS the `St1` machine of the hand-written model. -/
namespace Rx.GenTie
open Rx Rx.Gen.DefaultIfEmpty

def absDefaultIfEmpty (g : DefaultIfEmptyObserver) : St1 := .defaultIfEmpty g.is_empty g.default_value

theorem tie_DefaultIfEmpty_next (g : DefaultIfEmptyObserver) (v : Val) :
    (DefaultIfEmptyObserver.next g v).map (fun r => (absDefaultIfEmpty r.1, r.2)) = some (Rs.lift (St1.onNext (absDefaultIfEmpty g) v)) := by
  rcases g with ⟨o, _ | _, d⟩ <;> rfl

theorem tie_DefaultIfEmpty_error (g : DefaultIfEmptyObserver) (e : Err) :
    (DefaultIfEmptyObserver.error g e).map (fun r => r.2) = some ((St1.onError' (absDefaultIfEmpty g) e).2.map Rs.Ev.n) := rfl

theorem tie_DefaultIfEmpty_complete (g : DefaultIfEmptyObserver) :
    (DefaultIfEmptyObserver.complete g).map (fun r => r.2) = some ((St1.onComplete' (absDefaultIfEmpty g)).2.map Rs.Ev.n) := by
  rcases g with ⟨o, _ | _, d⟩ <;> rfl


theorem tie_DefaultIfEmpty_init (d : Val) :
    absDefaultIfEmpty (DefaultIfEmptyObserver.init true d) = Spec.Op1.init (.defaultIfEmpty d) := rfl

end Rx.GenTie
