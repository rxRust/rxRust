import RxModel.Gen.Behavior
import RxModel.GenTie.Subject
import RxModel.Subject.Behavior
/-! Tie: `BehaviorSubject<Item, Subject>` (src/subject/behavior_subject.rs, compiler-expanded, translated) IS the
    `BState` of the model: `next` STORES the value and THEN hands it to the inner subject's `next` (so whoever
    subscribes or peeks from inside the emission sees it), `actual_subscribe` greets the bare observer with the
    stored value and then subscribes it to the inner subject, `peek` reads the cell, terminals / unsubscribe /
    queries are the inner subject's. -/
namespace Rx.GenTie
open Rx Rx.Gen.Behavior Rx.Gen.Subject

def genBehavior (b : Subj.BState) : BehaviorSubject := { subject := genSubject b.subject, value := b.value }

/-- `next`: the value cell holds `v` afterwards, the inner subject did its `next v` (see `tie_Subject_next`). -/
theorem tie_Behavior_next (b : Subj.BState) (h : b.subject.panicked = false) (v : Val) :
    BehaviorSubject.next (genBehavior b) v =
      if b.subject.load.panicked then none
      else some (⟨genSubject b.subject.load, v⟩,
                 (b.subject.load.observers.getD []).map (fun i => Rs.Ev.to i (Notif.next v))) := by
  show (Subject.next (genSubject b.subject) v).bind _ = _
  rw [tie_Subject_next b.subject h v]
  cases b.subject.load.panicked <;> rfl

/-- the model stores the same value: `(b.next v).1.value = v` -/
theorem model_next_stores (b : Subj.BState) (v : Val) : (b.next v).1.value = v := rfl

/-- `actual_subscribe`: the greeting goes to the new observer itself, then it is pushed to the chamber. -/
theorem tie_Behavior_subscribe (b : Subj.BState) (o : Rs.Obs) (script : List Subj.Act) :
    BehaviorSubject.actual_subscribe (genBehavior b) o ⟨b.subject.slots.length⟩ =
      some (genBehavior (b.subscribe script).1, [Rs.Ev.n (Notif.next b.value)]) := by
  show (Subject.actual_subscribe (genSubject b.subject) o ⟨b.subject.slots.length⟩).bind _ = _
  rw [tie_Subject_subscribe b.subject o script [.next b.value]]
  rfl

theorem tie_Behavior_peek (b : Subj.BState) : BehaviorSubject.peek (genBehavior b) = b.peek := rfl

theorem tie_Behavior_error (b : Subj.BState) (e : Err) :
    BehaviorSubject.error (genBehavior b) e =
      (Subject.error (genSubject b.subject) e).map (fun r => (⟨r.1, b.value⟩, r.2)) := by
  show (Subject.error (genSubject b.subject) e).bind _ = _
  cases Subject.error (genSubject b.subject) e <;> rfl

theorem tie_Behavior_complete (b : Subj.BState) :
    BehaviorSubject.complete (genBehavior b) =
      (Subject.complete (genSubject b.subject)).map (fun r => (⟨r.1, b.value⟩, r.2)) := by
  show (Subject.complete (genSubject b.subject)).bind _ = _
  cases Subject.complete (genSubject b.subject) <;> rfl

theorem tie_Behavior_unsubscribe (b : Subj.BState) :
    BehaviorSubject.unsubscribe (genBehavior b) = some (genBehavior ⟨b.subject.unsubscribe, b.value⟩, []) := rfl

theorem tie_Behavior_queries (b : Subj.BState) (d : Bool) (c : Nat → Bool) :
    BehaviorSubject.is_finished (genBehavior b) d = b.subject.isFinished ∧
    BehaviorSubject.is_closed (genBehavior b) c = b.subject.isClosed ∧
    BehaviorSubject.len (genBehavior b) = b.subject.len? :=
  ⟨(tie_Subject_finished_closed b.subject d c).1, (tie_Subject_finished_closed b.subject d c).2,
    tie_Subject_len b.subject⟩

end Rx.GenTie
