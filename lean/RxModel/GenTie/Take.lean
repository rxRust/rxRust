import RxModel.Gen.Take
import RxModel.GenTie.Tactics
/-! Tie: `TakeObserver` generated from `/repo/src` IS the `St1` machine of the hand-written model. -/
namespace Rx.GenTie
open Rx Rx.Gen.Take

def absTake (g : TakeObserver) : St1 := .take g.count g.hits g.observer.isSome

theorem tie_Take_next (g : TakeObserver) (v : Val) :
    (TakeObserver.next g v).map (fun r => (absTake r.1, r.2)) = some (Rs.lift (St1.onNext (absTake g) v)) := by
  rcases g with ⟨_ | o, c, h⟩ <;> unfold TakeObserver.next absTake St1.onNext <;>
    simp only [Rs.eq, decide_eq_true_eq]
  · cases Nat.decLt h c <;> rfl
  · cases Nat.decLt h c <;> cases instDecidableEqNat (h + 1) c <;> rfl

theorem tie_Take_error (g : TakeObserver) (e : Err) :
    (TakeObserver.error g e).map (fun r => r.2) = some ((St1.onError' (absTake g) e).2.map Rs.Ev.n) := by
  rcases g with ⟨_ | _, _, _⟩ <;> rfl

theorem tie_Take_complete (g : TakeObserver) :
    (TakeObserver.complete g).map (fun r => r.2) = some ((St1.onComplete' (absTake g)).2.map Rs.Ev.n) := by
  rcases g with ⟨_ | _, _, _⟩ <;> rfl


theorem tie_Take_init (n : Nat) :
    absTake (TakeObserver.init n) = Spec.Op1.init (.take n) := rfl

end Rx.GenTie
