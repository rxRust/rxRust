import RxModel.Gen.CombineLatest
/-! Tie (topology): the cells `CombineLatestOp::actual_subscribe` allocates, which observer field holds which cell, and the
    order in which the inputs are subscribed — extracted from /repo/src by rs2lean, pinned here.  The behaviour
    ties (GenTie/CombineLatest.lean) read the observers' fields as views of ONE shared state; this is the declaration
    they rest on (`firstSide` of the model = the first entry of `order`). -/
namespace Rx.GenTie
open Rx.Gen.CombineLatest

theorem wiring_CombineLatest_lets : CombineLatestOp.lets =
  [("o_combine", "CombineLatestObserver::new(observer, self.binary_op)"),
   ("o_combine", "MutRc::own(o_combine)"),
   ("a_unsub", "self.a.actual_subscribe(AObserver(o_combine , TypeHint::new()))"),
   ("b_unsub", "self.b.actual_subscribe(BObserver(o_combine, TypeHint::new()))")] := rfl

theorem wiring_CombineLatest_views : CombineLatestOp.views =
  [("AObserver", "0", "o_combine"),
   ("AObserver", "1", "TypeHint::new()"),
   ("BObserver", "0", "o_combine"),
   ("BObserver", "1", "TypeHint::new()")] := rfl

theorem wiring_CombineLatest_order : CombineLatestOp.order =
  [("self.a", "AObserver(o_combine , TypeHint::new())"),
   ("self.b", "BObserver(o_combine, TypeHint::new())")] := rfl

end Rx.GenTie
