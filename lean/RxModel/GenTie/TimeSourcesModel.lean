import RxModel.GenTie.TimeSources
import RxModel.GenTie.DelaySubscription
import RxModel.GenTie.BufferCell
import RxModel.Sched.Chain
/-! The scheduling events of the GENERATED `actual_subscribe` functions, read into the scheduler model, are the
    scheduling calls of the world model (`TW.subscribeSource`, `TW.subscribeFrom` of Sched/Chain.lean): same task kind,
    same first delay, same period, same outer delay.  `interpSched` is the (small, explicit) dictionary from the event
    vocabulary of the translator to the model's `scheduleOnce` / `scheduleRepeat`; `stageIx` is the position of the
    scheduling operator in the chain (a datum of the world, not of the code). -/
namespace Rx.GenTie
open Rx Rx.T

/-- the model call a scheduling event stands for -/
def interpSched (stageIx : Nat) : Rs.Ev → Sched → Option (Sched × TaskId)
  | Rs.Ev.sched "repeat:interval_task" [Val.int first, Val.int dur] delay _, s =>
      some (s.scheduleRepeat .tick dur.toNat delay first.toNat)
  | Rs.Ev.sched "timer_task" [v] delay _, s => some (s.scheduleOnce (.timerSrc v) delay)
  | Rs.Ev.sched "subscribe_task" [_] delay _, s => some (s.scheduleOnce (.subscribe stageIx) delay)
  | _, _ => none

/-- interval / interval_at: what the code schedules is what `TW.subscribeSource` schedules -/
theorem model_interval_subscribe (w : TW) (g : Rx.Gen.SrcInterval.IntervalObservable) (o : Rs.Obs) (h : Rs.Sub)
    (hs : w.src = .interval g.delay g.dur) :
    ∃ out, Rx.Gen.SrcInterval.IntervalObservable.actual_subscribe g o h = some (g, out) ∧
      ∃ e, out = [e] ∧
        (interpSched 0 e w.sched).map (fun r => (r.1, some r.2)) =
          some ((w.subscribeSource).sched, (w.subscribeSource).srcTask) := by
  refine ⟨_, tie_Interval_subscribe g o h, _, rfl, ?_⟩
  simp [interpSched, TW.subscribeSource, hs]

/-- timer / timer_at -/
theorem model_timer_subscribe (w : TW) (g : Rx.Gen.SrcTimer.TimerObservable) (o : Rs.Obs) (h : Rs.Sub)
    (hs : w.src = .timer g.item g.dur) :
    ∃ out, Rx.Gen.SrcTimer.TimerObservable.actual_subscribe g o h = some (g, out) ∧
      ∃ e, out = [e] ∧
        (interpSched 0 e w.sched).map (fun r => (r.1, some r.2)) =
          some ((w.subscribeSource).sched, (w.subscribeSource).srcTask) := by
  refine ⟨_, tie_Timer_subscribe g o h, _, rfl, ?_⟩
  simp [interpSched, TW.subscribeSource, hs]

/-- subscribe_on: the stage schedules ONE subscribing task without delay and stops (`TW.subscribeFrom`) -/
theorem model_subscribeOn_subscribe (w : TW) (j : Nat) (t : Option TaskId) (g : Rx.Gen.SubscribeOn.SubscribeOnOP)
    (o : Rs.Obs) (h : Rs.Sub) (hs : w.stages[j]? = some (.subscribeOn none t)) :
    ∃ out, Rx.Gen.SubscribeOn.SubscribeOnOP.actual_subscribe g o h = some (g, out) ∧
      ∃ e, out = [e] ∧
        (interpSched j e w.sched).map (fun r => r.1) = some (w.subscribeFrom (j + 1)).sched := by
  refine ⟨_, tie_SubscribeOn_subscribe g o h, _, rfl, ?_⟩
  simp [interpSched, TW.subscribeFrom, hs, TW.setStage]

/-- delay_subscription: the same task, with the configured delay as the scheduler's outer delay -/
theorem model_delaySubscription_subscribe (w : TW) (j : Nat) (t : Option TaskId)
    (g : Rx.Gen.DelaySubscription.DelaySubscriptionOp) (o : Rs.Obs) (h : Rs.Sub)
    (hs : w.stages[j]? = some (.subscribeOn (some g.delay) t)) :
    ∃ out, Rx.Gen.DelaySubscription.DelaySubscriptionOp.actual_subscribe g o h = some (g, out) ∧
      ∃ e, out = [e] ∧
        (interpSched j e w.sched).map (fun r => r.1) = some (w.subscribeFrom (j + 1)).sched := by
  refine ⟨_, tie_DelaySubscription_subscribe g o h, _, rfl, ?_⟩
  simp [interpSched, TW.subscribeFrom, hs, TW.setStage]

/-- the tick of `interval` is the `.tick` clause of `runTick`: stop iff the chain is finished, else push `next(seq)` -/
theorem model_interval_tick (w : TW) (o : Rs.Obs) (seq : Nat) :
    ∃ o' out keep, Rx.Gen.SrcInterval.Observer.tick_interval_task o (fin w.stages) seq = some (o', out, keep) ∧
      keep = (w.runTick .tick seq).2 ∧
      (w.runTick .tick seq).1 = (if keep then w.push 0 (out.filterMap (fun e => match e with | Rs.Ev.n x => some x | _ => none)) else w) := by
  unfold TW.runTick
  dsimp only
  cases fin w.stages
  · exact ⟨o, _, true, rfl, rfl, rfl⟩
  · exact ⟨o, [], false, rfl, rfl, rfl⟩

end Rx.GenTie
