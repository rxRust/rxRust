import RxModel.Gen.CombineLatestThreads
/-! Tie (topology, thread-safe flavour): as GenTie/WiringCombineLatest.lean, for `CombineLatestOpThread`. -/
namespace Rx.GenTie
open Rx.Gen.CombineLatestThreads

theorem wiringT_CombineLatest_lets : CombineLatestOpThread.lets =
  [("o_combine", "CombineLatestObserver::new(observer, self.binary_op)"),
   ("o_combine", "MutArc::own(o_combine)"),
   ("a_unsub", "self.a.actual_subscribe(AObserver(o_combine , TypeHint::new()))"),
   ("b_unsub", "self.b.actual_subscribe(BObserver(o_combine, TypeHint::new()))")] := rfl

theorem wiringT_CombineLatest_views : CombineLatestOpThread.views =
  [("AObserver", "0", "o_combine"),
   ("AObserver", "1", "TypeHint::new()"),
   ("BObserver", "0", "o_combine"),
   ("BObserver", "1", "TypeHint::new()")] := rfl

theorem wiringT_CombineLatest_order : CombineLatestOpThread.order =
  [("self.a", "AObserver(o_combine , TypeHint::new())"),
   ("self.b", "BObserver(o_combine, TypeHint::new())")] := rfl

end Rx.GenTie
