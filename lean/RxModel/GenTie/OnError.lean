import RxModel.Gen.OnError
import RxModel.GenTie.Tactics
/-! Tie: `OnErrorObserver` generated from `/repo/src` IS the `St1` machine of the hand-written model. -/
namespace Rx.GenTie
open Rx Rx.Gen.OnError

def absOnError (g : OnErrorObserver) : St1 := .onError g.func

theorem tie_OnError_next (g : OnErrorObserver) (v : Val) :
    (OnErrorObserver.next g v).map (fun r => (absOnError r.1, r.2)) = some (Rs.lift (St1.onNext (absOnError g) v)) := rfl

theorem tie_OnError_error (g : OnErrorObserver) (e : Err) :
    (OnErrorObserver.error g e).map (fun r => r.2) = some ((St1.onError' (absOnError g) e).2.map Rs.Ev.n) := rfl

theorem tie_OnError_complete (g : OnErrorObserver) :
    (OnErrorObserver.complete g).map (fun r => r.2) = some ((St1.onComplete' (absOnError g)).2.map Rs.Ev.n) := rfl


end Rx.GenTie
