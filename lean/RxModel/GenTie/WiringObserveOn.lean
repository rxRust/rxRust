import RxModel.Gen.ObserveOn
/-! Tie (topology): `ObserveOnOp::actual_subscribe` — a fresh MultiSubscription shared by the observer handed to the source
    and the returned `ZipSubscription(source subscription, that MultiSubscription)`; the slot built around the
    downstream observer. -/
namespace Rx.GenTie
open Rx.Gen.ObserveOn

theorem wiring_ObserveOn_lets : ObserveOnOp.lets =
  [("subscription", "< _ >::default()"),
   ("observer", "MutRc::own(Some(observer))"),
   ("observer", "ObserveOnObserver { scheduler, observer, subscription : subscription , }"),
   ("unsub", "source.actual_subscribe(observer)")] := rfl

theorem wiring_ObserveOn_views : ObserveOnOp.views =
  [("ObserveOnObserver", "scheduler", "scheduler"),
   ("ObserveOnObserver", "observer", "observer"),
   ("ObserveOnObserver", "subscription", "subscription")] := rfl

theorem wiring_ObserveOn_order : ObserveOnOp.order =
  [("source", "observer")] := rfl

end Rx.GenTie
