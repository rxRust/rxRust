import RxModel.Gen.TaskHandleNormal
import RxModel.Gen.TaskHandleSubscribe
import RxModel.Gen.SchedFutures
import RxModel.GenTie.Tactics
import RxModel.Sched.Core
/-! Tie: src/scheduler.rs itself (compiler-expanded, translated) — the two `Subscription` impls of `TaskHandle` and the
    `poll` functions of the scheduler's own futures `Remote`, `OnceTask`, `FutureTask`, `RepeatTask` — in closed form,
    next to the clauses of the scheduler model (Sched/Core.lean: `cancel`, `handleClosed`, `pollPre`, `finishOnce`).
    A `poll` is a function of the state and of an ORACLE `futs` (what the k-th poll of the wrapped future / timer
    answers during this call):

      TaskHandle::unsubscribe   `keep_running := false`, the value is TAKEN; a `SubscribeReturn` value is unsubscribed
                                (a caught panic is re-raised); is_closed (Normal) = "a value is there"
      Remote::poll              cancelled ⇒ `Ready` WITHOUT polling the task; otherwise the task is polled once and its
                                result stored (`Ready`), or `Pending` with nothing changed
      OnceTask::poll            takes the arguments, runs the function ONCE; a second poll panics
      FutureTask::poll          `Pending` leaves the arguments alone; `Ready(v)` runs the function once on (v, args)
      RepeatTask::poll          while the timer is ready: tick `(task)(args, seq)`; true ⇒ `seq += 1`, a NEW timer with
                                `interval` replaces the old one and is polled at once; false ⇒ `Ready`; timer pending ⇒
                                `Pending` (`repeatSpec`; k ready timers ⇒ exactly k ticks numbered seq, seq+1, … ) -/
namespace Rx.GenTie
open Rx

section handles
open Rx.Gen.TaskHandleNormal

theorem tie_HandleN_unsubscribe (g : TaskHandleNormalReturn) :
    TaskHandleNormalReturn.unsubscribe g = some ({ keep_running := false, value := none }, []) := rfl

theorem tie_HandleN_is_closed (g : TaskHandleNormalReturn) (c : Nat → Bool) :
    TaskHandleNormalReturn.is_closed g c = g.value.isSome := rfl

/-- the model's task record read off a `HandleInfo` -/
def absHandle (t : T.Task) (g : HandleInfo) : T.Task := { t with keepRunning := g.keep_running, hasValue := g.value.isSome }

/-- `Sched.cancel` is `TaskHandle::unsubscribe` on the task's record; `handleClosed` is `is_closed` -/
theorem model_cancel (s : T.Sched) (k : Nat) (t : T.Task) (g : HandleInfo) (h : s.tasks[k]? = some (absHandle t g)) :
    ∃ g', TaskHandleNormalReturn.unsubscribe g = some (g', []) ∧
      s.cancel k = s.setTask k (absHandle t g') := by
  refine ⟨_, tie_HandleN_unsubscribe g, ?_⟩
  simp [T.Sched.cancel, h, absHandle]

theorem model_handleClosed (s : T.Sched) (k : Nat) (t : T.Task) (g : HandleInfo) (c : Nat → Bool)
    (h : s.tasks[k]? = some (absHandle t g)) :
    s.handleClosed k = TaskHandleNormalReturn.is_closed g c := by
  simp [T.Sched.handleClosed, h, absHandle, tie_HandleN_is_closed]

end handles

section handleS
open Rx.Gen.TaskHandleSubscribe

theorem tie_HandleS_unsubscribe (g : TaskHandleSubscribeReturn) :
    TaskHandleSubscribeReturn.unsubscribe g =
      match g.value with
      | some (Except.ok u) => some ({ keep_running := false, value := none }, [Rs.Ev.unsub u.id])
      | some (Except.error _) => none            -- the task had panicked: `resume_unwind`
      | none => some ({ keep_running := false, value := none }, []) := rfl

theorem tie_HandleS_is_closed (g : TaskHandleSubscribeReturn) (c : Nat → Bool) :
    TaskHandleSubscribeReturn.is_closed g c =
      match g.value with | some (Except.ok u) => c u.id | _ => false := rfl

end handleS

section futures
open Rx.Gen.SchedFutures

theorem tie_Remote_poll (g : Remote) (futs : Nat → Rs.Poll (Except Unit Val)) :
    Remote.poll g futs =
      if !g.handle_info.keep_running then some (g, [], Rs.Poll.ready ())
      else match futs 0 with
        | Rs.Poll.ready r => some ({ g with handle_info.value := some r }, [], Rs.Poll.ready ())
        | Rs.Poll.pending => some (g, [], Rs.Poll.pending) := by
  rcases g with ⟨⟨_ | _, v⟩, f⟩
  · rfl
  · unfold Remote.poll
    dsimp only
    cases futs 0 <;> rfl

/-- a cancelled task is never polled again: the answer does not depend on the oracle -/
theorem Remote_cancelled_not_polled (g : Remote) (h : g.handle_info.keep_running = false)
    (futs futs' : Nat → Rs.Poll (Except Unit Val)) : Remote.poll g futs = Remote.poll g futs' := by
  simp [tie_Remote_poll, h]

theorem tie_OnceTask_poll (g : OnceTask) (futs : Nat → Rs.Poll Unit) :
    OnceTask.poll g futs =
      match g.args with
      | some a => some ({ g with args := none }, [], Rs.Poll.ready (g.func a))
      | none => none := by
  rcases g with ⟨f, _ | a⟩ <;> rfl

/-- a `OnceTask` runs its function exactly once: polling it again panics -/
theorem OnceTask_second_poll (g : OnceTask) (futs futs' : Nat → Rs.Poll Unit) (g' : OnceTask) (o) (r)
    (h : OnceTask.poll g futs = some (g', o, r)) : OnceTask.poll g' futs' = none := by
  rw [tie_OnceTask_poll] at h
  cases ha : g.args with
  | none => simp [ha] at h
  | some a => simp [ha] at h; obtain ⟨rfl, _, _⟩ := h; simp [tie_OnceTask_poll]

theorem tie_FutureTask_poll (g : FutureTask) (futs : Nat → Rs.Poll Val) :
    FutureTask.poll g futs =
      match futs 0 with
      | Rs.Poll.pending => some (g, [], Rs.Poll.pending)
      | Rs.Poll.ready v =>
        match g.args with
        | some a => some ({ g with args := none }, [], Rs.Poll.ready (g.task v a))
        | none => none := by
  rcases g with ⟨f, t, _ | a⟩ <;> unfold FutureTask.poll <;> dsimp only <;> cases futs 0 <;> rfl

/-- what one `poll` of a `RepeatTask` does, from poll number `pc` of this call on -/
def repeatSpec (futs : Nat → Rs.Poll Unit) : Nat → RepeatTask → Nat → Rs.Out → Option (RepeatTask × Rs.Out × Rs.Poll Unit)
  | 0, _, _, _ => none
  | fuel + 1, g, pc, out =>
    match futs pc with
    | Rs.Poll.pending => some (g, out, Rs.Poll.pending)
    | Rs.Poll.ready _ =>
      if g.task g.args g.seq then
        repeatSpec futs fuel { g with seq := g.seq + 1, fur := Rs.Fut.timer g.interval } (pc + 1)
          (out ++ [Rs.Ev.timer g.interval])
      else some (g, out, Rs.Poll.ready ())

abbrev RS := RepeatTask × Rs.Out × Nat × Option (Rs.Poll Unit)

theorem repeat_loop (futs : Nat → Rs.Poll Unit) (cond : RS → Bool) (body : RS → Option (RS × Bool))
    (hc : ∀ p, cond p = true)
    (hb : ∀ p : RS, body p =
      match futs p.2.2.1 with
      | Rs.Poll.pending => some ((p.1, p.2.1, p.2.2.1 + 1, some Rs.Poll.pending), true)
      | Rs.Poll.ready _ =>
        if p.1.task p.1.args p.1.seq then
          some (({ p.1 with seq := p.1.seq + 1, fur := Rs.Fut.timer p.1.interval }, p.2.1 ++ [Rs.Ev.timer p.1.interval],
                 p.2.2.1 + 1, none), false)
        else some ((p.1, p.2.1, p.2.2.1 + 1, some (Rs.Poll.ready ())), true)) :
    ∀ (fuel : Nat) (g : RepeatTask) (pc : Nat) (out : Rs.Out),
      (Rs.loopFuel fuel cond body (g, out, pc, none)).bind
          (fun r => match r.2.2.2 with | some v => some (r.1, r.2.1, v) | none => some (r.1, r.2.1, Rs.Poll.pending)) =
        repeatSpec futs fuel g pc out := by
  intro fuel
  induction fuel with
  | zero => intro g pc out; exact congrArg (Option.bind · _) (if_pos (hc _))
  | succ n ih =>
    intro g pc out
    rw [loopFuel_succ _ _ _ _ (hc _), hb]
    unfold repeatSpec
    dsimp only
    cases futs pc with
    | pending => rfl
    | ready u =>
      cases g.task g.args g.seq
      · rfl
      · exact ih _ _ _

theorem tie_RepeatTask_poll (g : RepeatTask) (futs : Nat → Rs.Poll Unit) (fuel : Nat) :
    RepeatTask.poll g futs fuel = repeatSpec futs fuel g 0 [] := by
  refine Eq.trans ?h1 (repeat_loop futs ?c ?b ?hc ?hb fuel g 0 [])
  case h1 =>
    refine congrArg (Option.bind _) (funext fun r => ?_)
    rcases r with ⟨a, b, c, _ | v⟩ <;> rfl
  case hc => intro p; rfl
  case hb =>
    intro p; rcases p with ⟨a, b, c, d⟩
    dsimp only
    cases futs c with
    | pending => rfl
    | ready u => cases a.task a.args a.seq <;> rfl

/-- the timer is still pending: nothing happens, `Pending` -/
theorem repeat_pending (g : RepeatTask) (futs : Nat → Rs.Poll Unit) (fuel : Nat) (h : futs 0 = Rs.Poll.pending) :
    RepeatTask.poll g futs (fuel + 1) = some (g, [], Rs.Poll.pending) := by
  simp [tie_RepeatTask_poll, repeatSpec, h]

/-- the timer is ready and the tick says "stop": the task ends, no new timer -/
theorem repeat_stop (g : RepeatTask) (futs : Nat → Rs.Poll Unit) (fuel : Nat) (u : Unit) (h : futs 0 = Rs.Poll.ready u)
    (ht : g.task g.args g.seq = false) :
    RepeatTask.poll g futs (fuel + 1) = some (g, [], Rs.Poll.ready ()) := by
  simp [tie_RepeatTask_poll, repeatSpec, h, ht]

/-- one tick numbered `seq`; then ONE new timer with `interval`, polled at once (here: pending) -/
theorem repeat_tick (g : RepeatTask) (futs : Nat → Rs.Poll Unit) (fuel : Nat) (u : Unit) (h0 : futs 0 = Rs.Poll.ready u)
    (ht : g.task g.args g.seq = true) (h1 : futs 1 = Rs.Poll.pending) :
    RepeatTask.poll g futs (fuel + 2) =
      some ({ g with seq := g.seq + 1, fur := Rs.Fut.timer g.interval }, [Rs.Ev.timer g.interval], Rs.Poll.pending) := by
  simp [tie_RepeatTask_poll, repeatSpec, h0, ht, h1]

/-- every timer a `RepeatTask` creates has the duration `interval`; the sequence number only ever grows by one per
    tick; `interval`, `task` and `args` never change -/
theorem repeatSpec_inv (futs : Nat → Rs.Poll Unit) :
    ∀ (fuel : Nat) (g : RepeatTask) (pc : Nat) (out : Rs.Out) (g' : RepeatTask) (out' : Rs.Out) (r : Rs.Poll Unit),
      repeatSpec futs fuel g pc out = some (g', out', r) →
        g'.interval = g.interval ∧ g.seq ≤ g'.seq ∧
        out' = out ++ List.replicate (g'.seq - g.seq) (Rs.Ev.timer g.interval) := by
  intro fuel
  induction fuel with
  | zero => intro g pc out g' out' r h; cases h
  | succ n ih =>
    intro g pc out g' out' r h
    unfold repeatSpec at h
    cases hf : futs pc with
    | pending => simp only [hf] at h; cases h; simp
    | ready u =>
      by_cases ht : g.task g.args g.seq
      · simp only [hf, ht, if_true] at h
        obtain ⟨h1, h2, h3⟩ := ih _ _ _ _ _ _ h
        simp only at h1 h2 h3
        refine ⟨h1, Nat.le_of_succ_le h2, ?_⟩
        have : g'.seq - g.seq = (g'.seq - (g.seq + 1)) + 1 :=
          (Nat.succ_pred_eq_of_pos (Nat.sub_pos_of_lt h2)).symm
        rw [h3, this, List.replicate_succ]; simp
      · simp only [hf, ht] at h; cases h; simp

end futures
end Rx.GenTie
