import RxModel.Gen.RcObserver
import RxModel.GenTie.Tactics
/-! The shared slot `MutRc<Option<O>>` / `MutArc<Option<O>>` used as an observer (`impl_rc_observer!` of
    src/observer.rs), generated from the source: it lets everything through until the first terminal, which
    empties it — the `gate` of the model. -/
namespace Rx.GenTie
open Rx Rx.Gen.RcObserver

theorem rc_next (g : RcObserver) (v : Val) :
    RcObserver.next g v = some (g, if g.isSome then [Rs.Ev.n (Notif.next v)] else []) := by
  cases g <;> rfl

theorem rc_error (g : RcObserver) (e : Err) :
    RcObserver.error g e = some (none, if g.isSome then [Rs.Ev.n (Notif.error e)] else []) := by
  cases g <;> rfl

theorem rc_complete (g : RcObserver) :
    RcObserver.complete g = some (none, if g.isSome then [Rs.Ev.n Notif.complete] else []) := by
  cases g <;> rfl

theorem rc_finished (g : RcObserver) (d : Bool) :
    RcObserver.is_finished g d = (!g.isSome || d) := by
  cases g <;> rfl

end Rx.GenTie
