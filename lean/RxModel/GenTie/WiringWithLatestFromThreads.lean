import RxModel.Gen.WithLatestFromThreads
/-! Tie (topology, thread-safe flavour): as GenTie/WiringWithLatestFrom.lean, for `WithLatestFromOpThreads`. -/
namespace Rx.GenTie
open Rx.Gen.WithLatestFromThreads

theorem wiringT_WithLatestFrom_lets : WithLatestFromOpThreads.lets =
  [("item", "MutArc::own(None)"),
   ("source_observer", "MutArc::own(Some(observer))"),
   ("from_observer", "BObserver { observer : source_observer , value : item , _marker : std::marker::PhantomData::< ItemA >, }"),
   ("from_unsub", "self.from.actual_subscribe(from_observer)"),
   ("source_unsub", "self.source.actual_subscribe(AObserver { observer : source_observer, value : item, })")] := rfl

theorem wiringT_WithLatestFrom_views : WithLatestFromOpThreads.views =
  [("BObserver", "observer", "source_observer"),
   ("BObserver", "value", "item"),
   ("BObserver", "_marker", "std::marker::PhantomData::< ItemA >"),
   ("AObserver", "observer", "source_observer"),
   ("AObserver", "value", "item")] := rfl

theorem wiringT_WithLatestFrom_order : WithLatestFromOpThreads.order =
  [("self.from", "from_observer"),
   ("self.source", "AObserver { observer : source_observer, value : item, }")] := rfl

end Rx.GenTie
