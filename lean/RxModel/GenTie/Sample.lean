import RxModel.Gen.Sample
import RxModel.GenTie.Tactics
/-! Tie: `SourceObserver` and `SampleObserver` generated from src/ops/sample.rs ARE the two inputs of the
    `St2.sample` cell.  DECLARED topology: both hold the same slot cell and the same value cell. -/
namespace Rx.GenTie
open Rx Rx.Gen.Sample

def absSampleA (g : SourceObserver) : St2 := .sample g.observer.isSome g.value
def absSampleB (g : SampleObserver) : St2 := .sample g.observer.isSome g.value

theorem tie_Sample_a_next (g : SourceObserver) (v : Val) :
    (SourceObserver.next g v).map (fun r => (absSampleA r.1, r.2)) = some (Rs.lift (St2.step (absSampleA g) .a (.next v))) := rfl

theorem tie_Sample_a_error (g : SourceObserver) (e : Err) :
    (SourceObserver.error g e).map (fun r => (absSampleA r.1, r.2)) = some (Rs.lift (St2.step (absSampleA g) .a (.error e))) := by
  rcases g with ⟨_ | _, w⟩ <;> rfl

theorem tie_Sample_a_complete (g : SourceObserver) :
    (SourceObserver.complete g).map (fun r => (absSampleA r.1, r.2)) = some (Rs.lift (St2.step (absSampleA g) .a .complete)) := by
  rcases g with ⟨_ | _, w⟩ <;> rfl

theorem tie_Sample_b_next (g : SampleObserver) (v : Val) :
    (SampleObserver.next g v).map (fun r => (absSampleB r.1, r.2)) = some (Rs.lift (St2.step (absSampleB g) .b (.next v))) := by
  rcases g with ⟨_ | _, _ | w⟩ <;> rfl

theorem tie_Sample_b_error (g : SampleObserver) (e : Err) :
    (SampleObserver.error g e).map (fun r => (absSampleB r.1, r.2)) = some (Rs.lift (St2.step (absSampleB g) .b (.error e))) := by
  rcases g with ⟨_ | _, w⟩ <;> rfl

theorem tie_Sample_b_complete (g : SampleObserver) :
    (SampleObserver.complete g).map (fun r => (absSampleB r.1, r.2)) = some (Rs.lift (St2.step (absSampleB g) .b .complete)) := by
  rcases g with ⟨_ | _, _ | w⟩ <;> rfl


end Rx.GenTie
