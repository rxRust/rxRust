import RxModel.Gen.ToStream
import RxModel.Gen.ToFuture
import RxModel.GenTie.Tactics
/-! Tie: the conversions `to_stream()` (src/ops/stream.rs) and `to_future()` (src/ops/future.rs), compiler-expanded and
    translated: the observer that feeds the channel and the `poll_next` / `poll` of the receiving side, in closed form;
    `gone` = the receiving half has been dropped (a parameter of each step), `futs` = what the channel's `next()` answers.

      stream observer   every item / the error / the completion becomes ONE message, in order; `next` on a dropped stream
                        panics (`expect`), the terminals do not; finished iff the channel is closed or the stream dropped
      stream poll_next  Pending ⇒ Pending, nothing else touched (the waker is the channel's business: the receiver is
                        polled on EVERY poll); `Item(x)` ⇒ `Some(x)`; `Complete` ⇒ close the receiver, `None`; sender
                        gone ⇒ `None`
      future observer   remembers the first item (or the error), a second one turns it into `MultipleValues`; the terminal
                        sends what is recorded (`Empty` when nothing) exactly once and closes the channel
      future poll       Pending ⇒ Pending; a message ⇒ Ready(message)

    and, for EVERY finite source history, what `to_future()` resolves to (`future_outcome_*`). -/
namespace Rx.GenTie
open Rx

section stream
open Rx.Gen.ToStream

theorem tie_StreamObs_next (g : ObservableStreamObserver) (v : Val) (gone : Bool) :
    ObservableStreamObserver.next g v gone =
      if gone then none else some (g, [Rs.Ev.send (Rs.ToVal.toVal (Message.Item (Except.ok v)))]) := by
  cases gone <;> rfl

theorem tie_StreamObs_error (g : ObservableStreamObserver) (e : Err) (gone : Bool) :
    ObservableStreamObserver.error g e gone =
      some (g, if gone then [] else [Rs.Ev.send (Rs.ToVal.toVal (Message.Item (Except.error e)))]) := by
  cases gone <;> rfl

theorem tie_StreamObs_complete (g : ObservableStreamObserver) (gone : Bool) :
    ObservableStreamObserver.complete g gone =
      some (g, if gone then [] else [Rs.Ev.send (Rs.ToVal.toVal Message.Complete)]) := by
  cases gone <;> rfl

theorem tie_StreamObs_finished (g : ObservableStreamObserver) (gone : Bool) (c : Nat → Bool) :
    ObservableStreamObserver.is_finished g gone c = (g.sender == Rs.Chan.closed || gone) := rfl

theorem tie_Stream_poll_next (g : ObservableStream) (futs : Nat → Rs.Poll (Option Message)) :
    ObservableStream.poll_next g futs =
      match futs 0 with
      | Rs.Poll.pending => some (g, [], Rs.Poll.pending)
      | Rs.Poll.ready (some (Message.Item x)) => some (g, [], Rs.Poll.ready (some x))
      | Rs.Poll.ready (some Message.Complete) => some (g, [Rs.Ev.rxclose], Rs.Poll.ready none)
      | Rs.Poll.ready none => some (g, [], Rs.Poll.ready none) := by
  unfold ObservableStream.poll_next
  dsimp only
  cases futs 0 with
  | pending => rfl
  | ready m => rcases m with _ | (x | _) <;> rfl

/-- the receiver is asked on EVERY poll (so whatever waker the poll carries is the one the channel keeps): the answer
    of `poll_next` is a function of the channel's answer alone — there is no state that could remember an earlier
    poll (seed C14-7 added exactly such a state) -/
theorem Stream_poll_next_stateless (g g' : ObservableStream) (futs : Nat → Rs.Poll (Option Message)) :
    (ObservableStream.poll_next g futs).map (fun r => r.2) = (ObservableStream.poll_next g' futs).map (fun r => r.2) := by
  simp only [tie_Stream_poll_next]
  cases futs 0 with
  | pending => rfl
  | ready m => rcases m with _ | (x | _) <;> rfl

end stream

section future
open Rx.Gen.ToFuture

abbrev Msg := Except ObservableError (Except Err Val)

theorem tie_FutureObs_record (g : ObservableFutureObserver) (r : Except Err Val) :
    ObservableFutureObserver.send_observable_value g r =
      some ({ g with last_value := match g.last_value with
                | some _ => some (Except.error ObservableError.MultipleValues)
                | none => some (Except.ok r) }, []) := by
  rcases g with ⟨s, _ | l⟩ <;> rfl

theorem tie_FutureObs_next (g : ObservableFutureObserver) (v : Val) :
    ObservableFutureObserver.next g v = ObservableFutureObserver.send_observable_value g (Except.ok v) := by
  rcases g with ⟨s, _ | l⟩ <;> rfl

theorem tie_FutureObs_complete (g : ObservableFutureObserver) (gone : Bool) :
    ObservableFutureObserver.complete g gone =
      some ({ sender := Rs.Chan.closed, last_value := none },
            (if gone then [] else [Rs.Ev.send (Rs.ToVal.toVal (g.last_value.getD (Except.error ObservableError.Empty) : Msg))]) ++
              [Rs.Ev.chclose]) := by
  rcases g with ⟨s, _ | l⟩ <;> cases gone <;> rfl

theorem tie_FutureObs_error (g : ObservableFutureObserver) (e : Err) (gone : Bool) :
    ObservableFutureObserver.error g e gone =
      (ObservableFutureObserver.send_observable_value g (Except.error e)).bind
        (fun r => ObservableFutureObserver.complete r.1 gone) := by
  rcases g with ⟨s, _ | l⟩ <;> rfl

theorem tie_FutureObs_finished (g : ObservableFutureObserver) (gone : Bool) (c : Nat → Bool) :
    ObservableFutureObserver.is_finished g gone c = (g.sender == Rs.Chan.closed || gone) := rfl

theorem tie_Future_poll (g : ObservableFuture) (futs : Nat → Rs.Poll (Option Msg)) :
    ObservableFuture.poll g futs =
      match futs 0 with
      | Rs.Poll.pending => some (g, [], Rs.Poll.pending)
      | Rs.Poll.ready (some m) => some (g, [], Rs.Poll.ready m)
      | Rs.Poll.ready none => some (g, [], Rs.Poll.pending) := by
  unfold ObservableFuture.poll
  dsimp only
  cases futs 0 with
  | pending => rfl
  | ready m => cases m <;> rfl

/-- the items of a source fed to the observer one by one (from a fresh observer) -/
def feed (g : ObservableFutureObserver) : List Val → Option ObservableFutureObserver
  | [] => some g
  | v :: r => (ObservableFutureObserver.next g v).bind (fun p => feed p.1 r)

/-- what is recorded after the items `xs`: nothing, the single item, or `MultipleValues` -/
def recorded : List Val → Option Msg
  | [] => none
  | [x] => some (Except.ok (Except.ok x))
  | _ :: _ :: _ => some (Except.error ObservableError.MultipleValues)

theorem feed_multiple (s : Rs.Chan) (xs : List Val) :
    feed { sender := s, last_value := some (Except.error ObservableError.MultipleValues) } xs =
      some { sender := s, last_value := some (Except.error ObservableError.MultipleValues) } := by
  induction xs with
  | nil => rfl
  | cons v r ih => exact ih

theorem feed_fresh (s : Rs.Chan) (xs : List Val) :
    feed { sender := s, last_value := none } xs = some { sender := s, last_value := recorded xs } := by
  rcases xs with _ | ⟨x, _ | ⟨y, r⟩⟩
  · rfl
  · rfl
  · exact feed_multiple s r

/-- EVERY history "items then complete": the one message sent is the single item, `Empty` for none,
    `MultipleValues` for more — sent exactly once, then the channel is closed -/
theorem future_outcome_complete (s : Rs.Chan) (xs : List Val) :
    (feed { sender := s, last_value := none } xs).bind (fun g => ObservableFutureObserver.complete g false) =
      some ({ sender := Rs.Chan.closed, last_value := none },
        [Rs.Ev.send (Rs.ToVal.toVal (match xs with
            | [] => (Except.error ObservableError.Empty : Msg)
            | [x] => Except.ok (Except.ok x)
            | _ :: _ :: _ => Except.error ObservableError.MultipleValues)), Rs.Ev.chclose]) := by
  rw [feed_fresh]
  rcases xs with _ | ⟨x, _ | ⟨y, r⟩⟩ <;> rfl

/-- EVERY history "items then error e": the source's error if nothing came before it, `MultipleValues` otherwise
    (the error counts as a value) — and the future does resolve (one message, channel closed) -/
theorem future_outcome_error (s : Rs.Chan) (xs : List Val) (e : Err) :
    (feed { sender := s, last_value := none } xs).bind (fun g => ObservableFutureObserver.error g e false) =
      some ({ sender := Rs.Chan.closed, last_value := none },
        [Rs.Ev.send (Rs.ToVal.toVal (match xs with
            | [] => (Except.ok (Except.error e) : Msg)
            | _ :: _ => Except.error ObservableError.MultipleValues)), Rs.Ev.chclose]) := by
  rw [feed_fresh]
  rcases xs with _ | ⟨x, _ | ⟨y, r⟩⟩ <;> rfl

end future
end Rx.GenTie
