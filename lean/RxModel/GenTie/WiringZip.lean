import RxModel.Gen.Zip
/-! Tie (topology): the cells `ZipOp::actual_subscribe` allocates, which observer field holds which cell, and the
    order in which the inputs are subscribed — extracted from /repo/src by rs2lean, pinned here.  The behaviour
    ties (GenTie/Zip.lean) read the observers' fields as views of ONE shared state; this is the declaration
    they rest on (`firstSide` of the model = the first entry of `order`). -/
namespace Rx.GenTie
open Rx.Gen.Zip

theorem wiring_Zip_lets : ZipOp.lets =
  [("o_zip", "ZipObserver::new(observer)"),
   ("o_zip", "MutRc::own(o_zip)"),
   ("a_unsub", "self.a.actual_subscribe(AObserver(o_zip , TypeHint::new()))"),
   ("b_unsub", "self.b.actual_subscribe(BObserver(o_zip, TypeHint::new()))")] := rfl

theorem wiring_Zip_views : ZipOp.views =
  [("AObserver", "0", "o_zip"),
   ("AObserver", "1", "TypeHint::new()"),
   ("BObserver", "0", "o_zip"),
   ("BObserver", "1", "TypeHint::new()")] := rfl

theorem wiring_Zip_order : ZipOp.order =
  [("self.a", "AObserver(o_zip , TypeHint::new())"),
   ("self.b", "BObserver(o_zip, TypeHint::new())")] := rfl

end Rx.GenTie
