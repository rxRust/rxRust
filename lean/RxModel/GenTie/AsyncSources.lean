import RxModel.Gen.SrcStream
import RxModel.Gen.SrcStreamResult
import RxModel.Gen.SrcFuture
import RxModel.GenTie.Tactics
/-! Tie: the asynchronous sources `from_stream`, `from_stream_result`, `from_future`, `from_future_result`
    (src/observable/{from_stream,from_stream_result,from_future}.rs, compiler-expanded, translated): what `actual_subscribe`
    schedules, and the driver futures' `poll` as functions of the ORACLES `futs` (what the k-th `poll_next` of the wrapped
    stream answers during this poll) and `downF` (the observer's `is_finished()` as a function of what has been delivered).

      from_stream(_result)   ONE driver task, no delay.  One `poll` of the driver = `streamSpec` / `tryStreamSpec`:
                             before every `poll_next` the observer is asked `is_finished()` (finished ⇒ the observer is
                             dropped, `Ready`, the stream is not polled again); `Pending` ⇒ `Pending` with the observer STILL
                             IN ITS SLOT and everything delivered so far kept; an item is relayed; `None` ⇒ `complete`,
                             `Ready`; (`_result`) `Err(e)` ⇒ `error(e)`, `Ready`
      from_future(_result)   ONE `FutureTask`, no delay; its body: `next(v); complete()` / for a `Result`: that, or `error(e)`

    `stream_relays_all`: a stream that is ready with the items `vs` and then ends is relayed completely, in order, followed
    by `complete`, in ONE poll — for every list `vs`. -/
namespace Rx.GenTie
open Rx

section stream
open Rx.Gen.SrcStream

theorem tie_Stream_subscribe (g : StreamObservable) (o : Rs.Obs) (h : Rs.Sub) :
    StreamObservable.actual_subscribe g o h = some (g, [Rs.Ev.sched "StreamObserverFuture" [] none h.id]) := rfl

/-- one `poll` of the driver, from poll number `pc` of this call on -/
def streamSpec (futs : Nat → Rs.Poll (Option Val)) (downF : Rs.Out → Bool) :
    Nat → StreamObserverFuture → Nat → Rs.Out → Option (StreamObserverFuture × Rs.Out × Rs.Poll Unit)
  | 0, _, _, _ => none
  | fuel + 1, g, pc, out =>
    match g.observer with
    | none => some (g, out, Rs.Poll.ready ())
    | some o =>
      if downF out then some ({ g with observer := none }, out, Rs.Poll.ready ())
      else match futs pc with
        | Rs.Poll.pending => some (g, out, Rs.Poll.pending)
        | Rs.Poll.ready (some v) => streamSpec futs downF fuel g (pc + 1) (out ++ [Rs.Ev.n (Notif.next v)])
        | Rs.Poll.ready none => some ({ g with observer := none }, out ++ [Rs.Ev.n Notif.complete], Rs.Poll.ready ())

abbrev SS := StreamObserverFuture × Rs.Out × Nat × Option (Rs.Poll Unit)

theorem stream_loop (futs : Nat → Rs.Poll (Option Val)) (downF : Rs.Out → Bool) (cond : SS → Bool)
    (body : SS → Option (SS × Bool)) (hc : ∀ p, cond p = true)
    (hb : ∀ p : SS, body p =
      match p.1.observer with
      | none => some ((p.1, p.2.1, p.2.2.1, some (Rs.Poll.ready ())), true)
      | some o =>
        if downF p.2.1 then some (({ p.1 with observer := none }, p.2.1, p.2.2.1, some (Rs.Poll.ready ())), true)
        else match futs p.2.2.1 with
          | Rs.Poll.pending => some ((p.1, p.2.1, p.2.2.1 + 1, some Rs.Poll.pending), true)
          | Rs.Poll.ready (some v) => some ((p.1, p.2.1 ++ [Rs.Ev.n (Notif.next v)], p.2.2.1 + 1, none), false)
          | Rs.Poll.ready none =>
              some (({ p.1 with observer := none }, p.2.1 ++ [Rs.Ev.n Notif.complete], p.2.2.1 + 1, some (Rs.Poll.ready ())), true)) :
    ∀ (fuel : Nat) (g : StreamObserverFuture) (pc : Nat) (out : Rs.Out),
      (Rs.loopFuel fuel cond body (g, out, pc, none)).bind
          (fun r => match r.2.2.2 with | some v => some (r.1, r.2.1, v) | none => some (r.1, r.2.1, Rs.Poll.pending)) =
        streamSpec futs downF fuel g pc out := by
  intro fuel
  induction fuel with
  | zero => intro g pc out; exact congrArg (Option.bind · _) (if_pos (hc _))
  | succ n ih =>
    intro g pc out
    rw [loopFuel_succ _ _ _ _ (hc _), hb]
    rcases g with ⟨st, _ | o⟩
    · rfl
    · unfold streamSpec
      dsimp only
      cases downF out
      · cases futs pc with
        | pending => rfl
        | ready m =>
          cases m with
          | none => rfl
          | some v => exact ih _ _ _
      · rfl

theorem tie_Stream_poll (g : StreamObserverFuture) (futs : Nat → Rs.Poll (Option Val)) (downF : Rs.Out → Bool) (fuel : Nat) :
    StreamObserverFuture.poll g futs downF fuel = streamSpec futs downF fuel g 0 [] := by
  refine Eq.trans ?h1 (stream_loop futs downF ?c ?b ?hc ?hb fuel g 0 [])
  case h1 =>
    refine congrArg (Option.bind _) (funext fun r => ?_)
    rcases r with ⟨a, b, c, _ | v⟩ <;> rfl
  case hc => intro p; rfl
  case hb =>
    intro p; rcases p with ⟨⟨st, _ | o⟩, b, c, d⟩
    · rfl
    · dsimp only
      cases downF b
      · cases futs c with
        | pending => rfl
        | ready m => cases m <;> rfl
      · rfl

/-- `Pending` leaves the driver exactly as it was — the observer stays in its slot (seed C08-7 lost it there) -/
theorem stream_pending_keeps_observer (g : StreamObserverFuture) (o : Rs.Obs) (futs : Nat → Rs.Poll (Option Val))
    (downF : Rs.Out → Bool) (fuel : Nat) (ho : g.observer = some o) (hd : downF [] = false) (hp : futs 0 = Rs.Poll.pending) :
    StreamObserverFuture.poll g futs downF (fuel + 1) = some (g, [], Rs.Poll.pending) := by
  rcases g with ⟨st, ob⟩; simp only at ho; subst ho
  simp [tie_Stream_poll, streamSpec, hd, hp]

theorem streamSpec_item (futs : Nat → Rs.Poll (Option Val)) (downF : Rs.Out → Bool) (n : Nat) (st : Rs.Fut) (o : Rs.Obs)
    (pc : Nat) (out : Rs.Out) (v : Val) (h0 : futs pc = Rs.Poll.ready (some v)) (hd : downF out = false) :
    streamSpec futs downF (n + 1) ⟨st, some o⟩ pc out =
      streamSpec futs downF n ⟨st, some o⟩ (pc + 1) (out ++ [Rs.Ev.n (Notif.next v)]) := by
  simp [streamSpec, h0, hd]

/-- a stream that is ready with the items `vs` and then ends, an observer that never finishes: everything is relayed in
    order, then `complete`, in one poll -/
theorem stream_relays_all (st : Rs.Fut) (o : Rs.Obs) (vs : List Val) :
    ∀ (futs : Nat → Rs.Poll (Option Val)) (pc : Nat) (out : Rs.Out),
      (∀ k, (h : k < vs.length) → futs (pc + k) = Rs.Poll.ready (some vs[k])) → futs (pc + vs.length) = Rs.Poll.ready none →
      streamSpec futs (fun _ => false) (vs.length + 1) ⟨st, some o⟩ pc out =
        some (⟨st, none⟩, out ++ vs.map (fun v => Rs.Ev.n (Notif.next v)) ++ [Rs.Ev.n Notif.complete], Rs.Poll.ready ()) := by
  induction vs with
  | nil =>
    intro futs pc out _ he
    rw [List.map_nil, List.append_nil]
    unfold streamSpec
    dsimp only
    rw [show futs pc = Rs.Poll.ready none from he]
    rfl
  | cons v r ih =>
    intro futs pc out hi he
    have h0 : futs pc = Rs.Poll.ready (some v) := hi 0 (Nat.succ_pos _)
    rw [List.length_cons, streamSpec_item futs _ _ st o pc out v h0 rfl, ih futs (pc + 1), List.append_assoc out]
    · rfl
    · intro k hk
      rw [Nat.add_right_comm]
      exact hi (k + 1) (Nat.succ_lt_succ hk)
    · rw [Nat.add_right_comm]
      exact he

end stream

section tryStream
open Rx.Gen.SrcStreamResult

theorem tie_TryStream_subscribe (g : TryStreamObservable) (o : Rs.Obs) (h : Rs.Sub) :
    TryStreamObservable.actual_subscribe g o h = some (g, [Rs.Ev.sched "TryStreamObserverFuture" [] none h.id]) := rfl

def tryStreamSpec (futs : Nat → Rs.Poll (Option (Except Err Val))) (downF : Rs.Out → Bool) :
    Nat → TryStreamObserverFuture → Nat → Rs.Out → Option (TryStreamObserverFuture × Rs.Out × Rs.Poll Unit)
  | 0, _, _, _ => none
  | fuel + 1, g, pc, out =>
    match g.observer with
    | none => some (g, out, Rs.Poll.ready ())
    | some o =>
      if downF out then some ({ g with observer := none }, out, Rs.Poll.ready ())
      else match futs pc with
        | Rs.Poll.pending => some (g, out, Rs.Poll.pending)
        | Rs.Poll.ready (some (Except.ok v)) => tryStreamSpec futs downF fuel g (pc + 1) (out ++ [Rs.Ev.n (Notif.next v)])
        | Rs.Poll.ready (some (Except.error e)) =>
            some ({ g with observer := none }, out ++ [Rs.Ev.n (Notif.error e)], Rs.Poll.ready ())
        | Rs.Poll.ready none => some ({ g with observer := none }, out ++ [Rs.Ev.n Notif.complete], Rs.Poll.ready ())

abbrev TS := TryStreamObserverFuture × Rs.Out × Nat × Option (Rs.Poll Unit)

theorem tryStream_loop (futs : Nat → Rs.Poll (Option (Except Err Val))) (downF : Rs.Out → Bool) (cond : TS → Bool)
    (body : TS → Option (TS × Bool)) (hc : ∀ p, cond p = true)
    (hb : ∀ p : TS, body p =
      match p.1.observer with
      | none => some ((p.1, p.2.1, p.2.2.1, some (Rs.Poll.ready ())), true)
      | some o =>
        if downF p.2.1 then some (({ p.1 with observer := none }, p.2.1, p.2.2.1, some (Rs.Poll.ready ())), true)
        else match futs p.2.2.1 with
          | Rs.Poll.pending => some ((p.1, p.2.1, p.2.2.1 + 1, some Rs.Poll.pending), true)
          | Rs.Poll.ready (some (Except.ok v)) => some ((p.1, p.2.1 ++ [Rs.Ev.n (Notif.next v)], p.2.2.1 + 1, none), false)
          | Rs.Poll.ready (some (Except.error e)) =>
              some (({ p.1 with observer := none }, p.2.1 ++ [Rs.Ev.n (Notif.error e)], p.2.2.1 + 1, some (Rs.Poll.ready ())), true)
          | Rs.Poll.ready none =>
              some (({ p.1 with observer := none }, p.2.1 ++ [Rs.Ev.n Notif.complete], p.2.2.1 + 1, some (Rs.Poll.ready ())), true)) :
    ∀ (fuel : Nat) (g : TryStreamObserverFuture) (pc : Nat) (out : Rs.Out),
      (Rs.loopFuel fuel cond body (g, out, pc, none)).bind
          (fun r => match r.2.2.2 with | some v => some (r.1, r.2.1, v) | none => some (r.1, r.2.1, Rs.Poll.pending)) =
        tryStreamSpec futs downF fuel g pc out := by
  intro fuel
  induction fuel with
  | zero => intro g pc out; exact congrArg (Option.bind · _) (if_pos (hc _))
  | succ n ih =>
    intro g pc out
    rw [loopFuel_succ _ _ _ _ (hc _), hb]
    rcases g with ⟨st, _ | o⟩
    · rfl
    · unfold tryStreamSpec
      dsimp only
      cases downF out
      · cases futs pc with
        | pending => rfl
        | ready m =>
          rcases m with _ | (e | v)
          · rfl
          · rfl
          · exact ih _ _ _
      · rfl

theorem tie_TryStream_poll (g : TryStreamObserverFuture) (futs : Nat → Rs.Poll (Option (Except Err Val)))
    (downF : Rs.Out → Bool) (fuel : Nat) :
    TryStreamObserverFuture.poll g futs downF fuel = tryStreamSpec futs downF fuel g 0 [] := by
  refine Eq.trans ?h1 (tryStream_loop futs downF ?c ?b ?hc ?hb fuel g 0 [])
  case h1 =>
    refine congrArg (Option.bind _) (funext fun r => ?_)
    rcases r with ⟨a, b, c, _ | v⟩ <;> rfl
  case hc => intro p; rfl
  case hb =>
    intro p; rcases p with ⟨⟨st, _ | o⟩, b, c, d⟩
    · rfl
    · dsimp only
      cases downF b
      · cases futs c with
        | pending => rfl
        | ready m => rcases m with _ | (e | v) <;> rfl
      · rfl

end tryStream

section future
open Rx.Gen.SrcFuture

theorem tie_Future_subscribe (g : FutureObservable) (o : Rs.Obs) (h : Rs.Sub) :
    FutureObservable.actual_subscribe g o h = some (g, [Rs.Ev.sched "future:item_task" [] none h.id]) := rfl

theorem tie_FutureResult_subscribe (g : FutureResultObservable) (o : Rs.Obs) (h : Rs.Sub) :
    FutureResultObservable.actual_subscribe g o h = some (g, [Rs.Ev.sched "future:result_task" [] none h.id]) := rfl

theorem tie_item_task (o : Rs.Obs) (v : Val) :
    Observer.task_item_task o v = some (o, [Rs.Ev.n (Notif.next v), Rs.Ev.n Notif.complete]) := rfl

theorem tie_result_task (o : Rs.Obs) (r : Except Err Val) :
    Observer.task_result_task o r =
      some (o, match r with
        | Except.ok v => [Rs.Ev.n (Notif.next v), Rs.Ev.n Notif.complete]
        | Except.error e => [Rs.Ev.n (Notif.error e)]) := by
  cases r <;> rfl

end future
end Rx.GenTie
