import RxModel.Gen.SubjectThreads
import RxModel.Subject.Subject
/-! Tie (thread-safe flavour): `SubjectThreads` (the compiler's own expansion of `impl_subject_trivial!` / `impl_observer_methods!` /
    `impl_observable_for_subject!` of src/subject.rs, translated by rs2lean) IS the list part of the subject
    model `Subj.State` (Subject/Subject.lean): `load` moves the chamber behind the observers (panics on an absent
    chamber), `next` loads and calls `p_next` on EVERY entry of the loaded list in order with the cells unchanged,
    `error/complete` load, take the list (the subject is finished from then on) and call every entry,
    `unsubscribe` takes both lists, `actual_subscribe` pushes to the chamber iff it is there, `retain` filters the
    observers only, `len / is_empty` count both lists.  What a call on an entry does (the slot) is the Subscriber
    tie; callbacks that re-enter the subject are the model's `bcast`, not part of the generated code. -/
namespace Rx.GenTie
open Rx Rx.Gen.SubjectThreads

def pubsT (l : List Nat) : List Rs.Pub := l.map Rs.Pub.mk
/-- the two cells of a model state as the Rust struct -/
def genSubjectT (s : Subj.State) : SubjectThreads :=
  { observers := s.observers.map pubsT, chamber := s.chamber.map pubsT }

theorem pubs_appendT (a b : List Nat) : pubsT (a ++ b) = pubsT a ++ pubsT b := List.map_append

/-- the loop of `next` / `error` / `complete`: every entry is handed `n` in order, the subject is not touched -/
theorem forEach_emitT (g : SubjectThreads) (n : Notif) :
    ∀ (l : List Nat) (out : Rs.Out),
      Rs.forEach (pubsT l) (g, out) (fun (p : SubjectThreads × Rs.Out) q => do
          let mut self_ := p.1
          let mut out := p.2
          out := out ++ Rs.emitTo q.id n
          return (self_, out))
        = some (g, out ++ l.map (fun i => Rs.Ev.to i n)) := by
  intro l
  induction l with
  | nil => intro out; exact congrArg (fun o => some (g, o)) (List.append_nil out).symm
  | cons x t ih =>
    intro out
    show Rs.forEach (pubsT t) (g, out ++ [Rs.Ev.to x n]) _ = _
    rw [ih, List.append_assoc]; rfl

theorem tieT_Subject_load (s : Subj.State) (h : s.panicked = false) :
    SubjectThreads.load (genSubjectT s) = if s.load.panicked then none else some (genSubjectT s.load, []) := by
  rcases s with ⟨_ | obs, _ | ch, sl, p⟩ <;> cases h
  · rfl
  · rfl
  · rfl
  · show some (SubjectThreads.mk (some (pubsT obs ++ pubsT ch)) (some []), []) = some (SubjectThreads.mk (some (pubsT (obs ++ ch))) (some []), [])
    rw [pubs_appendT]

/-- `next`: after `load`, `p_next` on every entry of the observers list, in order; the cells stay as loaded. -/
theorem tieT_Subject_next (s : Subj.State) (h : s.panicked = false) (v : Val) :
    SubjectThreads.next (genSubjectT s) v =
      if s.load.panicked then none
      else some (genSubjectT s.load, (s.load.observers.getD []).map (fun i => Rs.Ev.to i (Notif.next v))) := by
  rcases s with ⟨_ | obs, _ | ch, sl, p⟩ <;> cases h
  · rfl
  · rfl
  · rfl
  · show Option.bind (Rs.forEach (pubsT obs ++ pubsT ch) (SubjectThreads.mk (some (pubsT obs ++ pubsT ch)) (some []), []) _) _ = _
    rw [← pubs_appendT, forEach_emitT]; rfl

/-- `error` / `complete`: load, take the list (finished from now on), every entry is handed the terminal. -/
theorem tieT_Subject_error (s : Subj.State) (h : s.panicked = false) (e : Err) :
    SubjectThreads.error (genSubjectT s) e =
      if s.load.panicked then none
      else some (genSubjectT { s.load with observers := none },
                 (s.load.observers.getD []).map (fun i => Rs.Ev.to i (Notif.error e))) := by
  rcases s with ⟨_ | obs, _ | ch, sl, p⟩ <;> cases h
  · rfl
  · rfl
  · rfl
  · show Option.bind (Rs.forEach (pubsT obs ++ pubsT ch) (SubjectThreads.mk none (some []), []) _) _ = _
    rw [← pubs_appendT, forEach_emitT]; rfl

theorem tieT_Subject_complete (s : Subj.State) (h : s.panicked = false) :
    SubjectThreads.complete (genSubjectT s) =
      if s.load.panicked then none
      else some (genSubjectT { s.load with observers := none },
                 (s.load.observers.getD []).map (fun i => Rs.Ev.to i Notif.complete)) := by
  rcases s with ⟨_ | obs, _ | ch, sl, p⟩ <;> cases h
  · rfl
  · rfl
  · rfl
  · show Option.bind (Rs.forEach (pubsT obs ++ pubsT ch) (SubjectThreads.mk none (some []), []) _) _ = _
    rw [← pubs_appendT, forEach_emitT]; rfl

/-- the model's terminal fan-out starts from exactly that state and that list -/
theorem model_terminal_unfoldT (s : Subj.State) (n : Notif) (h : s.load.panicked = false) :
    s.terminal n = match s.load.observers with
      | some obs => Subj.term n { s.load with observers := none } obs
      | none => (s.load, []) := by
  simp only [Subj.State.terminal, h, Bool.false_eq_true, if_false]
  cases s.load.observers <;> rfl

theorem tieT_Subject_unsubscribe (s : Subj.State) :
    SubjectThreads.unsubscribe (genSubjectT s) = some (genSubjectT s.unsubscribe, []) := rfl

theorem tieT_Subject_subscribe (s : Subj.State) (o : Rs.Obs) (script : List Subj.Act) (log0 : List Notif) :
    SubjectThreads.actual_subscribe (genSubjectT s) o ⟨s.slots.length⟩ = some (genSubjectT (s.subscribe script log0), []) := by
  rcases s with ⟨obs, _ | ch, sl, p⟩
  · rfl
  · show some (SubjectThreads.mk (obs.map pubsT) (some (pubsT ch ++ pubsT [sl.length])), []) =
      some (SubjectThreads.mk (obs.map pubsT) (some (pubsT (ch ++ [sl.length]))), [])
    rw [pubs_appendT]

theorem tieT_Subject_retain (s : Subj.State) :
    SubjectThreads.retain (genSubjectT s) (fun i => !Subj.aliveAt s.slots i) = some (genSubjectT s.retain, []) := by
  rcases s with ⟨_ | obs, ch, sl, p⟩
  · rfl
  · show some (SubjectThreads.mk (some ((pubsT obs).filter fun q => !!Subj.aliveAt sl q.id)) (ch.map pubsT), []) =
      some (SubjectThreads.mk (some (pubsT (obs.filter (Subj.aliveAt sl)))) (ch.map pubsT), [])
    simp only [pubsT, List.filter_map, Function.comp_def, Bool.not_not]

theorem tieT_Subject_len (s : Subj.State) : SubjectThreads.len (genSubjectT s) = s.len? := by
  rcases s with ⟨_ | obs, _ | ch, sl, p⟩
  · rfl
  · rfl
  · rfl
  · show some ((pubsT obs).length + (pubsT ch).length) = some (obs.length + ch.length)
    simp only [pubsT, List.length_map]

theorem tieT_Subject_is_empty (s : Subj.State) (h : s.len?.isSome) :
    SubjectThreads.is_empty (genSubjectT s) = some s.isEmpty := by
  rcases s with ⟨_ | obs, _ | ch, sl, p⟩
  · rfl
  · rfl
  · cases h
  · cases obs <;> cases ch <;> rfl

theorem tieT_Subject_finished_closed (s : Subj.State) (d : Bool) (c : Nat → Bool) :
    SubjectThreads.is_finished (genSubjectT s) d = s.isFinished ∧ SubjectThreads.is_closed (genSubjectT s) c = s.isClosed := by
  rcases s with ⟨_ | obs, ch, sl, p⟩ <;> exact ⟨rfl, rfl⟩

theorem tieT_Subject_init : SubjectThreads.init = genSubjectT Subj.State.init := rfl

end Rx.GenTie
