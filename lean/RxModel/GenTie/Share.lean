import RxModel.Gen.Share
/-! Tie: `share()` / `publish()` — `ShareOp`, `ConnectableObservable`, `RefCountSubscription` of src/ops/ref_count.rs and
    src/observable/connectable_observable.rs (compiler-expanded, translated; the inner subject is a token: `Ev.subj k` = a
    subscriber is added to it, `Ev.start k` = the source is subscribed with the subject as its observer, `Ev.gunsub k` = the
    subject is torn down), in closed form:

      first subscribe    the subscriber is registered with the inner subject FIRST, then the source is connected (so the
                         items a cold source emits while being subscribed reach the first subscriber); state: Connected
      later subscribes   registered with the subject, NOTHING else — the source is not subscribed again
      unsubscribe        the subscriber's own subscription; then, iff the subject reports no subscriber left, the SUBJECT is
                         torn down.  The subscription `connect()` returned was dropped at the first subscribe: nothing ever
                         unsubscribes the source (known finding C11: share never releases its source)
      publish            `actual_subscribe` registers with the subject only; `connect()` subscribes the source (once per call)

    and for EVERY number of subscribers: the source is subscribed exactly once, lazily (`share_source_once`). -/
namespace Rx.GenTie
open Rx Rx.Gen.Share

theorem tie_Connectable_subscribe (c : ConnectableObservable) (o : Rs.Obs) (p : Rs.Pub) :
    ConnectableObservable.actual_subscribe c o p = some (c, [Rs.Ev.subj c.subject.id]) := rfl

theorem tie_Connectable_connect (c : ConnectableObservable) :
    ConnectableObservable.connect c = some (c, [Rs.Ev.start c.source.id]) := rfl

theorem tie_Connectable_fork (c : ConnectableObservable) : ConnectableObservable.fork c = c.subject := rfl

theorem tie_Share_first (c : ConnectableObservable) (o : Rs.Obs) (p : Rs.Pub) :
    ShareOp.actual_subscribe (InnerShareOp.Connectable c) o p =
      some (InnerShareOp.Connected c.subject, [Rs.Ev.subj c.subject.id, Rs.Ev.start c.source.id]) := rfl

theorem tie_Share_later (g : Rs.Grp) (o : Rs.Obs) (p : Rs.Pub) :
    ShareOp.actual_subscribe (InnerShareOp.Connected g) o p = some (InnerShareOp.Connected g, [Rs.Ev.subj g.id]) := rfl

theorem tie_RefCount_unsubscribe (g : RefCountSubscription) (emptyOf : Nat → Bool) :
    RefCountSubscription.unsubscribe g emptyOf =
      some (g, Rs.Ev.unsub g.subscription.id :: (if emptyOf g.subject.id then [Rs.Ev.gunsub g.subject.id] else [])) := by
  unfold RefCountSubscription.unsubscribe
  dsimp only
  cases emptyOf g.subject.id <;> rfl

theorem tie_RefCount_is_closed (g : RefCountSubscription) (c : Nat → Bool) :
    RefCountSubscription.is_closed g c = c g.subscription.id := rfl

/-- `n` subscribers one after the other (any observers, any tokens) -/
def subscribeMany : ShareOp → List (Rs.Obs × Rs.Pub) → Option (ShareOp × Rs.Out)
  | st, [] => some (st, [])
  | st, (o, p) :: r =>
    (ShareOp.actual_subscribe st o p).bind (fun a => (subscribeMany a.1 r).map (fun b => (b.1, a.2 ++ b.2)))

def starts (out : Rs.Out) : Nat := (out.filter (fun e => match e with | Rs.Ev.start _ => true | _ => false)).length

theorem subscribeMany_connected (g : Rs.Grp) (l : List (Rs.Obs × Rs.Pub)) :
    ∃ out, subscribeMany (InnerShareOp.Connected g) l = some (InnerShareOp.Connected g, out) ∧ starts out = 0 ∧
      out = l.map (fun _ => Rs.Ev.subj g.id) := by
  induction l with
  | nil => exact ⟨[], rfl, rfl, rfl⟩
  | cons x r ih =>
    obtain ⟨out, h1, h2, h3⟩ := ih
    rcases x with ⟨o, p⟩
    refine ⟨Rs.Ev.subj g.id :: out, ?_, h2, congrArg (Rs.Ev.subj g.id :: ·) h3⟩
    show (subscribeMany (InnerShareOp.Connected g) r).map _ = _
    rw [h1]; rfl

/-- share subscribes its source exactly ONCE however many subscribers come (and not at all before the first):
    every subscriber is registered with the one inner subject, in order -/
theorem share_source_once (c : ConnectableObservable) (l : List (Rs.Obs × Rs.Pub)) :
    ∃ st out, subscribeMany (InnerShareOp.Connectable c) l = some (st, out) ∧
      starts out = (if l.isEmpty then 0 else 1) ∧
      (out.filter (fun e => match e with | Rs.Ev.subj _ => true | _ => false)) = l.map (fun _ => Rs.Ev.subj c.subject.id) := by
  cases l with
  | nil => exact ⟨_, [], rfl, rfl, rfl⟩
  | cons x r =>
    rcases x with ⟨o, p⟩
    obtain ⟨out, h1, h2, h3⟩ := subscribeMany_connected c.subject r
    refine ⟨InnerShareOp.Connected c.subject, Rs.Ev.subj c.subject.id :: Rs.Ev.start c.source.id :: out, ?_, ?_, ?_⟩
    · show (subscribeMany (InnerShareOp.Connected c.subject) r).map _ = _
      rw [h1]; rfl
    · show starts out + 1 = 1
      rw [h2]
    · subst h3
      show Rs.Ev.subj c.subject.id :: (r.map fun _ => Rs.Ev.subj c.subject.id).filter _ = _
      refine congrArg (Rs.Ev.subj c.subject.id :: ·) (List.filter_eq_self.2 fun a ha => ?_)
      obtain ⟨_, _, rfl⟩ := List.mem_map.1 ha
      rfl

end Rx.GenTie
