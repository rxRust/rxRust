import RxModel.Gen.SkipUntil
import RxModel.GenTie.Tactics
/-! Tie: `ShareObserver` (source side) and `SkipUntilNotifierObserver` (a newtype around a clone of it) generated
    from src/ops/skip_until.rs ARE the `St2.skipUntil` cell.  DECLARED topology: the clone shares the slot cell
    and the `skip` flag cell. -/
namespace Rx.GenTie
open Rx Rx.Gen.SkipUntil

def absSkipUntil (g : ShareObserver) : St2 := .skipUntil g.observer.isSome g.skip

theorem tie_Su_a_next (g : ShareObserver) (v : Val) :
    (ShareObserver.next g v).map (fun r => (absSkipUntil r.1, r.2)) = some (Rs.lift (St2.step (absSkipUntil g) .a (.next v))) := by
  rcases g with ⟨_ | _, _ | _⟩ <;> rfl

theorem tie_Su_a_error (g : ShareObserver) (e : Err) :
    (ShareObserver.error g e).map (fun r => (absSkipUntil r.1, r.2)) = some (Rs.lift (St2.step (absSkipUntil g) .a (.error e))) := by
  rcases g with ⟨_ | _, s⟩ <;> rfl

theorem tie_Su_a_complete (g : ShareObserver) :
    (ShareObserver.complete g).map (fun r => (absSkipUntil r.1, r.2)) = some (Rs.lift (St2.step (absSkipUntil g) .a .complete)) := by
  rcases g with ⟨_ | _, s⟩ <;> rfl

theorem tie_Su_b_next (g : SkipUntilNotifierObserver) (v : Val) :
    (SkipUntilNotifierObserver.next g v).map (fun r => (absSkipUntil r.1, r.2)) = some (Rs.lift (St2.step (absSkipUntil g) .b (.next v))) := rfl

theorem tie_Su_b_error (g : SkipUntilNotifierObserver) (e : Err) :
    (SkipUntilNotifierObserver.error g e).map (fun r => (absSkipUntil r.1, r.2)) = some (Rs.lift (St2.step (absSkipUntil g) .b (.error e))) := rfl

theorem tie_Su_b_complete (g : SkipUntilNotifierObserver) :
    (SkipUntilNotifierObserver.complete g).map (fun r => (absSkipUntil r.1, r.2)) = some (Rs.lift (St2.step (absSkipUntil g) .b .complete)) := rfl


theorem tie_Su_init : absSkipUntil ShareObserver.init = Kind2.init .skipUntil := rfl

end Rx.GenTie
