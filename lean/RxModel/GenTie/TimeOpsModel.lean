import RxModel.GenTie.Delay
import RxModel.GenTie.ObserveOn
import RxModel.GenTie.Debounce
import RxModel.GenTie.Throttle
import RxModel.Sched.Chain
/-! Forward simulations: the GENERATED observers of delay / observe_on / debounce / throttle
    (src/ops/{delay,observe_on,debounce,throttle}.rs) against the stages of the chain model (`Stage.onNotif` of
    Sched/Chain.lean).  A step of the code yields a new state and a list of events; `notifsOf` (the downstream calls
    among them) must be what the stage passes on, and `applyEvs` / `applyEvsT` (the scheduler effects among them:
    `schedule(task, delay)` ↦ `scheduleOnce`, `handle.unsubscribe()` ↦ `cancel`) must be the stage's effect on the
    scheduler — with the new handle being the id `scheduleOnce` hands out. -/
namespace Rx.GenTie
open Rx Rx.T

def notifsOf (out : Rs.Out) : List Notif := out.filterMap (fun e => match e with | Rs.Ev.n x => some x | _ => none)

/-- the scheduler effects of an event list, for the operator at stage `j` -/
def applyEvs (j : Nat) : Rs.Out → Sched → Sched
  | [], s => s
  | Rs.Ev.sched "delay_emit_value" [v] d _ :: r, s => applyEvs j r (s.scheduleOnce (.emit j (.next v)) d).1
  | Rs.Ev.sched "delay_emit_err" [Val.int e] d _ :: r, s => applyEvs j r (s.scheduleOnce (.emit j (.error e)) d).1
  | Rs.Ev.sched "delay_complete" [] d _ :: r, s => applyEvs j r (s.scheduleOnce (.emit j .complete) d).1
  | Rs.Ev.sched "debounce_task" [] d _ :: r, s => applyEvs j r (s.scheduleOnce (.debounce j) d).1
  | Rs.Ev.unsub k :: r, s => applyEvs j r (s.cancel k)
  | _ :: r, s => applyEvs j r s

def handleIds (l : List (Option Rs.Sub)) : List TaskId := l.filterMap (fun x => x.map (·.id))

theorem handleIds_append (l : List (Option Rs.Sub)) (h : Rs.Sub) : handleIds (l ++ [some h]) = handleIds l ++ [h.id] :=
  List.filterMap_append

theorem filter_all_some (l : List (Option Rs.Sub)) (hl : ∀ x ∈ l, x.isSome = true) : l.filter Option.isSome = l :=
  List.filter_eq_self.2 hl

theorem all_some_append (l : List (Option Rs.Sub)) (hl : ∀ x ∈ l, x.isSome = true) (h : Rs.Sub) :
    ∀ x ∈ l ++ [some h], x.isSome = true := by
  intro x hx
  rcases List.mem_append.1 hx with hx | hx
  · exact hl x hx
  · rw [List.mem_singleton.1 hx]; rfl

/-- `retain` drops nothing from a composite whose entries all hold a handle, and `append` pushes onto it -/
theorem append_all_some (l : List (Option Rs.Sub)) (hl : ∀ x ∈ l, x.isSome = true) (h : Rs.Sub) :
    Rx.Gen.Subscription.MultiSubscription.append ((some l).map (List.filter Option.isSome)) h =
      some (some (l ++ [some h]), []) := by
  rw [Option.map_some, filter_all_some l hl]; rfl

section delay
open Rx.Gen.Delay Rx.Gen.Subscription

/-- the delay observer read as the `delay` stage: delay, slot alive?, handles of the composite (live composite) -/
def RDelay (g : DelayObserver) (st : Stage) : Prop :=
  ∃ l, g.subscription = some l ∧ (∀ x ∈ l, x.isSome = true) ∧ st = .delay g.delay g.observer.isSome (some (handleIds l))

theorem sim_Delay_next (g : DelayObserver) (st : Stage) (hr : RDelay g st) (j : Nat) (s : Sched) (v : Val) (h : Rs.Sub)
    (hh : h.id = s.tasks.length) :
    ∃ g' out, DelayObserver.next g v h = some (g', out) ∧
      st.onNotif j (.next v) s = ((st.onNotif j (.next v) s).1, notifsOf out, applyEvs j out s) ∧
      RDelay g' (st.onNotif j (.next v) s).1 := by
  obtain ⟨l, hs, hl, rfl⟩ := hr
  refine ⟨{ g with subscription := some (l ++ [some h]) }, [Rs.Ev.sched "delay_emit_value" [v] (some g.delay) h.id],
    ?_, ?_, _, rfl, all_some_append l hl h, ?_⟩
  · rw [tie_Delay_next, hs, append_all_some l hl]; rfl
  · simp only [applyEvs]; rfl
  · rw [handleIds_append, hh]; rfl

theorem sim_Delay_complete (g : DelayObserver) (st : Stage) (hr : RDelay g st) (j : Nat) (s : Sched) (h : Rs.Sub)
    (hh : h.id = s.tasks.length) :
    ∃ g' out, DelayObserver.complete g h = some (g', out) ∧
      st.onNotif j .complete s = ((st.onNotif j .complete s).1, notifsOf out, applyEvs j out s) ∧
      RDelay g' (st.onNotif j .complete s).1 := by
  obtain ⟨l, hs, hl, rfl⟩ := hr
  refine ⟨{ g with subscription := some (l ++ [some h]) }, [Rs.Ev.sched "delay_complete" [] (some g.delay) h.id],
    ?_, ?_, _, rfl, all_some_append l hl h, ?_⟩
  · rw [tie_Delay_complete, hs, append_all_some l hl]; rfl
  · simp only [applyEvs]; rfl
  · rw [handleIds_append, hh]; rfl

/-- an error is NOT delayed: forwarded at once through the slot, which it empties; no scheduler effect -/
theorem sim_Delay_error (g : DelayObserver) (st : Stage) (hr : RDelay g st) (j : Nat) (s : Sched) (e : Err) :
    ∃ g' out, DelayObserver.error g e = some (g', out) ∧
      st.onNotif j (.error e) s = ((st.onNotif j (.error e) s).1, notifsOf out, applyEvs j out s) ∧
      RDelay g' (st.onNotif j (.error e) s).1 := by
  obtain ⟨l, hs, hl, rfl⟩ := hr
  refine ⟨_, _, tie_Delay_error g e, ?_, l, hs, hl, rfl⟩
  cases g.observer <;> rfl

end delay

section observeOn
open Rx.Gen.ObserveOn Rx.Gen.Subscription

def RObserveOn (g : ObserveOnObserver) (st : Stage) : Prop :=
  ∃ l, g.subscription = some l ∧ (∀ x ∈ l, x.isSome = true) ∧ st = .observeOn g.observer.isSome (some (handleIds l))

/-- observe_on moves EVERY notification (the error included) onto the scheduler, without delay, one task each -/
theorem sim_ObserveOn (g : ObserveOnObserver) (st : Stage) (hr : RObserveOn g st) (j : Nat) (s : Sched) (n : Notif)
    (h : Rs.Sub) (hh : h.id = s.tasks.length) :
    ∃ g' out,
      (match n with
        | .next v => ObserveOnObserver.next g v h
        | .error e => ObserveOnObserver.error g e h
        | .complete => ObserveOnObserver.complete g h) = some (g', out) ∧
      st.onNotif j n s = ((st.onNotif j n s).1, notifsOf out, applyEvs j out s) ∧
      RObserveOn g' (st.onNotif j n s).1 := by
  obtain ⟨l, hs, hl, rfl⟩ := hr
  have happ := append_all_some l hl h
  have hid : Stage.observeOn g.observer.isSome (some (handleIds l ++ [s.tasks.length])) =
      .observeOn g.observer.isSome (some (handleIds (l ++ [some h]))) := by rw [handleIds_append, hh]
  cases n with
  | next v =>
    refine ⟨{ g with subscription := some (l ++ [some h]) }, [Rs.Ev.sched "delay_emit_value" [v] none h.id],
      ?_, ?_, _, rfl, all_some_append l hl h, hid⟩
    · show ObserveOnObserver.next g v h = _
      rw [tie_ObserveOn_next, hs, happ]; rfl
    · simp only [applyEvs]; rfl
  | error e =>
    refine ⟨{ g with subscription := some (l ++ [some h]) }, [Rs.Ev.sched "delay_emit_err" [Val.int e] none h.id],
      ?_, ?_, _, rfl, all_some_append l hl h, hid⟩
    · show ObserveOnObserver.error g e h = _
      rw [tie_ObserveOn_error, hs, happ]; rfl
    · simp only [applyEvs]; rfl
  | complete =>
    refine ⟨{ g with subscription := some (l ++ [some h]) }, [Rs.Ev.sched "delay_complete" [] none h.id],
      ?_, ?_, _, rfl, all_some_append l hl h, hid⟩
    · show ObserveOnObserver.complete g h = _
      rw [tie_ObserveOn_complete, hs, happ]; rfl
    · simp only [applyEvs]; rfl

end observeOn

section debounce
open Rx.Gen.Debounce

def RDebounce (g : DebounceObserver) (st : Stage) : Prop :=
  st = .debounce g.delay g.observer.isSome g.trailing_value (g.task_handler.map (·.id))

/-- debounce: store the candidate, cancel the pending task (if any), schedule ONE new task with the window as delay -/
theorem sim_Debounce_next (g : DebounceObserver) (st : Stage) (hr : RDebounce g st) (j : Nat) (s : Sched) (v : Val)
    (h : Rs.Sub) (hh : ∀ s' : Sched, s'.tasks.length = s.tasks.length → h.id = s'.tasks.length) :
    ∃ g' out, DebounceObserver.next g v h = some (g', out) ∧
      st.onNotif j (.next v) s = ((st.onNotif j (.next v) s).1, notifsOf out, applyEvs j out s) ∧
      RDebounce g' (st.onNotif j (.next v) s).1 := by
  subst hr
  rcases g with ⟨o, sc, d, tv, th⟩
  have hc (k : Nat) : (s.cancel k).tasks.length = s.tasks.length := by
    unfold Sched.cancel
    cases s.tasks[k]? with
    | none => rfl
    | some t => exact List.length_set
  have hid (s' : Sched) (hs : s'.tasks.length = s.tasks.length) :
      Stage.debounce d o.isSome (some v) (some s'.tasks.length) = .debounce d o.isSome (some v) (some h.id) := by
    rw [hh s' hs]
  rcases th with _ | old
  · refine ⟨⟨o, sc, d, some v, some h⟩, [Rs.Ev.sched "debounce_task" [] (some d) h.id], tie_Debounce_next _ v h,
      ?_, hid s rfl⟩
    simp only [applyEvs]; rfl
  · refine ⟨⟨o, sc, d, some v, some h⟩, [Rs.Ev.unsub old.id, Rs.Ev.sched "debounce_task" [] (some d) h.id],
      tie_Debounce_next _ v h, ?_, hid _ (hc old.id)⟩
    simp only [applyEvs]; rfl

theorem sim_Debounce_complete (g : DebounceObserver) (st : Stage) (hr : RDebounce g st) (j : Nat) (s : Sched) :
    ∃ g' out, DebounceObserver.complete g = some (g', out) ∧
      st.onNotif j .complete s = ((st.onNotif j .complete s).1, notifsOf out, applyEvs j out s) ∧
      RDebounce g' (st.onNotif j .complete s).1 := by
  subst hr
  refine ⟨_, _, tie_Debounce_complete g, ?_, rfl⟩
  cases g.observer <;> cases g.trailing_value <;> rfl

theorem sim_Debounce_error (g : DebounceObserver) (st : Stage) (hr : RDebounce g st) (j : Nat) (s : Sched) (e : Err) :
    ∃ g' out, DebounceObserver.error g e = some (g', out) ∧
      st.onNotif j (.error e) s = ((st.onNotif j (.error e) s).1, notifsOf out, applyEvs j out s) ∧
      RDebounce g' (st.onNotif j (.error e) s).1 := by
  subst hr
  refine ⟨_, _, tie_Debounce_error g e, ?_, rfl⟩
  cases g.observer <;> rfl

end debounce

section throttle
open Rx.Gen.Throttle

/-- the scheduler effects of throttle's events -/
def applyEvsT (j : Nat) : Rs.Out → Sched → Sched
  | [], s => s
  | Rs.Ev.sched "throttle_task" [] d _ :: r, s => applyEvsT j r (s.scheduleOnce (.throttle j) d).1
  | Rs.Ev.unsub k :: r, s => applyEvsT j r (s.cancel k)
  | _ :: r, s => applyEvsT j r s

def edgeOf (e : ThrottleEdge) : Option Edge :=
  match e.leading, e.tailing with
  | true, true => some .all
  | true, false => some .leading
  | false, true => some .trailing
  | false, false => none

/-- the throttle observer read as the `throttle` stage (a constant window `d`, one of the three edge modes) -/
def RThrottle (d : Nat) (g : ThrottleObserver) (st : Stage) : Prop :=
  (∀ v, g.duration_selector v = d) ∧
  ∃ e, edgeOf g.edge = some e ∧ st = .throttle d e g.observer.isSome g.trailing_value (g.task_handler.map (·.id))

/-- the two edge flags of the code are the edge mode of the model, and one of them is set -/
theorem edgeOf_flags {ed : ThrottleEdge} {e : Edge} (h : edgeOf ed = some e) :
    e.hasLeading = ed.leading ∧ e.hasTrailing = ed.tailing ∧ (ed.leading = true ∨ ed.tailing = true) := by
  rcases ed with ⟨_ | _, _ | _⟩ <;> cases h <;> simp only [Edge.hasLeading, Edge.hasTrailing, true_or, or_true, and_self]

/-- the stage on an item, the test on the window written with `Option.all` -/
theorem onNotif_throttle_next (d : Nat) (e : Edge) (a : Bool) (tr : Option Val) (hd : Option TaskId) (j : Nat) (v : Val)
    (s : Sched) :
    (Stage.throttle d e a tr hd).onNotif j (.next v) s =
      if hd.all s.handleClosed then
        (.throttleW d e a (if e.hasLeading then none else if e.hasTrailing then some v else tr),
          if e.hasLeading && a then [.next v] else [], s)
      else (.throttle d e a (if e.hasTrailing then some v else tr) hd, [], s) := by
  cases hd <;> rfl

theorem applyEvsT_task (j : Nat) (dl : Option Nat) (k : Nat) (s : Sched) :
    applyEvsT j [Rs.Ev.sched "throttle_task" [] dl k] s = (s.scheduleOnce (.throttle j) dl).1 := by
  simp only [applyEvsT]

/-- calls on the downstream observer are no scheduler effects -/
theorem applyEvsT_ite_n (j : Nat) (p : Prop) [Decidable p] (x : Notif) (r : Rs.Out) (s : Sched) :
    applyEvsT j ((if p then [Rs.Ev.n x] else []) ++ r) s = applyEvsT j r s := by
  by_cases h : p
  · rw [if_pos h]; rfl
  · rw [if_neg h]; rfl

/-- an item: inside an open window only the candidate is replaced (trailing modes); with the window over, the leading
    item goes out, the candidate is cleared / set, and — after the emission (`afterEmit`) — ONE window task is scheduled -/
theorem sim_Throttle_next (d : Nat) (g : ThrottleObserver) (st : Stage) (hr : RThrottle d g st) (j : Nat) (s : Sched)
    (v : Val) (h : Rs.Sub) (c : Nat → Bool) (hh : h.id = s.tasks.length)
    (hc : ∀ t, g.task_handler = some t → c t.id = s.handleClosed t.id) :
    ∃ g' out, ThrottleObserver.next g v h c = some (g', out) ∧
      (let r := st.onNotif j (.next v) s
       let r2 := r.1.afterEmit j r.2.2
       r.2.1 = notifsOf out ∧ r2.2 = applyEvsT j out s ∧ RThrottle d g' r2.1) := by
  obtain ⟨hd, e, he, rfl⟩ := hr
  obtain ⟨hl, ht, hedge⟩ := edgeOf_flags he
  have hwo : (g.task_handler.map (·.id)).all s.handleClosed = windowOver g c := by
    unfold windowOver
    cases hth : g.task_handler with
    | none => rfl
    | some tt => exact (hc tt hth).symm
  cases hw : windowOver g c with
  | true =>
    refine ⟨_, _, tie_Throttle_next_over g v h c hedge hw, ?_⟩
    show _ ∧ _ ∧ _
    rw [onNotif_throttle_next, hwo, hw, if_pos rfl]
    refine ⟨?_, ?_, hd, e, he, ?_⟩
    · rw [hl]; cases g.edge.leading <;> cases g.observer <;> rfl
    · rw [applyEvsT_ite_n, applyEvsT_task, hd v]; rfl
    · show Stage.throttle d e g.observer.isSome _ (some s.tasks.length) = .throttle d e g.observer.isSome _ (some h.id)
      rw [hl, ht, hh]
  | false =>
    refine ⟨_, _, tie_Throttle_next_open g v h c hedge hw, ?_⟩
    show _ ∧ _ ∧ _
    rw [onNotif_throttle_next, hwo, hw, if_neg Bool.false_ne_true]
    refine ⟨rfl, rfl, hd, e, he, ?_⟩
    show Stage.throttle d e g.observer.isSome _ _ = .throttle d e g.observer.isSome _ _
    rw [ht]

theorem sim_Throttle_complete (d : Nat) (g : ThrottleObserver) (st : Stage) (hr : RThrottle d g st) (j : Nat) (s : Sched) :
    ∃ g' out, ThrottleObserver.complete g = some (g', out) ∧
      (st.onNotif j .complete s).2.1 = notifsOf out ∧ (st.onNotif j .complete s).2.2 = applyEvsT j out s ∧
      RThrottle d g' (st.onNotif j .complete s).1 := by
  obtain ⟨hd, e, he, rfl⟩ := hr
  refine ⟨_, _, tie_Throttle_complete g, ?_, ?_, hd, e, he, rfl⟩
  · cases g.observer <;> cases g.trailing_value <;> cases g.task_handler <;> rfl
  · cases g.observer <;> cases g.trailing_value <;> cases g.task_handler <;> rfl

theorem sim_Throttle_error (d : Nat) (g : ThrottleObserver) (st : Stage) (hr : RThrottle d g st) (j : Nat) (s : Sched)
    (er : Err) :
    ∃ g' out, ThrottleObserver.error g er = some (g', out) ∧
      (st.onNotif j (.error er) s).2.1 = notifsOf out ∧ (st.onNotif j (.error er) s).2.2 = applyEvsT j out s ∧
      RThrottle d g' (st.onNotif j (.error er) s).1 := by
  obtain ⟨hd, e, he, rfl⟩ := hr
  refine ⟨_, _, tie_Throttle_error g er, ?_, ?_, hd, e, he, rfl⟩
  · cases g.observer <;> cases g.task_handler <;> rfl
  · cases g.observer <;> cases g.task_handler <;> rfl

end throttle
end Rx.GenTie
