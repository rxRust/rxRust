import RxModel.Gen.Holds
/-! Critical sections read off the source (DESIGN II.7): `rs2lean/src/holds.rs` lists, for every function of the cell-using
    modules (compiler-expanded source, both flavours), each shared cell whose guard (`rc_deref_mut()` / `rc_deref()` /
    `borrow_mut()` / `lock()`) is alive while an EFFECT call is made — a call on an observer, a subscriber, a subscription, a
    scheduler, a user callback or a deferred task — following Rust's rules for temporaries (a `let`-bound guard and an
    extended `&mut *guard` live to the end of the block, a scrutinee temporary through the bodies of `if let` / `match` /
    `for`, any other temporary to the end of its statement; a closure handed to `Box::new` is a body of its own).

    The sequential translation is blind to this by construction (cells are transparent there).  The POLICIES below are what
    the lock-level models of C10 / C12 / C17 / C05 and the re-entrancy behaviour of the local flavour rest on; each is a
    decidable statement about the generated table, re-checked on every run, and robust against refactorings that do not
    change who is called under which cell:

      P1  BehaviorSubject::next makes NO call while its value cell is held (store, release, THEN broadcast)
      P2  MultiSubscription(Threads)::unsubscribe tears its children down with the composite cell RELEASED; `append` calls
          nothing under the cell either
      P3  merge_all: an inner's `complete` and the outer's `next` start an inner observable with the state cell RELEASED,
          and no deferred start (`#closure`) holds any cell
      P4  a subject delivers under its `observers` cell ONLY — never under the chamber (subscribing during an emission must
          not block or panic); `actual_subscribe` of a subject calls nothing under a cell
      P5  the slot observer (`impl_rc_observer!`) holds exactly its own slot while calling downstream — the one nesting
          `slot ▸ downstream` the rank argument of C10 uses
      P6  the handle cell of a scheduled task (`TaskHandle`) is held while the value's subscription is unsubscribed (the
          `handle section` of C17 / C19), and nowhere else in scheduler.rs is a cell held across an effect call -/
namespace Rx.GenTie
open Rx.Gen.Holds

/-- the rows of a table for the functions named in `fs` -/
def rowsFor (t : List (String × String × String × List String)) (fs : List String) : List (String × String × String × List String) :=
  t.filter (fun r => fs.contains r.1)

def fns (t : List (String × String × String × List String)) : List String := t.map (·.1)

/-- P1: no row at all for behavior_subject.rs: neither `next` / `next_by` / the terminals of a BehaviorSubject nor (since
    the repair of the greeting, DESIGN II.3: the value is read out first, `let value = self.value.rc_deref().clone();
    observer.next(value)`) the greeting of a new subscriber calls anything while the value cell is held -/
theorem P1_behavior_next_releases_value_cell :
    behavior_subject = [] := rfl

/-- P2: the composite: `is_closed` asks its children under the cell, `retain` prunes under it; `unsubscribe` and `append` are
    NOT in the table — they call their children with the cell released; the blanket impl for an `Option` cell holds it -/
theorem P2_multi_unsubscribe_releases_cell :
    fns subscription =
      ["<MultiSubscription<'a> as Subscription>::is_closed", "<MultiSubscriptionThreads as Subscription>::is_closed",
       "<T as Subscription>::unsubscribe"] := rfl

/-- P3: merge_all — the state cell is held while an inner item / error or the outer terminal goes downstream, and in
    `is_finished`; NOT in `InnerObserver::complete` (the hand-over to a queued inner), NOT in `OutsideObserver::next` (the
    start of an inner) and in no deferred start (`#closure`) -/
theorem P3_merge_all_starts_inners_with_cell_released :
    fns merge_all =
      ["<InnerObserver<'a,O> as Observer>::next", "<InnerObserver<'a,O> as Observer>::error",
       "<InnerObserver<'a,O> as Observer>::is_finished",
       "<InnerObserverThreads<O> as Observer>::next", "<InnerObserverThreads<O> as Observer>::error",
       "<InnerObserverThreads<O> as Observer>::is_finished",
       "<OutsideObserver<'a,O,Item> as Observer>::error", "<OutsideObserver<'a,O,Item> as Observer>::complete",
       "<OutsideObserver<'a,O,Item> as Observer>::is_finished",
       "<OutsideObserverThreads<O,Item> as Observer>::error", "<OutsideObserverThreads<O,Item> as Observer>::complete",
       "<OutsideObserverThreads<O,Item> as Observer>::is_finished"] := rfl

/-- P4: a subject calls its subscribers under the `observers` cell ONLY; the chamber is held for nothing but the `Vec::append`
    of `load` (so subscribing during an emission neither blocks nor panics) -/
theorem P4_subject_delivers_under_observers_only :
    subject.all (fun r => r.2.1 == "self.observers" || (r.2.1 == "self.chamber" && r.2.2.2 == ["append"])) = true ∧
    (subject.filter (fun r => r.2.2.2.any (fun e => e == "p_next" || e == "p_error" || e == "p_complete"))).all
      (fun r => r.2.1 == "self.observers" && r.2.2.1 == "scrutinee") = true := by decide

/-- P5: the slot observer (`impl_rc_observer!`) holds exactly its own slot while calling downstream — the one nesting
    `slot ▸ downstream` the rank argument of C10 uses -/
theorem P5_slot_observer :
    observer.all (fun r => r.2.1 == "self") = true ∧ observer.length = 8 := by decide

/-- P6 -/
theorem P6_scheduler_handle_section :
    scheduler =
      [("<TaskHandle<SubscribeReturn<T>> as Subscription>::unsubscribe", "self.0", "let", ["unsubscribe"]),
       ("<TaskHandle<SubscribeReturn<T>> as Subscription>::is_closed", "self.0", "let", ["is_closed"])] := rfl

/-- buffer(notifier) and the timed buffers flush the window with the shared cell HELD: a source notification arriving from
    another thread meanwhile waits, it is not lost (seed C04-8 released the cell there) -/
theorem P7_buffer_flushes_under_its_cell :
    buffer =
      [("<NotifierObserver<O,Item> as Observer>::next", "self.0", "scrutinee", ["emit"]),
       ("emit_buffer", "observer", "scrutinee", ["emit"]),
       ("emit_count_buffer", "observer", "scrutinee", ["emit"])] := rfl

end Rx.GenTie
