import RxModel.Gen.OnErrorMap
import RxModel.GenTie.Tactics
/-! Tie: `OnErrorMapObserver` generated from `/repo/src` IS the `St1` machine of the hand-written model. -/
namespace Rx.GenTie
open Rx Rx.Gen.OnErrorMap

def absOnErrorMap (g : OnErrorMapObserver) : St1 := .onErrorMap g.map

theorem tie_OnErrorMap_next (g : OnErrorMapObserver) (v : Val) :
    (OnErrorMapObserver.next g v).map (fun r => (absOnErrorMap r.1, r.2)) = some (Rs.lift (St1.onNext (absOnErrorMap g) v)) := rfl

theorem tie_OnErrorMap_error (g : OnErrorMapObserver) (e : Err) :
    (OnErrorMapObserver.error g e).map (fun r => r.2) = some ((St1.onError' (absOnErrorMap g) e).2.map Rs.Ev.n) := rfl

theorem tie_OnErrorMap_complete (g : OnErrorMapObserver) :
    (OnErrorMapObserver.complete g).map (fun r => r.2) = some ((St1.onComplete' (absOnErrorMap g)).2.map Rs.Ev.n) := rfl


theorem tie_OnErrorMap_init (f : Err → Err) :
    absOnErrorMap (OnErrorMapObserver.init f) = Spec.Op1.init (.onErrorMap f) := rfl

end Rx.GenTie
