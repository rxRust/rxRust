import RxModel.Gen.BufferCell
/-! Tie (topology): `actual_subscribe` of `BufferOp`, `BufferWithTimeOp`, `BufferWithCountOrTimerOp` (src/ops/buffer.rs):
    ONE shared cell `MutArc::own(Some(BufferObserver{..}))`; the source gets the cell itself, the notifier gets
    `NotifierObserver(cell)` (subscribed SECOND); the timed variants hand the same cell to
    `RepeatTask::new(time, emit_buffer | emit_count_buffer, cell)` scheduled BEFORE the source is subscribed, and
    return `ZipSubscription(handler, source subscription)`. -/
namespace Rx.GenTie
open Rx.Gen.BufferCell

theorem wiring_BufferOp_lets : BufferOp.lets =
  [("observer", "MutArc::own(Some(BufferObserver { observer, data : vec ! [] }))")] := rfl

theorem wiring_BufferOp_views : BufferOp.views =
  [("BufferObserver", "observer", "observer"),
   ("BufferObserver", "data", "vec ! []"),
   ("NotifierObserver", "0", "observer")] := rfl

theorem wiring_BufferOp_order : BufferOp.order =
  [("self.source", "observer"),
   ("self.closing_notifier", "NotifierObserver(observer)")] := rfl

theorem wiring_BufferWithTimeOp_lets : BufferWithTimeOp.lets =
  [("observer", "BufferObserver { observer, data : vec ! [] }"),
   ("observer", "MutArc::own(Some(observer))"),
   ("handler", "scheduler.schedule(RepeatTask::new(time, emit_buffer, observer), None)"),
   ("subscription", "source.actual_subscribe(observer)")] := rfl

theorem wiring_BufferWithTimeOp_views : BufferWithTimeOp.views =
  [("BufferObserver", "observer", "observer"),
   ("BufferObserver", "data", "vec ! []")] := rfl

theorem wiring_BufferWithTimeOp_order : BufferWithTimeOp.order =
  [("source", "observer")] := rfl

theorem wiring_BufferWithCountOrTimerOp_lets : BufferWithCountOrTimerOp.lets =
  [("observer", "BufferWithCountObserver { buffer : BufferObserver { observer, data : vec ! [] }, count, }"),
   ("observer", "MutArc::own(Some(observer))"),
   ("handler", "scheduler.schedule(RepeatTask::new(time, emit_count_buffer, observer), None,)"),
   ("subscription", "source.actual_subscribe(observer)")] := rfl

theorem wiring_BufferWithCountOrTimerOp_views : BufferWithCountOrTimerOp.views =
  [("BufferObserver", "observer", "observer"),
   ("BufferObserver", "data", "vec ! []"),
   ("BufferWithCountObserver", "buffer", "BufferObserver { observer, data : vec ! [] }"),
   ("BufferWithCountObserver", "count", "count")] := rfl

theorem wiring_BufferWithCountOrTimerOp_order : BufferWithCountOrTimerOp.order =
  [("source", "observer")] := rfl

end Rx.GenTie
