import RxModel.GenTie.Last
/-! Tie (C16): `is_finished` of the observer(s) generated from `/repo/src` IS `St1.finished` of the model. -/
namespace Rx.GenTie
open Rx Rx.Gen.Last

theorem tie_Last_finished (g : LastObserver) (d : Bool) :
    LastObserver.is_finished g d = St1.finished (absLast g) d := rfl

end Rx.GenTie
