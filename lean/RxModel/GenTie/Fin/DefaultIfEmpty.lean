import RxModel.GenTie.DefaultIfEmpty
/-! Tie (C16): `is_finished` of the observer(s) generated from `/repo/src` IS `St1.finished` of the model. -/
namespace Rx.GenTie
open Rx Rx.Gen.DefaultIfEmpty

theorem tie_DefaultIfEmpty_finished (g : DefaultIfEmptyObserver) (d : Bool) :
    DefaultIfEmptyObserver.is_finished g d = St1.finished (absDefaultIfEmpty g) d := rfl

end Rx.GenTie
