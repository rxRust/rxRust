import RxModel.GenTie.SkipLast
/-! Tie (C16): `is_finished` of the observer(s) generated from `/repo/src` IS `St1.finished` of the model. -/
namespace Rx.GenTie
open Rx Rx.Gen.SkipLast

theorem tie_SkipLast_finished (g : SkipLastObserver) (d : Bool) :
    SkipLastObserver.is_finished g d = St1.finished (absSkipLast g) d := rfl

end Rx.GenTie
