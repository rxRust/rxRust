import RxModel.GenTie.TakeWhile
/-! Tie (C16): `is_finished` of the observer(s) generated from `/repo/src` IS `St1.finished` of the model. -/
namespace Rx.GenTie
open Rx Rx.Gen.TakeWhile

theorem tie_TakeWhile_finished (g : TakeWhileObserver) (d : Bool) :
    TakeWhileObserver.is_finished g d = St1.finished (absTakeWhile g) d := by
  rcases g with ⟨_ | _, _, _⟩ <;> rfl

end Rx.GenTie
