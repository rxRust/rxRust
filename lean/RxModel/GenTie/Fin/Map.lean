import RxModel.GenTie.Map
/-! Tie (C16): `is_finished` of the observer(s) generated from `/repo/src` IS `St1.finished` of the model. -/
namespace Rx.GenTie
open Rx Rx.Gen.Map

theorem tie_Map_finished (g : MapObserver) (d : Bool) :
    MapObserver.is_finished g d = St1.finished (absMap g) d := rfl

end Rx.GenTie
