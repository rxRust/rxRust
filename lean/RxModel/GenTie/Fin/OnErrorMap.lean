import RxModel.GenTie.OnErrorMap
/-! Tie (C16): `is_finished` of the observer(s) generated from `/repo/src` IS `St1.finished` of the model. -/
namespace Rx.GenTie
open Rx Rx.Gen.OnErrorMap

theorem tie_OnErrorMap_finished (g : OnErrorMapObserver) (d : Bool) :
    OnErrorMapObserver.is_finished g d = St1.finished (absOnErrorMap g) d := rfl

end Rx.GenTie
