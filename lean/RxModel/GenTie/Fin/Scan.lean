import RxModel.GenTie.Scan
/-! Tie (C16): `is_finished` of the observer(s) generated from `/repo/src` IS `St1.finished` of the model. -/
namespace Rx.GenTie
open Rx Rx.Gen.Scan

theorem tie_Scan_finished (g : ScanObserver) (d : Bool) :
    ScanObserver.is_finished g d = St1.finished (absScan g) d := rfl

end Rx.GenTie
