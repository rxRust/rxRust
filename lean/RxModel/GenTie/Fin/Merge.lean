import RxModel.GenTie.Merge
/-! Tie (C16): `is_finished` of the observers generated from `/repo/src` IS `St2.finished` of the model. -/
namespace Rx.GenTie
open Rx Rx.Gen.Merge

theorem tie_Merge_finished (g : MergeObserver) (sd : Side) (d : Bool) :
    MergeObserver.is_finished g d = St2.finished (absMerge g) sd d := by
  rcases g with ⟨_ | _, c⟩ <;> rfl

end Rx.GenTie
