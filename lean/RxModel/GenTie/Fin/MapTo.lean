import RxModel.GenTie.MapTo
/-! Tie (C16): `is_finished` of the observer(s) generated from `/repo/src` IS `St1.finished` of the model. -/
namespace Rx.GenTie
open Rx Rx.Gen.MapTo

theorem tie_MapTo_finished (g : MapToObserver) (d : Bool) :
    MapToObserver.is_finished g d = St1.finished (absMapTo g) d := rfl

end Rx.GenTie
