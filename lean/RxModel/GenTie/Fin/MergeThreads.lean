import RxModel.GenTie.MergeThreads
/-! Tie (C16): `is_finished` of the observers generated from `/repo/src` IS `St2.finished` of the model. -/
namespace Rx.GenTie
open Rx Rx.Gen.MergeThreads

theorem tieT_Merge_finished (g : MergeObserver) (sd : Side) (d : Bool) :
    MergeObserver.is_finished g d = St2.finished (absTMerge g) sd d := by
  rcases g with ⟨_ | _, c⟩ <;> rfl

end Rx.GenTie
