import RxModel.GenTie.Pairwise
/-! Tie (C16): `is_finished` of the observer(s) generated from `/repo/src` IS `St1.finished` of the model. -/
namespace Rx.GenTie
open Rx Rx.Gen.Pairwise

theorem tie_Pairwise_finished (g : PairwiseObserver) (d : Bool) :
    PairwiseObserver.is_finished g d = St1.finished (absPairwise g) d := rfl

end Rx.GenTie
