import RxModel.GenTie.WithLatestFromThreads
/-! Tie (C16): `is_finished` of the observers generated from `/repo/src` IS `St2.finished` of the model. -/
namespace Rx.GenTie
open Rx Rx.Gen.WithLatestFromThreads

theorem tieT_Wlf_finished (a : AObserver) (b : BObserver) (d : Bool) :
    AObserver.is_finished a d = St2.finished (absTWlfA a) .a d ∧
    BObserver.is_finished b d = St2.finished (absTWlfB b) .b d := by
  rcases a with ⟨_ | _, w⟩ <;> rcases b with ⟨_ | _, w'⟩ <;> exact ⟨rfl, rfl⟩

end Rx.GenTie
