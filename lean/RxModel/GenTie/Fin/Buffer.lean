import RxModel.GenTie.Buffer
/-! Tie (C16): `is_finished` of the observer(s) generated from `/repo/src` IS `St1.finished` of the model. -/
namespace Rx.GenTie
open Rx Rx.Gen.Buffer

theorem tie_BufferWithCount_finished (g : BufferWithCountObserver) (d : Bool) :
    BufferWithCountObserver.is_finished g d = St1.finished (absBufferWithCount g) d := rfl

end Rx.GenTie
