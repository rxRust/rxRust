import RxModel.GenTie.TakeLast
/-! Tie (C16): `is_finished` of the observer(s) generated from `/repo/src` IS `St1.finished` of the model. -/
namespace Rx.GenTie
open Rx Rx.Gen.TakeLast

theorem tie_TakeLast_finished (g : TakeLastObserver) (d : Bool) :
    TakeLastObserver.is_finished g d = St1.finished (absTakeLast g) d := rfl

end Rx.GenTie
