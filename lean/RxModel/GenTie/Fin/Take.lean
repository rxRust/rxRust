import RxModel.GenTie.Take
/-! Tie (C16): `is_finished` of the observer(s) generated from `/repo/src` IS `St1.finished` of the model. -/
namespace Rx.GenTie
open Rx Rx.Gen.Take

theorem tie_Take_finished (g : TakeObserver) (d : Bool) :
    TakeObserver.is_finished g d = St1.finished (absTake g) d := by
  rcases g with ⟨_ | _, _, _⟩ <;> rfl

end Rx.GenTie
