import RxModel.GenTie.TakeUntilThreads
/-! Tie (C16): `is_finished` of the observers generated from `/repo/src` IS `St2.finished` of the model. -/
namespace Rx.GenTie
open Rx Rx.Gen.TakeUntilThreads Rx.Gen.RcObserver

theorem tieT_Tu_finished (a : RcObserver) (b : TakeUntilNotifierObserver) (d : Bool) :
    RcObserver.is_finished a d = St2.finished (absTTuA a) .a d ∧
    TakeUntilNotifierObserver.is_finished b d = St2.finished (absTTuB b) .b d := by
  cases a <;> rcases b with ⟨_ | _⟩ <;> exact ⟨rfl, rfl⟩

end Rx.GenTie
