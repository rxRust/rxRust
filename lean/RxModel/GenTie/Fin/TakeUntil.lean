import RxModel.GenTie.TakeUntil
/-! Tie (C16): `is_finished` of the observers generated from `/repo/src` IS `St2.finished` of the model. -/
namespace Rx.GenTie
open Rx Rx.Gen.TakeUntil Rx.Gen.RcObserver

theorem tie_Tu_finished (a : RcObserver) (b : TakeUntilNotifierObserver) (d : Bool) :
    RcObserver.is_finished a d = St2.finished (absTuA a) .a d ∧
    TakeUntilNotifierObserver.is_finished b d = St2.finished (absTuB b) .b d := by
  cases a <;> rcases b with ⟨_ | _⟩ <;> exact ⟨rfl, rfl⟩

end Rx.GenTie
