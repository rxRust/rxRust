import RxModel.GenTie.Zip
/-! Tie (C16): `is_finished` of the observers generated from `/repo/src` IS `St2.finished` of the model. -/
namespace Rx.GenTie
open Rx Rx.Gen.Zip

theorem tie_Zip_finished (g : ZipObserver) (d : Bool) :
    AObserver.is_finished g d = St2.finished (absZip g) .a d ∧ BObserver.is_finished g d = St2.finished (absZip g) .b d := by
  rcases g with ⟨_ | _, qa, qb, c⟩ <;> exact ⟨rfl, rfl⟩

end Rx.GenTie
