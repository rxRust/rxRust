import RxModel.GenTie.Filter
/-! Tie (C16): `is_finished` of the observer(s) generated from `/repo/src` IS `St1.finished` of the model. -/
namespace Rx.GenTie
open Rx Rx.Gen.Filter

theorem tie_Filter_finished (g : FilterObserver) (d : Bool) :
    FilterObserver.is_finished g d = St1.finished (absFilter g) d := rfl

end Rx.GenTie
