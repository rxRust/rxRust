import RxModel.GenTie.FilterMap
/-! Tie (C16): `is_finished` of the observer(s) generated from `/repo/src` IS `St1.finished` of the model. -/
namespace Rx.GenTie
open Rx Rx.Gen.FilterMap

theorem tie_FilterMap_finished (g : FilterMapObserver) (d : Bool) :
    FilterMapObserver.is_finished g d = St1.finished (absFilterMap g) d := rfl

end Rx.GenTie
