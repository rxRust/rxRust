import RxModel.GenTie.CombineLatest
/-! Tie (C16): `is_finished` of the observers generated from `/repo/src` IS `St2.finished` of the model. -/
namespace Rx.GenTie
open Rx Rx.Gen.CombineLatest

theorem tie_Combine_finished (g : CombineLatestObserver) (d : Bool) :
    AObserver.is_finished g d = St2.finished (absCombine g) .a d ∧
    BObserver.is_finished g d = St2.finished (absCombine g) .b d := by
  rcases g with ⟨_ | _, a, b, op, c⟩ <;> exact ⟨rfl, rfl⟩

end Rx.GenTie
