import RxModel.GenTie.OnComplete
/-! Tie (C16): `is_finished` of the observer(s) generated from `/repo/src` IS `St1.finished` of the model. -/
namespace Rx.GenTie
open Rx Rx.Gen.OnComplete

theorem tie_OnComplete_finished (g : OnCompleteObserver) (d : Bool) :
    OnCompleteObserver.is_finished g d = St1.finished (absOnComplete g) d := rfl

end Rx.GenTie
