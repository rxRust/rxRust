import RxModel.GenTie.Distinct
/-! Tie (C16): `is_finished` of the observer(s) generated from `/repo/src` IS `St1.finished` of the model. -/
namespace Rx.GenTie
open Rx Rx.Gen.Distinct

theorem tie_Distinct_finished (g : DistinctObserver) (d : Bool) :
    DistinctObserver.is_finished g d = St1.finished (absDistinct g) d := rfl

theorem tie_DistinctKey_finished (g : DistinctKeyObserver) (d : Bool) :
    DistinctKeyObserver.is_finished g d = St1.finished (absDistinctKey g) d := rfl

theorem tie_DistinctUntilChanged_finished (g : DistinctUntilChangedObserver) (d : Bool) :
    DistinctUntilChangedObserver.is_finished g d = St1.finished (absDistinctUntilChanged g) d := rfl

theorem tie_DistinctUntilKeyChanged_finished (g : DistinctUntilKeyChangedObserver) (d : Bool) :
    DistinctUntilKeyChangedObserver.is_finished g d = St1.finished (absDistinctUntilKeyChanged g) d := rfl

end Rx.GenTie
