import RxModel.GenTie.SkipUntil
/-! Tie (C16): `is_finished` of the observers generated from `/repo/src` IS `St2.finished` of the model. -/
namespace Rx.GenTie
open Rx Rx.Gen.SkipUntil

theorem tie_Su_finished (g : ShareObserver) (d : Bool) :
    ShareObserver.is_finished g d = St2.finished (absSkipUntil g) .a d ∧
    SkipUntilNotifierObserver.is_finished g d = St2.finished (absSkipUntil g) .b d := by
  rcases g with ⟨_ | _, _ | _⟩ <;> exact ⟨rfl, rfl⟩

end Rx.GenTie
