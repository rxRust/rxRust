import RxModel.GenTie.SkipWhile
/-! Tie (C16): `is_finished` of the observer(s) generated from `/repo/src` IS `St1.finished` of the model. -/
namespace Rx.GenTie
open Rx Rx.Gen.SkipWhile

theorem tie_SkipWhile_finished (g : SkipWhileObserver) (d : Bool) :
    SkipWhileObserver.is_finished g d = St1.finished (absSkipWhile g) d := rfl

end Rx.GenTie
