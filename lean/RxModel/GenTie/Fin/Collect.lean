import RxModel.GenTie.Collect
/-! Tie (C16): `is_finished` of the observer(s) generated from `/repo/src` IS `St1.finished` of the model. -/
namespace Rx.GenTie
open Rx Rx.Gen.Collect

theorem tie_Collect_finished (g : CollectObserver) (d : Bool) :
    CollectObserver.is_finished g d = St1.finished (absCollect g) d := rfl

end Rx.GenTie
