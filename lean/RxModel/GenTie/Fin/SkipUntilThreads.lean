import RxModel.GenTie.SkipUntilThreads
/-! Tie (C16): `is_finished` of the observers generated from `/repo/src` IS `St2.finished` of the model. -/
namespace Rx.GenTie
open Rx Rx.Gen.SkipUntilThreads

theorem tieT_Su_finished (g : ShareObserverThreads) (d : Bool) :
    ShareObserverThreads.is_finished g d = St2.finished (absTSkipUntil g) .a d ∧
    SkipUntilNotifierObserver.is_finished g d = St2.finished (absTSkipUntil g) .b d := by
  rcases g with ⟨_ | _, _ | _⟩ <;> exact ⟨rfl, rfl⟩

end Rx.GenTie
