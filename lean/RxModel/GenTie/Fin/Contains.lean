import RxModel.GenTie.Contains
/-! Tie (C16): `is_finished` of the observer(s) generated from `/repo/src` IS `St1.finished` of the model. -/
namespace Rx.GenTie
open Rx Rx.Gen.Contains

theorem tie_Contains_finished (g : ContainsObserver) (d : Bool) :
    ContainsObserver.is_finished g d = St1.finished (absContains g) d := by
  rcases g with ⟨_ | _, _⟩ <;> rfl

end Rx.GenTie
