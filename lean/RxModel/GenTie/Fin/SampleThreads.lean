import RxModel.GenTie.SampleThreads
/-! Tie (C16): `is_finished` of the observers generated from `/repo/src` IS `St2.finished` of the model. -/
namespace Rx.GenTie
open Rx Rx.Gen.SampleThreads

theorem tieT_Sample_finished (a : SourceObserver) (b : SampleObserver) (d : Bool) :
    SourceObserver.is_finished a d = St2.finished (absTSampleA a) .a d ∧
    SampleObserver.is_finished b d = St2.finished (absTSampleB b) .b d := by
  rcases a with ⟨_ | _, w⟩ <;> rcases b with ⟨_ | _, w'⟩ <;> exact ⟨rfl, rfl⟩

end Rx.GenTie
