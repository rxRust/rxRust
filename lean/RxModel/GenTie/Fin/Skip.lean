import RxModel.GenTie.Skip
/-! Tie (C16): `is_finished` of the observer(s) generated from `/repo/src` IS `St1.finished` of the model. -/
namespace Rx.GenTie
open Rx Rx.Gen.Skip

theorem tie_Skip_finished (g : SkipObserver) (d : Bool) :
    SkipObserver.is_finished g d = St1.finished (absSkip g) d := rfl

end Rx.GenTie
