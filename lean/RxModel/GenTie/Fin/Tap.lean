import RxModel.GenTie.Tap
/-! Tie (C16): `is_finished` of the observer(s) generated from `/repo/src` IS `St1.finished` of the model. -/
namespace Rx.GenTie
open Rx Rx.Gen.Tap

theorem tie_Tap_finished (g : TapObserver) (d : Bool) :
    TapObserver.is_finished g d = St1.finished (absTap g) d := rfl

end Rx.GenTie
