import RxModel.GenTie.OnError
/-! Tie (C16): `is_finished` of the observer(s) generated from `/repo/src` IS `St1.finished` of the model. -/
namespace Rx.GenTie
open Rx Rx.Gen.OnError

theorem tie_OnError_finished (g : OnErrorObserver) (d : Bool) :
    OnErrorObserver.is_finished g d = St1.finished (absOnError g) d := rfl

end Rx.GenTie
