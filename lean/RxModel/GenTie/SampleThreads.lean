import RxModel.Gen.SampleThreads
import RxModel.GenTie.Tactics
/-! Tie (thread-safe flavour, C18: the `MutArc` / atomic instantiation of the same source is the SAME model cell): `SourceObserver` and `SampleObserver` generated from src/ops/sample.rs ARE the two inputs of the
    `St2.sample` cell.  DECLARED topology: both hold the same slot cell and the same value cell. -/
namespace Rx.GenTie
open Rx Rx.Gen.SampleThreads

def absTSampleA (g : SourceObserver) : St2 := .sample g.observer.isSome g.value
def absTSampleB (g : SampleObserver) : St2 := .sample g.observer.isSome g.value

theorem tieT_Sample_a_next (g : SourceObserver) (v : Val) :
    (SourceObserver.next g v).map (fun r => (absTSampleA r.1, r.2)) = some (Rs.lift (St2.step (absTSampleA g) .a (.next v))) := rfl

theorem tieT_Sample_a_error (g : SourceObserver) (e : Err) :
    (SourceObserver.error g e).map (fun r => (absTSampleA r.1, r.2)) = some (Rs.lift (St2.step (absTSampleA g) .a (.error e))) := by
  rcases g with ⟨_ | _, w⟩ <;> rfl

theorem tieT_Sample_a_complete (g : SourceObserver) :
    (SourceObserver.complete g).map (fun r => (absTSampleA r.1, r.2)) = some (Rs.lift (St2.step (absTSampleA g) .a .complete)) := by
  rcases g with ⟨_ | _, w⟩ <;> rfl

theorem tieT_Sample_b_next (g : SampleObserver) (v : Val) :
    (SampleObserver.next g v).map (fun r => (absTSampleB r.1, r.2)) = some (Rs.lift (St2.step (absTSampleB g) .b (.next v))) := by
  rcases g with ⟨_ | _, _ | w⟩ <;> rfl

theorem tieT_Sample_b_error (g : SampleObserver) (e : Err) :
    (SampleObserver.error g e).map (fun r => (absTSampleB r.1, r.2)) = some (Rs.lift (St2.step (absTSampleB g) .b (.error e))) := by
  rcases g with ⟨_ | _, w⟩ <;> rfl

theorem tieT_Sample_b_complete (g : SampleObserver) :
    (SampleObserver.complete g).map (fun r => (absTSampleB r.1, r.2)) = some (Rs.lift (St2.step (absTSampleB g) .b .complete)) := by
  rcases g with ⟨_ | _, _ | w⟩ <;> rfl


end Rx.GenTie
