import RxModel.Gen.Debounce
/-! Tie (topology): `DebounceOp::actual_subscribe` — the slot, the candidate cell and the handler cell; the handler cell is
    also the second half of the returned `ZipSubscription(source subscription, handler cell)`. -/
namespace Rx.GenTie
open Rx.Gen.Debounce

theorem wiring_Debounce_lets : DebounceOp.lets =
  [("task_handler", "MutArc::own(None)"),
   ("observer", "DebounceObserver { observer : MutArc::own(Some(observer)), delay : duration, scheduler, trailing_value : MutArc::own(None), task_handler : task_handler , }"),
   ("u", "source.actual_subscribe(observer)")] := rfl

theorem wiring_Debounce_views : DebounceOp.views =
  [("DebounceObserver", "observer", "MutArc::own(Some(observer))"),
   ("DebounceObserver", "delay", "duration"),
   ("DebounceObserver", "scheduler", "scheduler"),
   ("DebounceObserver", "trailing_value", "MutArc::own(None)"),
   ("DebounceObserver", "task_handler", "task_handler")] := rfl

theorem wiring_Debounce_order : DebounceOp.order =
  [("source", "observer")] := rfl

end Rx.GenTie
