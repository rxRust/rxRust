import RxModel.Gen.SubscriberThreads
import RxModel.GenTie.RcObserver
import RxModel.Subject.Subject
/-! Tie (thread-safe flavour): `SubscriberThreads<O>` (a newtype around the slot cell `MutRc<Option<O>>`, src/subscriber.rs) generated from the
    source: as Observer / Publisher it is the slot (`impl_rc_observer!`), as Subscription `unsubscribe` empties
    the cell, `is_closed` = cell empty, `p_is_closed` = finished or closed — the `Slot.alive` bit of the subject
    model (`Slot.recv` leaves it, `Slot.finish` and `Slot.kill` clear it). -/
namespace Rx.GenTie
open Rx Rx.Gen.SubscriberThreads

theorem tieT_Subscriber_p_next (g : SubscriberThreads) (v : Val) :
    SubscriberThreads.p_next g v = some (g, if g.isSome then [Rs.Ev.n (Notif.next v)] else []) := by
  cases g <;> rfl

theorem tieT_Subscriber_p_error (g : SubscriberThreads) (e : Err) :
    SubscriberThreads.p_error g e = some (none, if g.isSome then [Rs.Ev.n (Notif.error e)] else []) := by
  cases g <;> rfl

theorem tieT_Subscriber_p_complete (g : SubscriberThreads) :
    SubscriberThreads.p_complete g = some (none, if g.isSome then [Rs.Ev.n Notif.complete] else []) := by
  cases g <;> rfl

theorem tieT_Subscriber_unsubscribe (g : SubscriberThreads) :
    SubscriberThreads.unsubscribe g = some (none, []) ∧ SubscriberThreads.p_unsubscribe g = some (none, []) := by
  cases g <;> exact ⟨rfl, rfl⟩

theorem tieT_Subscriber_is_closed (g : SubscriberThreads) (c : Nat → Bool) : SubscriberThreads.is_closed g c = !g.isSome := rfl

theorem tieT_Subscriber_p_is_closed (g : SubscriberThreads) (d : Bool) (c : Nat → Bool) :
    SubscriberThreads.p_is_closed g d c = (!g.isSome || d) := by
  cases g <;> cases d <;> rfl

theorem tieT_Subscriber_finished (g : SubscriberThreads) (d : Bool) : SubscriberThreads.is_finished g d = (!g.isSome || d) := by
  cases g <;> rfl

/-- the model's slot operations on the `alive` bit -/
theorem slot_alive_bitsT (x : Subj.Slot) (v : Val) (n : Notif) :
    (x.recv v).alive = x.alive ∧ (x.finish n).alive = false ∧ x.kill.alive = false := by
  simp [Subj.Slot.recv, Subj.Slot.finish, Subj.Slot.kill]

end Rx.GenTie
