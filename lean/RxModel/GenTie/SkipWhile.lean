import RxModel.Gen.SkipWhile
import RxModel.GenTie.Tactics
/-! Tie: `SkipWhileObserver` generated from `/repo/src` IS the `St1` machine of the hand-written model. -/
namespace Rx.GenTie
open Rx Rx.Gen.SkipWhile

def absSkipWhile (g : SkipWhileObserver) : St1 := .skipWhile g.predicate g.done_skipping

theorem tie_SkipWhile_next (g : SkipWhileObserver) (v : Val) :
    (SkipWhileObserver.next g v).map (fun r => (absSkipWhile r.1, r.2)) = some (Rs.lift (St1.onNext (absSkipWhile g) v)) := by
  rcases g with ⟨o, p, _ | _⟩
  · show Option.map _ (if (!p v) = true then _ else _) = some (Rs.lift (if (!p v) = true then _ else _))
    cases p v <;> rfl
  · rfl

theorem tie_SkipWhile_error (g : SkipWhileObserver) (e : Err) :
    (SkipWhileObserver.error g e).map (fun r => r.2) = some ((St1.onError' (absSkipWhile g) e).2.map Rs.Ev.n) := rfl

theorem tie_SkipWhile_complete (g : SkipWhileObserver) :
    (SkipWhileObserver.complete g).map (fun r => r.2) = some ((St1.onComplete' (absSkipWhile g)).2.map Rs.Ev.n) := rfl


theorem tie_SkipWhile_init (p : Val → Bool) :
    absSkipWhile (SkipWhileObserver.init p) = Spec.Op1.init (.skipWhile p) := rfl

end Rx.GenTie
