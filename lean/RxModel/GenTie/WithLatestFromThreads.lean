import RxModel.Gen.WithLatestFromThreads
import RxModel.GenTie.Tactics
/-! Tie (thread-safe flavour, C18: the `MutArc` / atomic instantiation of the same source is the SAME model cell): `AObserver` (source side) and `BObserver` (from side) generated from src/ops/with_latest_from.rs ARE
    the two inputs of the `St2.withLatest` cell.  DECLARED topology (actual_subscribe, pinned in
    GenTie/WiringWithLatestFromThreads.lean): both observers hold the SAME slot cell (`observer`) and the SAME value cell (`value`);
    hence both views read one model state. -/
namespace Rx.GenTie
open Rx Rx.Gen.WithLatestFromThreads

def absTWlfA (g : AObserver) : St2 := .withLatest g.observer.isSome g.value
def absTWlfB (g : BObserver) : St2 := .withLatest g.observer.isSome g.value

theorem tieT_Wlf_a_next (g : AObserver) (v : Val) :
    (AObserver.next g v).map (fun r => (absTWlfA r.1, r.2)) = some (Rs.lift (St2.step (absTWlfA g) .a (.next v))) := by
  rcases g with ⟨_ | _, _ | w⟩ <;> rfl

theorem tieT_Wlf_a_error (g : AObserver) (e : Err) :
    (AObserver.error g e).map (fun r => (absTWlfA r.1, r.2)) = some (Rs.lift (St2.step (absTWlfA g) .a (.error e))) := by
  rcases g with ⟨_ | _, w⟩ <;> rfl

theorem tieT_Wlf_a_complete (g : AObserver) :
    (AObserver.complete g).map (fun r => (absTWlfA r.1, r.2)) = some (Rs.lift (St2.step (absTWlfA g) .a .complete)) := by
  rcases g with ⟨_ | _, w⟩ <;> rfl

theorem tieT_Wlf_b_next (g : BObserver) (v : Val) :
    (BObserver.next g v).map (fun r => (absTWlfB r.1, r.2)) = some (Rs.lift (St2.step (absTWlfB g) .b (.next v))) := rfl

theorem tieT_Wlf_b_error (g : BObserver) (e : Err) :
    (BObserver.error g e).map (fun r => (absTWlfB r.1, r.2)) = some (Rs.lift (St2.step (absTWlfB g) .b (.error e))) := by
  rcases g with ⟨_ | _, w⟩ <;> rfl

theorem tieT_Wlf_b_complete (g : BObserver) :
    (BObserver.complete g).map (fun r => (absTWlfB r.1, r.2)) = some (Rs.lift (St2.step (absTWlfB g) .b .complete)) := rfl


end Rx.GenTie
