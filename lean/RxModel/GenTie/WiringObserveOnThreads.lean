import RxModel.Gen.ObserveOnThreads
/-! Tie (topology): `ObserveOnOpThreads::actual_subscribe` — a fresh MultiSubscription shared by the observer handed to the source
    and the returned `ZipSubscription(source subscription, that MultiSubscription)`; the slot built around the
    downstream observer. -/
namespace Rx.GenTie
open Rx.Gen.ObserveOnThreads

theorem wiring_ObserveOnThreads_lets : ObserveOnOpThreads.lets =
  [("subscription", "< _ >::default()"),
   ("observer", "MutArc::own(Some(observer))"),
   ("observer", "ObserveOnObserverThreads { scheduler, observer, subscription : subscription , }"),
   ("unsub", "source.actual_subscribe(observer)")] := rfl

theorem wiring_ObserveOnThreads_views : ObserveOnOpThreads.views =
  [("ObserveOnObserverThreads", "scheduler", "scheduler"),
   ("ObserveOnObserverThreads", "observer", "observer"),
   ("ObserveOnObserverThreads", "subscription", "subscription")] := rfl

theorem wiring_ObserveOnThreads_order : ObserveOnOpThreads.order =
  [("source", "observer")] := rfl

end Rx.GenTie
