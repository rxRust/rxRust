import RxModel.Gen.ObserveOn
import RxModel.GenTie.Subscription
import RxModel.GenTie.RcObserver
/-! Tie: `ObserveOnObserver` (src/ops/observe_on.rs, compiler-expanded, translated) in closed form — the `observe_on`
    stage of the chain model: EVERY notification (item, error, completion) becomes ONE task scheduled with no delay,
    its handle appended to the operator's MultiSubscription (after `retain`); nothing is delivered synchronously; the
    task bodies are one call on the observer they are handed (the operator's own slot). -/
namespace Rx.GenTie
open Rx Rx.Gen.ObserveOn Rx.Gen.Subscription

theorem tie_ObserveOn_next (g : ObserveOnObserver) (v : Val) (h : Rs.Sub) :
    ObserveOnObserver.next g v h =
      (MultiSubscription.append (g.subscription.map (List.filter Option.isSome)) h).map (fun r =>
        ({ g with subscription := r.1 }, Rs.Ev.sched "delay_emit_value" [v] none h.id :: r.2)) := by
  rcases g with ⟨o, sc, _ | sub⟩ <;> rfl

theorem tie_ObserveOn_error (g : ObserveOnObserver) (e : Err) (h : Rs.Sub) :
    ObserveOnObserver.error g e h =
      (MultiSubscription.append (g.subscription.map (List.filter Option.isSome)) h).map (fun r =>
        ({ g with subscription := r.1 }, Rs.Ev.sched "delay_emit_err" [Val.int e] none h.id :: r.2)) := by
  rcases g with ⟨o, sc, _ | sub⟩ <;> rfl

theorem tie_ObserveOn_complete (g : ObserveOnObserver) (h : Rs.Sub) :
    ObserveOnObserver.complete g h =
      (MultiSubscription.append (g.subscription.map (List.filter Option.isSome)) h).map (fun r =>
        ({ g with subscription := r.1 }, Rs.Ev.sched "delay_complete" [] none h.id :: r.2)) := by
  rcases g with ⟨o, sc, _ | sub⟩ <;> rfl

theorem tie_ObserveOn_finished (g : ObserveOnObserver) (d : Bool) :
    ObserveOnObserver.is_finished g d = (!g.observer.isSome || d) := by
  rcases g with ⟨_ | o, sc, sub⟩ <;> rfl

theorem tie_ObserveOn_tasks (o : Rs.Obs) (v : Val) (e : Err) :
    ObserveOnObserver.next__delay_emit_value o v = some [Rs.Ev.n (Notif.next v)] ∧
    ObserveOnObserver.error__delay_emit_err o e = some [Rs.Ev.n (Notif.error e)] ∧
    ObserveOnObserver.complete__delay_complete o = some [Rs.Ev.n Notif.complete] :=
  ⟨rfl, rfl, rfl⟩

end Rx.GenTie
