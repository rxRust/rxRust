import RxModel.Gen.FilterMap
import RxModel.GenTie.Tactics
/-! Tie: `FilterMapObserver` generated from `/repo/src` IS the `St1` machine of the hand-written model. -/
namespace Rx.GenTie
open Rx Rx.Gen.FilterMap

def absFilterMap (g : FilterMapObserver) : St1 := .filterMap g.f

theorem tie_FilterMap_next (g : FilterMapObserver) (v : Val) :
    (FilterMapObserver.next g v).map (fun r => (absFilterMap r.1, r.2)) = some (Rs.lift (St1.onNext (absFilterMap g) v)) := by
  unfold FilterMapObserver.next absFilterMap St1.onNext
  dsimp only
  cases g.f v <;> rfl

theorem tie_FilterMap_error (g : FilterMapObserver) (e : Err) :
    (FilterMapObserver.error g e).map (fun r => r.2) = some ((St1.onError' (absFilterMap g) e).2.map Rs.Ev.n) := rfl

theorem tie_FilterMap_complete (g : FilterMapObserver) :
    (FilterMapObserver.complete g).map (fun r => r.2) = some ((St1.onComplete' (absFilterMap g)).2.map Rs.Ev.n) := rfl


theorem tie_FilterMap_init (f : Val → Option Val) :
    absFilterMap (FilterMapObserver.init f) = Spec.Op1.init (.filterMap f) := rfl

end Rx.GenTie
