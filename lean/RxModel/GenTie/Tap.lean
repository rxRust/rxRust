import RxModel.Gen.Tap
import RxModel.GenTie.Tactics
/-! Tie: `TapObserver` generated from `/repo/src` IS the `St1` machine of the hand-written model. -/
namespace Rx.GenTie
open Rx Rx.Gen.Tap

def absTap (g : TapObserver) : St1 := .tap g.func

theorem tie_Tap_next (g : TapObserver) (v : Val) :
    (TapObserver.next g v).map (fun r => (absTap r.1, r.2)) = some (Rs.lift (St1.onNext (absTap g) v)) := rfl

theorem tie_Tap_error (g : TapObserver) (e : Err) :
    (TapObserver.error g e).map (fun r => r.2) = some ((St1.onError' (absTap g) e).2.map Rs.Ev.n) := rfl

theorem tie_Tap_complete (g : TapObserver) :
    (TapObserver.complete g).map (fun r => r.2) = some ((St1.onComplete' (absTap g)).2.map Rs.Ev.n) := rfl


theorem tie_Tap_init  :
    absTap (TapObserver.init 0) = Spec.Op1.init (.tap) := rfl

end Rx.GenTie
