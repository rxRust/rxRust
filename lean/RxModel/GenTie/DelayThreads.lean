import RxModel.Gen.DelayThreads
import RxModel.GenTie.Subscription
import RxModel.GenTie.RcObserver
/-! Tie (thread-safe flavour): `DelayObserverThreads` (src/ops/delay.rs, compiler-expanded, translated) in closed form — the `delay` stage of the
    chain model (`Sched/Chain.lean`):
      next v     ONE task `delay_emit_value [v]` scheduled with `Some(delay)`, its handle appended to the operator's
                 MultiSubscription (after `retain`); nothing is delivered synchronously; the task's observer is the
                 operator's own slot (the translator refuses anything else) and its body is `observer.next(v)`
      complete   ONE task `delay_complete []`, same delay, handle appended; body `observer.complete()`
      error      forwarded AT ONCE through the slot (which it empties): pending item tasks find it empty
      is_finished  the slot's answer. -/
namespace Rx.GenTie
open Rx Rx.Gen.DelayThreads Rx.Gen.Subscription

theorem tieT_Delay_next (g : DelayObserverThreads) (v : Val) (h : Rs.Sub) :
    DelayObserverThreads.next g v h =
      (MultiSubscriptionThreads.append (g.subscription.map (List.filter Option.isSome)) h).map (fun r =>
        ({ g with subscription := r.1 }, Rs.Ev.sched "delay_emit_value" [v] (some g.delay) h.id :: r.2)) := by
  rcases g with ⟨d, sc, o, _ | sub⟩ <;> rfl

theorem tieT_Delay_complete (g : DelayObserverThreads) (h : Rs.Sub) :
    DelayObserverThreads.complete g h =
      (MultiSubscriptionThreads.append (g.subscription.map (List.filter Option.isSome)) h).map (fun r =>
        ({ g with subscription := r.1 }, Rs.Ev.sched "delay_complete" [] (some g.delay) h.id :: r.2)) := by
  rcases g with ⟨d, sc, o, _ | sub⟩ <;> rfl

theorem tieT_Delay_error (g : DelayObserverThreads) (e : Err) :
    DelayObserverThreads.error g e =
      some ({ g with observer := none }, if g.observer.isSome then [Rs.Ev.n (Notif.error e)] else []) := by
  rcases g with ⟨d, sc, _ | o, sub⟩ <;> rfl

theorem tieT_Delay_finished (g : DelayObserverThreads) (d : Bool) :
    DelayObserverThreads.is_finished g d = (!g.observer.isSome || d) := by
  rcases g with ⟨dl, sc, _ | o, sub⟩ <;> rfl

/-- the bodies of the two tasks: one call on the observer they are handed -/
theorem tieT_Delay_tasks (o : Rs.Obs) (v : Val) :
    DelayObserverThreads.next__delay_emit_value o v = some [Rs.Ev.n (Notif.next v)] ∧
    DelayObserverThreads.complete__delay_complete o = some [Rs.Ev.n Notif.complete] :=
  ⟨rfl, rfl⟩

end Rx.GenTie
