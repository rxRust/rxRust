import RxModel.Gen.GroupBy
import RxModel.Ops.GroupBy
/-! Tie: `GroupByObserver` (src/ops/group_by.rs, compiler-expanded, translated; the per-group subjects are tokens,
    the `HashMap` an association list in insertion order) against the routing skeleton of the model
    (`Ops/GroupBy.lean`, `St.onNext` / `St.onTerm`):
      next v   key := discr v, evaluated ONCE; a known key: the item goes to that group's subject and to no other;
               a new key: the group is ANNOUNCED on the outer observer first, registered, then gets the item;
      error / complete   every registered group's subject gets the terminal (here: in registration order; the real
               `HashMap::drain` order is unspecified and the model's theorems hold for every permutation `ord`),
               then the outer observer; the map is empty afterwards;
      is_finished   the outer observer's answer. -/
namespace Rx.GenTie
open Rx Rx.Gen.GroupBy

/-- the keys registered so far, in registration order — `St.keys` of the model -/
def gkeys (g : GroupByObserver) : List Val := g.subjects.map (·.1)

theorem tie_GroupBy_next_known (g : GroupByObserver) (v : Val) (grp fresh : Rs.Grp)
    (h : Rs.mapGet g.subjects (g.discr v) = some grp) :
    GroupByObserver.next g v fresh = some (g, [Rs.Ev.to grp.id (Notif.next v)]) := by
  unfold GroupByObserver.next
  dsimp only
  rw [h]
  rfl

theorem tie_GroupBy_next_new (g : GroupByObserver) (v : Val) (fresh : Rs.Grp)
    (h : Rs.mapGet g.subjects (g.discr v) = none) :
    GroupByObserver.next g v fresh =
      some ({ g with subjects := g.subjects ++ [(g.discr v, fresh)] },
            [Rs.Ev.n (Notif.next (Rs.keyObs (g.discr v) fresh)), Rs.Ev.to fresh.id (Notif.next v)]) := by
  unfold GroupByObserver.next
  dsimp only
  rw [h]
  rfl

/-- a key is looked up by EQUALITY: found iff it was registered -/
theorem mapGet_isSome_iff {ν : Type} (m : List (Val × ν)) (k : Val) :
    (Rs.mapGet m k).isSome = decide (k ∈ m.map (·.1)) := by
  induction m with
  | nil => rfl
  | cons x t ih =>
    rcases x with ⟨k', g⟩
    show (if k' = k then some g else Rs.mapGet t k).isSome = decide (k ∈ k' :: t.map (·.1))
    by_cases hk : k' = k
    · rw [if_pos hk, hk, decide_eq_true List.mem_cons_self]; rfl
    · rw [if_neg hk, ih]
      exact decide_eq_decide.2
        ⟨List.mem_cons_of_mem _, fun h => (List.mem_cons.1 h).resolve_left fun e => hk e.symm⟩

theorem mem_of_mapGet_some {ν : Type} {m : List (Val × ν)} {k : Val} {g : ν} (h : Rs.mapGet m k = some g) :
    k ∈ m.map (·.1) := by
  have := mapGet_isSome_iff m k
  rw [h] at this
  exact of_decide_eq_true this.symm

theorem not_mem_of_mapGet_none {ν : Type} {m : List (Val × ν)} {k : Val} (h : Rs.mapGet m k = none) :
    ¬ k ∈ m.map (·.1) := by
  have := mapGet_isSome_iff m k
  rw [h] at this
  exact of_decide_eq_false this.symm

/-- the model's lookup is the same function -/
theorem model_find_eq_mapGet (k : Val) (l : List (Val × GroupBy.Subj)) : GroupBy.find k l = Rs.mapGet l k := by
  induction l with
  | nil => rfl
  | cons x t ih =>
    rcases x with ⟨k', s⟩
    show (if k' = k then some s else GroupBy.find k t) = if k' = k then some s else Rs.mapGet t k
    rw [ih]

theorem model_replace_keys (k : Val) (s : GroupBy.Subj) (l : List (Val × GroupBy.Subj)) :
    (GroupBy.replace k s l).map (·.1) = l.map (·.1) := by
  induction l with
  | nil => rfl
  | cons x t ih =>
    rcases x with ⟨k', s'⟩
    show (if k' = k then (k', s) :: t else (k', s') :: GroupBy.replace k s t).map (·.1) = k' :: t.map (·.1)
    by_cases hk : k' = k
    · rw [if_pos hk]; rfl
    · rw [if_neg hk]; exact congrArg (k' :: ·) ih

/-- keys after `next`: unchanged for a known key, the new key appended otherwise — as `St.onNext` does -/
theorem tie_GroupBy_keys (g g' : GroupByObserver) (v : Val) (fresh : Rs.Grp) (out : Rs.Out)
    (h : GroupByObserver.next g v fresh = some (g', out)) :
    gkeys g' = if g.discr v ∈ gkeys g then gkeys g else gkeys g ++ [g.discr v] := by
  unfold gkeys
  cases hm : Rs.mapGet g.subjects (g.discr v) with
  | some grp =>
    rw [tie_GroupBy_next_known g v grp fresh hm] at h
    cases h
    rw [if_pos (mem_of_mapGet_some hm)]
  | none =>
    rw [tie_GroupBy_next_new g v fresh hm] at h
    cases h
    rw [if_neg (not_mem_of_mapGet_none hm)]
    exact List.map_append

theorem model_keys (key : Val → Val) (attach : Bool) (st : GroupBy.St) (v : Val) :
    (st.onNext key attach v).1.keys = if key v ∈ st.keys then st.keys else st.keys ++ [key v] := by
  unfold GroupBy.St.onNext GroupBy.St.keys
  dsimp only
  cases hf : GroupBy.find (key v) st.subjects with
  | some subj =>
    rw [if_pos (mem_of_mapGet_some ((model_find_eq_mapGet _ _).symm.trans hf))]
    exact model_replace_keys _ _ _
  | none =>
    rw [if_neg (not_mem_of_mapGet_none ((model_find_eq_mapGet _ _).symm.trans hf))]
    exact List.map_append

/-- the loop of `error` / `complete`: every group's subject is handed `t`, in the order of the list -/
theorem groupby_term_loop (g : GroupByObserver) (t : Notif)
    (f : GroupByObserver × Rs.Out → Val × Rs.Grp → Option (GroupByObserver × Rs.Out))
    (hf : ∀ p x, f p x = some (p.fst, p.snd ++ [Rs.Ev.to x.2.id t])) :
    ∀ (m : List (Val × Rs.Grp)) (out : Rs.Out),
      Rs.forEach m (g, out) f = some (g, out ++ m.map (fun x => Rs.Ev.to x.2.id t)) := by
  intro m
  induction m with
  | nil => intro out; exact congrArg (fun o => some (g, o)) (List.append_nil out).symm
  | cons x r ih =>
    intro out
    rw [Rs.forEach_cons, hf, Option.bind_some, ih, List.append_assoc]
    rfl

theorem tie_GroupBy_error (g : GroupByObserver) (e : Err) :
    GroupByObserver.error g e =
      some ({ g with subjects := [] },
            g.subjects.map (fun x => Rs.Ev.to x.2.id (Notif.error e)) ++ [Rs.Ev.n (Notif.error e)]) := by
  show (Rs.forEach g.subjects ({ g with subjects := [] }, []) _).bind _ = _
  rw [groupby_term_loop _ (Notif.error e) _ (by intro p x; rfl)]
  rfl

theorem tie_GroupBy_complete (g : GroupByObserver) :
    GroupByObserver.complete g =
      some ({ g with subjects := [] },
            g.subjects.map (fun x => Rs.Ev.to x.2.id Notif.complete) ++ [Rs.Ev.n Notif.complete]) := by
  show (Rs.forEach g.subjects ({ g with subjects := [] }, []) _).bind _ = _
  rw [groupby_term_loop _ Notif.complete _ (by intro p x; rfl)]
  rfl

theorem tie_GroupBy_finished (g : GroupByObserver) (d : Bool) : GroupByObserver.is_finished g d = d := rfl

theorem tie_GroupBy_init (discr : Val → Val) : gkeys (GroupByObserver.init discr) = GroupBy.St.init.keys := rfl

end Rx.GenTie
