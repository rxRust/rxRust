import RxModel.Gen.BehaviorThreads
import RxModel.GenTie.SubjectThreads
import RxModel.Subject.Behavior
/-! Tie (thread-safe flavour): `BehaviorSubject<Item, Subject>` (src/subject/behavior_subject.rs, compiler-expanded, translated) IS the
    `BState` of the model: `next` STORES the value and THEN hands it to the inner subject's `next` (so whoever
    subscribes or peeks from inside the emission sees it), `actual_subscribe` greets the bare observer with the
    stored value and then subscribes it to the inner subject, `peek` reads the cell, terminals / unsubscribe /
    queries are the inner subject's. -/
namespace Rx.GenTie
open Rx Rx.Gen.BehaviorThreads Rx.Gen.SubjectThreads

def genBehaviorT (b : Subj.BState) : BehaviorSubject := { subject := genSubjectT b.subject, value := b.value }

/-- `next`: the value cell holds `v` afterwards, the inner subject did its `next v` (see `tieT_Subject_next`). -/
theorem tieT_Behavior_next (b : Subj.BState) (h : b.subject.panicked = false) (v : Val) :
    BehaviorSubject.next (genBehaviorT b) v =
      if b.subject.load.panicked then none
      else some (⟨genSubjectT b.subject.load, v⟩,
                 (b.subject.load.observers.getD []).map (fun i => Rs.Ev.to i (Notif.next v))) := by
  show (SubjectThreads.next (genSubjectT b.subject) v).bind _ = _
  rw [tieT_Subject_next b.subject h v]
  cases b.subject.load.panicked <;> rfl

/-- the model stores the same value: `(b.next v).1.value = v` -/
theorem model_next_storesT (b : Subj.BState) (v : Val) : (b.next v).1.value = v := rfl

/-- `actual_subscribe`: the greeting goes to the new observer itself, then it is pushed to the chamber. -/
theorem tieT_Behavior_subscribe (b : Subj.BState) (o : Rs.Obs) (script : List Subj.Act) :
    BehaviorSubject.actual_subscribe (genBehaviorT b) o ⟨b.subject.slots.length⟩ =
      some (genBehaviorT (b.subscribe script).1, [Rs.Ev.n (Notif.next b.value)]) := by
  show (SubjectThreads.actual_subscribe (genSubjectT b.subject) o ⟨b.subject.slots.length⟩).bind _ = _
  rw [tieT_Subject_subscribe b.subject o script [.next b.value]]
  rfl

theorem tieT_Behavior_peek (b : Subj.BState) : BehaviorSubject.peek (genBehaviorT b) = b.peek := rfl

theorem tieT_Behavior_error (b : Subj.BState) (e : Err) :
    BehaviorSubject.error (genBehaviorT b) e =
      (SubjectThreads.error (genSubjectT b.subject) e).map (fun r => (⟨r.1, b.value⟩, r.2)) := by
  show (SubjectThreads.error (genSubjectT b.subject) e).bind _ = _
  cases SubjectThreads.error (genSubjectT b.subject) e <;> rfl

theorem tieT_Behavior_complete (b : Subj.BState) :
    BehaviorSubject.complete (genBehaviorT b) =
      (SubjectThreads.complete (genSubjectT b.subject)).map (fun r => (⟨r.1, b.value⟩, r.2)) := by
  show (SubjectThreads.complete (genSubjectT b.subject)).bind _ = _
  cases SubjectThreads.complete (genSubjectT b.subject) <;> rfl

theorem tieT_Behavior_unsubscribe (b : Subj.BState) :
    BehaviorSubject.unsubscribe (genBehaviorT b) = some (genBehaviorT ⟨b.subject.unsubscribe, b.value⟩, []) := rfl

theorem tieT_Behavior_queries (b : Subj.BState) (d : Bool) (c : Nat → Bool) :
    BehaviorSubject.is_finished (genBehaviorT b) d = b.subject.isFinished ∧
    BehaviorSubject.is_closed (genBehaviorT b) c = b.subject.isClosed ∧
    BehaviorSubject.len (genBehaviorT b) = b.subject.len? :=
  ⟨(tieT_Subject_finished_closed b.subject d c).1, (tieT_Subject_finished_closed b.subject d c).2,
    tieT_Subject_len b.subject⟩

end Rx.GenTie
