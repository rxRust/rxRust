import RxModel.Gen.MergeAllThreads
import RxModel.GenTie.Subscription
import RxModel.Ops.MergeAll
/-! Tie (thread-safe flavour): `InnerObserverThreads` / `OutsideObserverThreads` of merge_all (src/ops/merge_all.rs, compiler-expanded, translated; the
    shared cell `Option<ObserverData>`, stored closures as tokens, inner observables as tokens) in closed form —
    the bookkeeping skeleton of the model (`Ops/MergeAll.lean`: `alive`, `subscribed`, `queue`, `outsideCompleted`,
    `concurrent`; `drain`, `innerError`, the outer `next`):
      inner next      forwards while the cell is full
      inner error     takes the data, forwards the error (everything is silent afterwards)
      inner complete  a waiting closure: POP THE FRONT of the queue and run it, `subscribed` unchanged (the slot is
                      handed over); none waiting: `subscribed -= 1` (never below zero: that is a panic), and iff it
                      reached 0 and the outer stream has completed the data is taken and the downstream completed
      outer next      `subscribed < concurrent`: count it, subscribe the inner NOW, append its subscription;
                      else push a closure at the BACK of the queue
      outer complete  marks `outside_completed`; completes downstream iff nothing is subscribed and nothing waits
      the closure     subscribes the inner and appends its subscription — exactly what the immediate path does. -/
namespace Rx.GenTie
open Rx Rx.Gen.MergeAllThreads Rx.Gen.Subscription

theorem tieT_MergeAll_inner_next (g : InnerObserverThreads) (v : Val) :
    InnerObserverThreads.next g v = some (g, if g.isSome then [Rs.Ev.n (Notif.next v)] else []) := by
  cases g <;> rfl

theorem tieT_MergeAll_inner_error (g : InnerObserverThreads) (e : Err) :
    InnerObserverThreads.error g e = some (none, if g.isSome then [Rs.Ev.n (Notif.error e)] else []) := by
  cases g <;> rfl

theorem tieT_MergeAll_inner_complete_waiting (d : ObserverData) (t : Rs.Lazy) (r : List Rs.Lazy)
    (h : d.subscribe_tasks = t :: r) :
    InnerObserverThreads.complete (some d) = some (some { d with subscribe_tasks := r }, [Rs.Ev.lazy t.id]) := by
  rcases d with ⟨o, q, oc, s, c⟩
  cases h
  rfl

theorem tieT_MergeAll_inner_complete_last (d : ObserverData) (h : d.subscribe_tasks = []) :
    InnerObserverThreads.complete (some d) =
      if d.subscribed = 0 then none                                     -- `usize` underflow: panic
      else if d.subscribed - 1 = 0 ∧ d.outside_completed = true then some (none, [Rs.Ev.n Notif.complete])
      else some (some { d with subscribed := d.subscribed - 1 }, []) := by
  rcases d with ⟨o, q, oc, _ | _ | n, c⟩ <;> cases h <;> cases oc <;> rfl

theorem tieT_MergeAll_inner_complete_dead : InnerObserverThreads.complete none = some (none, []) := rfl

/-- the model's `drain` with nobody waiting: the same decrement and the same completion condition -/
theorem model_drain_nilT (fixed : Bool) (s : MergeAll.St) :
    MergeAll.drain fixed s [] =
      if s.subscribed - 1 = 0 ∧ s.outsideCompleted = true then
        ({ s with subscribed := s.subscribed - 1, queue := [], completed := s.completed + 1, alive := false }, [.complete])
      else ({ s with subscribed := s.subscribed - 1, queue := [], completed := s.completed + 1 }, []) := by
  rfl

theorem model_innerErrorT (s : MergeAll.St) (e : Err) :
    MergeAll.innerError s e = if s.alive then ({ s with alive := false }, [.error e]) else (s, []) := rfl

theorem tieT_MergeAll_lazy (g : OutsideObserverThreads) (k : Rs.Inner) :
    OutsideObserverThreads.next_lazy g k =
      (MultiSubscriptionThreads.append g.subscription ⟨k.id⟩).map
        (fun r => ({ g with subscription := r.1 }, Rs.Ev.start k.id :: r.2)) := by
  rcases g with ⟨d, sub⟩
  show (MultiSubscriptionThreads.append sub ⟨k.id⟩).bind _ = _
  cases MultiSubscriptionThreads.append sub ⟨k.id⟩ <;> rfl

theorem tieT_MergeAll_outer_next_room (g : OutsideObserverThreads) (d : ObserverData) (k : Rs.Inner)
    (hd : g.observer_data = some d) (h : d.subscribed < d.concurrent) :
    OutsideObserverThreads.next g k =
      (MultiSubscriptionThreads.append g.subscription ⟨k.id⟩).map
        (fun r => ({ observer_data := some { d with subscribed := d.subscribed + 1 }, subscription := r.1 },
                   Rs.Ev.start k.id :: r.2)) := by
  rcases g with ⟨dd, sub⟩
  cases hd
  show (if Rs.lt d.subscribed d.concurrent = true then (MultiSubscriptionThreads.append sub ⟨k.id⟩).bind _ else _) = _
  rw [if_pos (decide_eq_true h)]
  cases MultiSubscriptionThreads.append sub ⟨k.id⟩ <;> rfl

theorem tieT_MergeAll_outer_next_full (g : OutsideObserverThreads) (d : ObserverData) (k : Rs.Inner)
    (hd : g.observer_data = some d) (h : ¬ d.subscribed < d.concurrent) :
    OutsideObserverThreads.next g k =
      some ({ g with observer_data := some { d with subscribe_tasks := d.subscribe_tasks ++ [⟨k.id⟩] } }, []) := by
  rcases g with ⟨dd, sub⟩
  cases hd
  show (if Rs.lt d.subscribed d.concurrent = true then _ else _) = _
  rw [if_neg (mt of_decide_eq_true h)]
  rfl

theorem tieT_MergeAll_outer_next_dead (g : OutsideObserverThreads) (k : Rs.Inner) (hd : g.observer_data = none) :
    OutsideObserverThreads.next g k = some (g, []) := by
  rcases g with ⟨dd, sub⟩
  cases hd
  rfl

theorem tieT_MergeAll_outer_error (g : OutsideObserverThreads) (e : Err) :
    OutsideObserverThreads.error g e =
      some ({ g with observer_data := none }, if g.observer_data.isSome then [Rs.Ev.n (Notif.error e)] else []) := by
  rcases g with ⟨_ | d, sub⟩ <;> rfl

theorem tieT_MergeAll_outer_complete (g : OutsideObserverThreads) :
    OutsideObserverThreads.complete g =
      match g.observer_data with
      | none => some (g, [])
      | some d =>
        if d.subscribed = 0 ∧ d.subscribe_tasks = [] then
          some ({ g with observer_data := none }, [Rs.Ev.n Notif.complete])
        else some ({ g with observer_data := some { d with outside_completed := true } }, []) := by
  rcases g with ⟨_ | ⟨o, _ | _, oc, _ | _, c⟩, sub⟩ <;> rfl

theorem tieT_MergeAll_finished (g : OutsideObserverThreads) (i : InnerObserverThreads) (dn : Bool) :
    OutsideObserverThreads.is_finished g dn = (!g.observer_data.isSome || dn) ∧
    InnerObserverThreads.is_finished i dn = (!i.isSome || dn) := by
  rcases g with ⟨_ | d, sub⟩ <;> cases i <;> exact ⟨rfl, rfl⟩

end Rx.GenTie
