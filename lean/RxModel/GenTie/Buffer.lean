import RxModel.Gen.Buffer
import RxModel.GenTie.Tactics
/-! Tie: `BufferWithCountObserver` (over `BufferObserver` and its helper `emit`) generated from
    `src/ops/buffer.rs` IS the `St1.bufferCount` machine. -/
namespace Rx.GenTie
open Rx Rx.Gen.Buffer

def absBufferWithCount (g : BufferWithCountObserver) : St1 := .bufferCount g.count g.buffer.data

/-- a `Vec<Item>` handed downstream as an item is the list itself: `ToVal Val` is `id` -/
theorem toVal_list (l : List Val) : Rs.ToVal.toVal l = Val.ofList l := congrArg Val.ofList (List.map_id l)

/-- `emit`: hand the collected window downstream (nothing when it is empty) and start a new one -/
theorem tie_Buffer_emit (b : BufferObserver) :
    BufferObserver.emit b =
      some ({ b with data := [] }, if b.data.isEmpty then [] else [Rs.Ev.n (Notif.next (Val.ofList b.data))]) := by
  rcases b with ⟨o, _ | ⟨a, d⟩⟩
  · rfl
  · show some ((⟨o, []⟩ : BufferObserver), [Rs.Ev.n (.next (Rs.ToVal.toVal (a :: d)))]) = _
    rw [toVal_list]; rfl

theorem tie_BufferWithCount_next (g : BufferWithCountObserver) (v : Val) :
    (BufferWithCountObserver.next g v).map (fun r => (absBufferWithCount r.1, r.2)) = some (Rs.lift (St1.onNext (absBufferWithCount g) v)) := by
  rcases g with ⟨⟨o, d⟩, c⟩
  simp only [BufferWithCountObserver.next, BufferObserver.next, tie_Buffer_emit, Rs.le, Rs.len, Rs.pushBack,
    Rs.ToVal.toVal, id, Option.pure_def, Option.bind_eq_bind, Option.bind_some]
  unfold absBufferWithCount St1.onNext
  dsimp only
  -- the code's `Rs.le` and the model's `≥` test the same decision
  cases Nat.decLe c (d ++ [v]).length
  · rfl
  · cases d <;> rfl

theorem tie_BufferWithCount_error (g : BufferWithCountObserver) (e : Err) :
    (BufferWithCountObserver.error g e).map (fun r => r.2) = some ((St1.onError' (absBufferWithCount g) e).2.map Rs.Ev.n) := by
  rcases g with ⟨⟨o, d⟩, c⟩
  rfl

theorem tie_BufferWithCount_complete (g : BufferWithCountObserver) :
    (BufferWithCountObserver.complete g).map (fun r => r.2) = some ((St1.onComplete' (absBufferWithCount g)).2.map Rs.Ev.n) := by
  rcases g with ⟨⟨o, d⟩, c⟩
  simp only [BufferWithCountObserver.complete, BufferObserver.complete, tie_Buffer_emit]
  cases d <;> rfl


theorem tie_BufferWithCount_init (n : Nat) :
    absBufferWithCount (BufferWithCountObserver.init n) = Spec.Op1.init (.bufferCount n) := rfl

end Rx.GenTie
