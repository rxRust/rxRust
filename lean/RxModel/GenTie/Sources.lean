import RxModel.Gen.SrcOf
import RxModel.Gen.SrcIter
import RxModel.Gen.SrcTrivial
import RxModel.GenTie.Tactics
import RxModel.Ops.Source
/-! Tie: the cold sources of src/observable/{of,from_iter,trivial}.rs — `actual_subscribe(self, observer)` translated as a
    function of the source's content and of the observer's DYNAMIC `is_finished()` answer (`downF`, a function of what
    has been delivered so far) — are `Src.emit` of the model (Ops/Source.lean), notification for notification.
    `from_iter` stops pulling once the observer reports finished: it delivers a PREFIX of the items, the whole list when
    the observer never finishes, and always ends with `complete`. -/
namespace Rx.GenTie
open Rx Rx.Gen.SrcOf Rx.Gen.SrcIter Rx.Gen.SrcTrivial

def evs' (ns : List Notif) : Rs.Out := ns.map Rs.Ev.n

theorem tie_Src_of (v : Val) (o : Rs.Obs) :
    OfObservable.actual_subscribe v o = some (v, evs' (Src.emit (.of v))) := rfl

theorem tie_Src_ofResult (r : Except Err Val) (o : Rs.Obs) :
    ResultObservable.actual_subscribe r o = some (r, evs' (Src.emit (.ofResult r))) := by
  cases r <;> rfl

theorem tie_Src_ofOption (x : Option Val) (o : Rs.Obs) :
    OptionObservable.actual_subscribe x o = some (x, evs' (Src.emit (.ofOption x))) := by
  cases x <;> rfl

/-- `of_fn(f)`: the closure is called exactly once, its result delivered, then `complete` -/
theorem tie_Src_ofFn (v : Val) (o : Rs.Obs) :
    CallableObservable.actual_subscribe v o = some (v, evs' (Src.emit (.ofFn v))) := rfl

theorem tie_Src_throw (e : Err) (o : Rs.Obs) :
    ThrowObservable.actual_subscribe e o = some (e, evs' (Src.emit (.throw e))) := rfl

theorem tie_Src_empty (o : Rs.Obs) :
    EmptyObservable.actual_subscribe () o = some ((), evs' (Src.emit .empty)) := rfl

/-- `never()` calls nothing on its observer (after `fix: never() must not complete`) -/
theorem tie_Src_never (o : Rs.Obs) :
    NeverObservable.actual_subscribe () o = some ((), evs' (Src.emit .never)) := rfl

/-! ### from_iter -/

/-- what the pulling loop has delivered and what it has left in the iterator -/
def iterRun (downF : Rs.Out → Bool) : List Val → Rs.Out → Rs.Out × List Val
  | [], out => (out, [])
  | v :: r, out => if downF out then (out, v :: r) else iterRun downF r (out ++ [Rs.Ev.n (Notif.next v)])

theorem iter_loop (o : Rs.Obs) (downF : Rs.Out → Bool) (s0 : ObservableIter)
    (cond : (ObservableIter × Rs.Out × List Val) → Bool)
    (body : (ObservableIter × Rs.Out × List Val) → Option ((ObservableIter × Rs.Out × List Val) × Bool))
    (hc : ∀ p, cond p = !(downF p.2.1))
    (hb : ∀ p, body p = match p.2.2 with
        | v :: r => some ((p.1, p.2.1 ++ [Rs.Ev.n (Notif.next v)], r), false)
        | [] => some ((p.1, p.2.1, []), true)) :
    ∀ (xs : List Val) (out : Rs.Out) (fuel : Nat), xs.length < fuel →
      Rs.loopFuel fuel cond body (s0, out, xs) = some (s0, (iterRun downF xs out).1, (iterRun downF xs out).2) := by
  intro xs
  induction xs with
  | nil =>
    intro out fuel hf
    cases fuel with
    | zero => cases hf
    | succ n =>
      unfold Rs.loopFuel
      rw [hc]
      cases hd : downF out
      · show (body _).bind _ = _
        rw [hb]; rfl
      · rfl
  | cons v r ih =>
    intro out fuel hf
    cases fuel with
    | zero => cases hf
    | succ n =>
      unfold Rs.loopFuel iterRun
      rw [hc]
      cases hd : downF out
      · show (body _).bind _ = _
        rw [hb]; exact ih _ n (Nat.lt_of_succ_lt_succ hf)
      · rfl

theorem tie_Src_iter (xs : List Val) (o : Rs.Obs) (downF : Rs.Out → Bool) :
    ObservableIter.actual_subscribe xs o downF =
      some (xs, (iterRun downF xs []).1 ++ [Rs.Ev.n Notif.complete]) := by
  unfold ObservableIter.actual_subscribe
  simp only [Option.pure_def, Option.bind_eq_bind]
  rw [iter_loop o downF xs _ _ (by intro p; rfl)
    (by intro p; rcases p with ⟨a, b, c⟩; cases c <;> rfl) xs [] _ (by omega)]
  rfl

/-- an observer that never reports finished gets every item: `Src.emit (.iter xs)` -/
theorem iterRun_all (xs : List Val) (out : Rs.Out) :
    iterRun (fun _ => false) xs out = (out ++ xs.map (fun v => Rs.Ev.n (Notif.next v)), []) := by
  induction xs generalizing out with
  | nil => simp [iterRun]
  | cons v r ih => simp [iterRun, ih, List.append_assoc]

theorem tie_Src_iter_all (xs : List Val) (o : Rs.Obs) :
    ObservableIter.actual_subscribe xs o (fun _ => false) = some (xs, evs' (Src.emit (.iter xs))) := by
  simp [tie_Src_iter, iterRun_all, Src.emit, evs', List.map_map, Function.comp_def]

/-- whatever the observer answers, what `from_iter` delivers before `complete` is a prefix of its items, in order,
    and the undelivered rest is exactly what is left in the iterator -/
theorem iterRun_prefix (downF : Rs.Out → Bool) (xs : List Val) (out : Rs.Out) :
    ∃ k, k ≤ xs.length ∧ (iterRun downF xs out).1 = out ++ (xs.take k).map (fun v => Rs.Ev.n (Notif.next v)) ∧
      (iterRun downF xs out).2 = xs.drop k := by
  induction xs generalizing out with
  | nil => exact ⟨0, by simp [iterRun]⟩
  | cons v r ih =>
    by_cases hd : downF out
    · exact ⟨0, by simp [iterRun, hd]⟩
    · obtain ⟨k, hk, h1, h2⟩ := ih (out ++ [Rs.Ev.n (Notif.next v)])
      exact ⟨k + 1, by simp; omega, by simp [iterRun, hd, h1, List.append_assoc], by simp [iterRun, hd, h2]⟩

/-- and it stops at the first moment the observer reports finished: nothing is pulled after that -/
theorem iterRun_stops (downF : Rs.Out → Bool) (xs : List Val) (out : Rs.Out) (h : downF out = true) :
    iterRun downF xs out = (out, xs) := by
  cases xs <;> simp [iterRun, h]

end Rx.GenTie
