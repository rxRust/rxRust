import RxModel.Gen.SkipLast
import RxModel.GenTie.Tactics
/-! Tie: `SkipLastObserver` generated from `/repo/src` IS the `St1.skipLast` machine. -/
namespace Rx.GenTie
open Rx Rx.Gen.SkipLast

def absSkipLast (g : SkipLastObserver) : St1 := .skipLast g.count_down g.queue

theorem tie_SkipLast_next (g : SkipLastObserver) (v : Val) :
    (SkipLastObserver.next g v).map (fun r => (absSkipLast r.1, r.2)) = some (Rs.lift (St1.onNext (absSkipLast g) v)) := by
  rcases g with ⟨o, _ | cd, _ | ⟨h, t⟩⟩ <;> rfl

theorem tie_SkipLast_error (g : SkipLastObserver) (e : Err) :
    (SkipLastObserver.error g e).map (fun r => r.2) = some ((St1.onError' (absSkipLast g) e).2.map Rs.Ev.n) := rfl

theorem tie_SkipLast_complete (g : SkipLastObserver) :
    (SkipLastObserver.complete g).map (fun r => r.2) = some ((St1.onComplete' (absSkipLast g)).2.map Rs.Ev.n) := rfl


theorem tie_SkipLast_init (n : Nat) :
    absSkipLast (SkipLastObserver.init n) = Spec.Op1.init (.skipLast n) := rfl

end Rx.GenTie
