import RxModel.Gen.Delay
/-! Tie (topology): `DelayOp::actual_subscribe` — a fresh MultiSubscription shared by the observer handed to the source
    and the returned `ZipSubscription(source subscription, that MultiSubscription)`; the slot built around the
    downstream observer. -/
namespace Rx.GenTie
open Rx.Gen.Delay

theorem wiring_Delay_lets : DelayOp.lets =
  [("subscription", "< _ >::default()"),
   ("observer", "MutRc::own(Some(observer))"),
   ("observer", "DelayObserver { delay, scheduler, observer, subscription : subscription , }"),
   ("unsub", "source.actual_subscribe(observer)")] := rfl

theorem wiring_Delay_views : DelayOp.views =
  [("DelayObserver", "delay", "delay"),
   ("DelayObserver", "scheduler", "scheduler"),
   ("DelayObserver", "observer", "observer"),
   ("DelayObserver", "subscription", "subscription")] := rfl

theorem wiring_Delay_order : DelayOp.order =
  [("source", "observer")] := rfl

end Rx.GenTie
