import RxModel.Gen.TakeUntil
/-! Tie (topology): the cells `TakeUntilOp::actual_subscribe` allocates, which observer field holds which cell, and the
    order in which the inputs are subscribed — extracted from /repo/src by rs2lean, pinned here.  The behaviour
    ties (GenTie/TakeUntil.lean) read the observers' fields as views of ONE shared state; this is the declaration
    they rest on (`firstSide` of the model = the first entry of `order`). -/
namespace Rx.GenTie
open Rx.Gen.TakeUntil

theorem wiring_TakeUntil_lets : TakeUntilOp.lets =
  [("main_observer", "MutRc::own(Some(observer))"),
   ("a", "self.source.actual_subscribe(main_observer)"),
   ("notify_observer", "TakeUntilNotifierObserver { main_observer, _hint : TypeHint::default(), }"),
   ("b", "self.notifier.actual_subscribe(notify_observer)")] := rfl

theorem wiring_TakeUntil_views : TakeUntilOp.views =
  [("TakeUntilNotifierObserver", "main_observer", "main_observer"),
   ("TakeUntilNotifierObserver", "_hint", "TypeHint::default()")] := rfl

theorem wiring_TakeUntil_order : TakeUntilOp.order =
  [("self.source", "main_observer"),
   ("self.notifier", "notify_observer")] := rfl

end Rx.GenTie
