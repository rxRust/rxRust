import RxModel.Gen.BufferCell
import RxModel.GenTie.Buffer
import RxModel.Sched.Chain
/-! Tie: the SHARED buffer cell of src/ops/buffer.rs — `MutArc<Option<BufferObserver>>` used as an observer
    (`impl_rc_observer!` of src/observer.rs instantiated over the translated `BufferObserver` /
    `BufferWithCountObserver`), the `NotifierObserver` of `buffer(notifier)`, and the tick functions
    `emit_buffer` / `emit_count_buffer` of `buffer_with_time` / `buffer_with_count_and_time`.

    Closed forms first (every method, every state), then the forward simulations:
      * `buffer(notifier)`:   source side + notifier side  ⊑  `St2.step (.buffer alive data)` (Ops/Multi.lean)
      * `buffer_with_time`:   cell as observer             ⊑  `Stage.onNotif (.bufTime d none ..)`  (Sched/Chain.lean)
      * `buffer_with_count_and_time`                        ⊑  `Stage.onNotif (.bufTime d (some c) ..)`
      * the tick functions                                   =  the `bufTick` clause of `runTick`
    The relation reads `Some(b)` as "alive with `b.data`" and `None` as "terminated" (the model keeps the stale
    data of a terminated cell, the code has dropped the whole observer: both are silent from then on). -/
namespace Rx.GenTie
open Rx Rx.Gen.Buffer Rx.Gen.BufferCell

def evs (ns : List Notif) : Rs.Out := ns.map Rs.Ev.n

/-- `emit` in the vocabulary of the models: what goes downstream is `flush` of the window.  The methods below
    that flush reach their closed form through this one. -/
theorem tie_Buffer_emit_flush (b : BufferObserver) :
    BufferObserver.emit b = some ({ b with data := [] }, evs (St2.flush b.data)) := by
  rcases b with ⟨o, _ | ⟨a, d⟩⟩ <;> exact tie_Buffer_emit _

theorem tie_Buffer_complete (b : BufferObserver) :
    BufferObserver.complete b = some ({ b with data := [] }, evs (St2.flush b.data ++ [Notif.complete])) := by
  rcases b with ⟨o, _ | ⟨a, d⟩⟩
  · rfl
  · simp only [BufferObserver.complete, tie_Buffer_emit_flush]; rfl

theorem tie_SlotBuffer_next (g : SlotBufferObserver) (v : Val) :
    SlotBufferObserver.next g v =
      some (g.map (fun b => { b with data := b.data ++ [v] }), []) := by
  rcases g with _ | ⟨o, d⟩ <;> rfl

theorem tie_SlotBuffer_error (g : SlotBufferObserver) (e : Err) :
    SlotBufferObserver.error g e =
      some (none, match g with | some _ => [Rs.Ev.n (Notif.error e)] | none => []) := by
  rcases g with _ | ⟨o, d⟩ <;> rfl

theorem tie_SlotBuffer_complete (g : SlotBufferObserver) :
    SlotBufferObserver.complete g =
      some (none, match g with | some b => evs (St2.flush b.data ++ [Notif.complete]) | none => []) := by
  rcases g with _ | b
  · rfl
  · simp only [SlotBufferObserver.complete, tie_Buffer_complete]; rfl

theorem tie_SlotBuffer_finished (g : SlotBufferObserver) (down : Bool) :
    SlotBufferObserver.is_finished g down = (match g with | some _ => down | none => true) := rfl

/-- the notifier's `next`: flush what has been collected (nothing when empty), keep the cell -/
theorem tie_Notifier_next (g : NotifierObserver) (u : Unit) :
    NotifierObserver.next g u =
      some (g.map (fun b => { b with data := [] }),
            match g with | some b => evs (St2.flush b.data) | none => []) := by
  rcases g with _ | b
  · rfl
  · simp only [NotifierObserver.next, tie_Buffer_emit_flush]; rfl

theorem tie_Notifier_error (g : NotifierObserver) (e : Err) :
    NotifierObserver.error g e = SlotBufferObserver.error g e := by
  rcases g with _ | ⟨o, d⟩ <;> rfl

theorem tie_Notifier_complete (g : NotifierObserver) :
    NotifierObserver.complete g = SlotBufferObserver.complete g := by
  simp only [NotifierObserver.complete, tie_SlotBuffer_complete]; rfl

theorem tie_Notifier_finished (g : NotifierObserver) (down : Bool) :
    NotifierObserver.is_finished g down = SlotBufferObserver.is_finished g down := rfl

/-- `emit_buffer`: a finished cell stops the repeating task; otherwise flush and go on -/
theorem tie_emit_buffer (g : SlotBufferObserver) (down : Bool) :
    SlotBufferObserver.tick_emit_buffer g down =
      match g with
      | none => some (none, [], false)
      | some b =>
          if down then some (some b, [], false)
          else some (some { b with data := [] }, evs (St2.flush b.data), true) := by
  rcases g with _ | b
  · rfl
  · cases down
    · simp only [SlotBufferObserver.tick_emit_buffer, tie_Buffer_emit_flush]; rfl
    · rfl

theorem tie_SlotCount_next (g : SlotBufferWithCountObserver) (v : Val) :
    SlotBufferWithCountObserver.next g v =
      match g with
      | none => some (none, [])
      | some b =>
          if b.count ≤ (b.buffer.data ++ [v]).length then
            some (some { b with buffer := { b.buffer with data := [] } }, evs (St2.flush (b.buffer.data ++ [v])))
          else some (some { b with buffer := { b.buffer with data := b.buffer.data ++ [v] } }, []) := by
  rcases g with _ | ⟨⟨o, d⟩, c⟩
  · rfl
  · simp only [SlotBufferWithCountObserver.next, BufferWithCountObserver.next, BufferObserver.next, tie_Buffer_emit_flush,
      Rs.le, Rs.len, Rs.pushBack, Rs.ToVal.toVal, id, Option.pure_def, Option.bind_eq_bind, Option.bind_some]
    -- the code's `Rs.le` and the `if` of the closed form test the same decision
    cases Nat.decLe c (d ++ [v]).length <;> rfl

theorem tie_SlotCount_error (g : SlotBufferWithCountObserver) (e : Err) :
    SlotBufferWithCountObserver.error g e =
      some (none, match g with | some _ => [Rs.Ev.n (Notif.error e)] | none => []) := by
  rcases g with _ | ⟨⟨o, d⟩, c⟩ <;> rfl

theorem tie_SlotCount_complete (g : SlotBufferWithCountObserver) :
    SlotBufferWithCountObserver.complete g =
      some (none, match g with | some b => evs (St2.flush b.buffer.data ++ [Notif.complete]) | none => []) := by
  rcases g with _ | b
  · rfl
  · simp only [SlotBufferWithCountObserver.complete, BufferWithCountObserver.complete, tie_Buffer_complete]; rfl

theorem tie_SlotCount_finished (g : SlotBufferWithCountObserver) (down : Bool) :
    SlotBufferWithCountObserver.is_finished g down = (match g with | some _ => down | none => true) := rfl

theorem tie_emit_count_buffer (g : SlotBufferWithCountObserver) (down : Bool) :
    SlotBufferWithCountObserver.tick_emit_count_buffer g down =
      match g with
      | none => some (none, [], false)
      | some b =>
          if down then some (some b, [], false)
          else some (some { b with buffer := { b.buffer with data := [] } }, evs (St2.flush b.buffer.data), true) := by
  rcases g with _ | b
  · rfl
  · cases down
    · simp only [SlotBufferWithCountObserver.tick_emit_count_buffer, tie_Buffer_emit_flush]; rfl
    · rfl

/-- the cell read as the two-input model state -/
def RBuf (g : SlotBufferObserver) (m : St2) : Prop :=
  match g with
  | some b => m = .buffer true b.data
  | none => ∃ d, m = .buffer false d

theorem sim_Buffer_source (g : SlotBufferObserver) (m : St2) (h : RBuf g m) (n : Notif) :
    ∃ g' out,
      (match n with
        | .next v => SlotBufferObserver.next g v
        | .error e => SlotBufferObserver.error g e
        | .complete => SlotBufferObserver.complete g) = some (g', out) ∧
      out = evs (St2.step m .a n).2 ∧ RBuf g' (St2.step m .a n).1 := by
  rcases g with _ | ⟨o, d⟩
  · obtain ⟨d, rfl⟩ := h
    cases n <;> exact ⟨_, _, rfl, rfl, Exists.intro d rfl⟩
  · cases h
    cases n
    · exact ⟨_, _, rfl, rfl, rfl⟩
    · exact ⟨_, _, rfl, rfl, Exists.intro d rfl⟩
    · exact ⟨_, _, tie_SlotBuffer_complete _, rfl, Exists.intro d rfl⟩

theorem sim_Buffer_notifier (g : NotifierObserver) (m : St2) (h : RBuf g m) (n : Notif) :
    ∃ g' out,
      (match n with
        | .next _ => NotifierObserver.next g ()
        | .error e => NotifierObserver.error g e
        | .complete => NotifierObserver.complete g) = some (g', out) ∧
      out = evs (St2.step m .b n).2 ∧ RBuf g' (St2.step m .b n).1 := by
  rcases g with _ | ⟨o, d⟩
  · obtain ⟨d, rfl⟩ := h
    cases n <;> exact ⟨_, _, rfl, rfl, Exists.intro d rfl⟩
  · cases h
    cases n
    · exact ⟨_, _, tie_Notifier_next _ _, rfl, rfl⟩
    · exact ⟨_, _, rfl, rfl, Exists.intro d rfl⟩
    · exact ⟨_, _, (tie_Notifier_complete _).trans (tie_SlotBuffer_complete _), rfl, Exists.intro d rfl⟩

/-- `is_finished` of either side = `St2.finished` of the cell -/
theorem sim_Buffer_finished (g : SlotBufferObserver) (m : St2) (h : RBuf g m) (down : Bool) (sd : Side) :
    SlotBufferObserver.is_finished g down = m.finished sd down := by
  rcases g with _ | ⟨o, d⟩
  · obtain ⟨d, rfl⟩ := h; cases sd <;> rfl
  · cases h; cases sd <;> rfl

theorem sim_Buffer_init : RBuf (some { observer := Rs.Obs.mk, data := [] }) (Kind2.init .buffer) := rfl

open Rx.T in
def RBufT (d : Nat) (task : Option TaskId) (g : SlotBufferObserver) (st : Stage) : Prop :=
  match g with
  | some b => st = .bufTime d none true b.data task
  | none => ∃ data, st = .bufTime d none false data task

open Rx.T in
theorem sim_BufTime (d : Nat) (task : Option TaskId) (g : SlotBufferObserver) (st : Stage) (h : RBufT d task g st)
    (j : Nat) (s : Sched) (n : Notif) :
    ∃ g' out,
      (match n with
        | .next v => SlotBufferObserver.next g v
        | .error e => SlotBufferObserver.error g e
        | .complete => SlotBufferObserver.complete g) = some (g', out) ∧
      out = evs (st.onNotif j n s).2.1 ∧ RBufT d task g' (st.onNotif j n s).1 ∧ (st.onNotif j n s).2.2 = s := by
  rcases g with _ | ⟨o, dt⟩
  · obtain ⟨data, rfl⟩ := h
    cases n
    · exact ⟨_, _, rfl, rfl, Exists.intro data rfl, rfl⟩
    · exact ⟨_, _, rfl, rfl, Exists.intro data rfl, rfl⟩
    · exact ⟨_, _, rfl, rfl, Exists.intro [] rfl, rfl⟩
  · cases h
    cases n
    · exact ⟨_, _, rfl, rfl, rfl, rfl⟩
    · exact ⟨_, _, rfl, rfl, Exists.intro dt rfl, rfl⟩
    · exact ⟨_, _, tie_SlotBuffer_complete _, rfl, Exists.intro [] rfl, rfl⟩

open Rx.T in
def RBufCT (d c : Nat) (task : Option TaskId) (g : SlotBufferWithCountObserver) (st : Stage) : Prop :=
  match g with
  | some b => b.count = c ∧ st = .bufTime d (some c) true b.buffer.data task
  | none => ∃ data, st = .bufTime d (some c) false data task

open Rx.T in
theorem sim_BufCountTime (d c : Nat) (task : Option TaskId) (g : SlotBufferWithCountObserver) (st : Stage)
    (h : RBufCT d c task g st) (j : Nat) (s : Sched) (n : Notif) :
    ∃ g' out,
      (match n with
        | .next v => SlotBufferWithCountObserver.next g v
        | .error e => SlotBufferWithCountObserver.error g e
        | .complete => SlotBufferWithCountObserver.complete g) = some (g', out) ∧
      out = evs (st.onNotif j n s).2.1 ∧ RBufCT d c task g' (st.onNotif j n s).1 ∧ (st.onNotif j n s).2.2 = s := by
  rcases g with _ | ⟨⟨o, dt⟩, cc⟩
  · obtain ⟨data, rfl⟩ := h
    cases n
    · exact ⟨_, _, rfl, rfl, Exists.intro data rfl, rfl⟩
    · exact ⟨_, _, rfl, rfl, Exists.intro data rfl, rfl⟩
    · exact ⟨_, _, rfl, rfl, Exists.intro [] rfl, rfl⟩
  · obtain ⟨rfl, rfl⟩ := h
    cases n with
    | next v =>
      -- code and model make the same test
      by_cases hc : cc ≤ (dt ++ [v]).length
      · have hm : Stage.onNotif (.bufTime d (some cc) true dt task) j (.next v) s =
            (.bufTime d (some cc) true [] task, flushBuf (dt ++ [v]), s) := if_pos hc
        rw [hm]
        exact ⟨_, _, (tie_SlotCount_next _ v).trans (if_pos hc), rfl, ⟨rfl, rfl⟩, rfl⟩
      · have hm : Stage.onNotif (.bufTime d (some cc) true dt task) j (.next v) s =
            (.bufTime d (some cc) true (dt ++ [v]) task, [], s) := if_neg hc
        rw [hm]
        exact ⟨_, _, (tie_SlotCount_next _ v).trans (if_neg hc), rfl, ⟨rfl, rfl⟩, rfl⟩
    | error e => exact ⟨_, _, rfl, rfl, Exists.intro dt rfl, rfl⟩
    | complete => exact ⟨_, _, tie_SlotCount_complete _, rfl, Exists.intro [] rfl, rfl⟩

/-- the tick of `buffer_with_time` is the `bufTick` clause of `runTick`: stop iff the cell or what is below it
    has finished; otherwise flush (same notifications, data emptied) and keep repeating -/
theorem sim_emit_buffer (g : SlotBufferObserver) (alive : Bool) (data : List Val) (down : Bool)
    (h : match g with | some b => alive = true ∧ data = b.data | none => alive = false) :
    ∃ g' out,
      SlotBufferObserver.tick_emit_buffer g down = some (g', out, !(!alive || down)) ∧
      out = (if !alive || down then [] else evs (T.flushBuf data)) ∧
      (match g' with
        | some b' => alive = true ∧ b'.data = (if !alive || down then data else [])
        | none => alive = false) := by
  rcases g with _ | ⟨o, dt⟩
  · cases h; exact ⟨_, _, rfl, rfl, rfl⟩
  · obtain ⟨rfl, rfl⟩ := h
    cases down
    · exact ⟨_, _, tie_emit_buffer _ _, rfl, rfl, rfl⟩
    · exact ⟨_, _, rfl, rfl, rfl, rfl⟩

theorem sim_emit_count_buffer (g : SlotBufferWithCountObserver) (alive : Bool) (data : List Val) (down : Bool)
    (h : match g with | some b => alive = true ∧ data = b.buffer.data | none => alive = false) :
    ∃ g' out,
      SlotBufferWithCountObserver.tick_emit_count_buffer g down = some (g', out, !(!alive || down)) ∧
      out = (if !alive || down then [] else evs (T.flushBuf data)) ∧
      (match g' with
        | some b' => alive = true ∧ b'.buffer.data = (if !alive || down then data else [])
        | none => alive = false) := by
  rcases g with _ | ⟨⟨o, dt⟩, c⟩
  · cases h; exact ⟨_, _, rfl, rfl, rfl⟩
  · obtain ⟨rfl, rfl⟩ := h
    cases down
    · exact ⟨_, _, tie_emit_count_buffer _ _, rfl, rfl, rfl⟩
    · exact ⟨_, _, rfl, rfl, rfl, rfl⟩

end Rx.GenTie
