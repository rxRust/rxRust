import RxModel.Gen.SrcInterval
import RxModel.Gen.SrcTimer
import RxModel.Gen.SubscribeOn
import RxModel.Gen.StartWith
import RxModel.GenTie.Tactics
/-! Tie: `actual_subscribe` of the time SOURCES interval / interval_at / timer / timer_at (src/observable/interval.rs,
    timer.rs), of `subscribe_on` (src/ops/subscribe_on.rs) and of `start_with` (src/ops/start_with.rs), with their task /
    tick functions, in closed form:

      interval      ONE repeating task `interval_task`, first run after `delay` (interval_at) or else after `dur`,
                    then every `dur`; scheduled WITHOUT an outer delay; the handle is the subscription.
                    tick: a finished observer stops the task; otherwise `next(seq)` and go on
                    (= the `.tick` clause of `runTick` in Sched/Chain.lean)
      timer         ONE task `timer_task` with the item, outer delay `dur`; the task: `next(item)` then `complete`
      subscribe_on  ONE task `subscribe_task` holding the source, no delay; the task subscribes the source
      start_with    the values in order, THEN the source is subscribed -/
namespace Rx.GenTie
open Rx

theorem tie_Interval_subscribe (g : Rx.Gen.SrcInterval.IntervalObservable) (o : Rs.Obs) (h : Rs.Sub) :
    Rx.Gen.SrcInterval.IntervalObservable.actual_subscribe g o h =
      some (g, [Rs.Ev.sched "repeat:interval_task" [Val.int (g.delay.getD g.dur), Val.int g.dur] none h.id]) := rfl

theorem tie_Interval_tick (o : Rs.Obs) (down : Bool) (seq : Nat) :
    Rx.Gen.SrcInterval.Observer.tick_interval_task o down seq =
      if down then some (o, [], false) else some (o, [Rs.Ev.n (Notif.next (Val.int seq))], true) := by
  cases down <;> rfl

theorem tie_Timer_subscribe (g : Rx.Gen.SrcTimer.TimerObservable) (o : Rs.Obs) (h : Rs.Sub) :
    Rx.Gen.SrcTimer.TimerObservable.actual_subscribe g o h =
      some (g, [Rs.Ev.sched "timer_task" [g.item] (some g.dur) h.id]) := rfl

theorem tie_Timer_task (o : Rs.Obs) (v : Val) :
    Rx.Gen.SrcTimer.Observer.task_timer_task o v =
      some (o, [Rs.Ev.n (Notif.next v), Rs.Ev.n Notif.complete]) := rfl

theorem tie_SubscribeOn_subscribe (g : Rx.Gen.SubscribeOn.SubscribeOnOP) (o : Rs.Obs) (h : Rs.Sub) :
    Rx.Gen.SubscribeOn.SubscribeOnOP.actual_subscribe g o h =
      some (g, [Rs.Ev.sched "subscribe_task" [Val.obs g.source.id] none h.id]) := rfl

theorem tie_SubscribeOn_task (o : Rs.Obs) (src : Rs.Inner) :
    Rx.Gen.SubscribeOn.Observer.task_subscribe_task o src = some (o, [Rs.Ev.start src.id]) := rfl

theorem startWith_loop (g : Rx.Gen.StartWith.StartWithOp) (o : Rs.Obs)
    (f : Rx.Gen.StartWith.StartWithOp × Rs.Out → Val → Option (Rx.Gen.StartWith.StartWithOp × Rs.Out))
    (hf : ∀ p v, f p v = some (p.1, p.2 ++ [Rs.Ev.n (Notif.next v)])) :
    ∀ (vs : List Val) (out : Rs.Out),
      Rs.forEach vs (g, out) f = some (g, out ++ vs.map (fun v => Rs.Ev.n (Notif.next v))) := by
  intro vs
  induction vs with
  | nil => intro out; simp
  | cons v r ih => intro out; simp [hf, ih, List.append_assoc]

/-- `start_with(values)`: the values in order, then — and only then — the source is subscribed -/
theorem tie_StartWith_subscribe (g : Rx.Gen.StartWith.StartWithOp) (o : Rs.Obs) (p : Rs.Pub) :
    Rx.Gen.StartWith.StartWithOp.actual_subscribe g o p =
      some (g, g.values.map (fun v => Rs.Ev.n (Notif.next v)) ++ [Rs.Ev.start g.source.id]) := by
  unfold Rx.Gen.StartWith.StartWithOp.actual_subscribe
  simp only [Option.pure_def, Option.bind_eq_bind]
  rw [startWith_loop g o _ (by intro p v; rfl) g.values []]
  rfl

end Rx.GenTie
