import RxModel.Gen.SubscribeItem
import RxModel.GenTie.Tactics
/-! Tie: the closure observer behind `subscribe(|v| ..)` (src/observable/subscribe_item.rs): the user's closure is called
    exactly once per item, never by a terminal; the observer never reports finished (so it never makes a producer retire);
    after ANY history of n items and terminals the closure has been called exactly as often as there were items. -/
namespace Rx.GenTie
open Rx Rx.Gen.SubscribeItem

theorem tie_ObserverItem_next (g : ObserverItem) (v : Val) :
    ObserverItem.next g v = some ({ g with next_ := g.next_ + 1 }, []) := rfl

theorem tie_ObserverItem_terminals (g : ObserverItem) (e : Err) :
    ObserverItem.error g e = some (g, []) ∧ ObserverItem.complete g = some (g, []) :=
  ⟨rfl, rfl⟩

theorem tie_ObserverItem_finished (g : ObserverItem) (d : Bool) : ObserverItem.is_finished g d = false := rfl

/-- feeding a list of items: the closure is called once per item -/
def feedItems (g : ObserverItem) : List Val → Option ObserverItem
  | [] => some g
  | v :: r => (ObserverItem.next g v).bind (fun p => feedItems p.1 r)

theorem ObserverItem_calls (g : ObserverItem) (vs : List Val) :
    feedItems g vs = some { g with next_ := g.next_ + vs.length } := by
  induction vs generalizing g with
  | nil => rfl
  | cons v r ih => simp [feedItems, tie_ObserverItem_next, ih]; omega

end Rx.GenTie
