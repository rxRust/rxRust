import RxModel.Gen.DelayThreads
/-! Tie (topology): `DelayOpThreads::actual_subscribe` — a fresh MultiSubscription shared by the observer handed to the source
    and the returned `ZipSubscription(source subscription, that MultiSubscription)`; the slot built around the
    downstream observer. -/
namespace Rx.GenTie
open Rx.Gen.DelayThreads

theorem wiring_DelayThreads_lets : DelayOpThreads.lets =
  [("subscription", "< _ >::default()"),
   ("observer", "MutArc::own(Some(observer))"),
   ("observer", "DelayObserverThreads { delay, scheduler, observer, subscription : subscription , }"),
   ("unsub", "source.actual_subscribe(observer)")] := rfl

theorem wiring_DelayThreads_views : DelayOpThreads.views =
  [("DelayObserverThreads", "delay", "delay"),
   ("DelayObserverThreads", "scheduler", "scheduler"),
   ("DelayObserverThreads", "observer", "observer"),
   ("DelayObserverThreads", "subscription", "subscription")] := rfl

theorem wiring_DelayThreads_order : DelayOpThreads.order =
  [("source", "observer")] := rfl

end Rx.GenTie
