import RxModel.Gen.CompleteStatus
/-! Tie: `complete_status()` (src/ops/complete_status.rs, compiler-expanded, translated): the `StatusObserver`, the queries of
    `CompleteStatus` and `StatusFuture::poll` (what `wait_for_end` blocks on), in closed form.

      next        forwarded, the status is NOT touched (it reports the source's TERMINATION, not the downstream's mood)
      error       downstream first, THEN `flag := -1`, THEN the waker is woken
      complete    downstream first, THEN `flag := 1`, THEN the waker is woken
      queries     closed ⇔ flag ≠ 0, completed ⇔ flag > 0, error ⇔ flag < 0 (exclusive, and both imply closed)
      poll        closed ⇒ Ready without registering; otherwise the waker is registered and the flag is looked at AGAIN
                  (the check-then-register window: a terminal that slips in between is seen by the second look)

    The interleaving of a producer thread with the waiting thread is the business of the LTS of Props/C14 and of the
    harness' hooked yield point; here the sequential skeleton that LTS is a transcription of is pinned. -/
namespace Rx.GenTie
open Rx Rx.Gen.CompleteStatus

theorem tie_Status_next (g : StatusObserver) (v : Val) :
    StatusObserver.next g v = some (g, [Rs.Ev.n (Notif.next v)]) := rfl

theorem tie_Status_error (g : StatusObserver) (e : Err) :
    StatusObserver.error g e =
      some ({ g with status := { g.status with flag := -1 } }, [Rs.Ev.n (Notif.error e), Rs.Ev.wake]) := rfl

theorem tie_Status_complete (g : StatusObserver) :
    StatusObserver.complete g =
      some ({ g with status := { g.status with flag := 1 } }, [Rs.Ev.n Notif.complete, Rs.Ev.wake]) := rfl

theorem tie_Status_finished (g : StatusObserver) (d : Bool) : StatusObserver.is_finished g d = d := rfl

theorem tie_Status_queries (s : CompleteStatus) :
    CompleteStatus.is_closed s = (s.flag != 0) ∧
    CompleteStatus.is_completed s = decide (0 < s.flag) ∧
    CompleteStatus.error_occur s = decide (s.flag < 0) :=
  ⟨rfl, rfl, rfl⟩

/-- completed and error exclude each other, and each implies closed -/
theorem Status_exclusive (s : CompleteStatus) :
    ¬ (CompleteStatus.is_completed s = true ∧ CompleteStatus.error_occur s = true) ∧
    (CompleteStatus.is_completed s = true → CompleteStatus.is_closed s = true) ∧
    (CompleteStatus.error_occur s = true → CompleteStatus.is_closed s = true) := by
  have closed : s.flag ≠ 0 → CompleteStatus.is_closed s = true := fun h => by
    unfold CompleteStatus.is_closed; rw [decide_eq_false h]; rfl
  exact ⟨fun ⟨h1, h2⟩ => Int.lt_asymm (of_decide_eq_true h1) (of_decide_eq_true h2),
    fun h => closed (Int.ne_of_gt (of_decide_eq_true h)),
    fun h => closed (Int.ne_of_lt (of_decide_eq_true h))⟩

/-- a status that has only seen items is still open; after the terminal it reports exactly that terminal -/
theorem Status_after_terminal (g : StatusObserver) (hopen : g.status.flag = 0) (v : Val) (e : Err) :
    (∃ g' o, StatusObserver.next g v = some (g', o) ∧ CompleteStatus.is_closed g'.status = false) ∧
    (∃ g' o, StatusObserver.complete g = some (g', o) ∧ CompleteStatus.is_completed g'.status = true ∧
        CompleteStatus.error_occur g'.status = false) ∧
    (∃ g' o, StatusObserver.error g e = some (g', o) ∧ CompleteStatus.error_occur g'.status = true ∧
        CompleteStatus.is_completed g'.status = false) := by
  rcases g with ⟨o, ⟨f, w⟩⟩
  cases hopen
  exact ⟨⟨_, _, tie_Status_next _ v, rfl⟩, ⟨_, _, tie_Status_complete _, rfl, rfl⟩,
    ⟨_, _, tie_Status_error _ e, rfl, rfl⟩⟩

theorem tie_StatusFuture_poll (s : StatusFuture) (futs : Nat → Rs.Poll Unit) :
    StatusFuture.poll s futs =
      if CompleteStatus.is_closed s then some (s, [], Rs.Poll.ready ())
      else some (s, [Rs.Ev.register], Rs.Poll.pending) := by
  unfold StatusFuture.poll
  dsimp only
  cases CompleteStatus.is_closed s <;> rfl

end Rx.GenTie
