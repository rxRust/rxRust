import RxModel.Gen.Subject
import RxModel.Subject.Subject
/-! Tie: `Subject` (the compiler's own expansion of `impl_subject_trivial!` / `impl_observer_methods!` /
    `impl_observable_for_subject!` of src/subject.rs, translated by rs2lean) IS the list part of the subject
    model `Subj.State` (Subject/Subject.lean): `load` moves the chamber behind the observers (panics on an absent
    chamber), `next` loads and calls `p_next` on EVERY entry of the loaded list in order with the cells unchanged,
    `error/complete` load, take the list (the subject is finished from then on) and call every entry,
    `unsubscribe` takes both lists, `actual_subscribe` pushes to the chamber iff it is there, `retain` filters the
    observers only, `len / is_empty` count both lists.  What a call on an entry does (the slot) is the Subscriber
    tie; callbacks that re-enter the subject are the model's `bcast`, not part of the generated code. -/
namespace Rx.GenTie
open Rx Rx.Gen.Subject

def pubs (l : List Nat) : List Rs.Pub := l.map Rs.Pub.mk
/-- the two cells of a model state as the Rust struct -/
def genSubject (s : Subj.State) : Subject :=
  { observers := s.observers.map pubs, chamber := s.chamber.map pubs }

theorem pubs_append (a b : List Nat) : pubs (a ++ b) = pubs a ++ pubs b := List.map_append

/-- the loop of `next` / `error` / `complete`: every entry is handed `n` in order, the subject is not touched -/
theorem forEach_emit (g : Subject) (n : Notif) :
    ∀ (l : List Nat) (out : Rs.Out),
      Rs.forEach (pubs l) (g, out) (fun (p : Subject × Rs.Out) q => do
          let mut self_ := p.1
          let mut out := p.2
          out := out ++ Rs.emitTo q.id n
          return (self_, out))
        = some (g, out ++ l.map (fun i => Rs.Ev.to i n)) := by
  intro l
  induction l with
  | nil => intro out; exact congrArg (fun o => some (g, o)) (List.append_nil out).symm
  | cons x t ih =>
    intro out
    show Rs.forEach (pubs t) (g, out ++ [Rs.Ev.to x n]) _ = _
    rw [ih, List.append_assoc]; rfl

theorem tie_Subject_load (s : Subj.State) (h : s.panicked = false) :
    Subject.load (genSubject s) = if s.load.panicked then none else some (genSubject s.load, []) := by
  rcases s with ⟨_ | obs, _ | ch, sl, p⟩ <;> cases h
  · rfl
  · rfl
  · rfl
  · show some (Subject.mk (some (pubs obs ++ pubs ch)) (some []), []) = some (Subject.mk (some (pubs (obs ++ ch))) (some []), [])
    rw [pubs_append]

/-- `next`: after `load`, `p_next` on every entry of the observers list, in order; the cells stay as loaded. -/
theorem tie_Subject_next (s : Subj.State) (h : s.panicked = false) (v : Val) :
    Subject.next (genSubject s) v =
      if s.load.panicked then none
      else some (genSubject s.load, (s.load.observers.getD []).map (fun i => Rs.Ev.to i (Notif.next v))) := by
  rcases s with ⟨_ | obs, _ | ch, sl, p⟩ <;> cases h
  · rfl
  · rfl
  · rfl
  · show Option.bind (Rs.forEach (pubs obs ++ pubs ch) (Subject.mk (some (pubs obs ++ pubs ch)) (some []), []) _) _ = _
    rw [← pubs_append, forEach_emit]; rfl

/-- `error` / `complete`: load, take the list (finished from now on), every entry is handed the terminal. -/
theorem tie_Subject_error (s : Subj.State) (h : s.panicked = false) (e : Err) :
    Subject.error (genSubject s) e =
      if s.load.panicked then none
      else some (genSubject { s.load with observers := none },
                 (s.load.observers.getD []).map (fun i => Rs.Ev.to i (Notif.error e))) := by
  rcases s with ⟨_ | obs, _ | ch, sl, p⟩ <;> cases h
  · rfl
  · rfl
  · rfl
  · show Option.bind (Rs.forEach (pubs obs ++ pubs ch) (Subject.mk none (some []), []) _) _ = _
    rw [← pubs_append, forEach_emit]; rfl

theorem tie_Subject_complete (s : Subj.State) (h : s.panicked = false) :
    Subject.complete (genSubject s) =
      if s.load.panicked then none
      else some (genSubject { s.load with observers := none },
                 (s.load.observers.getD []).map (fun i => Rs.Ev.to i Notif.complete)) := by
  rcases s with ⟨_ | obs, _ | ch, sl, p⟩ <;> cases h
  · rfl
  · rfl
  · rfl
  · show Option.bind (Rs.forEach (pubs obs ++ pubs ch) (Subject.mk none (some []), []) _) _ = _
    rw [← pubs_append, forEach_emit]; rfl

/-- the model's terminal fan-out starts from exactly that state and that list -/
theorem model_terminal_unfold (s : Subj.State) (n : Notif) (h : s.load.panicked = false) :
    s.terminal n = match s.load.observers with
      | some obs => Subj.term n { s.load with observers := none } obs
      | none => (s.load, []) := by
  simp only [Subj.State.terminal, h, Bool.false_eq_true, if_false]
  cases s.load.observers <;> rfl

theorem tie_Subject_unsubscribe (s : Subj.State) :
    Subject.unsubscribe (genSubject s) = some (genSubject s.unsubscribe, []) := rfl

theorem tie_Subject_subscribe (s : Subj.State) (o : Rs.Obs) (script : List Subj.Act) (log0 : List Notif) :
    Subject.actual_subscribe (genSubject s) o ⟨s.slots.length⟩ = some (genSubject (s.subscribe script log0), []) := by
  rcases s with ⟨obs, _ | ch, sl, p⟩
  · rfl
  · show some (Subject.mk (obs.map pubs) (some (pubs ch ++ pubs [sl.length])), []) =
      some (Subject.mk (obs.map pubs) (some (pubs (ch ++ [sl.length]))), [])
    rw [pubs_append]

theorem tie_Subject_retain (s : Subj.State) :
    Subject.retain (genSubject s) (fun i => !Subj.aliveAt s.slots i) = some (genSubject s.retain, []) := by
  rcases s with ⟨_ | obs, ch, sl, p⟩
  · rfl
  · show some (Subject.mk (some ((pubs obs).filter fun q => !!Subj.aliveAt sl q.id)) (ch.map pubs), []) =
      some (Subject.mk (some (pubs (obs.filter (Subj.aliveAt sl)))) (ch.map pubs), [])
    simp only [pubs, List.filter_map, Function.comp_def, Bool.not_not]

theorem tie_Subject_len (s : Subj.State) : Subject.len (genSubject s) = s.len? := by
  rcases s with ⟨_ | obs, _ | ch, sl, p⟩
  · rfl
  · rfl
  · rfl
  · show some ((pubs obs).length + (pubs ch).length) = some (obs.length + ch.length)
    simp only [pubs, List.length_map]

theorem tie_Subject_is_empty (s : Subj.State) (h : s.len?.isSome) :
    Subject.is_empty (genSubject s) = some s.isEmpty := by
  rcases s with ⟨_ | obs, _ | ch, sl, p⟩
  · rfl
  · rfl
  · cases h
  · cases obs <;> cases ch <;> rfl

theorem tie_Subject_finished_closed (s : Subj.State) (d : Bool) (c : Nat → Bool) :
    Subject.is_finished (genSubject s) d = s.isFinished ∧ Subject.is_closed (genSubject s) c = s.isClosed := by
  rcases s with ⟨_ | obs, ch, sl, p⟩ <;> exact ⟨rfl, rfl⟩

theorem tie_Subject_init : Subject.init = genSubject Subj.State.init := rfl

end Rx.GenTie
