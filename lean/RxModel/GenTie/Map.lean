import RxModel.Gen.Map
import RxModel.GenTie.Tactics
/-! Tie: `MapObserver` generated from `/repo/src` IS the `St1` machine of the hand-written model. -/
namespace Rx.GenTie
open Rx Rx.Gen.Map

def absMap (g : MapObserver) : St1 := .map g.map

theorem tie_Map_next (g : MapObserver) (v : Val) :
    (MapObserver.next g v).map (fun r => (absMap r.1, r.2)) = some (Rs.lift (St1.onNext (absMap g) v)) := rfl

theorem tie_Map_error (g : MapObserver) (e : Err) :
    (MapObserver.error g e).map (fun r => r.2) = some ((St1.onError' (absMap g) e).2.map Rs.Ev.n) := rfl

theorem tie_Map_complete (g : MapObserver) :
    (MapObserver.complete g).map (fun r => r.2) = some ((St1.onComplete' (absMap g)).2.map Rs.Ev.n) := rfl


theorem tie_Map_init (f : Val → Val) :
    absMap (MapObserver.init f) = Spec.Op1.init (.map f) := rfl

end Rx.GenTie
