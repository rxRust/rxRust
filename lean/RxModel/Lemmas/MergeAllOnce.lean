import RxModel.Lemmas.MergeAllGrammar
/-
  Every item of an inner observable exactly once and in order.

  The starts of a log determine what a piece of work does on behalf of an
  instance (tag `t`): the scripts of the cold instances started are delivered
  (`scripts`), the hot ones are handed to their subjects (`hotSubs`), and an
  item of a subject reaches the instances it holds (`heard`).  From these
  equations, the FIFO law and the order of arrival tags:
    * a cold instance delivers its script from the moment it leaves the queue,
      nothing before (`runG_once`);
    * a hot instance delivers what its subject emits while it is `live`
      (`runG_hot`, specification `hotSpec` computed from the trace alone).
-/
namespace Rx.MergeAll

/-- The items of the output that carry tag `t`. -/
def restrict (t : Nat) : List Out → List Val
  | [] => []
  | .item t' v :: r => if t' = t then v :: restrict t r else restrict t r
  | _ :: r => restrict t r

/-- Number of queue entries with tag `t`. -/
def nTag (q : List Inst) (t : Nat) : Nat := (q.filter (fun i => i.tag == t)).length

theorem restrict_append (t : Nat) (a b : List Out) :
    restrict t (a ++ b) = restrict t a ++ restrict t b := by
  induction a with
  | nil => rfl
  | cons o r ih =>
    cases o with
    | item t' v => by_cases h : t' = t <;> simp [restrict, h, ih]
    | error e => simpa [restrict] using ih
    | complete => simpa [restrict] using ih

theorem restrict_items (t t' : Nat) (xs : List Val) :
    restrict t (xs.map (Out.item t')) = if t' = t then xs else [] := by
  induction xs with
  | nil => simp [restrict]
  | cons x r ih => by_cases h : t' = t <;> simp_all [restrict]

theorem nTag_nil (t : Nat) : nTag [] t = 0 := rfl

theorem nTag_cons (i : Inst) (q : List Inst) (t : Nat) :
    nTag (i :: q) t = (if i.tag = t then 1 else 0) + nTag q t := by
  by_cases h : i.tag = t <;> simp [nTag, h, Nat.add_comm]

theorem nTag_append (a b : List Inst) (t : Nat) : nTag (a ++ b) t = nTag a t + nTag b t := by
  unfold nTag; rw [List.filter_append, List.length_append]

theorem nTag_eq_zero (q : List Inst) (t : Nat) (h : ∀ i ∈ q, i.tag ≠ t) : nTag q t = 0 := by
  unfold nTag
  rw [List.length_eq_zero_iff, List.filter_eq_nil_iff]
  intro i hi; simpa using h i hi

theorem nTag_pos_of_mem {q : List Inst} {i : Inst} (h : i ∈ q) : 1 ≤ nTag q i.tag := by
  unfold nTag
  exact List.length_pos_of_mem (List.mem_filter.mpr ⟨h, by simp⟩)

/-- Strictly increasing tags: every tag at most once. -/
theorem nTag_le_one {q : List Inst} (h : q.Pairwise (fun a b => a.tag < b.tag)) (t : Nat) :
    nTag q t ≤ 1 := by
  induction q with
  | nil => simp [nTag]
  | cons a r ih =>
    rw [List.pairwise_cons] at h
    rw [nTag_cons]
    split
    · rename_i ha
      have := nTag_eq_zero r t (fun i hi => by have := h.1 i hi; omega)
      omega
    · have := ih h.2; omega

/-- The `InnerObserver`s that the instances started hand to hot subjects. -/
def hotSubs (inner : Nat → Inner) : List Inst → List (Nat × Nat)
  | [] => []
  | i :: r =>
      match inner i.k with
      | .hot j => (j, i.tag) :: hotSubs inner r
      | .cold _ _ => hotSubs inner r

/-- What the instances started deliver under tag `t` inside `actual_subscribe`. -/
def scripts (inner : Nat → Inner) (t : Nat) : List Inst → List Val
  | [] => []
  | i :: r => (if i.tag = t then (inner i.k).script else []) ++ scripts inner t r

theorem hotSubs_append (inner : Nat → Inner) (a b : List Inst) :
    hotSubs inner (a ++ b) = hotSubs inner a ++ hotSubs inner b := by
  induction a with
  | nil => rfl
  | cons i r ih => simp only [List.cons_append, hotSubs, ih]; split <;> rfl

theorem scripts_append (inner : Nat → Inner) (t : Nat) (a b : List Inst) :
    scripts inner t (a ++ b) = scripts inner t a ++ scripts inner t b := by
  induction a with
  | nil => rfl
  | cons i r ih => simp only [List.cons_append, scripts, ih, List.append_assoc]

/-- State and output of a piece of work in terms of the starts of its log. -/
def StartsEffect (s : St) (r : St × List Out) (l : List Lab) : Prop :=
  r.1.subs = s.subs ++ hotSubs s.inner (startsOf l) ∧
  (r.1.stuck = false → ∀ t, restrict t r.2 = scripts s.inner t (startsOf l))

theorem startTop_effect (f : Bool) (s : St) (i : Inst)
    (hd : ∀ s', StartsEffect s' (drain f s' s.queue) (drainL f s' s.queue)) :
    StartsEffect s (startTop f s i) (startTopL f s i) :=
  startTop_cases f s i (P := fun r l => StartsEffect s r l)
    (hot := fun j hin => ⟨by simp [startsOf, hotSubs, hin],
      fun _ t => by simp [startsOf, scripts, hin, Inner.script, restrict]⟩)
    (open_ := fun xs hin => ⟨by simp [startsOf, hotSubs, hin],
      fun _ t => by simp [startsOf, scripts, hin, Inner.script, restrict_items]⟩)
    (error := fun xs e hin => ⟨by simp [startsOf, hotSubs, hin],
      fun _ t => by
        simp [startsOf, scripts, hin, Inner.script, restrict_append, restrict_items, restrict]⟩)
    (complete := fun xs hin => by
      have this : StartsEffect s _ _ := hd { s with started := s.started + 1 }
      exact ⟨by simpa [startsOf, hotSubs, hin] using this.1, fun hs t => by
        simp [startsOf, scripts, hin, Inner.script, restrict_append, restrict_items, this.2 hs t]⟩)

theorem blocked_cold {f : Bool} {s : St} {i : Inst} (h : blocked f s i = true) :
    ∃ xs fin, s.inner i.k = .cold xs fin := by
  unfold blocked at h
  cases hin : s.inner i.k with
  | hot j => simp [hin, Inner.touches] at h
  | cold xs fin => exact ⟨xs, fin, rfl⟩

theorem drain_effect (f : Bool) : ∀ q s, StartsEffect s (drain f s q) (drainL f s q) :=
  drain_induct f (P := fun s _ r l => StartsEffect s r l)
    (last := fun _ _ _ => ⟨by simp [startsOf, hotSubs], fun _ _ => rfl⟩)
    (more := fun _ _ => ⟨by simp [startsOf, hotSubs], fun _ _ => rfl⟩)
    (stuck := fun s i _ hb => by
      obtain ⟨xs, fin, hin⟩ := blocked_cold hb
      exact ⟨by simp [startsOf, hotSubs, hin], fun h => by cases h⟩)
    (start := fun s i rest _ ih =>
      startTop_effect f { s with completed := s.completed + 1, queue := rest } i ih)

theorem completeAll_effect (f : Bool) : ∀ ts s,
    (completeAll f s ts).1.inners = s.inners ∧ StartsEffect s (completeAll f s ts) (completeAllL f s ts) :=
  completeAll_chain f (R := fun s r l => r.1.inners = s.inners ∧ StartsEffect s r l)
    (fun _ => ⟨rfl, by simp [startsOf, hotSubs], fun _ _ => rfl⟩)
    (fun {s r1 l1 r2 l2} a hs1 b => ⟨b.1.trans a.1,
      by rw [b.2.1, inner_of_inners a.1, a.2.1, startsOf_append, hotSubs_append, List.append_assoc],
      fun hs2 t => by
        rw [restrict_append, a.2.2 hs1 t, b.2.2 hs2 t, inner_of_inners a.1, startsOf_append,
          scripts_append]⟩)
    (fun s => innerComplete_cases f s (P := fun r l => r.1.inners = s.inners ∧ StartsEffect s r l)
      (alive := fun _ => ⟨(drain_same f _ s).inners, drain_effect f _ s⟩)
      (dead := fun _ => ⟨rfl, by simp [startsOf, hotSubs], fun _ _ => rfl⟩))

/-- The observers the subjects still hold after the event, before any new subscription. -/
def kept (s : St) : Ev → List (Nat × Nat)
  | .unsub => []
  | .innerError j _ | .innerComplete j =>
      if s.dead.contains j then s.subs else s.subs.filter (fun p => !(p.1 == j))
  | _ => s.subs

/-- What the operator delivers under tag `t` when a subject emits: the item, once per
    `InnerObserver` of `t` the subject holds, if subject and merged stream are still going. -/
def heard (t : Nat) (s : St) : Ev → List Val
  | .innerNext j v =>
      if s.alive = true ∧ s.dead.contains j = false then List.replicate (s.subs.count (j, t)) v
      else []
  | _ => []

theorem restrict_targets (t j : Nat) (v : Val) (subs : List (Nat × Nat)) :
    restrict t ((subs.filter (fun p => p.1 == j)).map (fun p => Out.item p.2 v)) =
      List.replicate (subs.count (j, t)) v := by
  induction subs with
  | nil => rfl
  | cons p r ih =>
    obtain ⟨a, b⟩ := p
    by_cases h1 : a = j <;> by_cases h2 : b = t <;>
      simp [restrict, h1, h2, ih, List.replicate_succ]

theorem restrict_endOut {a0 a : Bool} {x : Out} {w : Prop} {o : List Out} (h : EndOut a0 x w a o)
    (hx : (Lab.out x).isTerm = true) (t : Nat) : restrict t o = [] := by
  cases h with
  | none _ => rfl
  | term _ _ => cases x with
    | item _ _ => cases hx
    | _ => rfl

/-- An ignored event takes no observer away and delivers nothing. -/
theorem ignored_kept_heard {s : St} {ev : Ev} (hs : s.stuck = false) (hI : Ignored s ev) (t : Nat) :
    kept s ev = s.subs ∧ heard t s ev = [] := by
  have hns : ¬ s.stuck = true := by rw [hs]; exact Bool.false_ne_true
  cases ev with
  | unsub => exact absurd hI hns
  | innerError j e => exact ⟨if_pos (hI.resolve_left hns), rfl⟩
  | innerComplete j => exact ⟨if_pos (hI.resolve_left hns), rfl⟩
  | innerNext j v =>
    exact ⟨rfl, if_neg fun h => by rw [hI.resolve_left hns] at h; cases h.2⟩
  | _ => exact ⟨rfl, rfl⟩

theorem stepG_effect (f : Bool) (s : St) (ev : Ev) (hs : s.stuck = false) :
    (stepG f s ev).1.subs = kept s ev ++ hotSubs s.inner (startsOf (stepL f s ev)) ∧
    ((stepG f s ev).1.stuck = false → ∀ t, restrict t (stepG f s ev).2 =
      scripts s.inner t (startsOf (stepL f s ev)) ++ heard t s ev) := by
  refine stepG_cases f s ev (P := fun r l => r.1.subs = kept s ev ++ hotSubs s.inner (startsOf l) ∧
      (r.1.stuck = false → ∀ t, restrict t r.2 = scripts s.inner t (startsOf l) ++ heard t s ev))
    (idle := fun hI => ?_) (lost := fun _ he _ _ _ => ?_) (room := fun k he _ _ _ _ => ?_) (full := fun _ he _ _ _ _ => ?_)
    (outer := fun _ _ _ _ _ hx _ _ ho => ?_) (inext := fun j v he _ hd => ?_) (ierr := fun j _ _ _ he _ hd ho => ?_)
    (icomp := fun j he _ hd => ?_) (unsub := fun he _ => ?_)
  · exact ⟨by rw [(ignored_kept_heard hs hI 0).1]; exact (List.append_nil _).symm,
      fun _ t => by rw [(ignored_kept_heard hs hI t).2]; rfl⟩
  · subst he; exact ⟨(List.append_nil _).symm, fun _ _ => rfl⟩
  · subst he
    have : StartsEffect s _ _ := startTop_effect f
      { s with arrivals := s.arrivals + 1, subscribed := s.subscribed + 1 } ⟨s.arrivals, k⟩
      (drain_effect f _)
    exact ⟨by simpa [kept, startsOf] using this.1,
      fun h t => by simpa [heard, startsOf] using this.2 h t⟩
  · subst he; exact ⟨(List.append_nil _).symm, fun _ _ => rfl⟩
  · have hr := restrict_endOut ho (by rcases hx with ⟨_, rfl, _⟩ | ⟨_, _, rfl, _⟩ <;> rfl)
    rcases hx with ⟨rfl, _⟩ | ⟨_, rfl, _⟩ <;> simp [kept, heard, hotSubs, scripts, hr]
  · subst he
    refine ⟨by simp [kept, hotSubs], fun _ t => ?_⟩
    simp only [startsOf_map_out, scripts, List.nil_append, heard, hd, and_true]
    split
    · exact restrict_targets t j v s.subs
    · rfl
  · subst he
    have hd' : j ∉ s.dead := by simpa using hd
    simp [kept, heard, hd', St.take, hotSubs, scripts, restrict_endOut ho rfl]
  · subst he
    have hd' : j ∉ s.dead := by simpa using hd
    have : StartsEffect (s.take j) _ _ := (completeAll_effect f (targets s j) (s.take j)).2
    unfold StartsEffect at this
    rw [show (s.take j).inner = s.inner from rfl] at this
    exact ⟨by simpa [kept, hd', St.take] using this.1, fun h t => by
      simpa [heard] using this.2 h t⟩
  · subst he; exact ⟨rfl, fun _ _ => rfl⟩

theorem kept_sublist (s : St) (ev : Ev) : (kept s ev).Sublist s.subs := by
  cases ev <;> simp only [kept]
  case unsub => exact List.nil_sublist _
  case innerError j e => split; exact .refl _; exact List.filter_sublist
  case innerComplete j => split; exact .refl _; exact List.filter_sublist
  all_goals exact .refl _

theorem mem_hotSubs {inner : Nat → Inner} {l : List Inst} {p : Nat × Nat} (h : p ∈ hotSubs inner l) :
    ∃ i ∈ l, inner i.k = .hot p.1 ∧ i.tag = p.2 := by
  induction l with
  | nil => cases h
  | cons i r ih =>
    simp only [hotSubs] at h
    split at h
    · rename_i j hin
      rcases List.mem_cons.mp h with rfl | h
      · exact ⟨i, List.mem_cons_self .., hin, rfl⟩
      · obtain ⟨a, ha, hh⟩ := ih h; exact ⟨a, List.mem_cons_of_mem _ ha, hh⟩
    · obtain ⟨a, ha, hh⟩ := ih h; exact ⟨a, List.mem_cons_of_mem _ ha, hh⟩

/-- The arrival event `outerNext k` after `pre` (outer slot open, data alive,
    not stuck) is the only accepted arrival with that tag in the whole history. -/
theorem arrival_tag_unique (f : Bool) (s0 : St) (pre post : List Ev) (k : Nat)
    (hs : (runG f s0 pre).1.stuck = false) (ho : (runG f s0 pre).1.outerOpen = true)
    (ha : (runG f s0 pre).1.alive = true) :
    (∀ i ∈ arrivalsOf (runL f s0 (pre ++ .outerNext k :: post)),
      i.tag = (runG f s0 pre).1.arrivals → i = ⟨(runG f s0 pre).1.arrivals, k⟩) ∧
    (⟨(runG f s0 pre).1.arrivals, k⟩ : Inst) ∈ arrivalsOf (runL f s0 (pre ++ .outerNext k :: post)) := by
  have hstep : arrivalsOf (stepL f (runG f s0 pre).1 (.outerNext k)) =
      [⟨(runG f s0 pre).1.arrivals, k⟩] := by
    rw [arrivalsOf_stepL]; simp [hs, ho, ha]
  constructor
  · intro i hi ht
    rw [runL_append] at hi
    simp only [runL, arrivalsOf_append, List.mem_append] at hi
    rcases hi with hi | hi | hi
    · have := ((runL_arrivals_sorted f pre s0).2 i hi).2; omega
    · rw [hstep] at hi
      simpa using hi
    · have := ((runL_arrivals_sorted f post _).2 i hi).1
      rw [stepG_arrivals_succ f _ k hs ho] at this; omega
  · rw [runL_append]
    simp only [runL, arrivalsOf_append, List.mem_append]
    exact Or.inr (Or.inl (by rw [hstep]; simp))

/-- While no subject holds an observer of tag `t` and every instance started under `t` is cold,
    the output under `t` is what the starts deliver. -/
theorem runG_restrict_cold (f : Bool) (t : Nat) (evs : List Ev) : ∀ s : St,
    (runG f s evs).1.stuck = false → (∀ p ∈ s.subs, p.2 ≠ t) →
    (∀ i ∈ startsOf (runL f s evs), i.tag = t → ∀ j, s.inner i.k ≠ .hot j) →
    restrict t (runG f s evs).2 = scripts s.inner t (startsOf (runL f s evs)) := by
  induction evs with
  | nil => intro s _ _ _; rfl
  | cons ev r ih =>
    intro s hs hsub hcold
    have hs' := not_stuck_head f s ev r hs
    have E := stepG_effect f s ev hs'.1
    have hi := inner_of_inners (stepG_frame f s ev).inners
    simp only [runL, startsOf_append, List.mem_append] at hcold
    have hheard : heard t s ev = [] := by
      cases ev <;> simp only [heard]
      rename_i j v
      split
      · rw [List.count_eq_zero.mpr (fun hm => hsub _ hm rfl)]; rfl
      · rfl
    simp only [runG, runL, startsOf_append, restrict_append, scripts_append]
    rw [E.2 hs'.2 t, hheard, List.append_nil, ih (stepG f s ev).1 hs ?_ ?_, hi]
    · intro p hp
      rw [E.1, List.mem_append] at hp
      rcases hp with hp | hp
      · exact hsub p ((kept_sublist s ev).subset hp)
      · obtain ⟨i, hi', hin, htag⟩ := mem_hotSubs hp
        intro hpt
        exact hcold i (Or.inl hi') (htag.trans hpt) _ hin
    · intro i hi' ht j
      rw [hi]; exact hcold i (Or.inr hi') ht j

/-- Starts that all belong to one cold script, each tag at most once. -/
theorem scripts_eq {inner : Nat → Inner} {t : Nat} {xs : List Val} : ∀ {l : List Inst},
    (∀ i ∈ l, i.tag = t → (inner i.k).script = xs) → nTag l t ≤ 1 →
    scripts inner t l = if nTag l t = 0 then [] else xs := by
  intro l
  induction l with
  | nil => intro _ _; rfl
  | cons i r ih =>
    intro hk h1
    rw [nTag_cons] at h1
    have ih' := ih (fun a ha => hk a (List.mem_cons_of_mem _ ha))
    by_cases hi : i.tag = t
    · rw [if_pos hi] at h1
      have h0 : nTag r t = 0 := by omega
      simp [scripts, nTag_cons, hi, ih' (by omega), h0, hk i (List.mem_cons_self ..) hi]
    · rw [if_neg hi] at h1
      simp [scripts, nTag_cons, hi, ih' (by omega)]

/-- The instance delivered by `outerNext k` after `pre`, a cold inner with script `xs`: the output
    under its tag is `xs` once it has left the queue, `[]` while it waits. -/
theorem runG_once (f : Bool) (inners : List Inner) (n : Nat) (pre post : List Ev) (k : Nat)
    (xs : List Val) (fin : Fin) (hk : (init inners n).inner k = .cold xs fin)
    (ho : (runG f (init inners n) pre).1.outerOpen = true)
    (ha : (runG f (init inners n) pre).1.alive = true)
    (hs : (runG f (init inners n) (pre ++ .outerNext k :: post)).1.stuck = false) :
    restrict (runG f (init inners n) pre).1.arrivals
        (runG f (init inners n) (pre ++ .outerNext k :: post)).2 =
      if nTag (runG f (init inners n) (pre ++ .outerNext k :: post)).1.queue
            (runG f (init inners n) pre).1.arrivals = 0 then xs else [] := by
  have hu := arrival_tag_unique f (init inners n) pre post k (not_stuck_prefix f pre _ _ hs) ho ha
  have hfifo := (runG_fifo f (pre ++ .outerNext k :: post) _ (init_ginv inners n)).2
  have hsorted := (runL_arrivals_sorted f (pre ++ .outerNext k :: post) (init inners n)).1
  generalize (runG f (init inners n) pre).1.arrivals = t at hu ⊢
  rw [show (init inners n).queue = [] from rfl, List.nil_append] at hfifo
  -- every start under `t` is the instance itself
  have hkey : ∀ i ∈ startsOf (runL f (init inners n) (pre ++ .outerNext k :: post)), i.tag = t →
      i = ⟨t, k⟩ := fun i hi ht =>
    hu.1 i (by rw [← hfifo]; exact List.mem_append_left _ hi) ht
  have hcount : nTag (startsOf (runL f (init inners n) (pre ++ .outerNext k :: post))) t +
      nTag (runG f (init inners n) (pre ++ .outerNext k :: post)).1.queue t = 1 := by
    rw [← nTag_append, hfifo]
    exact Nat.le_antisymm (nTag_le_one hsorted t) (nTag_pos_of_mem hu.2)
  rw [runG_restrict_cold f t _ _ hs (by simp [init])
      (fun i hi ht j => by rw [hkey i hi ht, hk]; simp),
    scripts_eq (xs := xs) (fun i hi ht => by rw [hkey i hi ht, hk]; rfl)
      (hcount ▸ Nat.le_add_right _ _)]
  -- started and queued are complementary
  generalize nTag (startsOf (runL f (init inners n) (pre ++ .outerNext k :: post))) t = a at hcount
  generalize nTag (runG f (init inners n) (pre ++ .outerNext k :: post)).1.queue t = b at hcount
  have : a = 0 ∧ b = 1 ∨ a = 1 ∧ b = 0 := by omega
  rcases this with ⟨rfl, rfl⟩ | ⟨rfl, rfl⟩ <;> rfl

/-! ### Hot instances

  SPECIFICATION (`hotSpec`), a function of the observable trace only (the
  external events and, for each, the log of what it caused): the life of
  instance `t` of hot subject `j` is

      idle  — not started yet (not arrived, or waiting in the queue);
              remembers whether subject `j` has terminated meanwhile;
      live  — started (`start t` in the log: at arrival if a slot was free,
              otherwise when it left the queue), subject `j` not terminated,
              merged stream not terminated, not unsubscribed;
      over  — after the terminal of subject `j`, a terminal of the merged
              stream, or `unsubscribe()`.

  and the instance contributes exactly the items subject `j` emits while it is
  `live`, each once, in emission order. -/

/-- The event is the terminal of hot subject `j`. -/
def subjTerm (j : Nat) : Ev → Bool
  | .innerComplete j' => j' == j
  | .innerError j' _ => j' == j
  | _ => false

/-- What is known about instance `t` of subject `j` before a queue-driven piece of work. -/
structure QPre (j t : Nat) (s : St) (q : List Inst) : Prop where
  own : ∀ p ∈ s.subs, p.2 = t → p.1 = j
  key : ∀ i ∈ q, i.tag = t → s.inner i.k = .hot j
  qlt : ∀ i ∈ q, i.tag < s.arrivals
  slt : ∀ p ∈ s.subs, p.2 < s.arrivals

theorem QPre.filter {j t : Nat} {s : St} (h : QPre j t s s.queue) (j' : Nat) :
    QPre j t { s with dead := j' :: s.dead, subs := s.subs.filter (fun p => !(p.1 == j')) } s.queue :=
  ⟨fun p hp => h.own p (List.mem_filter.mp hp).1, h.key, h.qlt,
    fun p hp => h.slt p (List.mem_filter.mp hp).1⟩

theorem count_hotSubs {inner : Nat → Inner} {j t : Nat} : ∀ {l : List Inst},
    (∀ i ∈ l, i.tag = t → inner i.k = .hot j) → (hotSubs inner l).count (j, t) = nTag l t := by
  intro l
  induction l with
  | nil => intro _; rfl
  | cons i r ih =>
    intro h
    have ih' := ih (fun a ha => h a (List.mem_cons_of_mem _ ha))
    rw [nTag_cons]
    by_cases hi : i.tag = t
    · simp [hotSubs, h i (List.mem_cons_self ..) hi, hi, ih', Nat.add_comm]
    · simp only [hotSubs]
      split
      · rw [List.count_cons, ih']; simp [hi]
      · simp [ih', hi]

theorem scripts_hot {inner : Nat → Inner} {j t : Nat} : ∀ {l : List Inst},
    (∀ i ∈ l, i.tag = t → inner i.k = .hot j) → scripts inner t l = [] := by
  intro l
  induction l with
  | nil => intro _; rfl
  | cons i r ih =>
    intro h
    simp only [scripts, ih (fun a ha => h a (List.mem_cons_of_mem _ ha)), List.append_nil]
    split
    · rename_i hi; rw [h i (List.mem_cons_self ..) hi]; rfl
    · rfl

theorem kept_count_eq {s : St} {ev : Ev} {j : Nat} (t : Nat) (h1 : subjTerm j ev = false)
    (h2 : ev ≠ .unsub) : (kept s ev).count (j, t) = s.subs.count (j, t) := by
  cases ev <;> simp only [kept]
  case unsub => exact absurd rfl h2
  case innerError j' e =>
    split
    · rfl
    · have : j' ≠ j := by simpa [subjTerm] using h1
      exact List.count_filter (by simpa using Ne.symm this)
  case innerComplete j' =>
    split
    · rfl
    · have : j' ≠ j := by simpa [subjTerm] using h1
      exact List.count_filter (by simpa using Ne.symm this)

theorem stepG_dead (f : Bool) (s : St) (ev : Ev) (j : Nat) (hs : s.stuck = false) :
    (stepG f s ev).1.dead.contains j = (s.dead.contains j || subjTerm j ev) := by
  refine stepG_cases f s ev (P := fun r _ => r.1.dead.contains j = (s.dead.contains j || subjTerm j ev))
    (idle := fun hI => ?_) (lost := fun _ he _ _ _ => by subst he; simp [subjTerm])
    (room := fun _ he _ _ _ _ => ?_) (full := fun _ he _ _ _ _ => by subst he; simp [subjTerm])
    (outer := fun _ _ _ _ _ hx _ _ _ => by rcases hx with ⟨rfl, _⟩ | ⟨_, rfl, _⟩ <;> simp [subjTerm])
    (inext := fun _ _ he _ _ => by subst he; simp [subjTerm])
    (ierr := fun j' _ _ _ he _ _ _ => by
      subst he
      by_cases h : j' = j
      · simp [St.take, subjTerm, h]
      · simp [St.take, subjTerm, h, Ne.symm h])
    (icomp := fun j' he _ _ => ?_) (unsub := fun he _ => by subst he; simp [subjTerm])
  · cases hst : subjTerm j ev with
    | false => rw [Bool.or_false]
    | true =>
      -- the terminal of subject `j` is ignored only if `j` has handed over before
      have hns : ¬ s.stuck = true := by rw [hs]; exact Bool.false_ne_true
      have : s.dead.contains j = true := by
        cases ev with
        | innerError j' e => rw [← beq_iff_eq.mp hst]; exact hI.resolve_left hns
        | innerComplete j' => rw [← beq_iff_eq.mp hst]; exact hI.resolve_left hns
        | _ => cases hst
      rw [this]; rfl
  · subst he
    rw [(startTop_same f _ _ (fun s' => drain_same f _ s')).dead]; simp [subjTerm]
  · subst he
    rw [(completeAll_same f _ _).dead]
    by_cases h : j' = j
    · simp [St.take, subjTerm, h]
    · simp [St.take, subjTerm, h, Ne.symm h]

/-- The exact effect of one event on instance `t` of subject `j`: `r` = new
    state and output, `l` = log of the event (`nTag (startsOf l) t` = starts of
    `t`, `nTag (arrivalsOf l) t` = arrivals of `t` in this event). -/
structure InstEffect (j t : Nat) (s : St) (ev : Ev) (r : St × List Out) (l : List Lab) : Prop where
  pre : QPre j t r.1 r.1.queue
  cntLe : r.1.subs.count (j, t) ≤ s.subs.count (j, t) + nTag (startsOf l) t
  cntGe : nTag (startsOf l) t ≤ r.1.subs.count (j, t)
  cntEq : subjTerm j ev = false → ev ≠ .unsub →
    r.1.subs.count (j, t) = s.subs.count (j, t) + nTag (startsOf l) t
  que : nTag r.1.queue t + nTag (startsOf l) t = nTag s.queue t + nTag (arrivalsOf l) t
  res : restrict t r.2 = heard t s ev
  dead : r.1.dead.contains j = (s.dead.contains j || subjTerm j ev)
  arr : s.arrivals ≤ r.1.arrivals
  uns : ev = .unsub → r.1.outerOpen = false ∧ r.1.subs = []

/-- The effect of any event that does not get stuck.  Everything started or still queued was
    queued or has just arrived (FIFO), hence is an instance of subject `j` if it carries `t`. -/
theorem stepG_eff (f : Bool) (j t : Nat) (s : St) (ev : Ev) (hs : s.stuck = false)
    (hs' : (stepG f s ev).1.stuck = false) (g : GInv s) (h : QPre j t s s.queue)
    (hkey : ∀ i ∈ arrivalsOf (stepL f s ev), i.tag = t → s.inner i.k = .hot j) :
    InstEffect j t s ev (stepG f s ev) (stepL f s ev) := by
  have E := stepG_effect f s ev hs
  have F := (stepG_fifo f s ev g).2
  have hfr := stepG_frame f s ev
  have hsrc : ∀ i, i ∈ startsOf (stepL f s ev) ∨ i ∈ (stepG f s ev).1.queue →
      i ∈ s.queue ∨ i ∈ arrivalsOf (stepL f s ev) := fun i hi =>
    List.mem_append.mp (F ▸ List.mem_append.mpr hi)
  have K : ∀ i, i ∈ startsOf (stepL f s ev) ∨ i ∈ (stepG f s ev).1.queue → i.tag = t →
      s.inner i.k = .hot j := fun i hi ht =>
    (hsrc i hi).elim (fun h' => h.key i h' ht) (fun h' => hkey i h' ht)
  have hlt : ∀ i, i ∈ startsOf (stepL f s ev) ∨ i ∈ (stepG f s ev).1.queue →
      i.tag < (stepG f s ev).1.arrivals := fun i hi => by
    rcases hsrc i hi with h' | h'
    · exact Nat.lt_of_lt_of_le (h.qlt i h') hfr.arr
    · have := (runL_arrivals_sorted f [ev] s).2 i (by simpa [runL] using h')
      simpa [runG] using this.2
  have hcnt : (stepG f s ev).1.subs.count (j, t) =
      (kept s ev).count (j, t) + nTag (startsOf (stepL f s ev)) t := by
    rw [E.1, List.count_append, count_hotSubs (fun i hi => K i (Or.inl hi))]
  have hkl := (kept_sublist s ev).count_le (j, t)
  refine ⟨⟨?_, ?_, fun i hi => hlt i (Or.inr hi), ?_⟩, by omega, by omega,
    fun h1 h2 => by rw [hcnt, kept_count_eq t h1 h2], ?_, ?_, stepG_dead f s ev j hs, hfr.arr, ?_⟩
  · intro p hp hpt
    rw [E.1, List.mem_append] at hp
    rcases hp with hp | hp
    · exact h.own p ((kept_sublist s ev).subset hp) hpt
    · obtain ⟨i, hi, hin, htag⟩ := mem_hotSubs hp
      have := K i (Or.inl hi) (htag.trans hpt)
      rw [hin] at this; injection this
  · intro i hi ht
    rw [inner_of_inners hfr.inners]; exact K i (Or.inr hi) ht
  · intro p hp
    rw [E.1, List.mem_append] at hp
    rcases hp with hp | hp
    · exact Nat.lt_of_lt_of_le (h.slt p ((kept_sublist s ev).subset hp)) hfr.arr
    · obtain ⟨i, hi, _, htag⟩ := mem_hotSubs hp
      rw [← htag]; exact hlt i (Or.inl hi)
  · have := congrArg (nTag · t) F
    simp only [nTag_append] at this
    omega
  · rw [E.2 hs' t, scripts_hot (fun i hi => K i (Or.inl hi)), List.nil_append]
  · intro he
    subst he
    rw [stepG_of_not_stuck hs]; exact ⟨rfl, rfl⟩

/-- Where instance `t` of hot subject `j` is in its life (`idle d`: not started, `d` = its
    subject has terminated meanwhile). -/
inductive Phase where
  | idle (subjDone : Bool)
  | live
  | over
  deriving DecidableEq, Repr, Inhabited

/-- Was instance `t` started in this log? -/
def hasStart (t : Nat) (l : List Lab) : Bool := (startsOf l).any (fun i => i.tag == t)

/-- The phase after an event `ev` whose log is `l`. -/
def Phase.next (j t : Nat) (ph : Phase) (ev : Ev) (l : List Lab) : Phase :=
  match ph with
  | .over => .over
  | .live => if subjTerm j ev || ev == .unsub || hasTerm l then .over else .live
  | .idle d =>
      if ev == .unsub || hasTerm l then .over
      else if hasStart t l then (if d || subjTerm j ev then .over else .live)
      else .idle (d || subjTerm j ev)

/-- What the instance contributes at an event: the item of its subject, if live. -/
def Phase.hears (j : Nat) (ph : Phase) (ev : Ev) : List Val :=
  match ph, ev with
  | .live, .innerNext j' v => if j' = j then [v] else []
  | _, _ => []

/-- Expected contribution of instance `t` of hot subject `j` along a trace. -/
def hotSpec (j t : Nat) : Phase → List (Ev × List Lab) → List Val
  | _, [] => []
  | ph, (ev, l) :: r => ph.hears j ev ++ hotSpec j t (ph.next j t ev l) r

/-- The phase at the end of a trace. -/
def phaseAfter (j t : Nat) : Phase → List (Ev × List Lab) → Phase
  | ph, [] => ph
  | ph, (ev, l) :: r => phaseAfter j t (ph.next j t ev l) r

/-- The link between the phase (computed from the trace) and the model state. -/
def PhaseInv (j t : Nat) (s : St) : Phase → Prop
  | .idle d => s.subs.count (j, t) = 0 ∧ nTag s.queue t ≤ 1 ∧ s.alive = true ∧ d = s.dead.contains j
  | .live => s.subs.count (j, t) = 1 ∧ nTag s.queue t = 0 ∧ s.alive = true ∧ s.dead.contains j = false
  | .over => s.alive = false ∨ (s.outerOpen = false ∧ s.subs = []) ∨
      (s.dead.contains j = true ∧ nTag s.queue t = 0 ∧ t < s.arrivals)

theorem hasStart_iff (t : Nat) (l : List Lab) : hasStart t l = true ↔ nTag (startsOf l) t ≠ 0 := by
  unfold hasStart
  generalize startsOf l = q
  induction q with
  | nil => simp [nTag]
  | cons a r ih => by_cases h : a.tag = t <;> simp [nTag_cons, h, ih]

theorem nTag_arrivalsOf_stepL (f : Bool) (s : St) (ev : Ev) (t : Nat) :
    nTag (arrivalsOf (stepL f s ev)) t ≤ 1 ∧
    (s.arrivals ≠ t → nTag (arrivalsOf (stepL f s ev)) t = 0) := by
  rw [arrivalsOf_stepL]
  cases ev with
  | outerNext k =>
    simp only
    split
    · rw [nTag_cons, nTag_nil]
      exact ⟨by split <;> omega, fun h => by simp [h]⟩
    · simp [nTag]
  | _ => simp [nTag]

/-- Observers of `t` are held by subject `j` only, so another subject's items do not carry `t`. -/
theorem heard_silent {j t : Nat} {s : St} (own : ∀ p ∈ s.subs, p.2 = t → p.1 = j) (ev : Ev)
    (h : s.alive = false ∨ s.dead.contains j = true ∨ s.subs.count (j, t) = 0) :
    heard t s ev = [] := by
  cases ev with
  | innerNext j' v =>
    simp only [heard]
    split
    · rename_i hc
      by_cases hj : j' = j
      · subst hj
        rcases h with h | h | h
        · rw [h] at hc; simp at hc
        · rw [h] at hc; simp at hc
        · rw [h]; rfl
      · rw [List.count_eq_zero.mpr (fun hm => hj (own _ hm rfl))]; rfl
    · rfl
  | _ => rfl

theorem heard_live {j t : Nat} {s : St} (own : ∀ p ∈ s.subs, p.2 = t → p.1 = j) (ev : Ev)
    (ha : s.alive = true) (hd : s.dead.contains j = false) (hc : s.subs.count (j, t) = 1) :
    heard t s ev = Phase.hears j .live ev := by
  cases ev with
  | innerNext j' v =>
    simp only [heard, Phase.hears, ha, true_and]
    by_cases hj : j' = j
    · subst hj; simp only [hd, hc, if_true]; rfl
    · rw [List.count_eq_zero.mpr (fun hm => hj (own _ hm rfl)), if_neg hj]; simp
  | _ => rfl

theorem Phase.next_unsub (j t : Nat) (ph : Phase) (l : List Lab) :
    ph.next j t .unsub l = .over := by
  cases ph <;> simp [Phase.next]

theorem Phase.next_term (j t : Nat) (ph : Phase) (ev : Ev) {l : List Lab} (h : hasTerm l = true) :
    ph.next j t ev l = .over := by
  cases ph <;> simp [Phase.next, h]

/-- The counts of an instance that is not subscribed yet (`c = 0`), across one event: `c'`
    observers, `q'` queue entries, `st` starts afterwards; at most one of it was queued or arrived. -/
theorem idle_counts {c' st q' qa : Nat} (h1 : c' ≤ st) (h2 : st ≤ c') (h3 : q' + st = qa)
    (h4 : qa ≤ 1) : (st ≠ 0 → c' = 1 ∧ q' = 0) ∧ (st = 0 → c' = 0 ∧ q' ≤ 1) := by
  omega

theorem phase_step (f : Bool) (j t : Nat) (s : St) (ev : Ev) (ph : Phase) (hs : s.stuck = false)
    (hs' : (stepG f s ev).1.stuck = false) (g : GInv s) (hq : QPre j t s s.queue)
    (hkey : ∀ i ∈ arrivalsOf (stepL f s ev), i.tag = t → s.inner i.k = .hot j)
    (hR : PhaseInv j t s ph) :
    PhaseInv j t (stepG f s ev).1 (ph.next j t ev (stepL f s ev)) ∧
    restrict t (stepG f s ev).2 = ph.hears j ev ∧
    QPre j t (stepG f s ev).1 (stepG f s ev).1.queue := by
  have E := stepG_eff f j t s ev hs hs' g hq hkey
  have hE := (stepG_ends f s ev).1
  have hA := nTag_arrivalsOf_stepL f s ev t
  refine ⟨?_, ?_, E.pre⟩
  · -- the link: `unsub` and a terminal end every phase; otherwise `alive` is untouched
    by_cases hu : ev = .unsub
    · subst hu
      rw [Phase.next_unsub]
      exact Or.inr (Or.inl (E.uns rfl))
    cases hT : hasTerm (stepL f s ev) with
    | true => rw [Phase.next_term j t ph ev hT]; exact Or.inl (hE.dead_of_term hT)
    | false =>
      have hal := hE.alive_of_noterm hT
      have hub : (ev == Ev.unsub) = false := by simpa using hu
      cases ph with
      | idle d =>
        obtain ⟨hc, hn, ha, hd⟩ := hR
        -- queued or arriving now, not both: a queued tag is below the arrival counter
        have h4 : nTag s.queue t + nTag (arrivalsOf (stepL f s ev)) t ≤ 1 := by
          by_cases hat : s.arrivals = t
          · rw [nTag_eq_zero _ _ (fun i hi => Nat.ne_of_lt (hat ▸ hq.qlt i hi)), Nat.zero_add]
            exact hA.1
          · rw [hA.2 hat]; exact hn
        have hcl := E.cntLe
        rw [hc, Nat.zero_add] at hcl
        have A := idle_counts hcl E.cntGe E.que h4
        simp only [Phase.next, hub, hT, Bool.or_self, Bool.false_eq_true, if_false]
        cases hS : hasStart t (stepL f s ev) with
        | true =>
          obtain ⟨hc', hq'⟩ := A.1 ((hasStart_iff t _).mp hS)
          simp only [if_true]
          cases hdn : (d || subjTerm j ev) with
          | true =>
            simp only [if_true]
            exact Or.inr (Or.inr ⟨by rw [E.dead, ← hd]; exact hdn, hq',
              E.pre.slt _ (List.count_pos_iff.mp (by rw [hc']; exact Nat.one_pos))⟩)
          | false =>
            simp only [Bool.false_eq_true, if_false]
            exact ⟨hc', hq', hal.trans ha, by rw [E.dead, ← hd]; exact hdn⟩
        | false =>
          obtain ⟨hc', hq'⟩ := A.2 (Decidable.byContradiction fun h => by
            rw [(hasStart_iff t _).mpr h] at hS; cases hS)
          simp only [Bool.false_eq_true, if_false]
          exact ⟨hc', hq', hal.trans ha, by rw [E.dead, ← hd]⟩
      | live =>
        obtain ⟨hc, hn, ha, hd⟩ := hR
        have hlt : t < s.arrivals := hq.slt _ (List.count_pos_iff.mp (by rw [hc]; exact Nat.one_pos))
        have hz := E.que
        rw [hn, hA.2 (Nat.ne_of_gt hlt)] at hz
        have hz := Nat.eq_zero_of_add_eq_zero hz
        simp only [Phase.next, hub, hT, Bool.or_false]
        cases hst : subjTerm j ev with
        | true =>
          exact Or.inr (Or.inr ⟨by rw [E.dead, hst]; simp, hz.1, Nat.lt_of_lt_of_le hlt E.arr⟩)
        | false =>
          simp only [Bool.false_eq_true, if_false]
          exact ⟨by rw [E.cntEq hst hu, hc, hz.2], hz.1, hal.trans ha, by rw [E.dead, hd, hst]; rfl⟩
      | over =>
        simp only [Phase.next]
        rcases hR with ha | ⟨ho, hsb⟩ | ⟨hd, hn, hlt⟩
        · exact Or.inl (hal.trans ha)
        · exact Or.inr (Or.inl (stepG_severed f s ev ho hsb).2)
        · have hz := E.que
          rw [hn, hA.2 (Nat.ne_of_gt hlt)] at hz
          exact Or.inr (Or.inr ⟨by rw [E.dead, hd]; rfl, (Nat.eq_zero_of_add_eq_zero hz).1,
            Nat.lt_of_lt_of_le hlt E.arr⟩)
  · -- the contribution
    rw [E.res]
    cases ph with
    | idle d =>
      obtain ⟨hc, _, _, _⟩ := hR
      rw [heard_silent hq.own ev (Or.inr (Or.inr hc))]
      cases ev <;> rfl
    | live =>
      obtain ⟨hc, _, ha, hd⟩ := hR
      exact heard_live hq.own ev ha hd hc
    | over =>
      have hh : Phase.hears j .over ev = [] := by cases ev <;> rfl
      rw [hh]
      rcases hR with ha | ⟨ho, hsb⟩ | ⟨hd, _, _⟩
      · exact heard_silent hq.own ev (Or.inl ha)
      · exact heard_silent hq.own ev (Or.inr (Or.inr (by rw [hsb]; rfl)))
      · exact heard_silent hq.own ev (Or.inr (Or.inl hd))

theorem init_qpre (j t : Nat) (inners : List Inner) (n : Nat) :
    QPre j t (init inners n) (init inners n).queue :=
  ⟨nofun, nofun, nofun, nofun⟩

theorem init_phase (j t : Nat) (inners : List Inner) (n : Nat) :
    PhaseInv j t (init inners n) (.idle false) :=
  ⟨rfl, Nat.zero_le _, rfl, rfl⟩

theorem runG_hot (f : Bool) (j t : Nat) (evs : List Ev) : ∀ (s : St) (ph : Phase),
    (runG f s evs).1.stuck = false → GInv s → QPre j t s s.queue →
    (∀ i ∈ arrivalsOf (runL f s evs), i.tag = t → s.inner i.k = .hot j) →
    PhaseInv j t s ph →
    restrict t (runG f s evs).2 = hotSpec j t ph (trace f s evs) ∧
    PhaseInv j t (runG f s evs).1 (phaseAfter j t ph (trace f s evs)) := by
  induction evs with
  | nil => intro s ph _ _ _ _ hR; exact ⟨rfl, hR⟩
  | cons ev r ih =>
    intro s ph hs g hq hkey hR
    have hs' := not_stuck_head f s ev r hs
    simp only [runL, arrivalsOf_append] at hkey
    have h1 := phase_step f j t s ev ph hs'.1 hs'.2 g hq
      (fun i hi => hkey i (List.mem_append_left _ hi)) hR
    have h2 := ih (stepG f s ev).1 (ph.next j t ev (stepL f s ev)) hs (stepG_fifo f s ev g).1 h1.2.2
      (fun i hi hit => by
        rw [inner_of_inners (stepG_frame f s ev).inners]
        exact hkey i (List.mem_append_right _ hi) hit) h1.1
    simp only [runG, trace, hotSpec, phaseAfter, restrict_append]
    exact ⟨by rw [h1.2.1, h2.1], h2.2⟩

theorem phase_live_iff (j t : Nat) (s : St) (ph : Phase) (h : PhaseInv j t s ph) :
    ph = .live ↔ Listening s j t := by
  cases ph with
  | idle d =>
    obtain ⟨hc, _, _, _⟩ := h
    constructor
    · intro hh; cases hh
    · rintro ⟨_, hm, _⟩
      have := List.count_pos_iff.mpr hm
      omega
  | live =>
    obtain ⟨hc, _, ha, hd⟩ := h
    exact ⟨fun _ => ⟨ha, List.count_pos_iff.mp (by omega), hd⟩, fun _ => rfl⟩
  | over =>
    constructor
    · intro hh; cases hh
    · rintro ⟨ha, hm, hd⟩
      rcases h with h | ⟨_, h⟩ | ⟨h, _, _⟩
      · rw [h] at ha; cases ha
      · rw [h] at hm; cases hm
      · rw [h] at hd; cases hd

/-- Items hot subject `j` emits along a history. -/
def emitted (j : Nat) : List Ev → List Val
  | [] => []
  | .innerNext j' v :: r => if j' = j then v :: emitted j r else emitted j r
  | _ :: r => emitted j r

/-- The sequence an inner observable produces: a cold one its script, a hot one
    whatever its subject emits during the history. -/
def innerSeq (i : Inner) (evs : List Ev) : List Val :=
  match i with
  | .cold xs _ => xs
  | .hot j => emitted j evs

theorem emitted_cons (j : Nat) (ev : Ev) (r : List Ev) :
    emitted j (ev :: r) = emitted j [ev] ++ emitted j r := by
  cases ev with
  | innerNext j' v => simp only [emitted]; split <;> rfl
  | _ => rfl

/-- Whatever its phase, an instance hears at most the item the event carries. -/
theorem hears_sublist (j : Nat) (ph : Phase) (ev : Ev) : (ph.hears j ev).Sublist (emitted j [ev]) := by
  cases ph with
  | live =>
    cases ev with
    | innerNext j' v => simp only [Phase.hears, emitted]; exact .refl _
    | _ => exact List.nil_sublist _
  | _ => cases ev <;> exact List.nil_sublist _

theorem hotSpec_sublist (f : Bool) (j t : Nat) (evs : List Ev) : ∀ (s : St) (ph : Phase),
    (hotSpec j t ph (trace f s evs)).Sublist (emitted j evs) := by
  induction evs with
  | nil => intro s ph; exact List.Sublist.slnil
  | cons ev r ih =>
    intro s ph
    rw [emitted_cons]
    exact (hears_sublist j ph ev).append (ih _ _)

end Rx.MergeAll
