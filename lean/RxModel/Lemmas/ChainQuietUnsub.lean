import RxModel.Lemmas.ChainQuietPoll
/-
  `unsubFrom`: it only cancels handles, clears slots and walks down until a subscribe_on
  whose task has not run (`UShape`); what it never does (`URel`); it kills every handle and
  frees every slot it reaches (`kills`), and in a `Good` world it reaches them all:
  `unsub_quiet`.
-/
namespace Rx.T
open Rx

/-- What a sequence of cancellations does to the tasks. -/
structure CRel (s s' : Sched) : Prop where
  len : s'.tasks.length = s.tasks.length
  rel : ∀ (k : Nat) (t : Task), s.tasks[k]? = some t →
    ∃ t', s'.tasks[k]? = some t' ∧ t'.body = t.body ∧ (t'.live = true → t' = t) ∧
      (t'.hasValue = true → t.hasValue = true)

theorem CRel.refl (s : Sched) : CRel s s := ⟨rfl, fun _ t h => ⟨t, h, rfl, fun _ => rfl, id⟩⟩

theorem CRel.trans {a b c : Sched} (h1 : CRel a b) (h2 : CRel b c) : CRel a c := by
  refine ⟨h2.len.trans h1.len, ?_⟩
  intro k t ht
  obtain ⟨t', ht', hb', hl', hv'⟩ := h1.rel k t ht
  obtain ⟨t'', ht'', hb'', hl'', hv''⟩ := h2.rel k t' ht'
  refine ⟨t'', ht'', hb''.trans hb', ?_, fun h => hv' (hv'' h)⟩
  intro hl
  have e := hl'' hl
  subst e
  exact hl' hl

theorem CRel.cancel (s : Sched) (h : Nat) : CRel s (s.cancel h) := by
  refine ⟨by simp, ?_⟩
  intro k t ht
  by_cases e : k = h
  · subst e
    refine ⟨_, Sched.cancel_get_self _ _ _ ht, rfl, ?_, ?_⟩
    · intro hl; simp [Task.live] at hl
    · intro hv; simp at hv
  · exact ⟨t, by rw [Sched.cancel_get_ne _ _ _ e]; exact ht, rfl, fun _ => rfl, id⟩

def cancelAll (cs : List TaskId) (s : Sched) : Sched := cs.foldl Sched.cancel s

theorem CRel.cancelAll (cs : List TaskId) : ∀ s : Sched, CRel s (cancelAll cs s) := by
  induction cs with
  | nil => intro s; exact CRel.refl s
  | cons h cs ih => intro s; exact (CRel.cancel s h).trans (ih _)

/-- Task `k` (if it exists) will not run its body any more. -/
def DeadIn (s : Sched) (k : Nat) : Prop := ∀ t : Task, s.tasks[k]? = some t → t.live = false

theorem dead_of_pointwise {s s' : Sched} (len : s'.tasks.length = s.tasks.length)
    (rel : ∀ (k : Nat) (t : Task), s.tasks[k]? = some t →
      ∃ t', s'.tasks[k]? = some t' ∧ (t'.live = true → t.live = true))
    {k : Nat} (hd : DeadIn s k) : DeadIn s' k := by
  intro t' ht'
  have hk : k < s.tasks.length := by rw [← len]; exact Sched.get_lt ht'
  obtain ⟨t'', h1, h3⟩ := rel k _ (List.getElem?_eq_getElem hk)
  rw [ht'] at h1; cases h1
  cases hl : t'.live with
  | false => rfl
  | true => rw [hd _ (List.getElem?_eq_getElem hk)] at h3; exact (h3 hl).symm

theorem CRel.dead {s s' : Sched} (h : CRel s s') {k : Nat} (hd : DeadIn s k) : DeadIn s' k :=
  dead_of_pointwise h.len (fun k t ht => by
    obtain ⟨t', ht', _, hl, _⟩ := h.rel k t ht
    exact ⟨t', ht', fun h' => hl h' ▸ h'⟩) hd

theorem cancelAll_other (cs : List TaskId) : ∀ (s : Sched) (k : Nat), k ∉ cs →
    (cancelAll cs s).tasks[k]? = s.tasks[k]? := by
  induction cs with
  | nil => intro s k _; rfl
  | cons h cs ih =>
    intro s k hk
    simp only [List.mem_cons, not_or] at hk
    show (cancelAll cs (s.cancel h)).tasks[k]? = _
    rw [ih _ k hk.2, Sched.cancel_get_ne _ _ _ hk.1]

theorem cancelAll_dead (cs : List TaskId) : ∀ (s : Sched) (k : Nat), k ∈ cs →
    DeadIn (cancelAll cs s) k := by
  induction cs with
  | nil => intro s k hk; cases hk
  | cons h cs ih =>
    intro s k hk
    show DeadIn (cancelAll cs (s.cancel h)) k
    by_cases e : k = h
    · subst e
      apply (CRel.cancelAll cs _).dead
      intro t ht
      exact cancel_not_live _ _ _ ht
    · simp only [List.mem_cons] at hk
      rcases hk with hk | hk
      · exact absurd hk e
      · exact ih _ k hk

def TW.cancelAll (w : TW) (cs : List TaskId) : TW := { w with sched := Rx.T.cancelAll cs w.sched }

@[simp] theorem TW.cancelAll_stages (w : TW) (cs) : (w.cancelAll cs).stages = w.stages := rfl
@[simp] theorem TW.cancelAll_info (w : TW) (cs) : (w.cancelAll cs).info = w.info := rfl
@[simp] theorem TW.cancelAll_sched (w : TW) (cs) : (w.cancelAll cs).sched = Rx.T.cancelAll cs w.sched := rfl

/-- `unsubFrom w (j + 1)` seen from stage `j`: it stops at a subscribe_on whose task has not
    run (and cancels that task); or it goes on below and then cancels the handles of the stage
    and clears its cells; or it cancels the handles first and goes on. -/
inductive UShape (w : TW) (j : Nat) (st : Stage) : TW → Prop
  | stop (h : TaskId) (hs : st.subH = some h) (hc : w.sched.handleClosed h = false)
      (hh : st.handles = [h]) : UShape w j st (w.cancelAll [h])
  | go (st1 : Stage) (hna : st1.naOn = false) :
      UShape w j st (((w.unsubFrom j).cancelAll st.handles).setStage j st1)
  | goKeep (hna : st.naOn = false) : UShape w j st ((w.cancelAll st.handles).unsubFrom j)

theorem unsubFrom_none (w : TW) (j : Nat) (h : w.stages[j]? = none) :
    w.unsubFrom (j + 1) = w.unsubFrom j := by
  rw [TW.unsubFrom_succ]; simp only [h]

theorem unsubFrom_shape (w : TW) (j : Nat) (st : Stage) (hst : w.stages[j]? = some st) :
    UShape w j st (w.unsubFrom (j + 1)) := by
  rw [TW.unsubFrom_succ]
  cases st with
  | op1 o | throttleW d e alive tr => simp only [hst]; exact UShape.goKeep rfl
  | delay d alive multi => simp only [hst]; exact UShape.go (.delay d alive none) rfl
  | observeOn alive multi => simp only [hst]; exact UShape.go (.observeOn alive none) rfl
  | subscribeOn delay t =>
    cases t with
    | none => simp only [hst]; exact UShape.goKeep rfl
    | some h =>
      simp only [hst]
      cases hc : w.sched.handleClosed h with
      | false =>
        simp only [Bool.false_eq_true, if_false]
        exact UShape.stop h rfl hc rfl
      | true =>
        simp only [if_true]
        exact UShape.goKeep rfl
  | debounce d alive tr handler =>
    simp only [hst]
    cases handler <;> exact UShape.go (.debounce d alive tr none) rfl
  | throttle d e alive tr handler =>
    simp only [hst]
    cases handler <;> exact UShape.go (.throttle d e alive tr none) rfl
  | bufTime d c alive data t =>
    cases t <;> simp only [hst] <;> exact UShape.goKeep rfl
  | op2n o ns na nt =>
    simp only [hst]
    cases nt <;> exact UShape.go (.op2n o ns false _) rfl

structure URel (j : Nat) (w w' : TW) : Prop where
  sched : CRel w.sched w'.sched
  alive : w'.srcAlive = true → w.srcAlive = true
  ge : ∀ i, j ≤ i → w'.stages[i]? = w.stages[i]?
  na : ∀ (i : Nat) (st' : Stage), w'.stages[i]? = some st' →
    ∃ st, w.stages[i]? = some st ∧ (st'.naHot = true → st.naHot = true)
  log : w'.log = w.log
  src : w'.src = w.src
  srcTask : w'.srcTask = w.srcTask
  subscribed : w'.subscribed = w.subscribed
  unsubscribed : w'.unsubscribed = w.unsubscribed
  len : w'.stages.length = w.stages.length

theorem URel.refl (j : Nat) (w : TW) : URel j w w :=
  ⟨CRel.refl _, id, fun _ _ => rfl, fun _ st h => ⟨st, h, id⟩, rfl, rfl, rfl, rfl, rfl, rfl⟩

theorem URel.trans {j : Nat} {a b c : TW} (h1 : URel j a b) (h2 : URel j b c) : URel j a c := by
  refine ⟨h1.sched.trans h2.sched, fun h => h1.alive (h2.alive h),
    fun i hi => (h2.ge i hi).trans (h1.ge i hi), ?_, h2.log.trans h1.log, h2.src.trans h1.src,
    h2.srcTask.trans h1.srcTask, h2.subscribed.trans h1.subscribed,
    h2.unsubscribed.trans h1.unsubscribed, h2.len.trans h1.len⟩
  intro i st'' hs
  obtain ⟨st', hs', hn'⟩ := h2.na i st'' hs
  obtain ⟨st, hs0, hn⟩ := h1.na i st' hs'
  exact ⟨st, hs0, fun h => hn (hn' h)⟩

theorem URel.mono {j j' : Nat} {a b : TW} (h : URel j a b) (hj : j ≤ j') : URel j' a b :=
  { h with ge := fun i hi => h.ge i (Nat.le_trans hj hi) }

theorem URel.cancelAll (j : Nat) (w : TW) (cs : List TaskId) : URel j w (w.cancelAll cs) :=
  ⟨CRel.cancelAll cs _, id, fun _ _ => rfl, fun _ st h => ⟨st, h, id⟩, rfl, rfl, rfl, rfl, rfl, rfl⟩

theorem URel.setStage (j : Nat) (w : TW) (st1 : Stage) (h : st1.naHot = false) :
    URel (j + 1) w (w.setStage j st1) := by
  refine ⟨CRel.refl _, id, fun i hi => set_get_of_ne _ _ _ _ (Nat.ne_of_lt hi), ?_, rfl, rfl, rfl, rfl, rfl, ?_⟩
  · intro i st' hs
    by_cases e : i = j
    · subst e
      have hlt : i < w.stages.length := by
        have := Sched.get_lt hs; simpa using this
      simp only [setStage_stages] at hs
      rw [List.getElem?_set_self hlt] at hs
      cases hs
      exact ⟨w.stages[i], List.getElem?_eq_getElem hlt, fun h' => by rw [h] at h'; cases h'⟩
    · rw [setStage_low _ _ _ _ e] at hs
      exact ⟨st', hs, id⟩
  · simp

theorem unsubFrom_urel (j : Nat) : ∀ w : TW, URel j w (w.unsubFrom j) := by
  induction j with
  | zero =>
    intro w
    rw [TW.unsubFrom_zero]
    have h1 : URel 0 w ({ w with srcAlive := false } : TW) :=
      ⟨CRel.refl _, (fun h => by cases h), fun _ _ => rfl, fun _ st h => ⟨st, h, id⟩, rfl, rfl, rfl, rfl,
        rfl, rfl⟩
    split
    · rename_i h _
      exact h1.trans (URel.cancelAll 0 _ [h])
    · exact h1
  | succ j ih =>
    intro w
    cases hst : w.stages[j]? with
    | none => rw [unsubFrom_none w j hst]; exact (ih w).mono (Nat.le_succ _)
    | some st =>
      have sh := unsubFrom_shape w j st hst
      generalize w.unsubFrom (j + 1) = w' at sh
      cases sh with
      | stop h hs hc hh => exact URel.cancelAll _ _ _
      | go st1 hna =>
        exact (((ih w).trans (URel.cancelAll j _ st.handles)).mono (Nat.le_succ _)).trans
          (URel.setStage j _ st1 (st1.naHot_le hna))
      | goKeep hna => exact ((URel.cancelAll j w st.handles).trans (ih _)).mono (Nat.le_succ _)

/-- Every subscribe_on stage with index in `[l, j)` has subscribed its upstream. -/
def RB (w : TW) (l j : Nat) : Prop :=
  ∀ (i : Nat) (st : Stage) (h : Nat), l ≤ i → i < j → w.stages[i]? = some st → st.subH = some h →
    w.sched.handleClosed h = true

/-- Handles point to tasks of their own stage. -/
def HK (w : TW) : Prop :=
  ∀ (j : Nat) (st : Stage) (h : Nat), w.stages[j]? = some st → h ∈ st.handles →
    ∃ t : Task, w.sched.tasks[h]? = some t ∧ t.body.level = j + 1

theorem HK.cancelAll {w : TW} (hk : HK w) (cs : List TaskId) : HK (w.cancelAll cs) := by
  intro j st h hs hm
  obtain ⟨t, ht, hl⟩ := hk j st h hs hm
  obtain ⟨t', ht', hb, _, _⟩ := (CRel.cancelAll cs w.sched).rel h t ht
  exact ⟨t', ht', by rw [hb]; exact hl⟩

/-- Cancelling handles of stage `j` does not touch the subscribe tasks of lower stages. -/
theorem RB.cancelAll {w : TW} {l j : Nat} {st : Stage} {cs : List TaskId} (hk : HK w)
    (hst : w.stages[j]? = some st) (h0 : ∀ k : Nat, k ∈ cs → k ∈ st.handles)
    (h : RB w l (j + 1)) : RB (w.cancelAll cs) l j := by
  intro i sti h' hl hi hs e
  have hc := h i sti h' hl (Nat.lt_succ_of_lt hi) hs e
  obtain ⟨t, ht, hv⟩ := (handleClosed_iff _ _).1 hc
  obtain ⟨t1, ht1, hl1⟩ := hk i sti h' hs (subH_mem_handles e).1
  rw [ht] at ht1; cases ht1
  have hnot : h' ∉ cs := by
    intro hm
    obtain ⟨t2, ht2, hl2⟩ := hk j st h' hst (h0 h' hm)
    rw [ht] at ht2; cases ht2
    exact Nat.ne_of_lt hi (Nat.succ.inj (hl1.symm.trans hl2))
  apply (handleClosed_iff _ _).2
  exact ⟨t, by rw [TW.cancelAll_sched, cancelAll_other cs _ _ hnot]; exact ht, hv⟩

theorem RB.mono {w : TW} {l j j' : Nat} (h : RB w l j') (hj : j ≤ j') : RB w l j :=
  fun i st h' hl hi hs e => h i st h' hl (Nat.lt_of_lt_of_le hi hj) hs e

/-- What `unsubFrom w j` does to a stage `i < j` it reaches (every subscribe_on in between has
    run): the handles of the stage are dead afterwards and its notifier slot is free; and to
    the source, when it reaches the source. -/
theorem kills (j : Nat) : ∀ w : TW, HK w →
    (∀ (i : Nat) (st : Stage), i < j → RB w (i + 1) j → w.stages[i]? = some st →
      (∀ k : Nat, k ∈ st.handles → DeadIn (w.unsubFrom j).sched k) ∧
        ∀ st' : Stage, (w.unsubFrom j).stages[i]? = some st' → st'.naOn = false) ∧
      (RB w 0 j → (∀ k : Nat, w.srcTask = some k → DeadIn (w.unsubFrom j).sched k) ∧
        (w.unsubFrom j).srcAlive = false) := by
  induction j with
  | zero =>
    intro w _
    refine ⟨fun i _ hi => absurd hi (Nat.not_lt_zero _), fun _ => ⟨fun k hk t' ht' => ?_, ?_⟩⟩
    · rw [TW.unsubFrom_zero] at ht'
      simp only [hk] at ht'
      exact cancel_not_live _ _ _ ht'
    · rw [TW.unsubFrom_zero]
      split <;> rfl
  | succ j ih =>
    intro w hk
    cases hst : w.stages[j]? with
    | none =>
      rw [unsubFrom_none w j hst]
      refine ⟨fun i st hi hrb hs => ?_, fun hrb => (ih w hk).2 (hrb.mono (Nat.le_succ _))⟩
      rcases Nat.lt_succ_iff_lt_or_eq.1 hi with h' | rfl
      · exact (ih w hk).1 i st h' (hrb.mono (Nat.le_succ _)) hs
      · rw [hst] at hs; cases hs
    | some st =>
      have sh := unsubFrom_shape w j st hst
      generalize w.unsubFrom (j + 1) = w' at sh
      cases sh with
      | stop h hs hc hh =>
        -- the walk stops at the subscribe_on stage `j`, whose task has not run
        have hfalse : ∀ l, l ≤ j → RB w l (j + 1) → False := by
          intro l hl hrb
          have := hrb j st h hl (Nat.lt_succ_self _) hst hs
          rw [hc] at this; cases this
        refine ⟨fun i sti hi hrb hsi => ?_, fun hrb => (hfalse 0 (Nat.zero_le _) hrb).elim⟩
        rcases Nat.lt_succ_iff_lt_or_eq.1 hi with h' | rfl
        · exact (hfalse (i + 1) h' hrb).elim
        · rw [hst] at hsi; cases hsi
          refine ⟨fun k hm => ?_, fun st' hs' => ?_⟩
          · rw [hh] at hm; exact cancelAll_dead [h] _ k hm
          · rw [TW.cancelAll_stages, hst] at hs'; cases hs'
            cases st <;> simp [Stage.subH] at hs <;> rfl
      | go st1 hna =>
        obtain ⟨iha, ihb⟩ := ih w hk
        have later : ∀ k : Nat, DeadIn (w.unsubFrom j).sched k →
            DeadIn (cancelAll st.handles (w.unsubFrom j).sched) k :=
          fun k => (CRel.cancelAll st.handles _).dead
        refine ⟨fun i sti hi hrb hsi => ?_, fun hrb =>
          ⟨fun k e => later k ((ihb (hrb.mono (Nat.le_succ _))).1 k e), (ihb (hrb.mono (Nat.le_succ _))).2⟩⟩
        rcases Nat.lt_succ_iff_lt_or_eq.1 hi with h' | rfl
        · have := iha i sti h' (hrb.mono (Nat.le_succ _)) hsi
          refine ⟨fun k hm => later k (this.1 k hm), fun st' hs' => ?_⟩
          rw [setStage_low _ _ _ _ (Nat.ne_of_lt h')] at hs'
          exact this.2 st' hs'
        · rw [hst] at hsi; cases hsi
          refine ⟨fun k hm => cancelAll_dead st.handles _ k hm, fun st' hs' => ?_⟩
          have hlt : i < ((w.unsubFrom i).cancelAll st.handles).stages.length := by
            have := Sched.get_lt hs'; simpa using this
          rw [setStage_stages, List.getElem?_set_self hlt] at hs'
          cases hs'; exact hna
      | goKeep hna =>
        obtain ⟨iha, ihb⟩ := ih (w.cancelAll st.handles) (hk.cancelAll _)
        refine ⟨fun i sti hi hrb hsi => ?_, fun hrb => ihb (hrb.cancelAll hk hst fun _ h => h)⟩
        rcases Nat.lt_succ_iff_lt_or_eq.1 hi with h' | rfl
        · exact iha i sti h' (hrb.cancelAll hk hst fun _ h => h) hsi
        · rw [hst] at hsi; cases hsi
          refine ⟨fun k hm => (unsubFrom_urel i _).sched.dead (cancelAll_dead st.handles _ k hm),
            fun st' hs' => ?_⟩
          rw [TW.unsubFrom_stages_ge i _ i (Nat.le_refl _), TW.cancelAll_stages, hst] at hs'
          cases hs'; exact hna

/-- Every task is cancelled or finished and no subject holds a slot of the chain. -/
structure Quiet (w : TW) : Prop where
  subscribed : w.subscribed = true
  dead : ∀ (k : Nat), DeadIn w.sched k
  det : Detached w

/-- `unsub` on a subscribed, not yet unsubscribed world: a live task is held by a handle of a
    stage that `unsubFrom` reaches, a taken slot belongs to a stage it reaches. -/
theorem unsub_quiet {w : TW} (g : GoodW none w) (hs : w.subscribed = true) :
    Quiet { w.unsubFrom w.stages.length with unsubscribed := true } := by
  have ur := unsubFrom_urel w.stages.length w
  have hk : HK w := fun j st h hs hm => by
    obtain ⟨t, ht, hl, _⟩ := g.handleTask j st h hs hm
    exact ⟨t, ht, hl⟩
  obtain ⟨ka, kb⟩ := kills w.stages.length w hk
  have rb_of : ∀ l, ReachedW none w l → RB w l w.stages.length := by
    intro l hr i st h hl _ hst e
    rcases hr i st h hl hst e with h1 | h1
    · exact h1
    · cases h1
  refine ⟨ur.subscribed.trans hs, ?_, ?_, ?_⟩
  · intro k t' ht'
    have hlt : k < w.sched.tasks.length := by rw [← ur.sched.len]; exact Sched.get_lt ht'
    have ht := List.getElem?_eq_getElem hlt
    cases hl : w.sched.tasks[k].live with
    | false =>
      exact ur.sched.dead (k := k) (fun t0 ht0 => by rw [ht] at ht0; cases ht0; exact hl) t' ht'
    | true =>
      have ho := g.own k _ ht hl
      have hr := rb_of _ (g.reached_of_live ht hl)
      cases e : w.sched.tasks[k].body.level with
      | zero => rw [e] at hr; exact (kb hr).1 k (ho.zero e) t' ht'
      | succ i =>
        rw [e] at hr
        obtain ⟨st, hst, hm⟩ := ho.succ e
        exact (ka i st (Sched.get_lt hst) hr hst).1 k hm t' ht'
  · intro _
    show (w.unsubFrom w.stages.length).srcAlive = false
    cases ha : w.srcAlive with
    | true => exact (kb (rb_of 0 (g.reached_of_alive ha))).2
    | false =>
      cases hb : (w.unsubFrom w.stages.length).srcAlive with
      | false => rfl
      | true => rw [ur.alive hb] at ha; cases ha
  · intro i st' hs'
    show st'.naHot = false
    cases hn : st'.naHot with
    | false => rfl
    | true =>
      obtain ⟨st, hst, hna⟩ := ur.na i st' hs'
      have h1 : st.naOn = true := by
        cases hno : st.naOn with
        | true => rfl
        | false => rw [st.naHot_le hno] at hna; exact absurd (hna hn) (by simp)
      have := (ka i st (Sched.get_lt hst) (rb_of _ (g.reached_of_na hst h1)) hst).2 st' hs'
      rw [st'.naHot_le this] at hn; cases hn

end Rx.T
