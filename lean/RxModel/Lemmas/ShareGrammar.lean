import RxModel.Lemmas.ShareInstr
import RxModel.Lemmas.WFReplicate
/-
  C01M (share / publish / ref_count): every selection `p` of the tagged deliveries that picks
  at most one live subscription at a time has a well-formed log.  `p = (cell id = i)` gives the
  per-subscription grammar, `p = (label = k)` the per-probe grammar (under the harness discipline).
-/
namespace Rx.Share
namespace W

/-- The notifications of the selected deliveries. -/
def sel (p : Nat × Nat → Bool) (ds : List IDlv) : List Notif :=
  ds.filterMap fun d => if p (d.1, d.2.1) then some d.2.2 else none

@[simp] theorem sel_nil (p : Nat × Nat → Bool) : sel p [] = [] := rfl
theorem sel_append (p : Nat × Nat → Bool) (a b : List IDlv) : sel p (a ++ b) = sel p a ++ sel p b := by
  simp [sel, List.filterMap_append]

/-- Entries of a subject (`W.entries` is this at the world's inner subject: `entries_eq`). -/
def ents (s : Subj) : List Nat := s.observers.getD [] ++ s.chamber.getD []

theorem entries_eq (w : W) : w.entries = ents w.subj := rfl

theorem load_observers_none (s : Subj) : (load s).observers = none ↔ s.observers = none := by
  cases s with
  | mk o c => cases o <;> simp [load]

theorem ents_load (s : Subj) : ents (load s) = ents s := by
  cases s with
  | mk o c => cases o <;> simp [load, ents]

theorem load_observers_some (s : Subj) (obs : List Nat) (h : (load s).observers = some obs) :
    obs = ents s ∧ (load s).chamber = some [] := by
  cases s with
  | mk o c =>
    cases o with
    | none => simp [load] at h
    | some o' =>
      simp only [load, Option.some.injEq] at h
      subst h
      simp [ents, load]

/-- Invariant: entry ids are allocated cells, no entry twice, and `p` selects
    at most one live cell. -/
structure Inv (p : Nat × Nat → Bool) (w : W) : Prop where
  bound : ∀ id ∈ ents w.subj, id < w.cells.length
  nodup : (ents w.subj).Nodup
  uniq : ∀ id id' l l', (w.cells[id]?).join = some l → (w.cells[id']?).join = some l' →
    p (id, l) = true → p (id', l') = true → id = id'

theorem Inv.congr {p : Nat × Nat → Bool} {w w' : W} (h : Inv p w)
    (hs : w'.subj = w.subj) (hc : w'.cells = w.cells) : Inv p w' :=
  ⟨by rw [hs, hc]; exact h.bound, by rw [hs]; exact h.nodup, by rw [hc]; exact h.uniq⟩

/-- One transition seen through the selection: what it delivers is a well-formed log, a terminal in
    it closes the inner subject, and a closed inner subject delivers nothing and stays closed. -/
structure Tr (p : Nat × Nat → Bool) (w w' : W) (d : List IDlv) : Prop where
  wf : WF (sel p d)
  term : terminated (sel p d) = true → w'.subj.observers = none
  dead : w.subj.observers = none → d = [] ∧ w'.subj.observers = none

theorem Tr.comp {p : Nat × Nat → Bool} {w w1 w2 : W} {d1 d2 : List IDlv}
    (h1 : Tr p w w1 d1) (h2 : Tr p w1 w2 d2) : Tr p w w2 (d1 ++ d2) := by
  refine ⟨?_, ?_, ?_⟩
  · rw [sel_append, WF_append_iff]
    refine ⟨h1.wf, ?_, h2.wf⟩
    intro ht
    rw [(h2.dead (h1.term ht)).1]; rfl
  · rw [sel_append, terminated_append, Bool.or_eq_true]
    rintro (ht | ht)
    · exact (h2.dead (h1.term ht)).2
    · exact h2.term ht
  · intro hd
    have a := h1.dead hd
    have b := h2.dead a.2
    simp [a.1, b.1, b.2]

theorem Tr.silent {p : Nat × Nat → Bool} {w w' : W}
    (h : w.subj.observers = none → w'.subj.observers = none) : Tr p w w' [] :=
  ⟨by simp, by simp [terminated], fun hd => ⟨rfl, h hd⟩⟩

/-! ### a new subscription -/

/-- A new subscription with label `k` may be selected by `p` only if no live
    cell is. -/
def Fresh (p : Nat × Nat → Bool) (w : W) (k : Nat) : Prop :=
  p (w.cells.length, k) = true → ∀ id' l', (w.cells[id']?).join = some l' → p (id', l') = false

theorem cell_lt {cs : List (Option Nat)} {i l : Nat} (h : (cs[i]?).join = some l) : i < cs.length := by
  cases hi : cs[i]? with
  | none => simp [hi] at h
  | some x => exact (List.getElem?_eq_some_iff.1 hi).1

theorem cell_append {cs : List (Option Nat)} {x : Option Nat} {i l : Nat}
    (h : ((cs ++ [x])[i]?).join = some l) :
    (cs[i]?).join = some l ∨ (i = cs.length ∧ x = some l) := by
  rw [List.getElem?_append] at h
  split at h
  · exact Or.inl h
  · rename_i hlt
    right
    have hi : i - cs.length = 0 := by
      cases hz : i - cs.length with
      | zero => rfl
      | succ n => simp [hz] at h
    simp only [hi, List.getElem?_cons_zero, Option.join_some] at h
    exact ⟨by omega, h⟩

theorem cell_set_none {cs : List (Option Nat)} {i j l : Nat}
    (h : ((cs.set i none)[j]?).join = some l) : (cs[j]?).join = some l := by
  rw [List.getElem?_set] at h
  split at h
  · split at h <;> simp at h
  · exact h

theorem attach_inv {p : Nat × Nat → Bool} (w : W) (k : Nat) (h : Inv p w) (hf : Fresh p w k) :
    Inv p (w.attach k) := by
  simp only [attach, subjSubscribe]
  cases hc : w.subj.chamber with
  | none =>
    simp only
    refine ⟨?_, ?_, ?_⟩
    · intro id hid
      have := h.bound id (by simpa [ents, hc] using hid)
      simp; omega
    · simpa [ents, hc] using h.nodup
    · intro id id' l l' h1 h2
      simp only at h1 h2
      rcases cell_append h1 with a | ⟨_, a⟩
      · rcases cell_append h2 with b | ⟨_, b⟩
        · exact h.uniq id id' l l' a b
        · cases b
      · cases a
  | some ch =>
    simp only
    have hents : ents { w.subj with chamber := some (ch ++ [w.cells.length]) } =
        ents w.subj ++ [w.cells.length] := by
      simp [ents, hc]
    refine ⟨?_, ?_, ?_⟩
    · intro id hid
      simp only [hents, List.mem_append, List.mem_singleton] at hid
      simp only [List.length_append, List.length_singleton]
      rcases hid with hid | hid
      · have := h.bound id hid; omega
      · omega
    · simp only [hents]
      rw [List.nodup_append]
      refine ⟨h.nodup, by simp, ?_⟩
      intro a ha b hb
      simp only [List.mem_singleton] at hb
      subst hb
      have := h.bound a ha
      omega
    · intro id id' l l' h1 h2 p1 p2
      simp only at h1 h2
      rcases cell_append h1 with a | ⟨a1, a2⟩
      · rcases cell_append h2 with b | ⟨b1, b2⟩
        · exact h.uniq id id' l l' a b p1 p2
        · simp only [Option.some.injEq] at b2
          subst b1 b2
          have := hf p2 id l a
          rw [this] at p1; cases p1
      · simp only [Option.some.injEq] at a2
        subst a1 a2
        rcases cell_append h2 with b | ⟨b1, b2⟩
        · have := hf p1 id' l' b
          rw [this] at p2; cases p2
        · exact b1.symm

/-! ### broadcasts -/

/-- Does `p` select the live subscriber behind entry `id`? -/
def hit (p : Nat × Nat → Bool) (cells : List (Option Nat)) (id : Nat) : Bool :=
  ((cells[id]?).join).any fun l => p (id, l)

/-- A broadcast seen through `p`: one copy of `n` per selected live entry. -/
theorem sel_bcastI (p : Nat × Nat → Bool) (cells : List (Option Nat)) (obs : List Nat) (n : Notif) :
    sel p (bcastI cells obs n) = List.replicate (obs.countP (hit p cells)) n := by
  have hf : ∀ id, (((cells[id]?).join).map fun l => (id, l, n)).bind
      (fun d : IDlv => if p (d.1, d.2.1) then some d.2.2 else none) =
        if hit p cells id then some n else none := by
    intro id
    unfold hit
    cases (cells[id]?).join with
    | none => rfl
    | some l => cases hp : p (id, l) <;> simp [hp]
  simp only [sel, bcastI, List.filterMap_filterMap, hf, filterMap_ite_const]

/-- No entry twice and `p` selects at most one live cell: at most one entry is hit. -/
theorem countP_hit_le_one (p : Nat × Nat → Bool) (cells : List (Option Nat)) (obs : List Nat)
    (hnd : obs.Nodup)
    (hu : ∀ id id' l l', (cells[id]?).join = some l → (cells[id']?).join = some l' →
      p (id, l) = true → p (id', l') = true → id = id') :
    obs.countP (hit p cells) ≤ 1 := by
  refine countP_le_one _ obs hnd fun a _ b _ ha hb => ?_
  unfold hit at ha hb
  cases hca : (cells[a]?).join with
  | none => simp [hca] at ha
  | some l =>
    cases hcb : (cells[b]?).join with
    | none => simp [hcb] at hb
    | some l' => exact hu a b l l' hca hcb (by simpa [hca] using ha) (by simpa [hcb] using hb)

/-! ### the inner subject is called -/

theorem tapCall_next_fst (w : W) (v : Val) :
    (w.tapCall (.next v)).1 = { w with tap := w.tap + 1, subj := load w.subj } := by
  simp only [tapCall, subjNext]
  split <;> rfl

theorem tapCall_term_eq (w : W) (t : Notif) (ht : t.isTerm = true) :
    w.tapCall t = w.subjTerminal t := by
  cases t with
  | next v => cases ht
  | error e => rfl
  | complete => rfl

theorem tapCall_next_tr (p : Nat × Nat → Bool) (w : W) (v : Val) :
    Tr p w (w.tapCall (.next v)).1 (subjCallI w (.next v)) := by
  rw [tapCall_next_fst]
  simp only [subjCallI]
  cases ho : (load w.subj).observers with
  | none => exact Tr.silent fun _ => ho
  | some obs =>
    refine ⟨?_, ?_, ?_⟩
    · rw [sel_bcastI, ← List.append_nil (List.replicate _ _)]
      exact (WF_replicate_next _ v []).2 WF_nil
    · rw [sel_bcastI, terminated_replicate_next]; exact fun h => nomatch h
    · intro hd
      rw [(load_observers_none _).2 hd] at ho
      cases ho

theorem cell_foldl_none (obs : List Nat) : ∀ (cs : List (Option Nat)) (id l : Nat),
    (((obs.foldl (fun cs id => cs.set id none) cs)[id]?).join = some l) → (cs[id]?).join = some l := by
  induction obs with
  | nil => intro cs id l h; exact h
  | cons o r ih => intro cs id l h; exact cell_set_none (ih _ id l h)

theorem subjTerminal_inv {p : Nat × Nat → Bool} (w : W) (t : Notif) (h : Inv p w) :
    Inv p (w.subjTerminal t).1 := by
  simp only [subjTerminal]
  cases ho : (load w.subj).observers with
  | none =>
    exact ⟨by simpa [ents_load] using h.bound, by simpa [ents_load] using h.nodup, h.uniq⟩
  | some obs =>
    have hl := load_observers_some _ _ ho
    exact ⟨by simp [ents, hl.2], by simp [ents, hl.2],
      fun id id' l l' h1 h2 => h.uniq id id' l l' (cell_foldl_none _ _ _ _ h1) (cell_foldl_none _ _ _ _ h2)⟩

theorem subjTerminal_tr {p : Nat × Nat → Bool} (w : W) (t : Notif) (h : Inv p w) :
    Tr p w (w.subjTerminal t).1 (subjCallI w t) := by
  simp only [subjTerminal, subjCallI]
  cases ho : (load w.subj).observers with
  | none => exact Tr.silent fun _ => ho
  | some obs =>
    have hl := load_observers_some _ _ ho
    refine ⟨?_, fun _ => rfl, ?_⟩
    · rw [sel_bcastI]
      exact WF_replicate_le_one _ t
        (countP_hit_le_one p w.cells obs (by rw [hl.1]; exact h.nodup) h.uniq)
    · intro hd
      rw [(load_observers_none _).2 hd] at ho
      cases ho

theorem tapCall_inv {p : Nat × Nat → Bool} (w : W) (n : Notif) (h : Inv p w) :
    Inv p (w.tapCall n).1 ∧ Tr p w (w.tapCall n).1 (subjCallI w n) := by
  cases n with
  | next v =>
    refine ⟨?_, tapCall_next_tr p w v⟩
    rw [tapCall_next_fst]
    exact ⟨by simpa [ents_load] using h.bound, by simpa [ents_load] using h.nodup, h.uniq⟩
  | error e => exact ⟨subjTerminal_inv w _ h, subjTerminal_tr w _ h⟩
  | complete => exact ⟨subjTerminal_inv w _ h, subjTerminal_tr w _ h⟩

/-! ### every step, every history -/

/-- The last leaver may drop the inner subject; otherwise entries and the other cells stay. -/
theorem unsubscribe_inv {p : Nat × Nat → Bool} (w : W) (k : Nat) (h : Inv p w) :
    Inv p (w.unsubscribe k) ∧ Tr p w (w.unsubscribe k) [] := by
  cases hk : (w.handles[k]?).join with
  | none => rw [unsubscribe_none w k hk]; exact ⟨h, Tr.silent id⟩
  | some i =>
    obtain ⟨s, cc, ch, he, hs, _⟩ := unsubscribe_some w k i hk
    rw [he]
    have hu : ∀ a b l l', ((w.cells.set i none)[a]?).join = some l →
        ((w.cells.set i none)[b]?).join = some l' → p (a, l) = true → p (b, l') = true → a = b :=
      fun a b l l' x y => h.uniq a b l l' (cell_set_none x) (cell_set_none y)
    rcases hs with rfl | rfl
    · exact ⟨⟨by simpa using h.bound, h.nodup, hu⟩, Tr.silent id⟩
    · exact ⟨⟨by simp [ents], by simp [ents], hu⟩, Tr.silent fun _ => rfl⟩

/-- The grammar as a relation between the ends of a transition, in the form `step_emits` takes:
    the invariant is kept and the transition is a `Tr`. -/
def Gr (p : Nat × Nat → Bool) (w w' : W) (d : List IDlv) (_ : List Dlv) : Prop :=
  Inv p w → Inv p w' ∧ Tr p w w' d

theorem step_inv {p : Nat × Nat → Bool} (w : W) (e : Ev) (h : Inv p w)
    (hf : ∀ k, e = .sub k → Fresh p w k) :
    Inv p (w.step e).1 ∧ Tr p w (w.step e).1 (stepI w e) := by
  have hpre : Inv p (pre w e) ∧ Tr p w (pre w e) [] := by
    cases e with
    | sub k =>
      obtain ⟨s, cs, hs, ha, ho⟩ := attach_shape w k
      exact ⟨attach_inv w k h (hf k rfl), Tr.silent fun hd => by rw [pre, ha]; exact ho.trans hd⟩
    | unsub k => exact unsubscribe_inv w k h
    | emit n => exact ⟨h, Tr.silent id⟩
    | connect => exact ⟨h, Tr.silent id⟩
    | q => exact ⟨h, Tr.silent id⟩
  have := step_emits (T := Gr p)
    (fun h1 h2 hi => ⟨(h2 (h1 hi).1).1, Tr.comp (h1 hi).2 (h2 (h1 hi).1).2⟩)
    (fun w w' hs hc _ hi => ⟨hi.congr hs hc, Tr.silent fun hd => by rw [hs]; exact hd⟩)
    (fun w n hi => tapCall_inv w n hi) w e hpre.1
  exact ⟨this.1, Tr.comp hpre.2 this.2⟩

/-- Every `sub` of the history is fresh for `p` at the moment it is issued. -/
def FreshRun (p : Nat × Nat → Bool) : W → List Ev → Prop
  | _, [] => True
  | w, e :: r => (∀ k, e = .sub k → Fresh p w k) ∧ FreshRun p (w.step e).1 r

theorem run_inv {p : Nat × Nat → Bool} (es : List Ev) : ∀ w : W, Inv p w → FreshRun p w es →
    Inv p (w.run es).1 ∧ Tr p w (w.run es).1 (runI w es) := by
  induction es with
  | nil => intro w h _; exact ⟨h, Tr.silent id⟩
  | cons e r ih =>
    intro w h hf
    have h1 := step_inv w e h hf.1
    have h2 := ih _ h1.1 hf.2
    exact ⟨h2.1, Tr.comp h1.2 h2.2⟩

theorem init_inv (p : Nat × Nat → Bool) (m : Model) (k : Kind) (cold : Option (List Val)) :
    Inv p (init m k cold) := by
  refine ⟨by simp [init, ents], by simp [init, ents], ?_⟩
  intro id id' l l' h
  simp [init] at h

end W
end Rx.Share
