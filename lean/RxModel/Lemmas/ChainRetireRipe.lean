import RxModel.Lemmas.ChainRetireExec
import RxModel.Lemmas.Async
/-
  C16 over the chain model: a producer whose observer is finished retires.

  * `TW.obsFin w b`: the observer the RepeatTask with body `b` polls (`interval_task` of the source, of an
    interval in second-input position, `emit_buffer` of buffer_with_time) answers `is_finished() = true`;
  * `Ripe w k`: task `k` is finished, or will finish at its next poll.  Polled, it is finished and no timer
    was created for it (`pollTask_ripe`); every move of the model keeps it ripe and creates no timer for it
    (`moves_stay`); the prompt executor polls it in its first pass (`runLoop_retires`).
-/
namespace Rx.T
open Rx

/-- `is_finished()` of the observer a RepeatTask body polls. -/
def TW.obsFin (w : TW) : Body → Bool
  | .tick => fin w.stages
  | .tickN j =>
    match w.stages[j]? with
    | some (.op2n st _ _ _) => st.finished .b (fin (w.stages.drop (j + 1)))
    | _ => true
  | .bufTick j =>
    match w.stages[j]? with
    | some (.bufTime _ _ alive _ _) => !alive || fin (w.stages.drop (j + 1))
    | _ => true
  | _ => false

theorem runTick_declines (w : TW) (b : Body) (seq : Nat) (h : w.obsFin b = true) :
    w.runTick b seq = (w, false) := by
  cases b with
  | tick => rw [TW.runTick_tick]; exact if_pos h
  | tickN j =>
    rw [TW.runTick_tickN]
    split
    · rename_i hj; simp only [TW.obsFin, hj] at h; exact if_pos h
    · rfl
  | bufTick j =>
    rw [TW.runTick_bufTick]
    split
    · rename_i hj; simp only [TW.obsFin, hj] at h; exact if_pos h
    · rfl
  | _ => cases h

theorem kind_op2n {st : Stage} (h : st.kind = 7) : ∃ o ns na nt, st = .op2n o ns na nt := by
  cases st with
  | op2n o ns na nt => exact ⟨_, _, _, _, rfl⟩
  | _ => cases h

theorem kind_bufTime {st : Stage} (h : st.kind = 6) : ∃ d c al data t, st = .bufTime d c al data t := by
  cases st with
  | bufTime d c al data t => exact ⟨_, _, _, _, _, rfl⟩
  | _ => cases h

theorem obsFin_mono {w w' : TW} (h : SLe w.stages w'.stages) (b : Body) (hb : w.obsFin b = true) :
    w'.obsFin b = true := by
  cases b with
  | tick => exact h.fin hb
  | tickN j =>
    simp only [TW.obsFin] at hb ⊢
    cases hj' : w'.stages[j]? with
    | none => rfl
    | some st' =>
      obtain ⟨st, hj, hle⟩ := h.get_back hj'
      cases st' with
      | op2n o' ns' na' nt' =>
        obtain ⟨o, ns, na, nt, rfl⟩ := kind_op2n (st := st) (by rw [hle.kind]; rfl)
        rw [hj] at hb; simp only at hb ⊢
        have h1 := hle.bfin _ hb
        exact Stage.bfin_mono (.op2n o' ns' na' nt') (SLe.drop (j + 1) h).fin h1
      | _ => rfl
  | bufTick j =>
    simp only [TW.obsFin] at hb ⊢
    cases hj' : w'.stages[j]? with
    | none => rfl
    | some st' =>
      obtain ⟨st, hj, hle⟩ := h.get_back hj'
      cases st' with
      | bufTime d' c' al' data' t' =>
        obtain ⟨d, c, al, data, t, rfl⟩ := kind_bufTime (st := st) (by rw [hle.kind]; rfl)
        rw [hj] at hb; simp only at hb ⊢
        simp only [Bool.or_eq_true, Bool.not_eq_true'] at hb ⊢
        rcases hb with hb | hb
        · left
          have := hle.sf (by simp [Stage.sf, hb])
          simpa [Stage.sf] using this
        · right; exact (SLe.drop (j + 1) h).fin hb
      | _ => rfl
  | _ => simp [TW.obsFin] at hb

def doneAt (s : Sched) (k : TaskId) : Prop := ∃ t : Task, s.tasks[k]? = some t ∧ t.done = true

theorem doneAt.fwd {s s' : Sched} {k : TaskId} (h : doneAt s k) (f : Fwd s s') : doneAt s' k := by
  obtain ⟨t, ht, hd⟩ := h
  obtain ⟨t', ht', _, hd'⟩ := f k t ht
  exact ⟨t', ht', hd' hd⟩

theorem finishOnce_doneAt (s : Sched) (k : TaskId) (t : Task) (h : s.tasks[k]? = some t) :
    doneAt (s.finishOnce k) k := ⟨_, Sched.finishOnce_get_self s k t h, rfl⟩

theorem finishOnce_timers (s : Sched) (k : TaskId) : (s.finishOnce k).timers = s.timers := by
  unfold Sched.finishOnce; split <;> rfl

/-- Task `k` is finished, or it is a RepeatTask whose period timer has expired and whose observer is
    finished, or it is the stream driver and its observer is finished. -/
def Ripe (w : TW) (k : TaskId) : Prop :=
  doneAt w.sched k ∨
    (∃ (t : Task) (fur iv seq : Nat), w.sched.tasks[k]? = some t ∧ t.rep = some (fur, iv, seq) ∧
      w.sched.timerFired fur = true ∧ w.obsFin t.body = true) ∨
    (∃ t : Task, w.sched.tasks[k]? = some t ∧ t.body = .streamSrc ∧ fin w.stages = true)

theorem Ripe.lt {w : TW} {k : TaskId} (h : Ripe w k) : k < w.sched.tasks.length := by
  rcases h with ⟨t, ht, _⟩ | ⟨t, _, _, _, ht, _⟩ | ⟨t, ht, _⟩ <;> exact Sched.get_lt ht

theorem Ripe.keep {w w' : TW} {k : TaskId} (h : Ripe w k) (hk : Keep k w.sched w'.sched)
    (hs : SLe w.stages w'.stages) (hf : Fwd w.sched w'.sched) : Ripe w' k := by
  rcases h with h | ⟨t, fur, iv, seq, ht, hr, hfi, ho⟩ | ⟨t, ht, hb, hfin⟩
  · exact Or.inl (h.fwd hf)
  · obtain ⟨t', ht', r', b', _, _⟩ := hk.task t ht
    exact Or.inr (Or.inl ⟨t', fur, iv, seq, ht', r'.trans hr, hk.fired fur hfi,
      by rw [b']; exact obsFin_mono hs _ ho⟩)
  · obtain ⟨t', ht', _, b', _, _⟩ := hk.task t ht
    exact Or.inr (Or.inr ⟨t', ht', b'.trans hb, hs.fin hfin⟩)

theorem runAsync_stream_done (w : TW) (h : fin w.stages = true) : (w.runAsync .streamSrc).2 = .done := by
  unfold TW.runAsync
  split
  · rename_i hb _; cases hb
  · exact (pollStream_finished _ _ _ _ w h).1
  · rfl

/-- A ripe task, polled: the tick declines (the stream driver returns `Ready`), the task is finished, and
    no timer was created for it. -/
theorem pollTask_ripe {w : TW} (hI : WI w) {k : TaskId} (hr : Ripe w k) :
    doneAt (w.pollTask k).sched k ∧ KeepT k w.sched (w.pollTask k).sched := by
  -- finished already: the poll does nothing; cancelled: it is marked finished without running
  have settled : ∀ t : Task, w.sched.tasks[k]? = some t → t.done = true ∨ t.keepRunning = false →
      doneAt (w.pollTask k).sched k ∧ KeepT k w.sched (w.pollTask k).sched := by
    intro t ht h
    unfold TW.pollTask
    cases hd : t.done with
    | true => rw [Sched.pollPre_finished ht hd]; exact ⟨⟨t, ht, hd⟩, KeepT.refl _ _⟩
    | false =>
      rw [Sched.pollPre_cancelled ht hd (h.resolve_left (by simp [hd]))]
      exact ⟨⟨_, Sched.setTask_get_self _ _ _ _ ht, rfl⟩, KeepT.of_timers rfl⟩
  have live : ∀ t : Task, (t.done = false → t.keepRunning = true → doneAt (w.pollTask k).sched k ∧
      KeepT k w.sched (w.pollTask k).sched) → w.sched.tasks[k]? = some t →
      doneAt (w.pollTask k).sched k ∧ KeepT k w.sched (w.pollTask k).sched := by
    intro t h ht
    cases hd : t.done with
    | true => exact settled t ht (Or.inl hd)
    | false =>
      cases hk : t.keepRunning with
      | false => exact settled t ht (Or.inr hk)
      | true => exact h hd hk
  rcases hr with ⟨t, ht, hd⟩ | ⟨t, fur, iv, seq, ht, hrep, hf, hobs⟩ | ⟨t, ht, hb, hfin⟩
  · exact settled t ht (Or.inl hd)
  · refine live t (fun hd hk => ?_) ht
    obtain ⟨hod, hot, _⟩ := hI.rep k t fur iv seq ht hrep
    have hpre := Sched.pollPre_tick ht hd hk hod (fun tm h => by rw [hot] at h; cases h) hrep hf
    have hobs' : TW.obsFin ({ w with sched := w.sched.setTask k { t with woken := false, outerTimer := none } } : TW)
        t.body = true := hobs
    unfold TW.pollTask
    rw [hpre]
    dsimp only
    rw [runTick_declines _ _ _ hobs']
    exact ⟨finishOnce_doneAt _ k _ (Sched.setTask_get_self _ _ _ _ ht), KeepT.of_timers (finishOnce_timers _ _)⟩
  · refine live t (fun hd hk => ?_) ht
    obtain ⟨hr, hod, hot⟩ := hI.async k t ht (by rw [hb]; rfl)
    have hpre := Sched.pollPre_once ht hd hk hod (fun tm h => by rw [hot] at h; cases h) hr
    have ht1 := Sched.setTask_get_self w.sched k { t with woken := false, outerTimer := none } t ht
    have hT1 : (w.sched.setTask k { t with woken := false, outerTimer := none }).timers = w.sched.timers := rfl
    generalize w.sched.setTask k { t with woken := false, outerTimer := none } = s1 at hpre ht1 hT1
    have hfin0 : fin ({ w with sched := s1 } : TW).stages = true := hfin
    have hdone := runAsync_stream_done _ hfin0
    have e := runAsync_eff ({ w with sched := s1 } : TW) .streamSrc
    unfold TW.pollTask
    rw [hpre]
    dsimp only
    rw [hb]
    simp only [Body.isAsync, if_true]
    generalize TW.runAsync ({ w with sched := s1 } : TW) .streamSrc = ra at hdone e
    obtain ⟨w1, o⟩ := ra
    dsimp only at hdone e
    subst hdone
    obtain ⟨t', ht', _⟩ := e.sch.frame.tasks k _ ht1
    exact ⟨finishOnce_doneAt _ k t' ht', (KeepT.of_timers hT1).trans
      ((KeepT.of_frame e.sch.frame (Sched.get_lt ht1)).trans (KeepT.of_timers (finishOnce_timers _ _)))⟩

theorem pollAll_retires (l : List TaskId) : ∀ {w : TW}, WI w → ∀ {k : TaskId}, Ripe w k → k ∈ l →
    doneAt (w.pollAll l).sched k := by
  induction l with
  | nil => intro w _ k _ hm; cases hm
  | cons j r ih =>
    intro w hI k hr hm
    by_cases e : j = k
    · subst e
      -- the task itself: polled now (or finished already), finished for the rest of the pass
      rcases pollAll_cons_cases w j r with ⟨heq, _⟩ | ⟨heq, hx⟩
      · rw [heq]
        exact (pollTask_ripe hI hr).1.fwd (pollAll_ok r (pollTask_ok hI j).1).2.fwd
      · rw [heq]
        refine doneAt.fwd ?_ (pollAll_ok r hI).2.fwd
        rcases hx with hx | hx
        · exact absurd hr.lt (Nat.not_lt.mpr (List.getElem?_eq_none_iff.mp hx))
        · exact hx
    · have hm' : k ∈ r := (List.mem_cons.mp hm).resolve_left (fun h => e h.symm)
      rcases pollAll_cons_cases w j r with ⟨heq, _⟩ | ⟨heq, _⟩
      · rw [heq]
        have ok := pollTask_ok hI j
        exact ih ok.1 (hr.keep (pollTask_keep hI e hr.lt) ok.2.stg ok.2.fwd) hm'
      · rw [heq]; exact ih hI hr hm'

theorem fire_timers_length (s : Sched) (tm : TimerId) : (s.fire tm).timers.length = s.timers.length := by
  unfold Sched.fire
  split
  · rfl
  · simp only; split
    · split <;> simp [Sched.setTask, Sched.setTimer]
    · simp [Sched.setTimer]

theorem fire_fired_mono (s : Sched) (tm i : TimerId) (h : s.timerFired i = true) :
    (s.fire tm).timerFired i = true := by
  rw [Sched.fire_timerFired, h]; rfl

theorem fireAll_fired_mono (l : List TimerId) : ∀ (s : Sched) (i : TimerId), s.timerFired i = true →
    (l.foldl Sched.fire s).timerFired i = true := by
  induction l with
  | nil => intro s i h; exact h
  | cons a r ih => intro s i h; exact ih _ i (fire_fired_mono s a i h)

theorem fireAll_fires (l : List TimerId) : ∀ (s : Sched) (i : TimerId), i ∈ l → i < s.timers.length →
    (l.foldl Sched.fire s).timerFired i = true := by
  induction l with
  | nil => intro s i h; cases h
  | cons a r ih =>
    intro s i hm hl
    by_cases e : a = i
    · subst e
      refine fireAll_fired_mono r _ a ?_
      rw [Sched.fire_timerFired]; simp [hl]
    · exact ih _ i ((List.mem_cons.mp hm).resolve_left (fun h => e h.symm))
        (by rw [fire_timers_length]; exact hl)

theorem mem_liveTasks (s : Sched) (k : TaskId) (t : Task) (h : s.tasks[k]? = some t)
    (hd : t.done = false) : k ∈ s.liveTasks := by
  simp only [Sched.liveTasks, List.mem_filter, List.mem_range]
  refine ⟨Sched.get_lt h, ?_⟩
  rw [h]; simp [hd]

theorem fire_task (s : Sched) (tm : TimerId) (j : TaskId) (t : Task) (h : s.tasks[j]? = some t) :
    ∃ t' : Task, (s.fire tm).tasks[j]? = some t' ∧ t'.rep = t.rep ∧ t'.body = t.body ∧ t'.done = t.done ∧
      (t.woken = true → t'.woken = true) := by
  unfold Sched.fire
  split
  · exact ⟨t, h, rfl, rfl, rfl, id⟩
  · rename_i tr htr
    simp only; split
    · split
      · rename_i tk htk
        simp only [Sched.setTimer_tasks] at htk
        by_cases e : j = tr.owner
        · subst e
          rw [h] at htk; cases htk
          exact ⟨_, Sched.setTask_get_self _ _ _ t (by simpa using h), rfl, rfl, rfl, fun _ => rfl⟩
        · rw [Sched.setTask_get_ne _ _ _ _ e]
          exact ⟨t, h, rfl, rfl, rfl, id⟩
      · exact ⟨t, h, rfl, rfl, rfl, id⟩
    · exact ⟨t, h, rfl, rfl, rfl, id⟩

theorem fire_keepT (s : Sched) (tm : TimerId) (k : TaskId) : KeepT k s (s.fire tm) := by
  cases ht : s.timers[tm]? with
  | none => unfold Sched.fire; rw [ht]; exact KeepT.refl _ _
  | some t =>
    have htimers : (s.fire tm).timers = (s.setTimer tm { t with fired := true }).timers := by
      rw [fire_eq s tm t ht]
      cases hreg : t.registered with
      | false => simp only [Bool.false_eq_true, if_false]
      | true =>
        simp only [if_true]
        cases s.tasks[t.owner]? <;> rfl
    intro i tm' h ho
    rw [htimers, setTimer_get s tm _ i t ht] at h
    by_cases e : tm = i
    · subst e
      simp only [if_true, Option.some.injEq] at h
      subst h
      exact ⟨t, ht, ho, fun _ => rfl⟩
    · rw [if_neg e] at h
      exact ⟨tm', h, ho, id⟩

theorem fire_keep (s : Sched) (tm : TimerId) (k : TaskId) : Keep k s (s.fire tm) :=
  ⟨fun t h => fire_task s tm k t h, fun i h => fire_fired_mono s tm i h, fire_keepT s tm k⟩

theorem fireAll_keep (l : List TimerId) (k : TaskId) : ∀ s : Sched, Keep k s (l.foldl Sched.fire s) := by
  induction l with
  | nil => intro s; exact Keep.refl _ _
  | cons a r ih => intro s; exact (fire_keep s a k).trans (ih _)

/-- `run` polls every ready task in its first pass: a task that is ripe after the
    due timers have fired, and marked ready, is finished when `run` returns. -/
theorem runLoop_retires (f : Nat) {w : TW} (hI : WI w) {k : TaskId}
    (hr : Ripe { w with sched := w.sched.dueTimers.foldl Sched.fire w.sched } k)
    (hw : ∀ t : Task, (w.sched.dueTimers.foldl Sched.fire w.sched).tasks[k]? = some t → t.done = false →
      t.woken = true) :
    doneAt (TW.runLoop (f + 1) w).sched k := by
  rw [TW.runLoop_succ]
  dsimp only
  have h1 := fireAll_ok hI w.sched.dueTimers
  generalize hs1 : w.sched.dueTimers.foldl Sched.fire w.sched = s1 at h1 hr hw
  obtain ⟨t, ht⟩ : ∃ t : Task, s1.tasks[k]? = some t := ⟨_, List.getElem?_eq_getElem hr.lt⟩
  cases hd : t.done with
  | true =>
    have hd' : doneAt s1 k := ⟨t, ht, hd⟩
    split
    · exact hd'
    · exact (hd'.fwd (pollAll_ok _ h1.1).2.fwd).fwd (runLoop_ok f (pollAll_ok _ h1.1).1).2.fwd
  | false =>
    have hlive := mem_liveTasks s1 k t ht hd
    have hwk := hw t ht hd
    split
    · rename_i hc
      simp only [Bool.and_eq_true, List.isEmpty_iff] at hc
      have := List.filter_eq_nil_iff.mp hc.2 k hlive
      simp [ht, hwk] at this
    · refine doneAt.fwd (pollAll_retires _ h1.1 hr ?_) (runLoop_ok f (pollAll_ok _ h1.1).1).2.fwd
      rw [List.mem_filter]
      exact ⟨hlive, by simp [ht, hwk]⟩

/-- Every move of the model keeps a ripe task ripe (it is finished once it has been polled) and creates
    no timer for it. -/
theorem moves_stay (k : TaskId) :
    Moves (fun w => WI w ∧ Ripe w k) (fun w w' => KeepT k w.sched w'.sched) := by
  have viaKeep : ∀ {w w' : TW}, WI w' ∧ StepR w w' → Ripe w k → Keep k w.sched w'.sched →
      (WI w' ∧ Ripe w' k) ∧ KeepT k w.sched w'.sched :=
    fun ok hr hk => ⟨⟨ok.1, hr.keep hk ok.2.stg ok.2.fwd⟩, hk.timers⟩
  have viaEff : ∀ {a : Bool} {w w' : TW}, Eff a w w' → WI w ∧ Ripe w k →
      (WI w' ∧ Ripe w' k) ∧ KeepT k w.sched w'.sched :=
    fun e h => viaKeep ⟨e.wi h.1, e.stepR⟩ h.2 (Keep.of_frame e.sch.frame h.2.lt)
  exact {
    refl := fun w => KeepT.refl k _
    trans := KeepT.trans
    poll := fun w j h => by
      by_cases e : j = k
      · subst e
        exact ⟨⟨(pollTask_ok h.1 j).1, Or.inl (pollTask_ripe h.1 h.2).1⟩, (pollTask_ripe h.1 h.2).2⟩
      · exact viaKeep (pollTask_ok h.1 j) h.2 (pollTask_keep h.1 e h.2.lt)
    fire := fun w tm h =>
      viaKeep ⟨h.1.fire tm, StepR.sched w _ (Fwd.fire _ tm)⟩ h.2 (fire_keep w.sched tm k)
    adv := fun w d h => viaKeep (step_ok h.1 (.adv d)) h.2
      ⟨fun t ht => ⟨t, ht, rfl, rfl, rfl, id⟩, fun _ hf => hf, KeepT.of_timers rfl⟩
    sub := fun w h => viaEff (step_sub_eff w) h
    emit := fun w i n h => viaEff (step_emit_eff w i n) h
    unsub := fun w h => viaEff (step_unsub_eff w) h }

def TimersFired (s : Sched) (k : TaskId) : Prop :=
  ∀ (i : Nat) (tm : Timer), s.timers[i]? = some tm → tm.owner = k → tm.fired = true

theorem TimersFired.keep {s s' : Sched} {k : TaskId} (h : TimersFired s k) (hk : KeepT k s s') :
    TimersFired s' k := by
  intro i tm' h' ho
  obtain ⟨tm, h0, ho0, hf⟩ := hk i tm' h' ho
  exact hf (h i tm h0 ho0)

/-- When the period timer of a RepeatTask has expired, all its timers have. -/
theorem timersFired_of_cur {src : TSrc} {x : Option TaskId} {s : Sched} (hI : SInvX src x s) {k : TaskId} {t : Task}
    {fur iv seq : Nat} (ht : s.tasks[k]? = some t) (hrep : t.rep = some (fur, iv, seq))
    (hf : s.timerFired fur = true) : TimersFired s k := by
  intro i tm hi ho
  cases hfi : tm.fired with
  | true => rfl
  | false =>
    have := hI.cur i tm t fur iv seq hi hfi (by rw [ho]; exact ht) hrep
    subst this
    unfold Sched.timerFired at hf; rw [hi] at hf
    simp only at hf
    rw [hf] at hfi; cases hfi

theorem runLoop_succ_keepT (f : Nat) {w : TW} (hI : WI w) {k : TaskId}
    (hr : Ripe { w with sched := w.sched.dueTimers.foldl Sched.fire w.sched } k) :
    KeepT k (w.sched.dueTimers.foldl Sched.fire w.sched) (TW.runLoop (f + 1) w).sched := by
  rw [TW.runLoop_succ]
  dsimp only
  split
  · exact KeepT.refl _ _
  · have h1 := And.intro (fireAll_ok hI w.sched.dueTimers).1 hr
    exact ((moves_stay k).pollAll _ h1).2.trans ((moves_stay k).runLoop f ((moves_stay k).pollAll _ h1).1).2

/-- Any RepeatTask whose observer is finished and whose period timer is due, once
    the due timers have fired: ripe, marked ready, and all its timers have expired. -/
theorem rep_ripe {w : TW} (hI : WI w) {k : TaskId} {t : Task} {fur iv seq : Nat} {tm : Timer}
    (ht : w.sched.tasks[k]? = some t) (hrep : t.rep = some (fur, iv, seq))
    (htm : w.sched.timers[fur]? = some tm) (hdue : tm.due ≤ w.sched.now)
    (hobs : w.obsFin t.body = true) :
    Ripe { w with sched := w.sched.dueTimers.foldl Sched.fire w.sched } k ∧
    TimersFired (w.sched.dueTimers.foldl Sched.fire w.sched) k ∧
    (∀ t' : Task, (w.sched.dueTimers.foldl Sched.fire w.sched).tasks[k]? = some t' →
      t'.done = false → t'.woken = true) := by
  obtain ⟨t1, ht1, hr1, hb1, _, _⟩ := (fireAll_keep w.sched.dueTimers k w.sched).task t ht
  have hfired : (w.sched.dueTimers.foldl Sched.fire w.sched).timerFired fur = true := by
    cases hf : tm.fired with
    | true =>
      refine fireAll_fired_mono _ _ _ ?_
      unfold Sched.timerFired; rw [htm]; exact hf
    | false => exact fireAll_fires _ _ _ ((Sched.mem_dueTimers_iff w.sched fur).2 ⟨tm, htm, hf, hdue⟩) (Sched.get_lt htm)
  have hI1 : SInvX w.src none (w.sched.dueTimers.foldl Sched.fire w.sched) :=
    (fireAll_ok hI w.sched.dueTimers).1
  refine ⟨?_, timersFired_of_cur hI1 ht1 (hr1.trans hrep) hfired, ?_⟩
  · refine Or.inr (Or.inl ⟨t1, fur, iv, seq, ht1, hr1.trans hrep, hfired, ?_⟩)
    rw [hb1]; exact hobs
  · intro t' ht' hd'
    rw [ht1] at ht'; cases ht'
    obtain ⟨_, _, tm1, htm1, _, hw1, _⟩ := hI1.rep k t1 fur iv seq ht1 (hr1.trans hrep)
    -- not marked ready would mean its expired timer still holds the waker
    refine (hw1 hd' (by simp)).resolve_right (fun h => ?_)
    unfold Sched.timerFired at hfired
    rw [htm1] at hfired
    rw [show tm1.fired = true from hfired] at h; cases h.2

/-- … so `run` finishes it in its first pass, and it owns no pending timer. -/
theorem repeat_retired {w : TW} (hI : WI w) {k : TaskId} {t : Task} {fur iv seq : Nat} {tm : Timer}
    (ht : w.sched.tasks[k]? = some t) (hrep : t.rep = some (fur, iv, seq))
    (htm : w.sched.timers[fur]? = some tm) (hdue : tm.due ≤ w.sched.now)
    (hobs : w.obsFin t.body = true) :
    doneAt (w.step .run).sched k ∧ TimersFired (w.step .run).sched k := by
  obtain ⟨hr, hT, hw⟩ := rep_ripe hI ht hrep htm hdue hobs
  exact ⟨runLoop_retires _ hI hr hw, hT.keep (runLoop_succ_keepT _ hI hr)⟩

/-- The interval source: `adv d; run` with `d ≥ bound` — its period timer is due once `d` has passed. -/
theorem tick_retired {w : TW} (hI : WI w) (hfin : fin w.stages = true) (d : Nat) (hd : w.src.bound ≤ d)
    {k : TaskId} {t : Task} (ht : w.sched.tasks[k]? = some t) (hb : t.body = .tick) :
    doneAt ((w.step (.adv d)).step .run).sched k ∧ TimersFired ((w.step (.adv d)).step .run).sched k := by
  obtain ⟨fur, iv, seq, hrep⟩ : ∃ fur iv seq, t.rep = some (fur, iv, seq) := by
    cases hr : t.rep with
    | none => exact absurd hr (hI.tickRep k t ht hb)
    | some r => exact ⟨r.1, r.2.1, r.2.2, rfl⟩
  obtain ⟨_, _, tm, htm, _, _, hbound⟩ := hI.rep k t fur iv seq ht hrep
  have hdue : tm.due ≤ w.sched.now + d :=
    Nat.le_trans (hI.due fur tm htm) (Nat.add_le_add_left (Nat.le_trans (hbound hb).2 hd) _)
  exact repeat_retired (w := w.step (.adv d)) (step_ok hI (.adv d)).1 ht hrep htm hdue (by rw [hb]; exact hfin)

theorem tick_retires {w : TW} (hI : WI w) (hfin : fin w.stages = true) (d : Nat) (hd : w.src.bound ≤ d)
    {k : TaskId} {t : Task} (ht : w.sched.tasks[k]? = some t) (hb : t.body = .tick) :
    doneAt ((w.step (.adv d)).step .run).sched k := (tick_retired hI hfin d hd ht hb).1

theorem repeat_retires {w : TW} (hI : WI w) {k : TaskId} {t : Task} {fur iv seq : Nat} {tm : Timer}
    (ht : w.sched.tasks[k]? = some t) (hrep : t.rep = some (fur, iv, seq))
    (htm : w.sched.timers[fur]? = some tm) (hdue : tm.due ≤ w.sched.now)
    (hobs : w.obsFin t.body = true) : doneAt (w.step .run).sched k :=
  (repeat_retired hI ht hrep htm hdue hobs).1

/-- The stream driver: marked ready, it is polled by the next `run` and returns `Ready`. -/
theorem stream_retires {w : TW} (hI : WI w) (hfin : fin w.stages = true)
    {k : TaskId} {t : Task} (ht : w.sched.tasks[k]? = some t) (hb : t.body = .streamSrc)
    (hw : t.woken = true) : doneAt (w.step .run).sched k := by
  obtain ⟨t1, ht1, _, hb1, _, hw1⟩ := (fireAll_keep w.sched.dueTimers k w.sched).task t ht
  refine runLoop_retires _ hI (Or.inr (Or.inr ⟨t1, ht1, hb1.trans hb, hfin⟩)) ?_
  intro t' ht' _
  rw [ht1] at ht'; cases ht'
  exact hw1 hw

/-- A finished task that owns no pending timer: for ever. -/
theorem retired_forever {w : TW} (hI : WI w) {k : TaskId} (hd : doneAt w.sched k)
    (hT : TimersFired w.sched k) (evs : List TW.Ev) :
    doneAt (w.runEvs evs).sched k ∧ TimersFired (w.runEvs evs).sched k :=
  ⟨hd.fwd (runEvs_ok evs hI).2.fwd, hT.keep ((moves_stay k).steps evs ⟨hI, Or.inl hd⟩).2⟩

end Rx.T
