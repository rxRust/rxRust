import RxModel.Ops.Single
/-
  Single-input observers keep the stream grammar FROM EVERY STATE (not only
  from `Op1.init`): a well-formed input gives a well-formed output.  Used for
  the operators between group_by and the outer probe (C01M).
-/
namespace Rx
namespace St1

theorem step_dead (s : St1) (h : s.dead = true) (n : Notif) :
    (s.step n).2 = [] ∧ (s.step n).1.dead = true := by
  rw [step_of_dead s h n]; exact ⟨rfl, h⟩

theorem run_dead (X : List Notif) (s : St1) (h : s.dead = true) : (s.run X).2 = [] :=
  congrArg Prod.snd (run_of_dead s h X)

theorem run_wf (X : List Notif) : ∀ s : St1, WF X → WF (s.run X).2 := by
  induction X with
  | nil => intro s _; exact True.intro
  | cons n r ih =>
    intro s h
    cases n with
    | next v =>
      have h1 := onNext_disciplined s v
      exact (WF_append_iff _ _).2 ⟨h1.1, fun ht => run_dead r _ (h1.2 ht), ih _ h⟩
    | error e => cases (h : r = []); simpa [run, step] using onError_wf s e
    | complete => cases (h : r = []); simpa [run, step] using onComplete_wf s

end St1

theorem runChain_nil (ch : List St1) : runChain ch [] = (ch, []) := by
  induction ch with
  | nil => rfl
  | cons o os ih => simp [runChain, St1.run, ih]

theorem runChain_append (ch : List St1) : ∀ a b : List Notif,
    runChain ch (a ++ b) =
      ((runChain (runChain ch a).1 b).1, (runChain ch a).2 ++ (runChain (runChain ch a).1 b).2) := by
  induction ch with
  | nil => intro a b; simp [runChain]
  | cons o os ih =>
    intro a b
    simp only [runChain, St1.run_append, ih]

theorem runChain_wf (ch : List St1) : ∀ X : List Notif, WF X → WF (runChain ch X).2 := by
  induction ch with
  | nil => intro X h; simpa [runChain] using h
  | cons o os ih =>
    intro X h
    simp only [runChain]
    exact ih _ (St1.run_wf X o h)

end Rx
