import RxModel.Ops.Init
/-
  C09 over whole chains: the *filtering* class of single-input
  operators — the operators that only ever pass on items they received, in the
  order they received them, each at most once (filter, tap, on_error_map, take,
  take_while, skip, skip_while, take_last, skip_last, last, the distinct family).
  `St1.held` is what such an observer still keeps in its own buffer.

  Key fact (`St1.step_filtering`), valid for ANY notification in ANY state of
  the class (no well-formedness of the input is needed): what a step emits,
  followed by what is held afterwards, is a sublist of what was held before
  followed by the item that arrived.
-/
namespace Rx
open Spec

/-- Operators whose output items are a subsequence of their input items. -/
def Spec.Op1.filtering : Op1 → Bool
  | .filter _ => true
  | .tap => true
  | .onErrorMap _ => true
  | .take _ => true
  | .takeWhile _ _ => true
  | .skip _ => true
  | .skipWhile _ => true
  | .takeLast _ => true
  | .skipLast _ => true
  | .last => true
  | .distinct => true
  | .distinctKey _ => true
  | .distinctUntilChanged => true
  | .distinctUntilKeyChanged _ => true
  | _ => false

namespace St1

/-- The same class on observer states (by constructor). -/
def filtering : St1 → Bool
  | .filter _ => true
  | .tap _ => true
  | .onErrorMap _ => true
  | .onComplete _ => true
  | .onError _ => true
  | .take _ _ _ => true
  | .takeWhile _ _ _ => true
  | .skip _ _ => true
  | .skipWhile _ _ => true
  | .takeLast _ _ => true
  | .skipLast _ _ => true
  | .last _ => true
  | .distinct _ => true
  | .distinctKey _ _ => true
  | .distinctUntilChanged _ => true
  | .distinctUntilKeyChanged _ _ => true
  | _ => false

/-- Items buffered inside the observer. -/
def held : St1 → List Val
  | .takeLast _ q => q
  | .skipLast _ q => q
  | .last l => l.toList
  | _ => []

theorem lastN_sublist (n : Nat) (l : List Val) : (lastN n l).Sublist l := List.drop_sublist _ _

theorem onNext_filtering (st : St1) (v : Val) (h : st.filtering = true) :
    (st.onNext v).1.filtering = true ∧
      (items (st.onNext v).2 ++ (st.onNext v).1.held).Sublist (st.held ++ [v]) := by
  cases st with
  | filter p => by_cases hp : p v = true <;> simp [onNext, filtering, held, items, hp]
  | tap c => simp [onNext, filtering, held, items]
  | onErrorMap f => simp [onNext, filtering, held, items]
  | onComplete c => simp [onNext, filtering, held, items]
  | onError c => simp [onNext, filtering, held, items]
  | take count hits alive =>
    simp only [onNext]
    repeat' split
    all_goals simp [filtering, held, items]
  | takeWhile p incl alive =>
    simp only [onNext]
    repeat' split
    all_goals simp [filtering, held, items]
  | skip count hits =>
    simp only [onNext]
    repeat' split
    all_goals simp [filtering, held, items]
  | skipWhile p done =>
    simp only [onNext]
    repeat' split
    all_goals simp [filtering, held, items]
  | takeLast count q =>
    refine ⟨rfl, ?_⟩
    simpa [onNext, held, items] using lastN_sublist count (q ++ [v])
  | skipLast cd q =>
    simp only [onNext]
    split
    · split
      · next h t he => simp [filtering, held, items, he]
      · simp [filtering, held, items]
    · simp [filtering, held, items]
  | last l => cases l <;> simp [onNext, filtering, held, items]
  | distinct seen =>
    simp only [onNext]
    split <;> simp [filtering, held, items]
  | distinctKey key seen =>
    simp only [onNext]
    split <;> simp [filtering, held, items]
  | distinctUntilChanged l =>
    simp only [onNext]
    split <;> simp [filtering, held, items]
  | distinctUntilKeyChanged key l =>
    simp only [onNext]
    repeat' split
    all_goals simp [filtering, held, items]
  | _ => simp [filtering] at h

theorem onError_filtering (st : St1) (e : Err) (h : st.filtering = true) :
    (st.onError' e).1.filtering = true ∧
      (items (st.onError' e).2 ++ (st.onError' e).1.held).Sublist st.held := by
  cases st with
  | take count hits alive => cases alive <;> simp [onError', filtering, held, items]
  | takeWhile p incl alive => cases alive <;> simp [onError', filtering, held, items]
  | last l => cases l <;> simp [onError', filtering, held, items]
  | _ => first | (simp [filtering] at h; done) | simp [onError', filtering, held, items]

theorem items_nexts_snoc (q : List Val) (n : Notif) (hn : n.isTerm = true) :
    items (q.map Notif.next ++ [n]) = q := by
  rw [items_append, items_nexts]
  cases n <;> simp_all [items, Notif.isTerm]

theorem onComplete_filtering (st : St1) (h : st.filtering = true) :
    (st.onComplete').1.filtering = true ∧
      (items (st.onComplete').2 ++ (st.onComplete').1.held).Sublist st.held := by
  cases st with
  | take count hits alive => cases alive <;> simp [onComplete', filtering, held, items]
  | takeWhile p incl alive => cases alive <;> simp [onComplete', filtering, held, items]
  | takeLast count q =>
    refine ⟨rfl, ?_⟩
    simp only [onComplete', held, List.append_nil]
    rw [items_nexts_snoc q _ rfl]
    exact List.Sublist.refl _
  | last l => cases l <;> simp [onComplete', filtering, held, items]
  | _ => first | (simp [filtering] at h; done) | simp [onComplete', filtering, held, items]

/-- One notification: the class is closed, and `emitted ++ held' ⊑ held ++ arrived`. -/
theorem step_filtering (st : St1) (n : Notif) (h : st.filtering = true) :
    (st.step n).1.filtering = true ∧
      (items (st.step n).2 ++ (st.step n).1.held).Sublist (st.held ++ items [n]) := by
  cases n with
  | next v => exact onNext_filtering st v h
  | error e => simpa [step, items] using onError_filtering st e h
  | complete => simpa [step, items] using onComplete_filtering st h

/-- A whole input: `emitted ++ held' ⊑ held ++ items input`. -/
theorem run_filtering (st : St1) (inp : List Notif) (h : st.filtering = true) :
    (st.run inp).1.filtering = true ∧
      (items (st.run inp).2 ++ (st.run inp).1.held).Sublist (st.held ++ items inp) := by
  induction inp generalizing st with
  | nil => simp [run, h, items]
  | cons n r ih =>
    obtain ⟨h1, h2⟩ := step_filtering st n h
    obtain ⟨h3, h4⟩ := ih (st.step n).1 h1
    refine ⟨h3, ?_⟩
    simp only [run, items_append, List.append_assoc]
    have e : items (n :: r) = items [n] ++ items r := by
      rw [← items_append]; rfl
    rw [e, ← List.append_assoc]
    have h5 := (List.Sublist.append (List.Sublist.refl (items (st.step n).2)) h4).trans
      (by rw [← List.append_assoc]; exact List.Sublist.append h2 (List.Sublist.refl _))
    simpa only [List.append_assoc] using h5

end St1

theorem Spec.Op1.init_filtering (op : Op1) : op.init.filtering = op.filtering := by
  cases op <;> rfl

theorem Spec.Op1.init_held (op : Op1) : op.init.held = [] := by
  cases op <;> rfl

/-- The items a filtering operator emits are a subsequence of the items it received. -/
theorem filtering_run_sublist (op : Op1) (h : op.filtering = true) (inp : List Notif) :
    (items (St1.run op.init inp).2).Sublist (items inp) := by
  have := (St1.run_filtering op.init inp (by rw [op.init_filtering]; exact h)).2
  rw [op.init_held] at this
  exact (List.sublist_append_left _ _).trans (by simpa using this)

/-- … and so for a chain of observers of the class, in any states with empty buffers. -/
theorem filtering_runChain_sublist (sts : List St1)
    (h : ∀ st ∈ sts, st.filtering = true ∧ st.held = []) (inp : List Notif) :
    (items (runChain sts inp).2).Sublist (items inp) := by
  induction sts generalizing inp with
  | nil => exact List.Sublist.refl _
  | cons st r ih =>
    have h1 := (St1.run_filtering st inp (h st (by simp)).1).2
    rw [(h st (by simp)).2] at h1
    have h2 := ih (fun s hs => h s (by simp [hs])) (st.run inp).2
    simp only [runChain]
    exact h2.trans ((List.sublist_append_left _ _).trans (by simpa using h1))

end Rx
