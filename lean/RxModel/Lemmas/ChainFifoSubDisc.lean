import RxModel.Lemmas.ChainFifoSubStage
/-
  C07 over chains with several time stages: the FIFO discipline of the tasks
  of one mover (scheduler-level facts only).

  `Disc j dl s`: every pending `emit j` task is either *fresh* (never polled: no timer
  yet, `outerDelay = dl`, woken) or *armed* (its delay timer exists, is registered, owned
  by it, due at most `now + d`; if the timer has fired the task is woken); along the
  spawn order the armed tasks come first, their due times are non-decreasing and a
  fired timer is never behind an unfired one.

  * `Disc.of_sub`: every scheduler move that keeps the pending tasks as they are
    (clock advances, cancellations, new fresh tasks, polls of other tasks);
  * `Disc.arm`: the first poll of a fresh `emit j` task under `delay d`, provided no
    earlier task is still waiting to be polled;
  * `Fired` / `fireAll_fired` / `Disc.fired`: firing all due timers.
-/
namespace Rx.T
open Rx Rx.Spec

def IsE (j : Nat) (t : Task) : Prop := (∃ n, t.body = .emit j n) ∧ t.done = false ∧ t.keepRunning = true

theorem IsE_of_elig {j : Nat} {t : Task} {n : Notif} (h : Elig j t = some n) : IsE j t :=
  ⟨⟨n, (Elig_eq_some.mp h).1⟩, (Elig_eq_some.mp h).2⟩

theorem IsE.elig {j : Nat} {t : Task} (h : IsE j t) : ∃ n, Elig j t = some n := by
  obtain ⟨⟨n, hn⟩, h2⟩ := h
  exact ⟨n, Elig_eq_some.mpr ⟨hn, h2⟩⟩

theorem IsE.congr {j : Nat} {t t' : Task} (h : IsE j t) (hb : t'.body = t.body) (hd : t'.done = t.done)
    (hk : t'.keepRunning = t.keepRunning) : IsE j t' := by
  unfold IsE; rw [hb, hd, hk]; exact h

def FreshT (dl : Option Nat) (t : Task) : Prop :=
  t.outerTimer = none ∧ t.outerDelay = dl ∧ t.woken = true

def ArmedT (s : Sched) (dl : Option Nat) (k : Nat) (t : Task) : Prop :=
  t.outerDelay = none ∧ ∃ tm tr d, t.outerTimer = some tm ∧ s.timers[tm]? = some tr ∧ tr.owner = k ∧
    tr.registered = true ∧ dl = some d ∧ tr.due ≤ s.now + d ∧ (tr.fired = true → t.woken = true)

/-- Timers are kept (due time, owner, fired flag); `registered` may be set. -/
def TimersLe (s s' : Sched) : Prop :=
  ∀ (tm : Nat) tr, s.timers[tm]? = some tr → ∃ tr', s'.timers[tm]? = some tr' ∧ tr'.due = tr.due ∧
    tr'.owner = tr.owner ∧ tr'.fired = tr.fired ∧ (tr.registered = true → tr'.registered = true)

theorem TimersLe.of_eq {s s' : Sched} (e : s'.timers = s.timers) : TimersLe s s' := by
  intro tm tr h; rw [e]; exact ⟨tr, h, rfl, rfl, rfl, fun h => h⟩

theorem TimersLe.registerTimer (s : Sched) (tm : TimerId) : TimersLe s (s.registerTimer tm) := by
  intro i tr h
  rw [Sched.registerTimer_get, h]
  simp only [Option.map]
  by_cases e : tm = i
  · rw [if_pos e]; exact ⟨_, rfl, rfl, rfl, rfl, fun _ => rfl⟩
  · rw [if_neg e]; exact ⟨_, rfl, rfl, rfl, rfl, fun h => h⟩

structure Disc (j : Nat) (dl : Option Nat) (s : Sched) : Prop where
  d1 : ∀ (k : Nat) t, s.tasks[k]? = some t → IsE j t → FreshT dl t ∨ ArmedT s dl k t
  d2 : ∀ (k1 k2 : Nat) t1 t2 tm2 tr2, k1 < k2 → s.tasks[k1]? = some t1 → s.tasks[k2]? = some t2 →
    IsE j t1 → IsE j t2 → t2.outerTimer = some tm2 → s.timers[tm2]? = some tr2 →
    ∃ tm1 tr1, t1.outerTimer = some tm1 ∧ s.timers[tm1]? = some tr1 ∧ tr1.due ≤ tr2.due ∧
      (tr2.fired = true → tr1.fired = true)

theorem Disc.empty (j : Nat) (dl : Option Nat) (s : Sched) (h : s.tasks = []) : Disc j dl s :=
  ⟨fun k t hk => by rw [h] at hk; simp at hk, fun k1 k2 t1 t2 _ _ _ hk => by rw [h] at hk; simp at hk⟩

variable {j : Nat} {dl : Option Nat} {s s' : Sched}

/-- An armed task's timer in `s`. -/
theorem Disc.timer_of (D : Disc j dl s) {k : Nat} {t : Task} {tm : Nat} (hk : s.tasks[k]? = some t)
    (hE : IsE j t) (ho : t.outerTimer = some tm) : ArmedT s dl k t := by
  rcases D.d1 k t hk hE with ⟨f1, _, _⟩ | a
  · rw [f1] at ho; cases ho
  · exact a

theorem Disc.of_sub (D : Disc j dl s) (hnow : s.now ≤ s'.now) (ht : TimersLe s s')
    (hold : ∀ (k : Nat) t', s'.tasks[k]? = some t' → IsE j t' →
      (∃ t, s.tasks[k]? = some t ∧ IsE j t ∧ t'.outerDelay = t.outerDelay ∧ t'.outerTimer = t.outerTimer ∧
        (t.woken = true → t'.woken = true ∨ ∃ tm, t.outerTimer = some tm ∧ s.timerFired tm = false)) ∨
      (s.tasks.length ≤ k ∧ FreshT dl t')) : Disc j dl s' := by
  constructor
  · intro k t' hk' hE
    rcases hold k t' hk' hE with ⟨t, hk, hEt, e1, e2, hw⟩ | ⟨_, hf⟩
    · rcases D.d1 k t hk hEt with ⟨f1, f2, f3⟩ | ⟨a1, tm, tr, d, a2, a3, a4, a5, a6, a7, a8⟩
      · refine Or.inl ⟨e2.trans f1, e1.trans f2, ?_⟩
        rcases hw f3 with h | ⟨tm, h, _⟩
        · exact h
        · rw [f1] at h; cases h
      · obtain ⟨tr', b1, b2, b3, b4, b5⟩ := ht tm tr a3
        refine Or.inr ⟨e1.trans a1, tm, tr', d, e2.trans a2, b1, b3.trans a4, b5 a5, a6, by rw [b2]; omega, ?_⟩
        intro hf
        rw [b4] at hf
        rcases hw (a8 hf) with h | ⟨tm0, h, hnf⟩
        · exact h
        · rw [a2] at h; cases h
          simp [Sched.timerFired, a3, hf] at hnf
    · exact Or.inl hf
  · intro k1 k2 t1' t2' tm2 tr2' hlt h1 h2 E1 E2 ho2 htr2
    rcases hold k2 t2' h2 E2 with ⟨t2, hk2, hE2, _, e2, _⟩ | ⟨_, hf⟩
    · rcases hold k1 t1' h1 E1 with ⟨t1, hk1, hE1, _, c2, _⟩ | ⟨hge, _⟩
      · obtain ⟨_, tm, tr2, d, a2, a3, _⟩ := D.timer_of hk2 hE2 (e2 ▸ ho2)
        have : tm = tm2 := by rw [← e2, ho2] at a2; cases a2; rfl
        subst this
        obtain ⟨tm1, tr1, g1, g2, g3, g4⟩ := D.d2 k1 k2 t1 t2 tm tr2 hlt hk1 hk2 hE1 hE2 (e2 ▸ ho2) a3
        obtain ⟨tr1', b1, b2, _, b4, _⟩ := ht tm1 tr1 g2
        obtain ⟨tr2'', c1, c2', _, c4, _⟩ := ht tm tr2 a3
        rw [htr2] at c1; cases c1
        exact ⟨tm1, tr1', c2.trans g1, b1, by rw [b2, c2']; exact g3, fun hf => by
          rw [b4]; exact g4 (c4 ▸ hf)⟩
      · have := Sched.get_lt hk2; omega
    · rw [hf.1] at ho2; cases ho2

variable {kd : Nat → Option (Option Nat)} in
theorem Disc.frame {j j0 : Nat} {dl : Option Nat} {s s' : Sched} (D : Disc j dl s) (f : Frame kd j0 s s')
    (hkd : kd j = some dl) : Disc j dl s' := by
  refine D.of_sub (by rw [f.now]; exact Nat.le_refl _) (TimersLe.of_eq f.timers) ?_
  intro k t' hk' hE'
  rcases f.classify hk' with ⟨t0, ht0, a1, a2, a3, a4, a5, _, a7⟩ | ⟨hge, _, b2, b3, _, _, b6⟩
  · refine Or.inl ⟨t0, ht0, ?_, a4, a5, fun h => Or.inl (a3.trans h)⟩
    obtain ⟨⟨n, hn⟩, e2, e3⟩ := hE'
    exact ⟨⟨n, a1 ▸ hn⟩, a2 ▸ e2, a7 e3⟩
  · refine Or.inr ⟨hge, b3, ?_, b2⟩
    obtain ⟨⟨n, hn⟩, _⟩ := hE'
    have := (b6 j n hn).2
    rw [hkd] at this
    exact (Option.some.inj this).symm

/-- The scheduler after `pollPre` armed the delay timer of task `k`. -/
def armS (s : Sched) (k : TaskId) (d : Nat) (t1 : Task) : Sched :=
  ((s.newTimer d k).1.registerTimer s.timers.length).setTask k t1

theorem armS_timers_old (s : Sched) (k d t1) (i : Nat) (tr : Timer) (h : s.timers[i]? = some tr) :
    (armS s k d t1).timers[i]? = some tr := by
  have hlt := Sched.get_lt h
  simp only [armS, Sched.setTask_timers, Sched.registerTimer_get, Sched.newTimer_get]
  rw [if_neg (show ¬ i = s.timers.length by omega), h]
  simp only [Option.map]
  rw [if_neg (show ¬ s.timers.length = i by omega)]

theorem armS_timers_new (s : Sched) (k d t1) :
    (armS s k d t1).timers[s.timers.length]? =
      some { dur := d, due := s.now + d, owner := k, registered := true } := by
  simp only [armS, Sched.setTask_timers, Sched.registerTimer_get, Sched.newTimer_get]
  simp

theorem armS_timersLe (s : Sched) (k d t1) : TimersLe s (armS s k d t1) := by
  intro i tr h
  exact ⟨tr, armS_timers_old s k d t1 i tr h, rfl, rfl, rfl, fun h => h⟩

theorem armS_now (s : Sched) (k d t1) : (armS s k d t1).now = s.now := by
  simp [armS]

theorem armS_get_ne (s : Sched) (k d t1) (i : Nat) (h : i ≠ k) : (armS s k d t1).tasks[i]? = s.tasks[i]? := by
  simp only [armS]
  rw [Sched.setTask_get_ne _ _ _ _ h]; simp

theorem armS_get_self (s : Sched) (k d t1 t) (h : s.tasks[k]? = some t) :
    (armS s k d t1).tasks[k]? = some t1 := by
  simp only [armS]
  exact Sched.setTask_get_self _ _ _ t (by simpa using h)

/-- The first poll of a fresh task of the `delay d` mover at position `j`. -/
theorem Disc.arm (D : Disc j dl s) {k : Nat} {t : Task} {d : Nat} (hk : s.tasks[k]? = some t) (hE : IsE j t)
    (hod : t.outerDelay = some d)
    (hprev : ∀ (k' : Nat) t', k' < k → s.tasks[k']? = some t' → t'.done = false → t'.woken = true → False) :
    Disc j dl (armS s k d { t with woken := false, outerDelay := none, outerTimer := some s.timers.length }) := by
  -- the task is fresh, so `dl = some d`
  have hfresh : FreshT dl t := by
    rcases D.d1 k t hk hE with f | ⟨a1, _⟩
    · exact f
    · rw [a1] at hod; cases hod
  have hdl : dl = some d := by rw [← hfresh.2.1]; exact hod
  -- the earlier pending tasks are armed
  have hearlier : ∀ (k1 : Nat) t1, k1 < k → s.tasks[k1]? = some t1 → IsE j t1 → ArmedT s dl k1 t1 := by
    intro k1 t1 hlt h1 E1
    rcases D.d1 k1 t1 h1 E1 with ⟨_, _, f3⟩ | a
    · exact (hprev k1 t1 hlt h1 E1.2.1 f3).elim
    · exact a
  constructor
  · intro k' t' hk' hE'
    by_cases e : k' = k
    · subst e
      rw [armS_get_self _ _ _ _ _ hk] at hk'; cases hk'
      exact Or.inr ⟨rfl, s.timers.length, _, d, rfl, armS_timers_new _ _ _ _, rfl, rfl, hdl,
        by rw [armS_now]; exact Nat.le_refl _, fun hf => by simp at hf⟩
    · rw [armS_get_ne _ _ _ _ _ e] at hk'
      rcases D.d1 k' t' hk' hE' with f | ⟨a1, tm, tr, d', a2, a3, a4, a5, a6, a7, a8⟩
      · exact Or.inl f
      · exact Or.inr ⟨a1, tm, tr, d', a2, armS_timers_old _ _ _ _ _ _ a3, a4, a5, a6,
          by rw [armS_now]; exact a7, a8⟩
  · intro k1 k2 t1' t2' tm2 tr2' hlt h1 h2 E1 E2 ho2 htr2
    by_cases e2 : k2 = k
    · subst e2
      rw [armS_get_self _ _ _ _ _ hk] at h2; cases h2
      simp only [Option.some.injEq] at ho2
      subst ho2
      rw [armS_timers_new] at htr2; cases htr2
      rw [armS_get_ne _ _ _ _ _ (by omega)] at h1
      obtain ⟨_, tm1, tr1, d', a2, a3, _, _, a6, a7, _⟩ := hearlier k1 t1' hlt h1 E1
      rw [hdl] at a6; cases a6
      exact ⟨tm1, tr1, a2, armS_timers_old _ _ _ _ _ _ a3, a7, fun hf => by simp at hf⟩
    · rw [armS_get_ne _ _ _ _ _ e2] at h2
      obtain ⟨_, tm, tr2, _, b2, b3, _⟩ := D.timer_of h2 E2 ho2
      rw [ho2] at b2; cases b2
      rw [armS_timers_old _ _ _ _ _ _ b3] at htr2; cases htr2
      by_cases e1 : k1 = k
      · subst e1
        obtain ⟨tm1, tr1, g1, _⟩ := D.d2 k1 k2 t t2' tm2 tr2' hlt hk h2 hE E2 ho2 b3
        rw [hfresh.1] at g1; cases g1
      · rw [armS_get_ne _ _ _ _ _ e1] at h1
        obtain ⟨tm1, tr1, g1, g2, g3, g4⟩ := D.d2 k1 k2 t1' t2' tm2 tr2' hlt h1 h2 E1 E2 ho2 b3
        exact ⟨tm1, tr1, g1, armS_timers_old _ _ _ _ _ _ g2, g3, g4⟩

/-- `s'` is `s` after the timers in `M` have been fired. -/
structure Fired (M : Nat → Prop) (s s' : Sched) : Prop where
  now : s'.now = s.now
  len : s'.tasks.length = s.tasks.length
  timers : ∀ (tm : Nat) tr, s.timers[tm]? = some tr → ∃ tr', s'.timers[tm]? = some tr' ∧ tr'.due = tr.due ∧
    tr'.owner = tr.owner ∧ tr'.registered = tr.registered ∧ (tr'.fired = true ↔ tr.fired = true ∨ M tm)
  timersNone : ∀ (tm : Nat), s.timers[tm]? = none → s'.timers[tm]? = none
  tasks : ∀ (k : Nat) t, s.tasks[k]? = some t → ∃ t', s'.tasks[k]? = some t' ∧ t'.body = t.body ∧
    t'.done = t.done ∧ t'.keepRunning = t.keepRunning ∧ t'.outerDelay = t.outerDelay ∧
    t'.outerTimer = t.outerTimer ∧ t'.rep = t.rep ∧ (t.woken = true → t'.woken = true) ∧
    (∀ tm tr, M tm → s.timers[tm]? = some tr → tr.owner = k → tr.registered = true → t'.woken = true)

theorem Fired.refl (s : Sched) : Fired (fun _ => False) s s :=
  ⟨rfl, rfl, fun _ tr h => ⟨tr, h, rfl, rfl, rfl, by simp⟩, fun _ h => h,
    fun _ t h => ⟨t, h, rfl, rfl, rfl, rfl, rfl, rfl, fun h => h, fun _ _ h => h.elim⟩⟩

/-- Firing one more timer. -/
theorem Fired.fire {M : Nat → Prop} (h : Fired M s s') (tm : TimerId) :
    Fired (fun x => M x ∨ x = tm) s (s'.fire tm) := by
  unfold Sched.fire
  cases htm : s'.timers[tm]? with
  | none =>
    simp only
    have hs : s.timers[tm]? = none := by
      cases hs : s.timers[tm]? with
      | none => rfl
      | some tr => obtain ⟨tr', h1, _⟩ := h.timers tm tr hs; rw [htm] at h1; cases h1
    refine ⟨h.now, h.len, ?_, h.timersNone, ?_⟩
    · intro i tr hi
      obtain ⟨tr', a1, a2, a3, a4, a5⟩ := h.timers i tr hi
      refine ⟨tr', a1, a2, a3, a4, a5.trans ⟨fun x => x.elim Or.inl (fun m => Or.inr (Or.inl m)), ?_⟩⟩
      rintro (x | x | x)
      · exact Or.inl x
      · exact Or.inr x
      · subst x; rw [hs] at hi; cases hi
    · intro k t hk
      obtain ⟨t', b1, b2, b3, b4, b5, b6, b7, b8, b9⟩ := h.tasks k t hk
      refine ⟨t', b1, b2, b3, b4, b5, b6, b7, b8, ?_⟩
      rintro i tr (m | m) hi ho hr
      · exact b9 i tr m hi ho hr
      · subst m; rw [hs] at hi; cases hi
  | some t0 =>
    simp only
    -- the timer in `s`
    obtain ⟨tr0, hs0⟩ : ∃ tr0, s.timers[tm]? = some tr0 := by
      cases hs : s.timers[tm]? with
      | none => have := h.timersNone tm hs; rw [htm] at this; cases this
      | some tr => exact ⟨tr, rfl⟩
    obtain ⟨t0', c1, c2, c3, c4, c5⟩ := h.timers tm tr0 hs0
    rw [htm] at c1; cases c1
    have hlt : tm < s'.timers.length := Sched.get_lt htm
    -- the timers after the move
    have htimers : ∀ (s2 : Sched), s2.timers = (s'.setTimer tm { t0 with fired := true }).timers →
        (∀ (i : Nat) tr, s.timers[i]? = some tr → ∃ tr', s2.timers[i]? = some tr' ∧ tr'.due = tr.due ∧
          tr'.owner = tr.owner ∧ tr'.registered = tr.registered ∧
          (tr'.fired = true ↔ tr.fired = true ∨ (M i ∨ i = tm))) ∧
        (∀ (i : Nat), s.timers[i]? = none → s2.timers[i]? = none) := by
      intro s2 e2
      constructor
      · intro i tr hi
        rw [e2]
        simp only [Sched.setTimer, List.getElem?_set]
        by_cases e : tm = i
        · subst e
          rw [hs0] at hi; cases hi
          rw [if_pos rfl, if_pos hlt]
          exact ⟨_, rfl, c2, c3, c4, by simp⟩
        · rw [if_neg e]
          obtain ⟨tr', a1, a2, a3, a4, a5⟩ := h.timers i tr hi
          refine ⟨tr', a1, a2, a3, a4, a5.trans ⟨fun x => x.elim Or.inl (fun m => Or.inr (Or.inl m)), ?_⟩⟩
          rintro (x | x | x)
          · exact Or.inl x
          · exact Or.inr x
          · exact absurd x.symm e
      · intro i hi
        rw [e2]
        simp only [Sched.setTimer, List.getElem?_set]
        by_cases e : tm = i
        · subst e; rw [hs0] at hi; cases hi
        · rw [if_neg e]; exact h.timersNone i hi
    -- tasks that are not touched
    have htasks_same : ∀ (k : Nat) t, s.tasks[k]? = some t →
        (t0.registered = true → t0.owner ≠ k) →
        ∃ t', s'.tasks[k]? = some t' ∧ t'.body = t.body ∧
        t'.done = t.done ∧ t'.keepRunning = t.keepRunning ∧ t'.outerDelay = t.outerDelay ∧
        t'.outerTimer = t.outerTimer ∧ t'.rep = t.rep ∧ (t.woken = true → t'.woken = true) ∧
        (∀ i tr, (M i ∨ i = tm) → s.timers[i]? = some tr → tr.owner = k → tr.registered = true →
          t'.woken = true) := by
      intro k t hk hne
      obtain ⟨t', b1, b2, b3, b4, b5, b6, b7, b8, b9⟩ := h.tasks k t hk
      refine ⟨t', b1, b2, b3, b4, b5, b6, b7, b8, ?_⟩
      rintro i tr (m | m) hi ho hr
      · exact b9 i tr m hi ho hr
      · subst m
        rw [hs0] at hi; cases hi
        exact absurd (c3.trans ho) (hne (c4.trans hr))
    by_cases hreg : t0.registered = true
    · rw [if_pos hreg]
      cases hown : (s'.setTimer tm { t0 with fired := true }).tasks[t0.owner]? with
      | none =>
        simp only
        obtain ⟨ht1, ht2⟩ := htimers _ rfl
        refine ⟨h.now, h.len, ht1, ht2, ?_⟩
        intro k t hk
        refine htasks_same k t hk (fun _ e => ?_)
        subst e
        obtain ⟨t', b1, _⟩ := h.tasks _ t hk
        simp only [Sched.setTimer_tasks] at hown
        rw [hown] at b1; cases b1
      | some tk =>
        simp only
        simp only [Sched.setTimer_tasks] at hown
        obtain ⟨ht1, ht2⟩ := htimers ((s'.setTimer tm { t0 with fired := true }).setTask t0.owner
          { tk with woken := true }) rfl
        refine ⟨h.now, by simp [h.len], ht1, ht2, ?_⟩
        intro k t hk
        by_cases e : k = t0.owner
        · subst e
          obtain ⟨t', b1, b2, b3, b4, b5, b6, b7, b8, b9⟩ := h.tasks _ t hk
          rw [hown] at b1; cases b1
          refine ⟨{ tk with woken := true }, ?_, b2, b3, b4, b5, b6, b7, fun _ => rfl, fun _ _ _ _ _ _ => rfl⟩
          exact Sched.setTask_get_self _ _ _ tk (by simpa using hown)
        · obtain ⟨t', b1, rest⟩ := htasks_same k t hk (fun _ e' => e (e'.symm))
          refine ⟨t', ?_, rest⟩
          rw [Sched.setTask_get_ne _ _ _ _ e]; simpa using b1
    · rw [if_neg hreg]
      obtain ⟨ht1, ht2⟩ := htimers _ rfl
      refine ⟨h.now, h.len, ht1, ht2, ?_⟩
      intro k t hk
      obtain ⟨t', b1, rest⟩ := htasks_same k t hk (fun hr => absurd hr hreg)
      exact ⟨t', by simpa using b1, rest⟩

theorem Fired.congr {M M' : Nat → Prop} (h : Fired M s s') (e : ∀ x, M x ↔ M' x) : Fired M' s s' := by
  have : M = M' := funext (fun x => propext (e x))
  rw [← this]; exact h

theorem Fired.fireAll {M : Nat → Prop} (l : List TimerId) : ∀ {s' : Sched}, Fired M s s' →
    Fired (fun x => M x ∨ x ∈ l) s (l.foldl Sched.fire s') := by
  induction l generalizing M with
  | nil => intro s' h; exact h.congr (by simp)
  | cons a r ih =>
    intro s' h
    have := ih (h.fire a)
    exact this.congr (by intro x; simp [or_assoc])

/-- The first half of an executor pass. -/
theorem fireAll_fired (s : Sched) :
    Fired (fun tm => ∃ tr, s.timers[tm]? = some tr ∧ tr.fired = false ∧ tr.due ≤ s.now) s
      (s.dueTimers.foldl Sched.fire s) :=
  (Fired.fireAll s.dueTimers (Fired.refl s)).congr (fun x => by simp [Sched.mem_dueTimers_iff])

theorem Disc.fired (D : Disc j dl s)
    (h : Fired (fun tm => ∃ tr, s.timers[tm]? = some tr ∧ tr.fired = false ∧ tr.due ≤ s.now) s s') :
    Disc j dl s' := by
  -- tasks of `s'` come from tasks of `s`
  have back : ∀ (k : Nat) t', s'.tasks[k]? = some t' → ∃ t, s.tasks[k]? = some t := by
    intro k t' hk'
    have := Sched.get_lt hk'
    rw [h.len] at this
    exact ⟨_, List.getElem?_eq_getElem this⟩
  constructor
  · intro k t' hk' hE'
    obtain ⟨t, hk⟩ := back k t' hk'
    obtain ⟨t2, b1, b2, b3, b4, b5, b6, _, b8, b9⟩ := h.tasks k t hk
    rw [hk'] at b1; cases b1
    have hE : IsE j t := hE'.congr b2.symm b3.symm b4.symm
    rcases D.d1 k t hk hE with ⟨f1, f2, f3⟩ | ⟨a1, tm, tr, d, a2, a3, a4, a5, a6, a7, a8⟩
    · exact Or.inl ⟨b6.trans f1, b5.trans f2, b8 f3⟩
    · obtain ⟨tr', c1, c2, c3, c4, c5⟩ := h.timers tm tr a3
      refine Or.inr ⟨b5.trans a1, tm, tr', d, b6.trans a2, c1, c3.trans a4, c4.trans a5, a6,
        by rw [c2, h.now]; exact a7, fun hf => ?_⟩
      rcases c5.mp hf with x | x
      · exact b8 (a8 x)
      · exact b9 tm tr x a3 a4 a5
  · intro k1 k2 t1' t2' tm2 tr2' hlt h1 h2 E1 E2 ho2 htr2
    obtain ⟨t1, hk1⟩ := back k1 t1' h1
    obtain ⟨t2, hk2⟩ := back k2 t2' h2
    obtain ⟨x1, p1, p2, p3, p4, _, p6, _⟩ := h.tasks k1 t1 hk1
    rw [h1] at p1; cases p1
    obtain ⟨x2, q1, q2, q3, q4, _, q6, _⟩ := h.tasks k2 t2 hk2
    rw [h2] at q1; cases q1
    have hE1 : IsE j t1 := E1.congr p2.symm p3.symm p4.symm
    have hE2 : IsE j t2 := E2.congr q2.symm q3.symm q4.symm
    have ho2' : t2.outerTimer = some tm2 := q6 ▸ ho2
    obtain ⟨_, tm, tr2, _, b2, b3, _⟩ := D.timer_of hk2 hE2 ho2'
    rw [ho2'] at b2; cases b2
    obtain ⟨tm1, tr1, g1, g2, g3, g4⟩ := D.d2 k1 k2 t1 t2 tm2 tr2 hlt hk1 hk2 hE1 hE2 ho2' b3
    obtain ⟨tr1', c1, c2, _, _, c5⟩ := h.timers tm1 tr1 g2
    obtain ⟨tr2'', e1, e2, _, _, e5⟩ := h.timers tm2 tr2 b3
    rw [htr2] at e1; cases e1
    refine ⟨tm1, tr1', p6.trans g1, c1, by rw [c2, e2]; exact g3, fun hf => ?_⟩
    rcases e5.mp hf with x | ⟨tr, x1, x2, x3⟩
    · exact c5.mpr (Or.inl (g4 x))
    · rw [b3] at x1; cases x1
      cases hfd : tr1.fired with
      | true => exact c5.mpr (Or.inl hfd)
      | false => exact c5.mpr (Or.inr ⟨tr1, g2, hfd, by omega⟩)

end Rx.T
