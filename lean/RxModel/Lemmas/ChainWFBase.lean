import RxModel.Lemmas.ChainWFSched
import RxModel.Lemmas.ChainWorld
import RxModel.Lemmas.ChainTraverse
import RxModel.Lemmas.PipeWF
import RxModel.Lemmas.Multi
/-
  Ghost histories along a chain.

  * `ChainOf R up stages log`: `up` is everything that was ever handed to the head
    of `stages`, `log` what reached the probe; each stage has processed a sublist
    `inp` of what its upstream emitted (`cascadeF` drops notifications when its
    fuel runs out — nothing is assumed about the fuel), has emitted `out`, and
    `R st inp out` holds.  A relation that survives `Stage.onNotif` and
    `Stage.afterEmit` (`StepClosed`) survives the cascade, for every fuel value.
  * `Stage.OK` (C01): a single-input observer is `run init inp`; every slot-owning
    stage (delay, observe_on, debounce, throttle, buffer_with_time, two-input cell)
    is a *gate*: its output is well formed whatever it receives, and a terminal
    empties its slot.  `Chain` is `ChainOf Stage.OK`, and `Chain up stages log → WF up → WF log`.
-/
namespace Rx.T
open Rx Rx.Spec

theorem terminated_false_of_WF_append {a b : List Notif} (h : WF (a ++ b)) (hb : b ≠ []) :
    terminated a = false := by
  have := (WF_append_iff a b).mp h
  cases ht : terminated a with
  | false => rfl
  | true => exact absurd (this.2.1 ht) hb

theorem WF_flushBuf (data : List Val) : WF (flushBuf data) := by
  unfold flushBuf; split <;> simp

theorem terminated_flushBuf (data : List Val) : terminated (flushBuf data) = false := by
  unfold flushBuf; split <;> simp [terminated]

theorem WF_opt_complete (tr : Option Val) :
    WF ((match tr with | some v => [Notif.next v] | none => []) ++ [Notif.complete]) := by
  cases tr <;> simp

/-- A stage leaves the scheduler alone, cancels its own handle, or spawns one benign once-task. -/
theorem Stage.onNotif_ext (st : Stage) (j : Nat) (n : Notif) (s : Sched) :
    s.Ext (st.onNotif j n s).2.2 := by
  fun_cases Stage.onNotif st j n s
  all_goals first
    | exact .refl s
    | exact .cancelOpt s _
    | ((repeat' split) <;> exact .refl s)
    | (rename_i heq; cases heq; exact Sched.Ext.scheduleOnce s _ _ rfl)
    | (rename_i heq; cases heq; exact (Sched.Ext.cancelOpt s _).trans (Sched.Ext.scheduleOnce _ _ _ rfl))

theorem Stage.afterEmit_ext (st : Stage) (j : Nat) (s : Sched) : s.Ext (st.afterEmit j s).2 := by
  cases st with
  | throttleW d e alive tr => exact Sched.Ext.scheduleOnce s _ _ rfl
  | _ => exact Sched.Ext.refl s

theorem cascadeF_ext (f : Nat) (stages : List Stage) (j : Nat) (ns : List Notif) (s : Sched) :
    s.Ext (cascadeF f stages j ns s).2.2 :=
  cascadeF_rec (M := fun _ _ _ s r => s.Ext r.2.2) (fun _ _ _ s => .refl s) (fun _ _ s => .refl s)
    (fun st _ j n _ s c _ h1 h2 =>
      (((st.onNotif_ext j n s).trans h1).trans (Stage.afterEmit_ext _ j c.2.2)).trans h2)
    f stages j ns s

def ChainOf (R : Stage → List Notif → List Notif → Prop) : List Notif → List Stage → List Notif → Prop
  | up, [], log => log.Sublist up
  | up, st :: r, log => ∃ inp out, inp.Sublist up ∧ R st inp out ∧ ChainOf R out r log

/-- `R` survives one notification at a stage. -/
structure StepClosed (R : Stage → List Notif → List Notif → Prop) : Prop where
  onNotif : ∀ (st : Stage) (j : Nat) (n : Notif) (s : Sched) {inp out : List Notif}, R st inp out →
    R (st.onNotif j n s).1 (inp ++ [n]) (out ++ (st.onNotif j n s).2.1)
  afterEmit : ∀ (st : Stage) (j : Nat) (s : Sched) {inp out : List Notif}, R st inp out →
    R (st.afterEmit j s).1 inp out

section
variable {R : Stage → List Notif → List Notif → Prop} {up up' : List Notif} {stages : List Stage}
  {log : List Notif}

theorem ChainOf.mono (h : ChainOf R up stages log) (hs : up.Sublist up') : ChainOf R up' stages log := by
  cases stages with
  | nil => exact List.Sublist.trans h hs
  | cons st r =>
    obtain ⟨inp, out, h1, h2, h3⟩ := h
    exact ⟨inp, out, h1.trans hs, h2, h3⟩

theorem ChainOf.of_start (h : ∀ st ∈ stages, R st [] []) : ChainOf R [] stages [] := by
  induction stages with
  | nil => exact List.Sublist.refl _
  | cons st r ih =>
    exact ⟨[], [], List.Sublist.refl _, h st (by simp), ih (fun s hs => h s (by simp [hs]))⟩

/-- What every stage does to its input (`T inp out`, transitive, true of sublists) the whole
    chain does to `up`. -/
theorem ChainOf.through {T : List Notif → List Notif → Prop} (hsub : ∀ {a b}, b.Sublist a → T a b)
    (htrans : ∀ {a b c}, T a b → T b c → T a c)
    (hR : ∀ st ∈ stages, ∀ inp out, R st inp out → T inp out) (h : ChainOf R up stages log) :
    T up log := by
  induction stages generalizing up with
  | nil => exact hsub h
  | cons st r ih =>
    obtain ⟨inp, out, h1, h2, h3⟩ := h
    exact htrans (htrans (hsub h1) (hR st (by simp) inp out h2))
      (ih (fun s hs => hR s (by simp [hs])) h3)

theorem ChainOf.append_iff (up : List Notif) (pre post : List Stage) (log : List Notif) :
    ChainOf R up (pre ++ post) log ↔ ∃ mid, ChainOf R up pre mid ∧ ChainOf R mid post log := by
  induction pre generalizing up with
  | nil =>
    constructor
    · intro h; exact ⟨up, List.Sublist.refl _, h⟩
    · rintro ⟨mid, h1, h2⟩; exact h2.mono h1
  | cons st r ih =>
    constructor
    · rintro ⟨inp, out, h1, h2, h3⟩
      obtain ⟨mid, h4, h5⟩ := (ih out).mp h3
      exact ⟨mid, ⟨inp, out, h1, h2, h4⟩, h5⟩
    · rintro ⟨mid, ⟨inp, out, h1, h2, h4⟩, h5⟩
      exact ⟨inp, out, h1, h2, (ih out).mpr ⟨mid, h4, h5⟩⟩

theorem ChainOf.at {j : Nat} {st : Stage} (h : ChainOf R up stages log) (hj : stages[j]? = some st) :
    ∃ mid inp out, ChainOf R up (stages.take j) mid ∧ inp.Sublist mid ∧ R st inp out ∧
      ChainOf R out (stages.drop (j + 1)) log := by
  rw [split_at hj] at h
  obtain ⟨mid, h1, inp, out, h2, h3, h4⟩ := (ChainOf.append_iff up _ _ log).mp h
  exact ⟨mid, inp, out, h1, h2, h3, h4⟩

/-- Replace the stage at position `j` by one that has emitted `ns` more, and let
    the stages behind it absorb it. -/
theorem ChainOf.modify {j : Nat} {st st' : Stage} {ns : List Notif} {post' : List Stage}
    {log' : List Notif} (h : ChainOf R up stages log) (hj : stages[j]? = some st)
    (hok : ∀ inp out, R st inp out → R st' inp (out ++ ns))
    (hpost : ∀ out, ChainOf R out (stages.drop (j + 1)) log → ChainOf R (out ++ ns) post' log') :
    ChainOf R up (stages.take j ++ st' :: post') log' := by
  obtain ⟨mid, inp, out, h1, h2, h3, h4⟩ := h.at hj
  exact (ChainOf.append_iff up _ _ log').mpr ⟨mid, h1, inp, out ++ ns, h2, hok inp out h3, hpost out h4⟩

theorem cascadeF_chain (hR : StepClosed R) (f : Nat) (stages : List Stage) (j : Nat) (ns : List Notif)
    (s : Sched) : ∀ {up log}, ChainOf R up stages log →
      ChainOf R (up ++ ns) (cascadeF f stages j ns s).1 (log ++ (cascadeF f stages j ns s).2.1) := by
  refine cascadeF_rec (M := fun stages _ ns _ r => ∀ {up log}, ChainOf R up stages log →
    ChainOf R (up ++ ns) r.1 (log ++ r.2.1)) ?_ ?_ ?_ f stages j ns s
  · intro stages j ns s up log h
    rw [List.append_nil]; exact h.mono (List.sublist_append_left _ _)
  · intro j ns s up log h
    exact List.Sublist.append h (List.Sublist.refl _)
  · rintro st rest j n ns s c d ih1 ih2 up log ⟨inp, out, h1, h2, h3⟩
    have := ih2 (up := up ++ [n]) ⟨inp ++ [n], out ++ _, h1.append (List.Sublist.refl _),
      hR.afterEmit _ j _ (hR.onNotif st j n s h2), ih1 h3⟩
    rwa [List.append_assoc, List.append_assoc] at this

theorem cascade_chain (hR : StepClosed R) (stages : List Stage) (j : Nat) (ns : List Notif) (s : Sched)
    {up log : List Notif} (h : ChainOf R up stages log) :
    ChainOf R (up ++ ns) (cascade stages j ns s).1 (log ++ (cascade stages j ns s).2.1) :=
  cascadeF_chain hR _ stages j ns s h

end

/-- The cumulative output of a stage that owns its downstream slot (`alive`). -/
def Gate (alive : Bool) (out : List Notif) : Prop :=
  WF out ∧ (terminated out = true → alive = false)

theorem Gate.nil (alive : Bool) : Gate alive [] := ⟨trivial, by simp [terminated]⟩

theorem Gate.mono {alive alive' : Bool} {out : List Notif} (h : Gate alive out)
    (ha : alive' = true → alive = true) : Gate alive' out := by
  refine ⟨h.1, fun ht => ?_⟩
  have := h.2 ht
  cases alive' with
  | false => rfl
  | true => rw [ha rfl] at this; exact this

theorem Gate.dead {alive : Bool} {out : List Notif} (h : Gate alive out) : Gate false out :=
  h.mono (by simp)

/-- While the slot is full the stage may emit a well-formed batch; a batch with
    a terminal must leave the slot empty. -/
theorem Gate.push {alive alive' : Bool} {out ns : List Notif} (h : Gate alive out)
    (ha : alive = true) (hns : WF ns) (ht : terminated ns = true → alive' = false) :
    Gate alive' (out ++ ns) := by
  have hnt : terminated out = false := by
    cases h' : terminated out with
    | false => rfl
    | true => have := h.2 h'; rw [ha] at this; cases this
  refine ⟨WF_append h.1 hnt hns, fun h' => ?_⟩
  rw [terminated_append, hnt] at h'
  exact ht (by simpa using h')

theorem Gate.guard {alive alive' : Bool} {out ns : List Notif} (h : Gate alive out)
    (hns : WF ns) (ht : terminated ns = true → alive' = false) (ha : alive' = true → alive = true) :
    Gate alive' (out ++ if alive then ns else []) := by
  cases alive with
  | true => exact h.push rfl hns ht
  | false => simpa using h.mono ha

theorem Gate.silent {alive : Bool} {out : List Notif} (h : Gate alive out) : Gate alive (out ++ []) := by
  rwa [List.append_nil]

/-- A terminal batch, guarded by the slot, empties it. -/
theorem Gate.close {alive : Bool} {out ns : List Notif} (h : Gate alive out) (hns : WF ns) :
    Gate false (out ++ if alive then ns else []) :=
  h.guard hns (fun _ => rfl) (fun h => by cases h)

/-- Items, guarded by the slot (and by `c`), leave it as it is. -/
theorem Gate.items {alive : Bool} {out ns : List Notif} (h : Gate alive out) (c : Bool) (hns : WF ns)
    (hnt : terminated ns = false) : Gate alive (out ++ if (c && alive) = true then ns else []) := by
  cases c with
  | false => simpa using h
  | true => simpa using h.guard hns (by simp [hnt]) id

theorem step_gate (c : St2) (sd : Side) (n : Notif) {out : List Notif} (h : Gate c.alive out) :
    Gate (c.step sd n).1.alive (out ++ (c.step sd n).2) := by
  have hd := step_disciplined c sd n
  cases ha : c.alive with
  | true => rw [ha] at h; exact h.push rfl hd.1 hd.2
  | false =>
    have := step_dead c sd n ha
    rw [this.1, this.2, ← ha]; simpa using h

/-- The state `actual_subscribe` creates. -/
def Stage.Initial : Stage → Prop
  | .op1 st => ∃ o : Op1, st = o.init
  | .delay _ alive multi => alive = true ∧ multi = some []
  | .observeOn alive multi => alive = true ∧ multi = some []
  | .subscribeOn _ task => task = none
  | .debounce _ alive tr h => alive = true ∧ tr = none ∧ h = none
  | .throttle _ _ alive tr h => alive = true ∧ tr = none ∧ h = none
  | .throttleW _ _ _ _ => False
  | .bufTime _ _ alive data task => alive = true ∧ data = [] ∧ task = none
  | .op2n st _ na nt => (∃ k : Kind2, st = k.init) ∧ na = false ∧ nt = none

/-- Only the single-input observers carry state that must be fresh; a slot-owning stage is a
    gate in whatever state it starts. -/
def Stage.Fresh : Stage → Prop
  | .op1 st => ∃ o : Op1, st = o.init
  | _ => True

/-- Consistency of a stage with its ghost input / output histories. -/
def Stage.OK : Stage → List Notif → List Notif → Prop
  | .op1 o, inp, out => ∃ op : Op1, o = (St1.run op.init inp).1 ∧ out = (St1.run op.init inp).2
  | .delay _ alive _, _, out => Gate alive out
  | .observeOn alive _, _, out => Gate alive out
  | .subscribeOn _ _, inp, out => out = inp
  | .debounce _ alive _ _, _, out => Gate alive out
  | .throttle _ _ alive _ _, _, out => Gate alive out
  | .throttleW _ _ alive _, _, out => Gate alive out
  | .bufTime _ _ alive _ _, _, out => Gate alive out
  | .op2n st _ _ _, _, out => Gate st.alive out

theorem Stage.OK.wf {st : Stage} {inp out : List Notif} (h : st.OK inp out) (hi : WF inp) : WF out := by
  cases st with
  | op1 o => obtain ⟨op, _, rfl⟩ := h; exact run_init_wf op inp hi
  | subscribeOn d t => have : out = inp := h; subst this; exact hi
  | _ => exact h.1

theorem Stage.Initial.fresh {st : Stage} (h : st.Initial) : st.Fresh := by
  cases st with
  | op1 o => exact h
  | _ => trivial

theorem Stage.Fresh.ok {st : Stage} (h : st.Fresh) : st.OK [] [] := by
  cases st with
  | op1 o => obtain ⟨op, rfl⟩ := h; exact ⟨op, rfl, rfl⟩
  | subscribeOn d t => rfl
  | _ => exact Gate.nil _

theorem Stage.Initial.ok {st : Stage} (h : st.Initial) : st.OK [] [] := h.fresh.ok

theorem Stage.onNotif_ok (st : Stage) (j : Nat) (n : Notif) (s : Sched) {inp out : List Notif}
    (h : st.OK inp out) : (st.onNotif j n s).1.OK (inp ++ [n]) (out ++ (st.onNotif j n s).2.1) := by
  cases st with
  | op1 o =>
    obtain ⟨op, rfl, rfl⟩ := h
    have e : ∀ o : St1, (Stage.op1 o).onNotif j n s = (.op1 (o.step n).1, (o.step n).2, s) :=
      fun _ => rfl
    rw [e]
    refine ⟨op, ?_, ?_⟩
    · simp only [St1.run_append, St1.run, List.append_nil]
    · simp only [St1.run_append, St1.run, List.append_nil]
  | delay d alive multi =>
    cases n with
    | error e => exact Gate.close h (WF_single _)
    | _ => exact Gate.silent h
  | observeOn alive multi => exact Gate.silent h
  | subscribeOn d t =>
    replace h : out = inp := h
    subst h; rfl
  | debounce d alive tr hd =>
    cases n with
    | next v => exact Gate.silent h
    | error e => exact Gate.close h (WF_single _)
    | complete => exact Gate.close h (WF_opt_complete tr)
  | throttle d e alive tr hd =>
    cases n with
    | next v =>
      rw [Stage.onNotif_throttle_next]
      split
      · exact Gate.items h e.hasLeading (by simp) (by simp [terminated])
      · exact Gate.silent h
    | error er => exact Gate.close h (WF_single _)
    | complete => exact Gate.close h (WF_opt_complete tr)
  | throttleW d e alive tr => exact Gate.silent h
  | bufTime d c alive data t =>
    replace h : Gate alive out := h
    cases n with
    | next v =>
      rw [Stage.onNotif_bufTime_next]
      split
      · next ha =>
        split
        · split
          · exact h.push ha (WF_flushBuf _) (by simp [terminated_flushBuf])
          · exact h.silent
        · exact h.silent
      · exact h.silent
    | error e => exact h.close (WF_single _)
    | complete =>
      refine h.close (ns := flushBuf data ++ [.complete]) ?_
      unfold flushBuf; split <;> simp
  | op2n c ns na nt => exact step_gate c .a n h

theorem Stage.afterEmit_ok (st : Stage) (j : Nat) (s : Sched) {inp out : List Notif}
    (h : st.OK inp out) : (st.afterEmit j s).1.OK inp out := by
  cases st <;> exact h

theorem Stage.ok_closed : StepClosed Stage.OK := ⟨Stage.onNotif_ok, Stage.afterEmit_ok⟩

/-- `up`: everything handed to the head of `stages` so far; `log`: what reached the probe.
    The recursion of `ChainOf Stage.OK`, written out (`Chain.iff`). -/
def Chain : List Notif → List Stage → List Notif → Prop
  | up, [], log => log.Sublist up
  | up, st :: r, log => ∃ inp out, inp.Sublist up ∧ st.OK inp out ∧ Chain out r log

theorem Chain.iff {up : List Notif} {stages : List Stage} {log : List Notif} :
    Chain up stages log ↔ ChainOf Stage.OK up stages log := by
  induction stages generalizing up with
  | nil => exact Iff.rfl
  | cons st r ih =>
    exact exists_congr fun _ => exists_congr fun _ => and_congr_right fun _ => and_congr_right fun _ => ih

theorem Chain.wf {up : List Notif} {stages : List Stage} {log : List Notif}
    (h : Chain up stages log) (hu : WF up) : WF log :=
  (Chain.iff.1 h).through (T := fun a b => WF a → WF b) (fun hs hw => WF_sublist hs hw)
    (fun h1 h2 hw => h2 (h1 hw)) (fun _ _ _ _ h => h.wf) hu

theorem Chain.initial (stages : List Stage) (h : ∀ st ∈ stages, st.Initial) : Chain [] stages [] :=
  Chain.iff.2 (ChainOf.of_start fun st hs => (h st hs).ok)

end Rx.T
