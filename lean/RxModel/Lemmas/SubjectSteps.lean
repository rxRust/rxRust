import RxModel.Conc.SubjectSteps
import RxModel.Lemmas.SubjectBasic
/-
  The step function of the step model of SubjectThreads: what one section does to the
  lists, the slots and the log, and what therefore holds after ANY sequence of sections
  (hence under every interleaving of any number of threads, whatever the operations).
-/
namespace Rx.Conc.SS
open Rx

theorem proj_append (u : Nat) (a b : List Delivery) : proj u (a ++ b) = proj u a ++ proj u b := by
  simp [proj, List.filter_append]

theorem proj_cons_self (u : Nat) (n : Notif) (r : List Delivery) : proj u ((u, n) :: r) = n :: proj u r := by
  simp [proj]

theorem proj_cons_ne {u w : Nat} (h : w ≠ u) (n : Notif) (r : List Delivery) :
    proj u ((w, n) :: r) = proj u r := by
  simp [proj, h]

theorem mem_proj {u : Nat} {n : Notif} {l : List Delivery} : n ∈ proj u l ↔ (u, n) ∈ l := by
  simp only [proj, List.mem_map, List.mem_filter, beq_iff_eq]
  constructor
  · rintro ⟨⟨w, m⟩, ⟨hm, rfl⟩, rfl⟩; exact hm
  · intro h; exact ⟨(u, n), ⟨h, rfl⟩, rfl⟩

/-- What a broadcast of `n` gives subscriber `u`: one `n` per occurrence of `u` among the receivers. -/
theorem proj_map (u : Nat) (n : Notif) (l : List Nat) :
    proj u (l.map (·, n)) = (l.filter (· == u)).map (fun _ => n) := by
  simp [proj, List.filter_map, Function.comp_def]

theorem termLoop_length (n : Notif) : ∀ (l : List Nat) (slots : List Bool),
    (termLoop n slots l).1.length = slots.length := by
  intro l
  induction l with
  | nil => intro slots; rfl
  | cons w r ih =>
    intro slots
    unfold termLoop
    split
    · simp only; rw [ih, List.length_set]
    · exact ih slots

theorem termLoop_closed (n : Notif) (u : Nat) : ∀ (l : List Nat) (slots : List Bool),
    isOpenIn slots u = false → isOpenIn (termLoop n slots l).1 u = false := by
  intro l
  induction l with
  | nil => intro slots h; exact h
  | cons w r ih =>
    intro slots h
    unfold termLoop
    split
    · exact ih _ (isOpenIn_set_closed slots u w h)
    · exact ih slots h

theorem termLoop_proj (n : Notif) (u : Nat) : ∀ (l : List Nat) (slots : List Bool),
    proj u (termLoop n slots l).2 = [] ∨
      (proj u (termLoop n slots l).2 = [n] ∧ isOpenIn slots u = true ∧
        isOpenIn (termLoop n slots l).1 u = false) := by
  intro l
  induction l with
  | nil => intro slots; exact Or.inl rfl
  | cons w r ih =>
    intro slots
    unfold termLoop
    split
    next hw =>
      simp only
      by_cases e : w = u
      · subst e
        rw [proj_cons_self]
        have hc := isOpenIn_set_self slots w
        rcases ih (slots.set w false) with h | ⟨_, h, _⟩
        · exact Or.inr ⟨by rw [h], hw, termLoop_closed n w r _ hc⟩
        · rw [hc] at h; cases h
      · rw [proj_cons_ne e]
        rcases ih (slots.set w false) with h | ⟨h1, h2, h3⟩
        · exact Or.inl h
        · exact Or.inr ⟨h1, by rwa [isOpenIn_set_ne slots e] at h2, h3⟩
    next => exact ih slots

/-- With distinct entries the lazy filter equals the eager one: exactly the entries that were
    open when the broadcast began, in list order. -/
theorem termLoop_exact (n : Notif) : ∀ (l : List Nat) (slots : List Bool), l.Nodup →
    (termLoop n slots l).2 = (l.filter (isOpenIn slots)).map (·, n) := by
  intro l
  induction l with
  | nil => intro slots _; rfl
  | cons w r ih =>
    intro slots hnd
    have ⟨hw, hr⟩ := List.nodup_cons.mp hnd
    unfold termLoop
    split
    next ho =>
      simp only
      rw [ih _ hr, List.filter_cons_of_pos ho, List.map_cons]
      congr 2
      apply List.filter_congr
      intro x hx
      have : w ≠ x := fun e => hw (e ▸ hx)
      exact isOpenIn_set_ne slots this
    next ho =>
      rw [ih _ hr, List.filter_cons_of_neg ho]

/-! The equations of `step` on a state that has not panicked, case by case (all by computation), and of
  the operations as sequences of sections. -/

section equations
variable (obs ch : Option (List Nat)) (o c : List Nat) (sl : List Bool) (lg : List Delivery)
  (sz : List SizeOut)

@[simp] theorem step_load : St.step ⟨some o, some c, sl, lg, sz, false⟩ .load =
    ⟨some (o ++ c), some [], sl, lg, sz, false⟩ := rfl

@[simp] theorem step_load_none : St.step ⟨none, ch, sl, lg, sz, false⟩ .load = ⟨none, ch, sl, lg, sz, false⟩ := rfl

@[simp] theorem step_bcastNext (v : Val) : St.step ⟨obs, ch, sl, lg, sz, false⟩ (.bcastNext v) =
    ⟨obs, ch, sl, lg ++ ((obs.getD []).filter (isOpenIn sl)).map (·, Notif.next v), sz, false⟩ := rfl

@[simp] theorem step_bcastTerm (t : Term) : St.step ⟨some o, ch, sl, lg, sz, false⟩ (.bcastTerm t) =
    ⟨none, ch, (termLoop t.toNotif sl o).1, lg ++ (termLoop t.toNotif sl o).2, sz, false⟩ := rfl

@[simp] theorem step_bcastTerm_none (t : Term) : St.step ⟨none, ch, sl, lg, sz, false⟩ (.bcastTerm t) =
    ⟨none, ch, sl, lg, sz, false⟩ := rfl

@[simp] theorem step_takeObs : St.step ⟨obs, ch, sl, lg, sz, false⟩ .takeObs = ⟨none, ch, sl, lg, sz, false⟩ := rfl

@[simp] theorem step_takeChamber : St.step ⟨obs, ch, sl, lg, sz, false⟩ .takeChamber =
    ⟨obs, none, sl, lg, sz, false⟩ := rfl

@[simp] theorem step_push : St.step ⟨obs, some c, sl, lg, sz, false⟩ .push =
    ⟨obs, some (c ++ [sl.length]), sl ++ [true], lg, sz, false⟩ := rfl

@[simp] theorem step_push_none : St.step ⟨obs, none, sl, lg, sz, false⟩ .push =
    ⟨obs, none, sl ++ [false], lg, sz, false⟩ := rfl

@[simp] theorem step_retain : St.step ⟨some o, ch, sl, lg, sz, false⟩ .retain =
    ⟨some (o.filter (isOpenIn sl)), ch, sl, lg, sz, false⟩ := rfl

@[simp] theorem step_retain_none : St.step ⟨none, ch, sl, lg, sz, false⟩ .retain = ⟨none, ch, sl, lg, sz, false⟩ := rfl

@[simp] theorem step_closeSlot (u : Nat) : St.step ⟨obs, ch, sl, lg, sz, false⟩ (.closeSlot u) =
    ⟨obs, ch, sl.set u false, lg, sz, false⟩ := rfl

@[simp] theorem step_len : St.step ⟨some o, some c, sl, lg, sz, false⟩ .len =
    ⟨some o, some c, sl, lg, sz ++ [.len (o.length + c.length)], false⟩ := rfl

@[simp] theorem step_len_none : St.step ⟨none, ch, sl, lg, sz, false⟩ .len =
    ⟨none, ch, sl, lg, sz ++ [.len 0], false⟩ := rfl

@[simp] theorem step_isEmpty : St.step ⟨some o, some c, sl, lg, sz, false⟩ .isEmpty =
    ⟨some o, some c, sl, lg, sz ++ [.empty (o.isEmpty && c.isEmpty)], false⟩ := by
  cases o <;> rfl

@[simp] theorem step_isEmpty_none : St.step ⟨none, ch, sl, lg, sz, false⟩ .isEmpty =
    ⟨none, ch, sl, lg, sz ++ [.empty true], false⟩ := rfl

end equations

theorem emits_bcastNext (s : St) (v : Val) : s.emits (.bcastNext v) =
    if s.panicked then [] else ((s.obs.getD []).filter s.isOpen).map (·, Notif.next v) := rfl

theorem emits_bcastTerm (s : St) (t : Term) : s.emits (.bcastTerm t) =
    if s.panicked then [] else (termLoop t.toNotif s.slots (s.obs.getD [])).2 := rfl

@[simp] theorem runOp_next (s : St) (v : Val) : s.runOp (.next v) = (s.step .load).step (.bcastNext v) := rfl
@[simp] theorem runOp_error (s : St) (e : Err) :
    s.runOp (.error e) = (s.step .load).step (.bcastTerm (.error e)) := rfl
@[simp] theorem runOp_complete (s : St) : s.runOp .complete = (s.step .load).step (.bcastTerm .complete) := rfl
@[simp] theorem runOp_unsubAll (s : St) : s.runOp .unsubAll = (s.step .takeObs).step .takeChamber := rfl
@[simp] theorem runOp_subscribe (s : St) : s.runOp .subscribe = s.step .push := rfl
@[simp] theorem runOp_unsub (s : St) (u : Nat) : s.runOp (.unsub u) = s.step (.closeSlot u) := rfl
@[simp] theorem runOp_retain (s : St) : s.runOp .retain = s.step .retain := rfl
@[simp] theorem runOp_size (s : St) : s.runOp .size = (s.step .len).step .isEmpty := rfl

theorem step_log (s : St) (x : Step) : (s.step x).log = s.log ++ s.emits x := by
  obtain ⟨obs, ch, slots, log, sizes, p⟩ := s
  cases p
  case true => cases x <;> exact (List.append_nil log).symm
  cases x
  case bcastNext v => rfl
  case bcastTerm t => cases obs <;> first | rfl | exact (List.append_nil log).symm
  case isEmpty => rcases obs with _ | _ | _ <;> cases ch <;> exact (List.append_nil log).symm
  all_goals cases obs <;> cases ch <;> exact (List.append_nil log).symm

theorem step_slots (s : St) (x : Step) :
    s.slots.length ≤ (s.step x).slots.length ∧
      ∀ u, u < s.slots.length → s.isOpen u = false → (s.step x).isOpen u = false := by
  obtain ⟨obs, ch, slots, log, sizes, p⟩ := s
  cases p
  case true => exact ⟨Nat.le_refl _, fun _ _ h => h⟩
  cases x
  case bcastTerm t =>
    cases obs
    · exact ⟨Nat.le_refl _, fun _ _ h => h⟩
    · exact ⟨Nat.le_of_eq (termLoop_length ..).symm, fun u _ h => termLoop_closed _ u _ slots h⟩
  case push =>
    have hl : ∀ b : Bool, slots.length ≤ (slots ++ [b]).length := fun b => by
      rw [List.length_append]; exact Nat.le_add_right _ _
    cases ch <;> exact ⟨hl _, fun u hu h => (isOpenIn_append_lt slots _ hu).trans h⟩
  case closeSlot w =>
    exact ⟨Nat.le_of_eq List.length_set.symm, fun u _ h => isOpenIn_set_closed slots u w h⟩
  case isEmpty => rcases obs with _ | _ | _ <;> cases ch <;> exact ⟨Nat.le_refl _, fun _ _ h => h⟩
  case load | len => cases obs <;> cases ch <;> exact ⟨Nat.le_refl _, fun _ _ h => h⟩
  case retain => cases obs <;> exact ⟨Nat.le_refl _, fun _ _ h => h⟩
  all_goals exact ⟨Nat.le_refl _, fun _ _ h => h⟩

/-- No section adds an entry, except `push`, which adds the index of the slot it creates. -/
theorem step_entries (s : St) (x : Step) :
    ((s.step x).obs.getD [] ++ (s.step x).chamber.getD []).Sublist (s.obs.getD [] ++ s.chamber.getD []) ∨
      ((s.step x).obs.getD [] ++ (s.step x).chamber.getD [] =
          s.obs.getD [] ++ s.chamber.getD [] ++ [s.slots.length] ∧
        (s.step x).slots.length = s.slots.length + 1) := by
  obtain ⟨obs, ch, slots, log, sizes, p⟩ := s
  cases p
  case true => exact Or.inl (List.Sublist.refl _)
  cases x
  case load =>
    rcases obs with _ | o <;> rcases ch with _ | c
    case some.some =>
      refine Or.inl ?_
      show (o ++ c ++ []).Sublist _
      rw [List.append_nil]
      exact List.Sublist.refl _
    all_goals exact Or.inl (List.Sublist.refl _)
  case bcastTerm t =>
    cases obs
    · exact Or.inl (List.Sublist.refl _)
    · exact Or.inl (List.sublist_append_right ..)
  case takeObs => exact Or.inl (List.sublist_append_right ..)
  case takeChamber => exact Or.inl ((List.Sublist.refl _).append (List.nil_sublist _))
  case push =>
    cases ch
    · exact Or.inl (List.Sublist.refl _)
    · exact Or.inr ⟨(List.append_assoc ..).symm, List.length_append⟩
  case retain =>
    cases obs
    · exact Or.inl (List.Sublist.refl _)
    · exact Or.inl (List.filter_sublist.append (List.Sublist.refl _))
  case isEmpty => rcases obs with _ | _ | _ <;> cases ch <;> exact Or.inl (List.Sublist.refl _)
  case len => cases obs <;> cases ch <;> exact Or.inl (List.Sublist.refl _)
  all_goals exact Or.inl (List.Sublist.refl _)

/-- "observers = Some → chamber = Some": what the `unwrap()`s rely on. -/
def ChamberOutlives (s : St) : Prop := s.obs = none ∨ s.chamber ≠ none

theorem step_obs_none (s : St) (x : Step) (h : s.obs = none) : (s.step x).obs = none := by
  obtain ⟨obs, ch, slots, log, sizes, p⟩ := s
  subst h
  cases p
  case true => rfl
  cases x
  case push => cases ch <;> rfl
  all_goals rfl

theorem runSteps_induct {P : St → Prop} (hP : ∀ s x, P s → P (s.step x)) (xs : List Step) :
    ∀ (s : St), P s → P (s.runSteps xs) := by
  induction xs with
  | nil => intro s h; exact h
  | cons x r ih => intro s h; exact ih _ (hP s x h)

theorem runSteps_obs_none (xs : List Step) : ∀ (s : St), s.obs = none → (s.runSteps xs).obs = none :=
  runSteps_induct step_obs_none xs

theorem step_takeObs_obs {s : St} (np : s.panicked = false) : (s.step .takeObs).obs = none := by
  obtain ⟨obs, ch, slots, log, sizes, p⟩ := s
  cases np
  rfl

theorem step_no_panic (s : St) (x : Step) (np : s.panicked = false) (oc : ChamberOutlives s)
    (hx : x = .takeChamber → s.obs = none) : (s.step x).panicked = false ∧ ChamberOutlives (s.step x) := by
  obtain ⟨obs, ch, slots, log, sizes, p⟩ := s
  subst np
  rcases obs with _ | o
  · cases x
    case push => cases ch <;> exact ⟨rfl, Or.inl rfl⟩
    all_goals exact ⟨rfl, Or.inl rfl⟩
  · rcases ch with _ | c
    · exact absurd rfl (oc.resolve_left nofun)
    · cases x
      case takeChamber => cases hx rfl
      case isEmpty => cases o <;> exact ⟨rfl, Or.inr nofun⟩
      case bcastTerm => exact ⟨rfl, Or.inl rfl⟩
      case takeObs => exact ⟨rfl, Or.inl rfl⟩
      all_goals exact ⟨rfl, Or.inr nofun⟩

/-- States reachable by steps (of any threads, in any order). -/
inductive Reach : St → Prop where
  | init : Reach St.init
  | step {s : St} (x : Step) : Reach s → Reach (s.step x)

/-- every live / waiting entry is an existing subscriber and occurs once -/
structure Entries (s : St) : Prop where
  nodup : (s.obs.getD [] ++ s.chamber.getD []).Nodup
  bound : ∀ u ∈ s.obs.getD [] ++ s.chamber.getD [], u < s.slots.length

theorem Entries.step {s : St} (h : Entries s) (x : Step) : Entries (s.step x) := by
  rcases step_entries s x with hs | ⟨e, hl⟩
  · exact ⟨hs.nodup h.nodup, fun u hu => Nat.lt_of_lt_of_le (h.bound u (hs.subset hu)) (step_slots s x).1⟩
  · obtain ⟨hn, hb⟩ := fresh_append h.bound h.nodup
    exact ⟨e ▸ hn, fun u hu => hl ▸ hb u (e ▸ hu)⟩

theorem Reach.entries {s : St} (h : Reach s) : Entries s := by
  induction h with
  | init => exact ⟨by simp [St.init], by simp [St.init]⟩
  | step x _ ih => exact ih.step x

/-- Per subscriber: items, at most one terminal, nothing after it — and the terminal has
    closed the slot; a subscriber that does not exist yet has received nothing. -/
def Grammar (s : St) : Prop :=
  ∀ u, WF (proj u s.log) ∧ (terminated (proj u s.log) = true → s.isOpen u = false) ∧
    (s.slots.length ≤ u → proj u s.log = [])

theorem emits_proj (s : St) (x : Step) (u : Nat) :
    proj u (s.emits x) = [] ∨
      (s.isOpen u = true ∧
        ((∃ vs : List Val, proj u (s.emits x) = vs.map Notif.next) ∨
          (∃ n, proj u (s.emits x) = [n] ∧ (s.step x).isOpen u = false))) := by
  cases x with
  | bcastNext v =>
    rw [emits_bcastNext]
    split
    · exact Or.inl rfl
    · rw [proj_map]
      by_cases ho : s.isOpen u = true
      · exact Or.inr ⟨ho, Or.inl ⟨_, (List.map_map ..).symm⟩⟩
      · refine Or.inl ?_
        have hn : ((s.obs.getD []).filter s.isOpen).filter (· == u) = [] :=
          List.filter_eq_nil_iff.mpr fun w hw e => ho (beq_iff_eq.mp e ▸ (List.mem_filter.mp hw).2)
        rw [hn]
        rfl
  | bcastTerm t =>
    obtain ⟨obs, ch, slots, log, sizes, p⟩ := s
    cases p
    case true => exact Or.inl rfl
    cases obs with
    | none => exact Or.inl rfl
    | some o =>
      rcases termLoop_proj t.toNotif u o slots with h | ⟨h1, h2, h3⟩
      · exact Or.inl h
      · exact Or.inr ⟨h2, Or.inr ⟨_, h1, h3⟩⟩
  | _ => exact Or.inl rfl

theorem Grammar.init : Grammar St.init := by
  intro u
  simp [St.init, proj, terminated]

theorem Grammar.step {s : St} (h : Grammar s) (x : Step) : Grammar (s.step x) := by
  intro u
  obtain ⟨h1, h2, h3⟩ := h u
  obtain ⟨hl, hs⟩ := step_slots s x
  have hopen : s.isOpen u = true → u < s.slots.length := isOpenIn_lt
  -- an old subscriber whose stream had ended stays closed
  have hold : terminated (proj u s.log) = true → (s.step x).isOpen u = false := by
    intro ht
    have hu : u < s.slots.length := by
      apply Nat.lt_of_not_le
      intro hle
      rw [h3 hle] at ht
      cases ht
    exact hs u hu (h2 ht)
  -- a subscriber that is still open has not had its terminal
  have hnt : s.isOpen u = true → terminated (proj u s.log) = false := by
    intro ho
    cases ht : terminated (proj u s.log) with
    | false => rfl
    | true => rw [h2 ht] at ho; cases ho
  rw [step_log, proj_append]
  rcases emits_proj s x u with e | ⟨ho, ⟨vs, e⟩ | ⟨n, e, hc⟩⟩
  · rw [e, List.append_nil]
    exact ⟨h1, hold, fun hle => h3 (Nat.le_trans hl hle)⟩
  · rw [e]
    exact ⟨WF_append h1 (hnt ho) (WF_nexts vs),
      fun ht => hold (by rwa [terminated_append, terminated_nexts, Bool.or_false] at ht),
      fun hle => absurd (hopen ho) (Nat.not_lt.mpr (Nat.le_trans hl hle))⟩
  · rw [e]
    exact ⟨WF_append h1 (hnt ho) (WF_single n), fun _ => hc,
      fun hle => absurd (hopen ho) (Nat.not_lt.mpr (Nat.le_trans hl hle))⟩

theorem Reach.grammar {s : St} (h : Reach s) : Grammar s := by
  induction h with
  | init => exact Grammar.init
  | step x _ ih => exact ih.step x

theorem Reach.runSteps (xs : List Step) : ∀ {s : St}, Reach s → Reach (s.runSteps xs) :=
  fun {s} => runSteps_induct (fun _ x h => Reach.step x h) xs s

theorem emits_receivers {s : St} (hr : Reach s) (x : Step) :
    (s.emits x).map (·.1) = match x with
      | .bcastNext _ | .bcastTerm _ => if s.panicked then [] else (s.obs.getD []).filter s.isOpen
      | _ => [] := by
  cases x with
  | bcastNext v =>
    rw [emits_bcastNext]
    split <;> simp [List.map_map, Function.comp_def]
  | bcastTerm t =>
    rw [emits_bcastTerm]
    split
    · simp
    · have hnd : (s.obs.getD []).Nodup := (List.nodup_append.mp hr.entries.nodup).1
      rw [termLoop_exact _ _ _ hnd]
      simp only [List.map_map, Function.comp_def, List.map_id']
      rfl
  | _ => rfl

end Rx.Conc.SS
