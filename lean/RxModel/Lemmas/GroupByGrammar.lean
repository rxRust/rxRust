import RxModel.Lemmas.GroupBy
import RxModel.Lemmas.St1WF
import RxModel.Lemmas.WFReplicate
/-
  group_by, the observer (C01M / C02M / C20): projections of the log to the outer stream and to
  each group, counting of live subscribers per key, and the invariants of `GroupByObserver` that
  the suite world carries along (`GI`, `FI`, `Quiet`, `Ex`).
-/
namespace Rx
namespace GroupBy

/-- What the outer probe receives. -/
def outerLog : List Out → List Notif
  | [] => []
  | .outer n :: r => n :: outerLog r
  | .grp _ _ :: r => outerLog r

/-- What the subscriber(s) of group `k` receive. -/
def grpLog (k : Val) : List Out → List Notif
  | [] => []
  | .grp k' n :: r => if k' = k then n :: grpLog k r else grpLog k r
  | .outer _ :: r => grpLog k r

theorem grpLog_nil (k : Val) : grpLog k [] = [] := rfl

theorem outerLog_append (a b : List Out) : outerLog (a ++ b) = outerLog a ++ outerLog b := by
  induction a with
  | nil => rfl
  | cons x r ih => cases x <;> simp [outerLog, ih]

theorem grpLog_append (k : Val) (a b : List Out) : grpLog k (a ++ b) = grpLog k a ++ grpLog k b := by
  induction a with
  | nil => rfl
  | cons x r ih =>
    cases x with
    | outer n => simp [grpLog, ih]
    | grp k' n => by_cases h : k' = k <;> simp [grpLog, h, ih]

theorem outerLog_map_outer (ns : List Notif) : outerLog (ns.map Out.outer) = ns := by
  induction ns with
  | nil => rfl
  | cons n r ih => simp [outerLog, ih]

theorem outerLog_map_grp (k : Val) (ns : List Notif) : outerLog (ns.map (Out.grp k)) = [] := by
  induction ns with
  | nil => rfl
  | cons n r ih => simp [outerLog, ih]

theorem grpLog_map_outer (k : Val) (ns : List Notif) : grpLog k (ns.map Out.outer) = [] := by
  induction ns with
  | nil => rfl
  | cons n r ih => simp [grpLog, ih]

theorem grpLog_map_grp (k k' : Val) (ns : List Notif) :
    grpLog k (ns.map (Out.grp k')) = if k' = k then ns else [] := by
  induction ns with
  | nil => simp [grpLog]
  | cons n r ih => by_cases h : k' = k <;> simp_all [grpLog]

/-! ### the outer operators -/

theorem pushOuter_outer (o : List Out) : ∀ ch : List St1,
    (pushOuter ch o).1 = (runChain ch (outerLog o)).1 ∧
    outerLog (pushOuter ch o).2 = (runChain ch (outerLog o)).2 := by
  induction o with
  | nil => intro ch; simp [pushOuter, outerLog, runChain_nil]
  | cons x r ih =>
    intro ch
    cases x with
    | outer n =>
      have h := ih (runChain ch [n]).1
      have happ := runChain_append ch [n] (outerLog r)
      simp only [List.singleton_append] at happ
      simp only [pushOuter, outerLog, outerLog_append, outerLog_map_outer, happ, h.1, h.2,
        and_self]
    | grp k n =>
      have h := ih ch
      simp only [pushOuter, outerLog, h.1, h.2, and_self]

theorem pushOuter_grp (k : Val) (o : List Out) : ∀ ch : List St1,
    grpLog k (pushOuter ch o).2 = grpLog k o := by
  induction o with
  | nil => intro ch; simp [pushOuter]
  | cons x r ih =>
    intro ch
    cases x with
    | outer n => simp [pushOuter, grpLog, grpLog_append, grpLog_map_outer, ih]
    | grp k' n => by_cases h : k' = k <;> simp [pushOuter, grpLog, h, ih]

/-! ### live subscribers of a group subject -/

def liveCnt : List Slot → Nat
  | [] => 0
  | sl :: r => (if sl.alive then 1 else 0) + liveCnt r

theorem liveCnt_append (a b : List Slot) : liveCnt (a ++ b) = liveCnt a + liveCnt b := by
  induction a with
  | nil => simp [liveCnt]
  | cons x r ih => simp [liveCnt, ih]; omega

theorem liveCnt_map_dead (l : List Slot) : liveCnt (l.map fun _ => (⟨false⟩ : Slot)) = 0 := by
  induction l with
  | nil => rfl
  | cons x r ih => simp [liveCnt, ih]

/-- Subscribers of the subject that a broadcast reaches (after `load`). -/
def Subj.live (s : Subj) : Nat :=
  match s.observers with
  | some os => liveCnt (os ++ s.chamber)
  | none => 0

theorem deliver_eq (v : Val) (l : List Slot) :
    Subj.deliver v l = List.replicate (liveCnt l) (.next v) := by
  induction l with
  | nil => rfl
  | cons sl r ih =>
    cases h : sl.alive
    · simp [Subj.deliver, liveCnt, h, ih]
    · simp only [Subj.deliver, liveCnt, h, ih, if_true, Nat.add_comm 1, List.replicate_succ,
        List.singleton_append]

theorem deliverTerm_eq (t : Notif) (l : List Slot) :
    Subj.deliverTerm t l = List.replicate (liveCnt l) t := by
  induction l with
  | nil => rfl
  | cons sl r ih =>
    cases h : sl.alive
    · simp [Subj.deliverTerm, liveCnt, h, ih]
    · simp only [Subj.deliverTerm, liveCnt, h, ih, if_true, Nat.add_comm 1, List.replicate_succ,
        List.singleton_append]

theorem Subj.next_out (s : Subj) (v : Val) : (s.next v).2 = List.replicate s.live (.next v) := by
  cases s with
  | mk obs ch =>
    cases obs with
    | none => simp [Subj.next, Subj.load, Subj.live]
    | some os => simp [Subj.next, Subj.load, Subj.live, deliver_eq]

theorem Subj.next_live (s : Subj) (v : Val) : (s.next v).1.live = s.live := by
  cases s with
  | mk obs ch =>
    cases obs with
    | none => simp [Subj.next, Subj.load, Subj.live]
    | some os => simp [Subj.next, Subj.load, Subj.live]

theorem Subj.term_out (s : Subj) (t : Notif) : (s.term t).2 = List.replicate s.live t := by
  cases s with
  | mk obs ch =>
    cases obs with
    | none => simp [Subj.term, Subj.load, Subj.live]
    | some os => simp [Subj.term, Subj.load, Subj.live, deliverTerm_eq]

theorem Subj.unsubAll_live (s : Subj) : s.unsubAll.live = 0 := by
  cases s with
  | mk obs ch =>
    cases obs with
    | none => simp [Subj.unsubAll, Subj.live]
    | some os =>
      simp only [Subj.unsubAll, Subj.live, Option.map_some, ← List.map_append]
      exact liveCnt_map_dead _

theorem Subj.new_live : Subj.new.live = 0 := rfl
theorem Subj.new_subscribe_live : Subj.new.subscribe.live = 1 := rfl

/-- Live subscribers registered under key `k` in the map. -/
def total (k : Val) : List (Val × Subj) → Nat
  | [] => 0
  | ks :: r => (if ks.1 = k then ks.2.live else 0) + total k r

theorem total_append (k : Val) (a b : List (Val × Subj)) :
    total k (a ++ b) = total k a + total k b := by
  induction a with
  | nil => simp [total]
  | cons x r ih => simp [total, ih]; omega

theorem total_perm (k : Val) {a b : List (Val × Subj)} (h : a.Perm b) : total k a = total k b := by
  induction h with
  | nil => rfl
  | cons x _ ih => simp [total, ih]
  | swap x y l => simp [total]; omega
  | trans _ _ ih1 ih2 => exact ih1.trans ih2

theorem find_none_total (k : Val) (l : List (Val × Subj)) (h : find k l = none) : total k l = 0 := by
  induction l with
  | nil => rfl
  | cons x r ih =>
    obtain ⟨k', s⟩ := x
    by_cases hk : k' = k
    · simp [find, hk] at h
    · simp only [find, hk, if_false] at h
      simp [total, hk, ih h]

/-- Replacing the subject under `k` changes the count under `k` by the difference of their live
    subscribers … -/
theorem total_replace_eq (k : Val) (s s' : Subj) (l : List (Val × Subj))
    (h : find k l = some s) : total k (replace k s' l) + s.live = total k l + s'.live := by
  induction l with
  | nil => simp [find] at h
  | cons x r ih =>
    obtain ⟨k1, s1⟩ := x
    by_cases hk : k1 = k
    · simp only [find, hk, if_true, Option.some.injEq] at h
      subst h
      simp only [replace, hk, if_true, total]
      omega
    · simp only [find, hk, if_false] at h
      simp only [replace, hk, if_false, total]
      have := ih h
      omega

/-- … and no other count. -/
theorem total_replace_ne (k k' : Val) (s' : Subj) (l : List (Val × Subj)) (hne : k ≠ k') :
    total k' (replace k s' l) = total k' l := by
  induction l with
  | nil => rfl
  | cons x r ih =>
    obtain ⟨k1, s1⟩ := x
    by_cases hk : k1 = k
    · have : ¬ k1 = k' := fun h => hne (hk ▸ h)
      simp [replace, hk, total, hne]
    · simp [replace, hk, total, ih]

theorem find_replace_ne (k k' : Val) (s' : Subj) (l : List (Val × Subj)) (hne : k ≠ k') :
    find k' (replace k s' l) = find k' l := by
  induction l with
  | nil => rfl
  | cons x r ih =>
    obtain ⟨k1, s1⟩ := x
    by_cases hk : k1 = k
    · simp [replace, hk, find, hne]
    · simp [replace, hk, find, ih]

theorem find_append_some (k : Val) (s : Subj) (l m : List (Val × Subj)) (h : find k l = some s) :
    find k (l ++ m) = some s := by
  induction l with
  | nil => simp [find] at h
  | cons x r ih =>
    obtain ⟨k1, s1⟩ := x
    by_cases hk : k1 = k
    · simpa [find, hk] using h
    · simp only [find, hk, if_false] at h
      simp [find, hk, ih h]

theorem find_append_none (k : Val) (l m : List (Val × Subj)) (h : find k l = none) :
    find k (l ++ m) = find k m := by
  induction l with
  | nil => rfl
  | cons x r ih =>
    obtain ⟨k1, s1⟩ := x
    by_cases hk : k1 = k
    · simp [find, hk] at h
    · simp only [find, hk, if_false] at h
      simp [find, hk, ih h]

theorem find_some_live_le (k : Val) (s : Subj) (l : List (Val × Subj)) (h : find k l = some s) :
    s.live ≤ total k l := by
  induction l with
  | nil => simp [find] at h
  | cons x r ih =>
    obtain ⟨k1, s1⟩ := x
    by_cases hk : k1 = k
    · simp only [find, hk, if_true, Option.some.injEq] at h
      subst h
      simp only [total, hk, if_true]; omega
    · simp only [find, hk, if_false] at h
      have := ih h
      simp only [total, hk, if_false]; omega

theorem total_replace_le (k k' : Val) (s s' : Subj) (l : List (Val × Subj))
    (h : find k l = some s) (hl : s'.live ≤ s.live) :
    total k' (replace k s' l) ≤ total k' l := by
  by_cases hk : k = k'
  · subst hk
    have := total_replace_eq k s s' l h
    omega
  · exact Nat.le_of_eq (total_replace_ne k k' s' l hk)

theorem total_replace_live (k k' : Val) (s s' : Subj) (l : List (Val × Subj))
    (h : find k l = some s) (hl : s'.live = s.live) :
    total k' (replace k s' l) = total k' l := by
  by_cases hk : k = k'
  · subst hk
    have := total_replace_eq k s s' l h
    omega
  · exact total_replace_ne k k' s' l hk

theorem find_replace_self (k : Val) (s s' : Subj) (l : List (Val × Subj))
    (h : find k l = some s) : find k (replace k s' l) = some s' := by
  induction l with
  | nil => simp [find] at h
  | cons x r ih =>
    obtain ⟨k1, s1⟩ := x
    by_cases hk : k1 = k
    · simp [replace, find, hk]
    · simp only [find, hk, if_false] at h
      simp [replace, find, hk, ih h]

theorem drainOut_cons (t : Notif) (x : Val × Subj) (r : List (Val × Subj)) :
    drainOut t (x :: r) = (x.2.term t).2.map (Out.grp x.1) ++ drainOut t r := by
  simp [drainOut]

theorem grpLog_drainOut (k : Val) (t : Notif) (l : List (Val × Subj)) :
    grpLog k (drainOut t l) = List.replicate (total k l) t := by
  induction l with
  | nil => rfl
  | cons x r ih =>
    rw [drainOut_cons, grpLog_append, grpLog_map_grp, ih, Subj.term_out, total]
    split <;> simp [List.replicate_append_replicate]

theorem outerLog_drainOut (t : Notif) (l : List (Val × Subj)) : outerLog (drainOut t l) = [] := by
  induction l with
  | nil => rfl
  | cons x r ih => rw [drainOut_cons, outerLog_append, outerLog_map_grp, ih]; rfl

/-- The terminal fan-out seen by group `k`: one copy per live subscriber, whatever the drain order. -/
theorem grpLog_onTerm (ord : List (Val × Subj) → List (Val × Subj)) (hord : ∀ l, (ord l).Perm l)
    (k : Val) (st : St) (t : Notif) :
    grpLog k (st.onTerm ord t).2 = List.replicate (total k st.subjects) t := by
  rw [St.onTerm, grpLog_append, grpLog_drainOut, total_perm k (hord st.subjects)]
  exact List.append_nil _

theorem outerLog_onTerm (ord : List (Val × Subj) → List (Val × Subj)) (st : St) (t : Notif) :
    outerLog (st.onTerm ord t).2 = [t] := by
  rw [St.onTerm, outerLog_append, outerLog_drainOut]
  rfl

/-! ### the two forms of `St.onNext` -/

/-- An item of a known group goes through that group's subject. -/
theorem St.onNext_old (key : Val → Val) (attach : Bool) (st : St) (v : Val) (subj : Subj)
    (h : find (key v) st.subjects = some subj) :
    st.onNext key attach v =
      ({ subjects := replace (key v) (subj.next v).1 st.subjects },
        (subj.next v).2.map (Out.grp (key v))) := by
  unfold St.onNext
  dsimp only
  rw [h]

/-- An item with a new key: the group is created and announced (the outer probe may subscribe
    during the announcement), then fed. -/
theorem St.onNext_new (key : Val → Val) (attach : Bool) (st : St) (v : Val)
    (h : find (key v) st.subjects = none) :
    st.onNext key attach v =
      ({ subjects := st.subjects ++
            [(key v, ((if attach then Subj.new.subscribe else Subj.new).next v).1)] },
        Out.outer (.next (key v)) ::
          ((if attach then Subj.new.subscribe else Subj.new).next v).2.map (Out.grp (key v))) := by
  unfold St.onNext
  dsimp only
  rw [h]

/-! ### the observer -/

/-- The group invariant: every key has at most one live subscriber. -/
def GI (st : St) : Prop := ∀ k, total k st.subjects ≤ 1

theorem GI_init : GI St.init := fun _ => Nat.zero_le _

theorem onNext_GI (key : Val → Val) (attach : Bool) (st : St) (v : Val) (h : GI st) :
    GI (st.onNext key attach v).1 := by
  intro k'
  cases hf : find (key v) st.subjects with
  | some subj =>
    rw [St.onNext_old key attach st v subj hf]
    have := total_replace_le (key v) k' subj (subj.next v).1 st.subjects hf
      (Nat.le_of_eq (Subj.next_live subj v))
    exact Nat.le_trans this (h k')
  | none =>
    rw [St.onNext_new key attach st v hf]
    simp only [total_append, total]
    by_cases hk : key v = k'
    · subst hk
      have h0 := find_none_total _ _ hf
      cases attach <;> simp [h0, Subj.next_live, Subj.new_live, Subj.new_subscribe_live]
    · have := h k'
      simp [hk]; exact this

theorem onNext_grpLog (key : Val → Val) (attach : Bool) (st : St) (v : Val) (k : Val) :
    ∃ m, grpLog k (st.onNext key attach v).2 = List.replicate m (.next v) := by
  cases hf : find (key v) st.subjects with
  | some subj =>
    rw [St.onNext_old key attach st v subj hf]
    simp only [grpLog_map_grp, Subj.next_out]
    split
    · exact ⟨_, rfl⟩
    · exact ⟨0, rfl⟩
  | none =>
    rw [St.onNext_new key attach st v hf]
    simp only [grpLog, grpLog_map_grp, Subj.next_out]
    split
    · exact ⟨_, rfl⟩
    · exact ⟨0, rfl⟩

theorem onNext_outerLog (key : Val → Val) (attach : Bool) (st : St) (v : Val) :
    ∃ m, outerLog (st.onNext key attach v).2 = List.replicate m (.next (key v)) := by
  cases hf : find (key v) st.subjects with
  | some subj =>
    rw [St.onNext_old key attach st v subj hf]
    exact ⟨0, by simp [outerLog_map_grp]⟩
  | none =>
    rw [St.onNext_new key attach st v hf]
    exact ⟨1, by simp [outerLog, outerLog_map_grp]⟩

theorem unsubGroup_GI (st : St) (k : Val) (h : GI st) : GI (st.unsubGroup k) := by
  intro k'
  simp only [St.unsubGroup]
  split
  · rename_i s hf
    have := total_replace_le k k' s s.unsubAll st.subjects hf (by rw [Subj.unsubAll_live]; exact Nat.zero_le _)
    exact Nat.le_trans this (h k')
  · exact h k'

theorem replicate_next_eq (m : Nat) (v : Val) :
    List.replicate m (Notif.next v) = (List.replicate m v).map Notif.next := by
  simp

/-! ### no shadowed groups -/

/-- The find invariant: the live subscribers under a key are those of the subject `find` returns
    (no shadowed duplicates with subscribers). -/
def FI (l : List (Val × Subj)) : Prop := ∀ k s, find k l = some s → total k l = s.live

theorem FI_nil : FI [] := by intro k s h; simp [find] at h

theorem replace_FI (k : Val) (s s' : Subj) (l : List (Val × Subj)) (hl : FI l)
    (h : find k l = some s) : FI (replace k s' l) := by
  intro k' s'' h'
  by_cases hk : k = k'
  · subst hk
    rw [find_replace_self k s s' l h] at h'
    simp only [Option.some.injEq] at h'
    subst h'
    have h1 := total_replace_eq k s s' l h
    have h2 := hl k s h
    omega
  · rw [find_replace_ne k k' s' l hk] at h'
    rw [total_replace_ne k k' s' l hk]
    exact hl k' s'' h'

theorem append_FI (k : Val) (s' : Subj) (l : List (Val × Subj)) (hl : FI l)
    (h : find k l = none) : FI (l ++ [(k, s')]) := by
  intro k' s'' h'
  rw [total_append]
  by_cases hk : k = k'
  · subst hk
    rw [find_append_none k l _ h] at h'
    simp only [find, if_true, Option.some.injEq] at h'
    subst h'
    simp [total, find_none_total k l h]
  · cases hf : find k' l with
    | none =>
      rw [find_append_none k' l _ hf] at h'
      simp [find, hk] at h'
    | some s0 =>
      rw [find_append_some k' s0 l _ hf] at h'
      simp only [Option.some.injEq] at h'
      subst h'
      simp [total, hk, hl k' s0 hf]

theorem onNext_FI (key : Val → Val) (attach : Bool) (st : St) (v : Val) (h : FI st.subjects) :
    FI (st.onNext key attach v).1.subjects := by
  cases hf : find (key v) st.subjects with
  | some subj =>
    rw [St.onNext_old key attach st v subj hf]
    exact replace_FI _ subj _ _ h hf
  | none =>
    rw [St.onNext_new key attach st v hf]
    exact append_FI _ _ _ h hf

theorem unsubGroup_FI (st : St) (k : Val) (h : FI st.subjects) : FI (st.unsubGroup k).subjects := by
  simp only [St.unsubGroup]
  split
  · rename_i s hf
    exact replace_FI _ s _ _ h hf
  · exact h

/-- Group `k` exists and nobody listens to it. -/
def Quiet (k : Val) (st : St) : Prop :=
  (find k st.subjects).isSome = true ∧ total k st.subjects = 0

theorem find_replace_isSome (k k' : Val) (s s' : Subj) (l : List (Val × Subj))
    (h : find k l = some s) : (find k' (replace k s' l)).isSome = (find k' l).isSome := by
  by_cases hk : k = k'
  · subst hk
    rw [find_replace_self k s s' l h, h]
    rfl
  · rw [find_replace_ne k k' s' l hk]

theorem onNext_Quiet (key : Val → Val) (attach : Bool) (st : St) (v : Val) (k : Val)
    (h : Quiet k st) :
    Quiet k (st.onNext key attach v).1 ∧ grpLog k (st.onNext key attach v).2 = [] := by
  obtain ⟨h1, h2⟩ := h
  cases hf : find (key v) st.subjects with
  | some subj =>
    rw [St.onNext_old key attach st v subj hf]
    refine ⟨⟨?_, ?_⟩, ?_⟩
    · simp only; rw [find_replace_isSome _ k subj _ _ hf]; exact h1
    · have := total_replace_le (key v) k subj (subj.next v).1 st.subjects hf
        (Nat.le_of_eq (Subj.next_live subj v))
      simp only; omega
    · simp only [grpLog_map_grp, Subj.next_out]
      split
      · rename_i hk
        have := find_some_live_le _ _ _ hf
        rw [hk, h2] at this
        simp [Nat.le_zero.mp this]
      · rfl
  | none =>
    rw [St.onNext_new key attach st v hf]
    have hne : ¬ key v = k := by
      intro hk
      rw [hk] at hf
      simp [hf] at h1
    cases hfk : find k st.subjects with
    | none => simp [hfk] at h1
    | some s0 =>
      refine ⟨⟨?_, ?_⟩, ?_⟩
      · simp [find_append_some k s0 _ _ hfk]
      · simp [total_append, total, hne, h2]
      · simp [grpLog, grpLog_map_grp, hne]

theorem unsubGroup_Quiet (st : St) (k k' : Val) (h : Quiet k st) : Quiet k (st.unsubGroup k') := by
  obtain ⟨h1, h2⟩ := h
  simp only [St.unsubGroup]
  split
  · rename_i s hf
    refine ⟨?_, ?_⟩
    · simp only; rw [find_replace_isSome _ k s _ _ hf]; exact h1
    · have := total_replace_le k' k s s.unsubAll st.subjects hf
        (by rw [Subj.unsubAll_live]; exact Nat.zero_le _)
      simp only; omega
  · exact ⟨h1, h2⟩

theorem unsubGroup_makes_Quiet (st : St) (k : Val) (hfi : FI st.subjects)
    (h : (find k st.subjects).isSome = true) : Quiet k (st.unsubGroup k) := by
  cases hf : find k st.subjects with
  | none => simp [hf] at h
  | some s =>
    simp only [St.unsubGroup, hf, Quiet]
    refine ⟨by rw [find_replace_self k s _ _ hf]; rfl, ?_⟩
    have h1 := total_replace_eq k s s.unsubAll st.subjects hf
    have h2 := hfi k s hf
    rw [Subj.unsubAll_live] at h1
    omega

/-! ### a group that has delivered something exists, and has a live subscriber -/

/-- Group `k` exists (has been created). -/
def Ex (k : Val) (st : St) : Prop := (find k st.subjects).isSome = true

theorem onNext_Ex (key : Val → Val) (attach : Bool) (st : St) (v : Val) (k : Val) :
    (Ex k st → Ex k (st.onNext key attach v).1) ∧
    (grpLog k (st.onNext key attach v).2 ≠ [] → Ex k (st.onNext key attach v).1) := by
  simp only [Ex]
  cases hf : find (key v) st.subjects with
  | some subj =>
    rw [St.onNext_old key attach st v subj hf]
    constructor
    · intro h
      simp only; rw [find_replace_isSome _ k subj _ _ hf]; exact h
    · intro h
      simp only [grpLog_map_grp] at h
      split at h
      · rename_i hk
        simp only; rw [← hk, find_replace_self _ subj _ _ hf]; rfl
      · exact absurd rfl h
  | none =>
    rw [St.onNext_new key attach st v hf]
    constructor
    · intro h
      cases hfk : find k st.subjects with
      | none => simp [hfk] at h
      | some s0 => simp [find_append_some k s0 _ _ hfk]
    · intro h
      simp only [grpLog, grpLog_map_grp] at h
      split at h
      · rename_i hk
        simp only; rw [← hk, find_append_none _ _ _ hf]; simp [find]
      · exact absurd rfl h

theorem unsubGroup_Ex (st : St) (k k' : Val) (h : Ex k st) : Ex k (st.unsubGroup k') := by
  simp only [St.unsubGroup, Ex]
  split
  · rename_i s hf
    simp only; rw [find_replace_isSome _ k s _ _ hf]; exact h
  · exact h

theorem replicate_ne_nil {α : Type} (m : Nat) (a : α) (h : List.replicate m a ≠ []) : 1 ≤ m := by
  cases m with
  | zero => exact absurd rfl h
  | succ m => omega

/-- One item: a live subscriber of group `k` stays, and a delivery to group `k` proves one. -/
theorem onNext_live (key : Val → Val) (attach : Bool) (st : St) (v : Val) (k : Val) :
    (1 ≤ total k st.subjects → 1 ≤ total k (st.onNext key attach v).1.subjects) ∧
    (grpLog k (st.onNext key attach v).2 ≠ [] → 1 ≤ total k (st.onNext key attach v).1.subjects) := by
  cases hf : find (key v) st.subjects with
  | some subj =>
    rw [St.onNext_old key attach st v subj hf]
    have he := total_replace_live (key v) k subj (subj.next v).1 st.subjects hf (Subj.next_live subj v)
    refine ⟨fun h => by simpa [he] using h, fun h => ?_⟩
    simp only [grpLog_map_grp, Subj.next_out] at h
    split at h
    · rename_i hk
      subst hk
      have h1 := replicate_ne_nil _ _ h
      have h2 := find_some_live_le (key v) subj st.subjects hf
      simp only [he]
      omega
    · exact absurd rfl h
  | none =>
    rw [St.onNext_new key attach st v hf]
    simp only [total_append, total, Nat.add_zero]
    refine ⟨fun h => by omega, fun h => ?_⟩
    simp only [grpLog, grpLog_map_grp, Subj.next_out] at h
    split at h
    · rename_i hk
      have h1 := replicate_ne_nil _ _ h
      simp only [hk, if_true, Subj.next_live]
      omega
    · exact absurd rfl h

end GroupBy
end Rx
