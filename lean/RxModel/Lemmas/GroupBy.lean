import RxModel.Ops.GroupBy
/-
  group_by (C20): the reachable states of `GroupByObserver` are determined by the list of keys
  seen so far (`mkSt`), and its output on an item list is the closed form `outsSpec`.  Then the
  suite world: `World.run`, the equations of `World.step` (one per kind of event, and the case
  list `World.step_cases` every induction over histories goes through), and the world without
  outer operators as the machine.
-/
namespace Rx
namespace GroupBy

/-- A group subject after its first `next`: the chamber has been loaded. -/
def norm (a : Bool) : Subj := { observers := some (if a then [⟨true⟩] else []), chamber := [] }

/-- The reachable states. -/
def mkSt (attach : Val → Bool) (ks : List Val) : St :=
  { subjects := ks.map fun k => (k, norm (attach k)) }

theorem mkSt_nil (attach : Val → Bool) : mkSt attach [] = St.init := rfl

theorem norm_next (a : Bool) (v : Val) :
    (norm a).next v = (norm a, if a then [.next v] else []) := by
  cases a <;> rfl

theorem new_next (a : Bool) (v : Val) :
    (if a then Subj.new.subscribe else Subj.new).next v = (norm a, if a then [.next v] else []) := by
  cases a <;> rfl

theorem find_mk (attach : Val → Bool) (ks : List Val) (k : Val) :
    find k (ks.map fun k => (k, norm (attach k))) =
      if k ∈ ks then some (norm (attach k)) else none := by
  induction ks with
  | nil => simp [find]
  | cons a r ih =>
    simp only [List.map_cons, find, List.mem_cons]
    by_cases h : a = k
    · subst h; simp
    · rw [if_neg h, ih]
      have : ¬ k = a := fun e => h e.symm
      simp [this]

theorem replace_mk (attach : Val → Bool) (ks : List Val) (k : Val) :
    replace k (norm (attach k)) (ks.map fun k => (k, norm (attach k))) =
      ks.map fun k => (k, norm (attach k)) := by
  induction ks with
  | nil => rfl
  | cons a r ih =>
    simp only [List.map_cons, replace]
    by_cases h : a = k
    · subst h; simp
    · rw [if_neg h, ih]

theorem onNext_mk (key : Val → Val) (attach : Val → Bool) (ks : List Val) (v : Val) :
    (mkSt attach ks).onNext key (attach (key v)) v =
      if key v ∈ ks then
        (mkSt attach ks, if attach (key v) then [Out.grp (key v) (.next v)] else [])
      else
        (mkSt attach (ks ++ [key v]),
          Out.outer (.next (key v)) ::
            (if attach (key v) then [Out.grp (key v) (.next v)] else [])) := by
  unfold St.onNext mkSt
  simp only [find_mk]
  by_cases h : key v ∈ ks
  · simp only [if_pos h, norm_next, replace_mk]
    cases attach (key v) <;> rfl
  · simp only [if_neg h, new_next, List.map_append, List.map_cons, List.map_nil]
    cases attach (key v) <;> rfl

/-- The keys known after the items `xs`. -/
def keysAfter (key : Val → Val) (ks : List Val) : List Val → List Val
  | [] => ks
  | v :: r => keysAfter key (if key v ∈ ks then ks else ks ++ [key v]) r

/-- Closed form of the output on the items `xs` from a state knowing `ks`. -/
def outsSpec (key : Val → Val) (attach : Val → Bool) (ks : List Val) : List Val → List Out
  | [] => []
  | v :: r =>
    (if key v ∈ ks then [] else [Out.outer (.next (key v))]) ++
    (if attach (key v) then [Out.grp (key v) (.next v)] else []) ++
    outsSpec key attach (if key v ∈ ks then ks else ks ++ [key v]) r

theorem run_mk (key : Val → Val) (attach : Val → Bool) (ks : List Val) (xs : List Val) :
    (mkSt attach ks).run key attach xs =
      (mkSt attach (keysAfter key ks xs), outsSpec key attach ks xs) := by
  induction xs generalizing ks with
  | nil => rfl
  | cons v r ih =>
    simp only [St.run, onNext_mk, keysAfter, outsSpec]
    by_cases h : key v ∈ ks
    · simp only [if_pos h, ih]; simp
    · simp only [if_neg h, ih]; simp

/-! ### Projections of the closed form -/

theorem announced_append (a b : List Out) : announced (a ++ b) = announced a ++ announced b := by
  induction a with
  | nil => rfl
  | cons o r ih =>
    cases o with
    | outer n => cases n <;> simp [announced, ih]
    | grp k n => simp [announced, ih]

theorem groupItems_append (k : Val) (a b : List Out) :
    groupItems k (a ++ b) = groupItems k a ++ groupItems k b := by
  induction a with
  | nil => rfl
  | cons o r ih =>
    cases o with
    | outer n => simp [groupItems, ih]
    | grp k' n =>
      cases n with
      | next v => by_cases h : k' = k <;> simp [groupItems, ih, h]
      | error e => simp [groupItems, ih]
      | complete => simp [groupItems, ih]

theorem flat_append (a b : List Out) : flat (a ++ b) = flat a ++ flat b := by
  induction a with
  | nil => rfl
  | cons o r ih =>
    cases o with
    | outer n => simp [flat, ih]
    | grp k' n => cases n <;> simp [flat, ih]

theorem filter_ne_of_mem {ks : List Val} {x : Val} (h : x ∈ ks) (l : List Val) :
    (l.filter (· ≠ x)).filter (· ∉ ks) = l.filter (· ∉ ks) := by
  rw [List.filter_filter]
  apply List.filter_congr
  intro y _
  by_cases hy : y ∈ ks
  · simp [hy]
  · have : y ≠ x := fun e => hy (e ▸ h)
    simp [hy, this]

theorem filter_notin_append (ks : List Val) (x : Val) (l : List Val) :
    l.filter (· ∉ ks ++ [x]) = (l.filter (· ≠ x)).filter (· ∉ ks) := by
  rw [List.filter_filter]
  apply List.filter_congr
  intro y _
  by_cases hy : y ∈ ks <;> by_cases hx : y = x <;> simp [hy, hx]

theorem announced_spec (key : Val → Val) (attach : Val → Bool) (ks : List Val) (xs : List Val) :
    announced (outsSpec key attach ks xs) = (dedup (xs.map key)).filter (· ∉ ks) := by
  induction xs generalizing ks with
  | nil => rfl
  | cons v r ih =>
    simp only [outsSpec, announced_append, List.map_cons, dedup, ih]
    have hg : announced (if attach (key v) then [Out.grp (key v) (.next v)] else []) = [] := by
      cases attach (key v) <;> rfl
    rw [hg]
    by_cases h : key v ∈ ks
    · simp only [if_pos h, announced, List.nil_append]
      rw [List.filter_cons]
      simp only [h, not_true_eq_false, decide_false, Bool.false_eq_true, if_false]
      exact (filter_ne_of_mem h _).symm
    · simp only [if_neg h, announced, List.append_nil]
      rw [List.filter_cons]
      simp only [h, not_false_eq_true, decide_true, if_true]
      rw [filter_notin_append]
      rfl

/-- The keys known afterwards are the keys known before and the keys announced. -/
theorem keysAfter_eq (key : Val → Val) (attach : Val → Bool) (ks : List Val) (xs : List Val) :
    keysAfter key ks xs = ks ++ announced (outsSpec key attach ks xs) := by
  induction xs generalizing ks with
  | nil => simp [keysAfter, outsSpec, announced]
  | cons v r ih =>
    have hg : announced (if attach (key v) then [Out.grp (key v) (.next v)] else []) = [] := by
      cases attach (key v) <;> rfl
    simp only [keysAfter, outsSpec, announced_append, ih, hg, List.nil_append]
    by_cases h : key v ∈ ks
    · simp only [if_pos h, announced, List.nil_append]
    · simp only [if_neg h, announced, List.append_assoc, List.singleton_append]

theorem keysAfter_spec (key : Val → Val) (ks : List Val) (xs : List Val) :
    keysAfter key ks xs = ks ++ (dedup (xs.map key)).filter (· ∉ ks) := by
  rw [keysAfter_eq key (fun _ => true), announced_spec]

theorem groupItems_spec (key : Val → Val) (attach : Val → Bool) (ks : List Val) (xs : List Val)
    (k : Val) :
    groupItems k (outsSpec key attach ks xs) =
      if attach k then xs.filter (fun v => key v = k) else [] := by
  induction xs generalizing ks with
  | nil => simp [outsSpec, groupItems]
  | cons v r ih =>
    simp only [outsSpec, groupItems_append, ih]
    have h1 : groupItems k (if key v ∈ ks then [] else [Out.outer (.next (key v))]) = [] := by
      by_cases h : key v ∈ ks <;> simp [h, groupItems]
    rw [h1, List.nil_append, List.filter_cons]
    by_cases hk : key v = k
    · subst hk
      cases ha : attach (key v) <;> simp [groupItems]
    · cases ha : attach (key v) <;> cases hb : attach k <;> simp [groupItems, hk]

theorem flat_spec (key : Val → Val) (attach : Val → Bool) (ks : List Val) (xs : List Val) :
    flat (outsSpec key attach ks xs) = xs.filter (fun v => attach (key v)) := by
  induction xs generalizing ks with
  | nil => rfl
  | cons v r ih =>
    simp only [outsSpec, flat_append, ih]
    have h1 : flat (if key v ∈ ks then [] else [Out.outer (.next (key v))]) = [] := by
      by_cases h : key v ∈ ks <;> simp [h, flat]
    rw [h1, List.nil_append, List.filter_cons]
    cases ha : attach (key v) <;> simp [flat]

/-- Is this output a terminal (to the outer stream or to a group)? -/
def isTermOut : Out → Bool
  | .outer n => n.isTerm
  | .grp _ n => n.isTerm

/-- No group sees a terminal, the outer stream sees none, while only items arrive. -/
theorem outsSpec_no_term (key : Val → Val) (attach : Val → Bool) (ks : List Val) (xs : List Val) :
    ∀ o ∈ outsSpec key attach ks xs, isTermOut o = false := by
  induction xs generalizing ks with
  | nil => intro o h; cases h
  | cons v r ih =>
    intro o h
    simp only [outsSpec, List.mem_append] at h
    rcases h with (h | h) | h
    · by_cases hk : key v ∈ ks
      · simp [hk] at h
      · simp [hk] at h; subst h; rfl
    · cases ha : attach (key v)
      · simp [ha] at h
      · simp [ha] at h; subst h; rfl
    · exact ih _ o h

/-! ### dedup -/

theorem mem_dedup (x : Val) (l : List Val) : x ∈ dedup l ↔ x ∈ l := by
  induction l with
  | nil => simp [dedup]
  | cons a r ih =>
    simp only [dedup, List.mem_cons, List.mem_filter, ih]
    by_cases h : x = a <;> simp [h]

theorem nodup_dedup (l : List Val) : (dedup l).Nodup := by
  induction l with
  | nil => simp [dedup]
  | cons a r ih =>
    simp only [dedup, List.nodup_cons, List.mem_filter]
    refine ⟨by simp, ih.filter _⟩

/-! ### The terminal fan-out -/

theorem drainOut_mk (attach : Val → Bool) (t : Notif) (ks : List Val) :
    drainOut t (ks.map fun k => (k, norm (attach k))) =
      (ks.filter attach).map fun k => Out.grp k t := by
  induction ks with
  | nil => rfl
  | cons a r ih =>
    have ih' : drainOut t (r.map fun k => (k, norm (attach k))) =
        (r.filter attach).map fun k => Out.grp k t := ih
    simp only [drainOut, List.map_cons, List.flatMap_cons] at ih' ⊢
    rw [ih', List.filter_cons]
    cases ha : attach a <;> simp [norm, Subj.term, Subj.load, Subj.deliverTerm]

theorem drainOut_perm (t : Notif) {l₁ l₂ : List (Val × Subj)} (h : l₁.Perm l₂) :
    (drainOut t l₁).Perm (drainOut t l₂) :=
  List.Perm.flatMap_right _ h

theorem count_grp_map (t : Notif) (k : Val) (ks : List Val) (hnd : ks.Nodup) :
    List.count (Out.grp k t) (ks.map fun k => Out.grp k t) = if k ∈ ks then 1 else 0 := by
  induction ks with
  | nil => simp
  | cons a r ih =>
    rw [List.nodup_cons] at hnd
    simp only [List.map_cons, List.count_cons, ih hnd.2, List.mem_cons]
    by_cases h : a = k
    · subst h; simp [hnd.1]
    · have h' : ¬ k = a := fun e => h e.symm
      simp [h, h']

/-- The whole output of the terminal step from a reachable state. -/
theorem onTerm_mk (attach : Val → Bool) (ord : List (Val × Subj) → List (Val × Subj))
    (hord : ∀ l, (ord l).Perm l) (ks : List Val) (t : Notif) :
    ∃ gs, ((mkSt attach ks).onTerm ord t).2 = gs ++ [Out.outer t] ∧
      gs.Perm ((ks.filter attach).map fun k => Out.grp k t) := by
  refine ⟨drainOut t (ord (mkSt attach ks).subjects), rfl, ?_⟩
  have := drainOut_perm t (hord (mkSt attach ks).subjects)
  rw [mkSt, drainOut_mk] at this
  exact this

/-! ### The suite world without outer operators is the machine -/

/-- All events of a case; the concatenated log.  (The driver folds `World.step` itself; this run
    is what the theorems about whole histories are stated with.) -/
def World.run (key : Val → Val) (ord : List (Val × Subj) → List (Val × Subj)) (w : World) :
    List Ev → World × List Out
  | [] => (w, [])
  | e :: r =>
    let (w1, o1) := w.step key ord e
    let (w2, o2) := World.run key ord w1 r
    (w2, o1 ++ o2)

theorem World.run_append (key : Val → Val) (ord : List (Val × Subj) → List (Val × Subj))
    (a b : List Ev) : ∀ w : World,
    World.run key ord w (a ++ b) =
      ((World.run key ord (World.run key ord w a).1 b).1,
       (World.run key ord w a).2 ++ (World.run key ord (World.run key ord w a).1 b).2) := by
  induction a with
  | nil => intro w; simp [World.run]
  | cons e r ih => intro w; simp [World.run, ih, List.append_assoc]

theorem World.run_cons (key : Val → Val) (ord : List (Val × Subj) → List (Val × Subj))
    (w : World) (e : Ev) (r : List Ev) :
    World.run key ord w (e :: r) =
      ((World.run key ord (w.step key ord e).1 r).1,
       (w.step key ord e).2 ++ (World.run key ord (w.step key ord e).1 r).2) := rfl

/-! ### the equations of `World.step` -/
section step
variable (key : Val → Val) (ord : List (Val × Subj) → List (Val × Subj))

/-- Does the outer probe see the announcement of `key v` and subscribe to the new group?
    A name for the flag `World.step` computes inline, so that the step equations can mention it. -/
def World.att (w : World) (v : Val) : Bool :=
  (runChain w.outer [.next (key v)]).2.contains (.next (key v)) && !w.skip.contains (key v)

theorem World.step_next (w : World) (v : Val) :
    w.step key ord (.emit (.next v)) =
      if w.srcDone then (w, []) else
      match w.slot with
      | none => (w, [])
      | some st =>
        ({ w with slot := some (st.onNext key (w.att key v) v).1,
                  outer := (pushOuter w.outer (st.onNext key (w.att key v) v).2).1 },
          (pushOuter w.outer (st.onNext key (w.att key v) v).2).2) := rfl

theorem World.step_term (w : World) (t : Notif) (ht : t.isTerm = true) :
    w.step key ord (.emit t) =
      if w.srcDone then (w, []) else
      match w.slot with
      | none => ({ w with srcDone := true }, [])
      | some st =>
        ({ w with srcDone := true, slot := none, outer := (pushOuter w.outer (st.onTerm ord t).2).1 },
          (pushOuter w.outer (st.onTerm ord t).2).2) := by
  cases t with
  | next v => cases ht
  | error e => rfl
  | complete => rfl

theorem World.step_unsub (w : World) : w.step key ord .unsub = ({ w with slot := none }, []) := rfl

theorem World.step_gunsub (w : World) (k : Val) :
    w.step key ord (.gunsub k) = ({ w with slot := w.slot.map (·.unsubGroup k) }, []) := rfl

theorem World.step_emit_done (w : World) (h : w.srcDone = true) (n : Notif) :
    w.step key ord (.emit n) = (w, []) := by
  cases n with
  | next v => rw [World.step_next, if_pos h]
  | error e => rw [World.step_term key ord w _ rfl, if_pos h]
  | complete => rw [World.step_term key ord w _ rfl, if_pos h]

theorem World.step_next_live (w : World) (st : St) (v : Val) (hd : w.srcDone = false)
    (hs : w.slot = some st) :
    w.step key ord (.emit (.next v)) =
      ({ w with slot := some (st.onNext key (w.att key v) v).1,
                outer := (pushOuter w.outer (st.onNext key (w.att key v) v).2).1 },
        (pushOuter w.outer (st.onNext key (w.att key v) v).2).2) := by
  rw [World.step_next, hd, hs]
  rfl

theorem World.step_term_live (w : World) (st : St) (t : Notif) (ht : t.isTerm = true)
    (hd : w.srcDone = false) (hs : w.slot = some st) :
    w.step key ord (.emit t) =
      ({ w with srcDone := true, slot := none, outer := (pushOuter w.outer (st.onTerm ord t).2).1 },
        (pushOuter w.outer (st.onTerm ord t).2).2) := by
  rw [World.step_term key ord w t ht, hd, hs]
  rfl

/-- What a step of the suite world can be, as (new world, output). -/
inductive World.StepKind (w : World) : World × List Out → Prop
  /-- nothing happens: the source is done, or an item meets an empty slot -/
  | idle : StepKind w (w, [])
  /-- an item goes through the observer in the slot -/
  | next (st : St) (v : Val) (hs : w.slot = some st) :
    StepKind w
      ({ w with slot := some (st.onNext key (w.att key v) v).1,
                outer := (pushOuter w.outer (st.onNext key (w.att key v) v).2).1 },
        (pushOuter w.outer (st.onNext key (w.att key v) v).2).2)
  /-- the source's terminal goes through the observer and empties the slot -/
  | term (st : St) (t : Notif) (ht : t.isTerm = true) (hd : w.srcDone = false) (hs : w.slot = some st) :
    StepKind w
      ({ w with srcDone := true, slot := none, outer := (pushOuter w.outer (st.onTerm ord t).2).1 },
        (pushOuter w.outer (st.onTerm ord t).2).2)
  /-- the slot is emptied, or was empty when the terminal came: no output, slot empty -/
  | drop (w' : World) (h : w'.slot = none) : StepKind w (w', [])
  /-- a group's subscriber leaves -/
  | gunsub (k : Val) : StepKind w ({ w with slot := w.slot.map (·.unsubGroup k) }, [])

theorem World.step_kind (w : World) (e : Ev) : World.StepKind key ord w (w.step key ord e) := by
  cases e with
  | unsub => exact .drop _ rfl
  | gunsub k => exact .gunsub k
  | emit n =>
    rcases Bool.eq_false_or_eq_true w.srcDone with hd | hd
    · rw [World.step_emit_done key ord w hd n]; exact .idle
    · rcases Option.eq_none_or_eq_some w.slot with hs | ⟨st, hs⟩
      · have hterm : ∀ t : Notif, t.isTerm = true →
            w.step key ord (.emit t) = ({ w with srcDone := true }, []) := by
          intro t ht; rw [World.step_term key ord w t ht, hd, hs]; rfl
        cases n with
        | next v =>
          have h : w.step key ord (.emit (.next v)) = (w, []) := by
            rw [World.step_next, hd, hs]; rfl
          rw [h]; exact .idle
        | error x => rw [hterm _ rfl]; exact .drop _ hs
        | complete => rw [hterm _ rfl]; exact .drop _ hs
      · cases n with
        | next v => rw [World.step_next_live key ord w st v hd hs]; exact .next st v hs
        | error x => rw [World.step_term_live key ord w st _ rfl hd hs]; exact .term st _ rfl hd hs
        | complete => rw [World.step_term_live key ord w st _ rfl hd hs]; exact .term st _ rfl hd hs

end step

theorem pushOuter_nil (o : List Out) : pushOuter [] o = ([], o) := by
  induction o with
  | nil => rfl
  | cons x r ih => cases x <;> simp [pushOuter, runChain, ih]

theorem world_items (key : Val → Val) (ord : List (Val × Subj) → List (Val × Subj))
    (skip : List Val) (st : St) (xs : List Val) :
    World.run key ord { srcDone := false, slot := some st, outer := [], skip := skip }
        (xs.map fun v => Ev.emit (.next v)) =
      ({ srcDone := false, slot := some (st.run key (fun k => !skip.contains k) xs).1,
         outer := [], skip := skip },
       (st.run key (fun k => !skip.contains k) xs).2) := by
  induction xs generalizing st with
  | nil => rfl
  | cons v r ih =>
    have hatt : World.att key { srcDone := false, slot := some st, outer := [], skip := skip } v =
        !skip.contains (key v) := by
      simp [World.att, runChain]
    rw [List.map_cons, World.run_cons, World.step_next_live key ord _ st v rfl rfl, hatt]
    simp only [pushOuter_nil]
    rw [ih]
    rfl

theorem world_stream (key : Val → Val) (ord : List (Val × Subj) → List (Val × Subj))
    (skip : List Val) (xs : List Val) (t : Notif) (ht : t.isTerm = true) :
    (World.run key ord (World.init [] skip)
        (xs.map (fun v => Ev.emit (.next v)) ++ [Ev.emit t])).2 =
      St.runStream key (fun k => !skip.contains k) ord xs (some t) := by
  rw [World.run_append, World.init, world_items, World.run_cons,
    World.step_term_live key ord _ _ t ht rfl rfl, pushOuter_nil]
  simp [World.run, St.runStream]

end GroupBy
end Rx
