import RxModel.Sched.Exec
/-
  The "views" of a `Sched` that the properties talk about (`now`, `tasks[k]?`, the due time of a
  timer, `timerFired`) and how each primitive of Sched/Core.lean changes them (`setTask`,
  `registerTimer`, `newTimer`, `finishOnce`, `continueRepeat`, `cancel`, `fire`, `scheduleOnce`,
  `scheduleRepeat`: `_now`, `_tdue`, `_timerFired`, `_length`, `_get_*` each); the due timers; the
  outcomes of `pollPre` as equations and as one case analysis (`pollPre_elim`).
-/
namespace Rx.T
namespace Sched

/-- The due time of timer `tm`, if it exists. -/
def tdue (s : Sched) (tm : TimerId) : Option Nat := (s.timers[tm]?).map (·.due)

theorem get_lt {α} {l : List α} {i a} (h : l[i]? = some a) : i < l.length :=
  (List.getElem?_eq_some_iff.mp h).1

@[simp] theorem setTask_now (s : Sched) (k t) : (s.setTask k t).now = s.now := rfl
@[simp] theorem setTask_timers (s : Sched) (k t) : (s.setTask k t).timers = s.timers := rfl
@[simp] theorem setTask_tdue (s : Sched) (k t tm) : (s.setTask k t).tdue tm = s.tdue tm := rfl
@[simp] theorem setTask_timerFired (s : Sched) (k t tm) :
    (s.setTask k t).timerFired tm = s.timerFired tm := rfl
@[simp] theorem setTask_length (s : Sched) (k t) :
    (s.setTask k t).tasks.length = s.tasks.length := by simp [setTask]
theorem setTask_get (s : Sched) (k t j) :
    (s.setTask k t).tasks[j]? =
      if k = j then (if k < s.tasks.length then some t else none) else s.tasks[j]? := by
  simp [setTask, List.getElem?_set]
theorem setTask_get_self (s : Sched) (k t t0) (h : s.tasks[k]? = some t0) :
    (s.setTask k t).tasks[k]? = some t := by
  rw [setTask_get]; simp [get_lt h]
theorem setTask_get_ne (s : Sched) (k t j) (h : j ≠ k) :
    (s.setTask k t).tasks[j]? = s.tasks[j]? := by
  rw [setTask_get]; simp [Ne.symm h]

theorem setTask_self (s : Sched) (k t) (h : s.tasks[k]? = some t) : s.setTask k t = s := by
  obtain ⟨hk, rfl⟩ := List.getElem?_eq_some_iff.mp h
  simp [setTask]
theorem setTask_absent (s : Sched) (k t) (h : s.tasks[k]? = none) : s.setTask k t = s := by
  simp [setTask, List.set_eq_of_length_le (List.getElem?_eq_none_iff.mp h)]

theorem registerTimer_get (s : Sched) (tm i) :
    (s.registerTimer tm).timers[i]? =
      (s.timers[i]?).map (fun t => if tm = i then { t with registered := true } else t) := by
  unfold registerTimer
  cases h : s.timers[tm]? with
  | none =>
    simp only
    by_cases e : tm = i
    · subst e; simp [h]
    · simp [e]
  | some t =>
    simp only [setTimer, List.getElem?_set]
    by_cases e : tm = i
    · subst e
      rw [if_pos rfl, if_pos (get_lt h), h]; simp
    · simp [e]
@[simp] theorem registerTimer_now (s : Sched) (tm) : (s.registerTimer tm).now = s.now := by
  unfold registerTimer; split <;> rfl
@[simp] theorem registerTimer_tasks (s : Sched) (tm) : (s.registerTimer tm).tasks = s.tasks := by
  unfold registerTimer; split <;> rfl
@[simp] theorem registerTimer_length (s : Sched) (tm) :
    (s.registerTimer tm).timers.length = s.timers.length := by
  unfold registerTimer; split <;> simp [setTimer]
@[simp] theorem registerTimer_tdue (s : Sched) (tm i) : (s.registerTimer tm).tdue i = s.tdue i := by
  simp only [tdue, registerTimer_get]
  cases s.timers[i]? with
  | none => rfl
  | some t => simp only [Option.map]; split <;> rfl
@[simp] theorem registerTimer_timerFired (s : Sched) (tm i) :
    (s.registerTimer tm).timerFired i = s.timerFired i := by
  simp only [timerFired, registerTimer_get]
  cases s.timers[i]? with
  | none => rfl
  | some t => simp only [Option.map]; split <;> rfl

theorem newTimer_get (s : Sched) (d k i) :
    (s.newTimer d k).1.timers[i]? =
      if i = s.timers.length then some { dur := d, due := s.now + d, owner := k }
      else s.timers[i]? := by
  simp only [newTimer]
  by_cases e : i = s.timers.length
  · subst e; simp
  · simp only [e, if_false]
    by_cases l : i < s.timers.length
    · simp [List.getElem?_append_left l]
    · rw [List.getElem?_eq_none (by simp; omega), List.getElem?_eq_none (by omega)]
@[simp] theorem newTimer_now (s : Sched) (d k) : (s.newTimer d k).1.now = s.now := rfl
@[simp] theorem newTimer_tasks (s : Sched) (d k) : (s.newTimer d k).1.tasks = s.tasks := rfl
@[simp] theorem newTimer_id (s : Sched) (d k) : (s.newTimer d k).2 = s.timers.length := rfl
@[simp] theorem newTimer_length (s : Sched) (d k) :
    (s.newTimer d k).1.timers.length = s.timers.length + 1 := by simp [newTimer]
theorem newTimer_tdue (s : Sched) (d k i) :
    (s.newTimer d k).1.tdue i = if i = s.timers.length then some (s.now + d) else s.tdue i := by
  simp only [tdue, newTimer_get]; split <;> rfl
theorem newTimer_tdue_new (s : Sched) (d k) :
    (s.newTimer d k).1.tdue s.timers.length = some (s.now + d) := by
  rw [newTimer_tdue]; simp

theorem timerFired_lt (s : Sched) (tm) (h : s.timerFired tm = true) : tm < s.timers.length := by
  unfold timerFired at h
  cases ht : s.timers[tm]? with
  | none => rw [ht] at h; cases h
  | some t => exact get_lt ht
theorem tdue_lt (s : Sched) (tm d) (h : s.tdue tm = some d) : tm < s.timers.length := by
  unfold tdue at h
  cases ht : s.timers[tm]? with
  | none => rw [ht] at h; cases h
  | some t => exact get_lt ht
theorem timerFired_ge (s : Sched) (tm) (h : s.timers.length ≤ tm) : s.timerFired tm = false := by
  cases hf : s.timerFired tm with
  | false => rfl
  | true => exact absurd (timerFired_lt s tm hf) (Nat.not_lt.mpr h)
theorem tdue_ge (s : Sched) (tm) (h : s.timers.length ≤ tm) : s.tdue tm = none := by
  cases hf : s.tdue tm with
  | none => rfl
  | some d => exact absurd (tdue_lt s tm d hf) (Nat.not_lt.mpr h)

@[simp] theorem newTimer_timerFired (s : Sched) (d k i) :
    (s.newTimer d k).1.timerFired i = s.timerFired i := by
  by_cases e : i = s.timers.length
  · subst e
    rw [timerFired_ge s _ (Nat.le_refl _)]
    simp only [timerFired, newTimer_get, if_true]
  · simp only [timerFired, newTimer_get, e, if_false]
theorem newTimer_tdue_old (s : Sched) (d k tm due) (h : s.tdue tm = some due) :
    (s.newTimer d k).1.tdue tm = some due := by
  rw [newTimer_tdue, if_neg (Nat.ne_of_lt (tdue_lt s tm due h)), h]

@[simp] theorem finishOnce_now (s : Sched) (k) : (s.finishOnce k).now = s.now := by
  unfold finishOnce; split <;> rfl
@[simp] theorem finishOnce_tdue (s : Sched) (k tm) : (s.finishOnce k).tdue tm = s.tdue tm := by
  unfold finishOnce; split <;> rfl
@[simp] theorem finishOnce_timerFired (s : Sched) (k tm) :
    (s.finishOnce k).timerFired tm = s.timerFired tm := by
  unfold finishOnce; split <;> rfl
@[simp] theorem finishOnce_length (s : Sched) (k) :
    (s.finishOnce k).tasks.length = s.tasks.length := by
  unfold finishOnce; split <;> simp
theorem finishOnce_get_ne (s : Sched) (k j) (h : j ≠ k) :
    (s.finishOnce k).tasks[j]? = s.tasks[j]? := by
  unfold finishOnce; split
  · exact setTask_get_ne _ _ _ _ h
  · rfl
theorem finishOnce_get_self (s : Sched) (k t) (h : s.tasks[k]? = some t) :
    (s.finishOnce k).tasks[k]? = some { t with done := true, hasValue := true } := by
  unfold finishOnce; rw [h]; exact setTask_get_self _ _ _ _ h

@[simp] theorem continueRepeat_now (s : Sched) (k) : (s.continueRepeat k).now = s.now := by
  unfold continueRepeat; split
  · split <;> simp
  · rfl
theorem continueRepeat_tdue (s : Sched) (k tm d) (h : s.tdue tm = some d) :
    (s.continueRepeat k).tdue tm = some d := by
  unfold continueRepeat; split
  · split
    · simp [newTimer_tdue_old _ _ _ _ _ h]
    · exact h
  · exact h
@[simp] theorem continueRepeat_timerFired (s : Sched) (k tm) :
    (s.continueRepeat k).timerFired tm = s.timerFired tm := by
  unfold continueRepeat; split
  · split <;> simp
  · rfl
@[simp] theorem continueRepeat_length (s : Sched) (k) :
    (s.continueRepeat k).tasks.length = s.tasks.length := by
  unfold continueRepeat; split
  · split <;> simp
  · rfl
theorem continueRepeat_get_ne (s : Sched) (k j) (h : j ≠ k) :
    (s.continueRepeat k).tasks[j]? = s.tasks[j]? := by
  unfold continueRepeat; split
  · split
    · rw [setTask_get_ne _ _ _ _ h]; simp
    · rfl
  · rfl
theorem continueRepeat_get_self (s : Sched) (k t fur iv seq) (h : s.tasks[k]? = some t)
    (hr : t.rep = some (fur, iv, seq)) :
    (s.continueRepeat k).tasks[k]? = some { t with rep := some (s.timers.length, iv, seq + 1) } ∧
    (s.continueRepeat k).tdue s.timers.length = some (s.now + iv) := by
  unfold continueRepeat; rw [h]; simp only [hr]
  constructor
  · rw [setTask_get_self _ _ _ t (by simpa using h)]; simp
  · simp [newTimer_tdue_new]

/-- `t'` is `t` up to the wake-up flag (which no property of C19 looks at). -/
def Task.sameCore (t t' : Task) : Prop := ∃ w, t' = { t with woken := w }
theorem Task.sameCore_refl (t : Task) : Task.sameCore t t := ⟨t.woken, by cases t; rfl⟩

@[simp] theorem cancel_now (s : Sched) (k) : (s.cancel k).now = s.now := by
  unfold cancel; split <;> rfl
@[simp] theorem cancel_tdue (s : Sched) (k tm) : (s.cancel k).tdue tm = s.tdue tm := by
  unfold cancel; split <;> rfl
@[simp] theorem cancel_timerFired (s : Sched) (k tm) :
    (s.cancel k).timerFired tm = s.timerFired tm := by
  unfold cancel; split <;> rfl
@[simp] theorem cancel_length (s : Sched) (k) : (s.cancel k).tasks.length = s.tasks.length := by
  unfold cancel; split <;> simp
theorem cancel_get_ne (s : Sched) (k j) (h : j ≠ k) : (s.cancel k).tasks[j]? = s.tasks[j]? := by
  unfold cancel; split
  · exact setTask_get_ne _ _ _ _ h
  · rfl
theorem cancel_get_self (s : Sched) (k t) (h : s.tasks[k]? = some t) :
    (s.cancel k).tasks[k]? = some { t with keepRunning := false, hasValue := false } := by
  unfold cancel; rw [h]; exact setTask_get_self _ _ _ _ h

@[simp] theorem setTimer_now (s : Sched) (k t) : (s.setTimer k t).now = s.now := rfl
@[simp] theorem setTimer_tasks (s : Sched) (k t) : (s.setTimer k t).tasks = s.tasks := rfl
theorem setTimer_tdue (s : Sched) (tm t t0 i) (h : s.timers[tm]? = some t0) (hd : t.due = t0.due) :
    (s.setTimer tm t).tdue i = s.tdue i := by
  simp only [tdue, setTimer, List.getElem?_set]
  by_cases e : tm = i
  · subst e; rw [if_pos rfl, if_pos (get_lt h), h]; simp [hd]
  · rw [if_neg e]
theorem setTimer_timerFired (s : Sched) (tm t i) :
    (s.setTimer tm t).timerFired i =
      if tm = i then (if tm < s.timers.length then t.fired else false) else s.timerFired i := by
  simp only [timerFired, setTimer, List.getElem?_set]
  by_cases e : tm = i
  · subst e
    by_cases l : tm < s.timers.length
    · simp only [if_true, if_pos l]
    · simp only [if_true, if_neg l]
  · simp only [if_neg e]

@[simp] theorem fire_now (s : Sched) (tm) : (s.fire tm).now = s.now := by
  unfold fire; split
  · rfl
  · simp only; split
    · split <;> rfl
    · rfl
@[simp] theorem fire_tdue (s : Sched) (tm i) : (s.fire tm).tdue i = s.tdue i := by
  unfold fire; split
  · rfl
  · rename_i t ht
    simp only; split
    · split
      · simp only [setTask_tdue]; exact setTimer_tdue _ _ _ _ _ ht rfl
      · exact setTimer_tdue _ _ _ _ _ ht rfl
    · exact setTimer_tdue _ _ _ _ _ ht rfl
theorem fire_timerFired (s : Sched) (tm i) :
    (s.fire tm).timerFired i = (s.timerFired i || (decide (tm = i) && decide (tm < s.timers.length))) := by
  have key : ∀ t, s.timers[tm]? = some t →
      (s.setTimer tm { t with fired := true }).timerFired i =
        (s.timerFired i || (decide (tm = i) && decide (tm < s.timers.length))) := by
    intro t ht
    rw [setTimer_timerFired]
    by_cases e : tm = i
    · subst e; simp [get_lt ht]
    · simp [e]
  unfold fire; split
  · rename_i ht
    have : ¬ tm < s.timers.length := Nat.not_lt.mpr (List.getElem?_eq_none_iff.mp ht)
    simp [this]
  · rename_i t ht
    simp only; split
    · split
      · simp only [setTask_timerFired]; exact key t ht
      · exact key t ht
    · exact key t ht
@[simp] theorem fire_length (s : Sched) (tm) : (s.fire tm).tasks.length = s.tasks.length := by
  unfold fire; split
  · rfl
  · simp only; split
    · split <;> simp
    · rfl
theorem fire_get (s : Sched) (tm) (j : TaskId) (t : Task) (h : s.tasks[j]? = some t) :
    ∃ t', (s.fire tm).tasks[j]? = some t' ∧ Task.sameCore t t' := by
  unfold fire; split
  · exact ⟨t, h, Task.sameCore_refl t⟩
  · rename_i tr htr
    simp only; split
    · split
      · rename_i tk htk
        simp only [setTimer_tasks] at htk
        by_cases e : j = tr.owner
        · subst e
          rw [h] at htk; cases htk
          refine ⟨_, setTask_get_self _ _ _ t (by simpa using h), true, rfl⟩
        · rw [setTask_get_ne _ _ _ _ e]
          exact ⟨t, h, Task.sameCore_refl t⟩
      · exact ⟨t, h, Task.sameCore_refl t⟩
    · exact ⟨t, h, Task.sameCore_refl t⟩

@[simp] theorem scheduleOnce_now (s : Sched) (b d) : (s.scheduleOnce b d).1.now = s.now := rfl
@[simp] theorem scheduleOnce_tdue (s : Sched) (b d tm) :
    (s.scheduleOnce b d).1.tdue tm = s.tdue tm := rfl
@[simp] theorem scheduleOnce_timerFired (s : Sched) (b d tm) :
    (s.scheduleOnce b d).1.timerFired tm = s.timerFired tm := rfl
@[simp] theorem scheduleOnce_length (s : Sched) (b d) :
    (s.scheduleOnce b d).1.tasks.length = s.tasks.length + 1 := by simp [scheduleOnce]
theorem scheduleOnce_get_old (s : Sched) (b d) (j : TaskId) (t : Task) (h : s.tasks[j]? = some t) :
    (s.scheduleOnce b d).1.tasks[j]? = some t := by
  simp only [scheduleOnce]; rw [List.getElem?_append_left (get_lt h)]; exact h
theorem scheduleOnce_get_new (s : Sched) (b d) :
    (s.scheduleOnce b d).1.tasks[s.tasks.length]? = some { body := b, outerDelay := d } := by
  simp [scheduleOnce]

@[simp] theorem scheduleRepeat_now (s : Sched) (b p d) : (s.scheduleRepeat b p d).1.now = s.now := rfl
theorem scheduleRepeat_tdue (s : Sched) (b p d tm) :
    (s.scheduleRepeat b p d).1.tdue tm = if tm = s.timers.length then some (s.now + p) else s.tdue tm :=
  newTimer_tdue s p s.tasks.length tm
theorem scheduleRepeat_tdue_new (s : Sched) (b p d) :
    (s.scheduleRepeat b p d).1.tdue s.timers.length = some (s.now + p) :=
  newTimer_tdue_new s p s.tasks.length
theorem scheduleRepeat_tdue_old (s : Sched) (b p d tm due) (h : s.tdue tm = some due) :
    (s.scheduleRepeat b p d).1.tdue tm = some due :=
  newTimer_tdue_old s p s.tasks.length tm due h
@[simp] theorem scheduleRepeat_timerFired (s : Sched) (b p d tm) :
    (s.scheduleRepeat b p d).1.timerFired tm = s.timerFired tm :=
  newTimer_timerFired s p s.tasks.length tm
@[simp] theorem scheduleRepeat_length (s : Sched) (b p d) :
    (s.scheduleRepeat b p d).1.tasks.length = s.tasks.length + 1 := by
  simp [scheduleRepeat, newTimer]
theorem scheduleRepeat_get_old (s : Sched) (b p d) (j : TaskId) (t : Task) (h : s.tasks[j]? = some t) :
    (s.scheduleRepeat b p d).1.tasks[j]? = some t := by
  simp only [scheduleRepeat, newTimer]; rw [List.getElem?_append_left (get_lt h)]; exact h
theorem scheduleRepeat_get_new (s : Sched) (b p d) :
    (s.scheduleRepeat b p d).1.tasks[s.tasks.length]? =
      some { body := b, outerDelay := d, rep := some (s.timers.length, p, 0) } := by
  simp [scheduleRepeat, newTimer]

theorem mem_dueTimers_iff (s : Sched) (tm : Nat) :
    tm ∈ s.dueTimers ↔ ∃ tr, s.timers[tm]? = some tr ∧ tr.fired = false ∧ tr.due ≤ s.now := by
  unfold dueTimers
  rw [List.mem_filter, List.mem_range]
  constructor
  · rintro ⟨hlt, h⟩
    cases htr : s.timers[tm]? with
    | none => rw [htr] at h; cases h
    | some tr =>
      rw [htr] at h
      simp only [Bool.and_eq_true, Bool.not_eq_true', decide_eq_true_eq] at h
      exact ⟨tr, rfl, h.1, h.2⟩
  · rintro ⟨tr, htr, h1, h2⟩
    refine ⟨get_lt htr, ?_⟩
    rw [htr]; simp [h1, h2]

theorem mem_dueTimers (s : Sched) (tm : TimerId) :
    tm ∈ s.dueTimers ↔ ∃ d, s.tdue tm = some d ∧ d ≤ s.now ∧ s.timerFired tm = false := by
  rw [mem_dueTimers_iff]; unfold tdue timerFired
  constructor
  · rintro ⟨t, ht, hf, hd⟩; rw [ht]; exact ⟨t.due, rfl, hd, hf⟩
  · rintro ⟨d, h1, h2, h3⟩
    cases ht : s.timers[tm]? with
    | none => rw [ht] at h1; cases h1
    | some t => rw [ht] at h1 h3; cases h1; exact ⟨t, rfl, h3, h2⟩

/-- The outer delay of `t` is over. -/
def outerReady (s : Sched) (t : Task) : Prop := ∀ tm, t.outerTimer = some tm → s.timerFired tm = true

/-! The equations of `pollPre`, one per outcome. -/
theorem pollPre_absent {s : Sched} {k : TaskId} (h : s.tasks[k]? = none) : s.pollPre k = (s, .none) := by
  unfold pollPre; rw [h]
theorem pollPre_finished {s : Sched} {k : TaskId} {t : Task} (h : s.tasks[k]? = some t) (hd : t.done = true) :
    s.pollPre k = (s, .none) := by
  unfold pollPre; rw [h]; exact if_pos hd
theorem pollPre_cancelled {s : Sched} {k : TaskId} {t : Task} (h : s.tasks[k]? = some t) (hd : t.done = false)
    (hk : t.keepRunning = false) :
    s.pollPre k = (s.setTask k { t with woken := false, done := true }, .none) := by
  unfold pollPre; rw [h]
  exact (if_neg (by rw [hd]; exact Bool.false_ne_true)).trans (if_pos (by rw [hk]; rfl))
theorem pollPre_arm {s : Sched} {k : TaskId} {t : Task} {d : Nat} (h : s.tasks[k]? = some t) (hd : t.done = false)
    (hk : t.keepRunning = true) (hod : t.outerDelay = some d) :
    s.pollPre k = (((s.newTimer d k).1.registerTimer s.timers.length).setTask k
      { t with woken := false, outerDelay := none, outerTimer := some s.timers.length }, .none) := by
  unfold pollPre; simp only [h, hd, hk, hod, Bool.false_eq_true, if_false, Bool.not_true, newTimer_id]
theorem pollPre_waitOuter {s : Sched} {k : TaskId} {t : Task} {tm : TimerId} (h : s.tasks[k]? = some t)
    (hd : t.done = false) (hk : t.keepRunning = true) (hod : t.outerDelay = none)
    (hot : t.outerTimer = some tm) (hf : s.timerFired tm = false) :
    s.pollPre k = ((s.registerTimer tm).setTask k { t with woken := false }, .none) := by
  unfold pollPre; simp only [h, hd, hk, hod, hot, hf, Bool.false_eq_true, if_false, Bool.not_true, Bool.not_false,
    if_true]
theorem outerReady_not_waiting {s : Sched} {t : Task} (hr : s.outerReady t) :
    ¬ (match t.outerTimer with | some tm => !s.timerFired tm | none => false) = true := by
  cases hot : t.outerTimer with
  | none => exact Bool.false_ne_true
  | some tm => simp only [hr tm hot, Bool.not_true]; exact Bool.false_ne_true
/-! The outer delay is over: the body runs, or the task waits for its period timer. -/
theorem pollPre_once {s : Sched} {k : TaskId} {t : Task} (h : s.tasks[k]? = some t) (hd : t.done = false)
    (hk : t.keepRunning = true) (hod : t.outerDelay = none) (hr : s.outerReady t) (hrep : t.rep = none) :
    s.pollPre k = (s.setTask k { t with woken := false, outerTimer := none }, .runOnce t.body) := by
  unfold pollPre
  simp only [h, hd, hk, hod, hrep, Bool.false_eq_true, if_false, Bool.not_true]
  exact if_neg (outerReady_not_waiting hr)
theorem pollPre_waitPeriod {s : Sched} {k : TaskId} {t : Task} {fur iv seq : Nat} (h : s.tasks[k]? = some t)
    (hd : t.done = false) (hk : t.keepRunning = true) (hod : t.outerDelay = none) (hr : s.outerReady t)
    (hrep : t.rep = some (fur, iv, seq)) (hf : s.timerFired fur = false) :
    s.pollPre k = ((s.registerTimer fur).setTask k { t with woken := false, outerTimer := none }, .none) := by
  unfold pollPre
  simp only [h, hd, hk, hod, hrep, hf, Bool.false_eq_true, if_false, Bool.not_true]
  exact if_neg (outerReady_not_waiting hr)
theorem pollPre_tick {s : Sched} {k : TaskId} {t : Task} {fur iv seq : Nat} (h : s.tasks[k]? = some t)
    (hd : t.done = false) (hk : t.keepRunning = true) (hod : t.outerDelay = none) (hr : s.outerReady t)
    (hrep : t.rep = some (fur, iv, seq)) (hf : s.timerFired fur = true) :
    s.pollPre k = (s.setTask k { t with woken := false, outerTimer := none }, .runTick t.body seq) := by
  unfold pollPre
  simp only [h, hd, hk, hod, hrep, hf, Bool.false_eq_true, if_false, Bool.not_true, if_true]
  exact if_neg (outerReady_not_waiting hr)

/-- Case analysis of `pollPre`, in closed form. -/
theorem pollPre_elim (s : Sched) (k : TaskId) {motive : Sched × Poll → Prop}
    (absent : s.tasks[k]? = none → motive (s, .none))
    (finished : ∀ t, s.tasks[k]? = some t → t.done = true → motive (s, .none))
    (cancelled : ∀ t, s.tasks[k]? = some t → t.done = false → t.keepRunning = false →
      motive (s.setTask k { t with woken := false, done := true }, .none))
    (arm : ∀ t d, s.tasks[k]? = some t → t.done = false → t.keepRunning = true →
      t.outerDelay = some d →
      motive (((s.newTimer d k).1.registerTimer s.timers.length).setTask k
        { t with woken := false, outerDelay := none, outerTimer := some s.timers.length }, .none))
    (waitOuter : ∀ t tm, s.tasks[k]? = some t → t.done = false → t.keepRunning = true →
      t.outerDelay = none → t.outerTimer = some tm → s.timerFired tm = false →
      motive ((s.registerTimer tm).setTask k { t with woken := false }, .none))
    (once : ∀ t, s.tasks[k]? = some t → t.done = false → t.keepRunning = true →
      t.outerDelay = none → s.outerReady t → t.rep = none →
      motive (s.setTask k { t with woken := false, outerTimer := none }, .runOnce t.body))
    (waitPeriod : ∀ t fur iv seq, s.tasks[k]? = some t → t.done = false → t.keepRunning = true →
      t.outerDelay = none → s.outerReady t → t.rep = some (fur, iv, seq) → s.timerFired fur = false →
      motive ((s.registerTimer fur).setTask k { t with woken := false, outerTimer := none }, .none))
    (tick : ∀ t fur iv seq, s.tasks[k]? = some t → t.done = false → t.keepRunning = true →
      t.outerDelay = none → s.outerReady t → t.rep = some (fur, iv, seq) → s.timerFired fur = true →
      motive (s.setTask k { t with woken := false, outerTimer := none }, .runTick t.body seq)) :
    motive (s.pollPre k) := by
  cases ht : s.tasks[k]? with
  | none => rw [pollPre_absent ht]; exact absent ht
  | some t =>
    cases hd : t.done with
    | true => rw [pollPre_finished ht hd]; exact finished t ht hd
    | false =>
      cases hk : t.keepRunning with
      | false => rw [pollPre_cancelled ht hd hk]; exact cancelled t ht hd hk
      | true =>
        cases hod : t.outerDelay with
        | some d => rw [pollPre_arm ht hd hk hod]; exact arm t d ht hd hk hod
        | none =>
          have ready : s.outerReady t → motive (s.pollPre k) := fun hr => by
            cases hrep : t.rep with
            | none => rw [pollPre_once ht hd hk hod hr hrep]; exact once t ht hd hk hod hr hrep
            | some r =>
              obtain ⟨fur, iv, seq⟩ := r
              cases hff : s.timerFired fur with
              | false =>
                rw [pollPre_waitPeriod ht hd hk hod hr hrep hff]
                exact waitPeriod t fur iv seq ht hd hk hod hr hrep hff
              | true =>
                rw [pollPre_tick ht hd hk hod hr hrep hff]; exact tick t fur iv seq ht hd hk hod hr hrep hff
          cases hot : t.outerTimer with
          | none => exact ready fun tm' h => by rw [hot] at h; cases h
          | some tm =>
            cases hf : s.timerFired tm with
            | false => rw [pollPre_waitOuter ht hd hk hod hot hf]; exact waitOuter t tm ht hd hk hod hot hf
            | true => exact ready fun tm' h => by rw [hot] at h; cases h; exact hf

end Sched
end Rx.T
