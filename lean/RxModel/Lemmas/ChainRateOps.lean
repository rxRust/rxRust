import RxModel.Lemmas.ChainRateWorld
import RxModel.Lemmas.Multi
/-
  C09 (chain model): the stage-level predicates for buffer_with_time /
  buffer_with_count_and_time (a shared buffer: nothing invented, reordered or
  lost) and for debounce / throttle with a trailing edge (a trailing-value cell:
  the final item of a completing source is never lost), the proofs that they are
  closed under the moves of `RateSpec`, and what they say about the final probe log.
-/
namespace Rx.T
open Rx Rx.Spec

theorem WF_snoc_next {log : List Notif} (hw : WF log) (ht : terminated log = false) (v : Val) :
    WF (log ++ [.next v]) ∧ terminated (log ++ [.next v]) = false := by
  refine ⟨WF_append hw ht (by simp), ?_⟩
  rw [terminated_append, ht]; rfl

theorem WF_snoc_term {log : List Notif} (hw : WF log) (ht : terminated log = false) (n : Notif) :
    WF (log ++ [n]) := WF_append hw ht (WF_single n)

theorem items_snoc_next (log : List Notif) (v : Val) : items (log ++ [.next v]) = items log ++ [v] := by
  rw [items_append]; rfl

theorem items_snoc_error (log : List Notif) (e : Err) : items (log ++ [.error e]) = items log := by
  rw [items_append]; simp [items]

theorem items_snoc_complete (log : List Notif) : items (log ++ [.complete]) = items log := by
  rw [items_append]; simp [items]

theorem prefix_left {l t E : List Val} (h : (l ++ t) <+: E) : l <+: E :=
  (List.prefix_append l t).trans h

theorem flushBuf_cases (data : List Val) :
    (data = [] ∧ flushBuf data = []) ∨ (data ≠ [] ∧ flushBuf data = [.next (Val.ofList data)]) := by
  cases data with
  | nil => left; exact ⟨rfl, rfl⟩
  | cons x xs => right; exact ⟨by simp, by simp [flushBuf]⟩

theorem released_snoc_next (log : List Notif) (l : List Val) :
    released (log ++ [.next (Val.ofList l)]) = released log ++ l := by
  rw [released_append]; simp [released, items]

theorem released_snoc_error (log : List Notif) (e : Err) :
    released (log ++ [.error e]) = released log := by
  rw [released_append]; simp [released, items]

theorem released_snoc_complete (log : List Notif) :
    released (log ++ [.complete]) = released log := by
  rw [released_append]; simp [released, items]

/-- The buffer cell against the log and the emitted items: `released log ++ data`
    is a prefix of `E` — all of `E` while the subject still feeds the stage —,
    every released buffer is non-empty and within the count limit, the log is
    well formed, and a logged `complete` means nothing was lost. -/
structure BufCore (cnt : Option Nat) (alive : Bool) (data : List Val) (log : List Notif)
    (E : List Val) (a T : Bool) : Prop where
  pre : (released log ++ data) <+: E
  full : a = true → T = false → released log ++ data = E ∧ alive = true
  bufs : ∀ b ∈ items log, valToList b ≠ [] ∧ Val.ofList (valToList b) = b ∧
    ∀ c, cnt = some c → (valToList b).length ≤ c
  wf : WF log
  unterminated : alive = true → terminated log = false
  compl : Notif.complete ∈ log → released log = E ∧ T = true

def PBuf (cnt : Option Nat) : RatePred := fun st log E a T =>
  ∃ d alive data task, st = .bufTime d cnt alive data task ∧ BufCore cnt alive data log E a T ∧
    ∀ c, cnt = some c → data.length < c

variable {cnt : Option Nat} {alive : Bool} {data : List Val} {log : List Notif} {E : List Val}
  {a T : Bool}

/-- `next(v)`: the item joins the buffer. -/
theorem BufCore.push (I : BufCore cnt alive data log E true false) (v : Val) :
    BufCore cnt true (data ++ [v]) log (E ++ [v]) true false := by
  obtain ⟨he, hal⟩ := I.full rfl rfl
  subst hal
  refine ⟨?_, fun _ _ => ⟨?_, rfl⟩, I.bufs, I.wf, I.unterminated, fun h => ?_⟩
  · rw [← List.append_assoc, he]; exact List.prefix_refl _
  · rw [← List.append_assoc, he]
  · exact absurd (I.compl h).2 (by simp)

/-- The buffer is handed downstream (flush task, count limit, completion). -/
theorem BufCore.flush (I : BufCore cnt true data log E a T)
    (hlen : ∀ c, cnt = some c → data.length ≤ c) :
    BufCore cnt true [] (log ++ flushBuf data) E a T := by
  have hnt := I.unterminated rfl
  rcases flushBuf_cases data with ⟨rfl, e⟩ | ⟨hne, e⟩ <;> rw [e]
  · simpa using I
  · have hw := WF_snoc_next I.wf hnt (Val.ofList data)
    refine ⟨?_, fun h1 h2 => ⟨?_, rfl⟩, ?_, hw.1, fun _ => hw.2, fun h => ?_⟩
    · simpa [released_snoc_next] using I.pre
    · simpa [released_snoc_next] using (I.full h1 h2).1
    · intro b hb
      rw [items_snoc_next, List.mem_append, List.mem_singleton] at hb
      rcases hb with hb | rfl
      · exact I.bufs b hb
      · simpa using ⟨hne, hlen⟩
    · have hc : Notif.complete ∈ log := by simpa using h
      have := I.compl hc
      have hp := I.pre
      rw [this.1] at hp
      have hd : data = [] := by
        have := hp.length_le
        simp at this
        exact List.eq_nil_of_length_eq_zero (by omega)
      exact absurd hd hne

/-- `complete()` after the final flush. -/
theorem BufCore.complete (I : BufCore cnt true [] log E true false) :
    BufCore cnt false [] (log ++ [.complete]) E false true := by
  have hnt := I.unterminated rfl
  have he := (I.full rfl rfl).1
  refine ⟨?_, fun h => by simp at h, ?_, WF_snoc_term I.wf hnt _, fun h => by simp at h,
    fun _ => ⟨?_, rfl⟩⟩
  · simpa [released_snoc_complete] using I.pre
  · intro b hb; rw [items_snoc_complete] at hb; exact I.bufs b hb
  · simpa [released_snoc_complete] using he

/-- `error(e)`: the slot is emptied, the buffer stays where it is. -/
theorem BufCore.error (I : BufCore cnt true data log E true false) (e : Err) :
    BufCore cnt false data (log ++ [.error e]) E false true := by
  have hnt := I.unterminated rfl
  refine ⟨?_, fun h => by simp at h, ?_, WF_snoc_term I.wf hnt _, fun h => by simp at h, fun h => ?_⟩
  · simpa [released_snoc_error] using I.pre
  · intro b hb; rw [items_snoc_error] at hb; exact I.bufs b hb
  · have hc : Notif.complete ∈ log := by simpa using h
    exact absurd (I.compl hc).2 (by simp)

theorem Stage.feed_bufTime_next (d : Nat) (cnt : Option Nat) (data : List Val) (task : Option TaskId)
    (v : Val) (s : Sched) :
    (Stage.bufTime d cnt true data task).feed (.next v) s =
      if ∃ c, cnt = some c ∧ (data ++ [v]).length ≥ c then
        (.bufTime d cnt true [] task, flushBuf (data ++ [v]), s)
      else (.bufTime d cnt true (data ++ [v]) task, [], s) := by
  cases cnt with
  | none => simp; rfl
  | some c =>
    by_cases h : (data ++ [v]).length ≥ c
    · rw [if_pos ⟨c, rfl, h⟩]; unfold Stage.feed; rw [Stage.onNotif_bufTime_next]; simp only [if_true, if_pos h]; rfl
    · rw [if_neg (by rintro ⟨c', hc, h'⟩; cases hc; exact h h')]
      unfold Stage.feed; rw [Stage.onNotif_bufTime_next]; simp only [if_true, if_neg h]; rfl

theorem PBuf.spec (cnt : Option Nat) : RateSpec (PBuf cnt) where
  next := by
    rintro st log E v s ⟨d, alive, data, task, rfl, I, hroom⟩
    have hal := (I.full rfl rfl).2
    subst hal
    have I1 := I.push v
    rw [Stage.feed_bufTime_next]
    split
    · next hge =>
      obtain ⟨c, rfl, hge⟩ := hge
      have := hroom c rfl
      refine ⟨d, true, [], task, rfl, I1.flush ?_, ?_⟩
      · intro c' hc'; cases hc'; simp; omega
      · intro c' hc'; cases hc'; simp; omega
    · next hlt =>
      refine ⟨d, true, _, task, rfl, by rw [List.append_nil]; exact I1, ?_⟩
      intro c hc
      have := hroom c hc
      have : ¬ (data ++ [v]).length ≥ c := fun h => hlt ⟨c, hc, h⟩
      omega
  skip := by
    rintro st log E v ⟨d, alive, data, task, rfl, I, hroom⟩
    refine ⟨d, alive, data, task, rfl, ⟨?_, fun h => by simp at h, I.bufs, I.wf, I.unterminated, ?_⟩, hroom⟩
    · exact I.pre.trans (List.prefix_append _ _)
    · intro h; exact absurd (I.compl h).2 (by simp)
  term := by
    rintro st log E n s hn ⟨d, alive, data, task, rfl, I, hroom⟩
    have hal := (I.full rfl rfl).2
    subst hal
    cases n with
    | next v => cases hn
    | error er => exact ⟨d, false, data, task, rfl, I.error er, hroom⟩
    | complete =>
      have I1 := (I.flush (fun c hc => Nat.le_of_lt (hroom c hc))).complete
      rw [List.append_assoc] at I1
      refine ⟨d, false, [], task, rfl, I1, ?_⟩
      intro c hc
      have := hroom c hc
      simp; omega
  termDead := by
    rintro st log E ⟨d, alive, data, task, rfl, I, hroom⟩
    refine ⟨d, alive, data, task, rfl, ⟨I.pre, fun h => by simp at h, I.bufs, I.wf, I.unterminated, ?_⟩, hroom⟩
    intro h; exact absurd (I.compl h).2 (by simp)
  unsub := by
    rintro st log E a T ⟨d, alive, data, task, rfl, I, hroom⟩
    exact ⟨d, alive, data, task, rfl, ⟨I.pre, fun h => by simp at h, I.bufs, I.wf, I.unterminated, I.compl⟩, hroom⟩
  body := by
    rintro st log E a T ⟨d, alive, data, task, rfl, I, hroom⟩
    cases alive with
    | false =>
      show PBuf cnt _ (log ++ []) E a T
      rw [List.append_nil]; exact ⟨d, false, data, task, rfl, I, hroom⟩
    | true =>
      refine ⟨d, true, [], task, rfl, I.flush (fun c hc => Nat.le_of_lt (hroom c hc)), ?_⟩
      intro c hc
      have := hroom c hc
      simp; omega

/-- The first `sub` of `hot 0 → buffer → probe`: the flush task is spawned, the subject subscribed. -/
theorem init_buf (d : Nat) (cnt : Option Nat) (hc : ∀ c, cnt = some c → 1 ≤ c) :
    Inv (PBuf cnt) [] false (TW.step { src := .hot 0, stages := [.bufTime d cnt true [] none] } .sub) := by
  refine ⟨rfl, rfl, rfl, rfl, rfl, ?_, _, rfl, rfl, d, true, [], some 0, rfl,
    ⟨List.prefix_refl _, fun _ _ => ⟨rfl, rfl⟩, fun b hb => (by cases hb), trivial, fun _ => rfl,
      fun h => (by cases h)⟩, ?_⟩
  · exact Sched.Benign.scheduleRepeat (s := {}) (fun _ h => by cases h) (.bufTick 0) d none d rfl
  · intro c h; have := hc c h; simp; omega

theorem buf_final (d : Nat) (cnt : Option Nat) (hc : ∀ c, cnt = some c → 1 ≤ c) (evs : List TW.Ev) :
    ∃ alive data a T,
      BufCore cnt alive data (rateRun (.bufTime d cnt true [] none) evs).log (itemsEmitted evs) a T := by
  obtain ⟨T, I⟩ := Inv.run (PBuf.spec cnt) _ (init_buf d cnt hc) evs
  obtain ⟨st', _, _, d', alive, data, task, _, hI, _⟩ := I.stage
  exact ⟨alive, data, _, T, hI⟩

/-- The slot and the trailing-value cell. -/
def Stage.trail : Stage → Option (Bool × Option Val)
  | .debounce _ alive tr _ => some (alive, tr)
  | .throttle _ _ alive tr _ => some (alive, tr)
  | _ => none

/-- Stages whose trailing cell always holds the newest undelivered item. -/
def Stage.keepsLast : Stage → Bool
  | .debounce _ _ _ _ => true
  | .throttle _ e _ _ _ => e.hasTrailing
  | _ => false

/-- An item at a full slot: it goes downstream at once (leading edge) or becomes the trailing value. -/
theorem Stage.trail_next {st : Stage} {tr : Option Val} (h : st.trail = some (true, tr))
    (hk : st.keepsLast = true) (v : Val) (s : Sched) :
    ∃ tr', (st.feed (.next v) s).1.trail = some (true, tr') ∧ (st.feed (.next v) s).1.keepsLast = true ∧
      ((st.feed (.next v) s).2.1 = [] ∧ tr' = some v ∨ (st.feed (.next v) s).2.1 = [.next v] ∧ tr' = none) := by
  cases st with
  | debounce d al tr0 hd => cases h; exact ⟨_, rfl, rfl, Or.inl ⟨rfl, rfl⟩⟩
  | throttle d e al tr0 hd =>
    cases h
    unfold Stage.feed
    rw [Stage.onNotif_throttle_next]
    cases e with
    | leading => cases hk
    | trailing => split <;> exact ⟨_, rfl, rfl, Or.inl ⟨rfl, rfl⟩⟩
    | all =>
      split
      · exact ⟨_, rfl, rfl, Or.inr ⟨rfl, rfl⟩⟩
      · exact ⟨_, rfl, rfl, Or.inl ⟨rfl, rfl⟩⟩
  | _ => cases h

/-- A terminal at a full slot: `complete` flushes the trailing value, `error` drops nothing and
    delivers nothing but itself. -/
theorem Stage.trail_term {st : Stage} {tr : Option Val} (h : st.trail = some (true, tr)) (n : Notif)
    (s : Sched) :
    (st.feed n s).1.keepsLast = st.keepsLast ∧
      match n with
      | .error e => (st.feed n s).1.trail = some (false, tr) ∧ (st.feed n s).2.1 = [.error e]
      | .complete => (st.feed n s).1.trail = some (false, none) ∧
          (st.feed n s).2.1 = tr.toList.map .next ++ [.complete]
      | .next _ => True := by
  cases st with
  | debounce d al tr0 hd =>
    cases h
    cases n with
    | next v => exact ⟨rfl, trivial⟩
    | error e => exact ⟨rfl, rfl, rfl⟩
    | complete => exact ⟨rfl, rfl, by cases tr <;> rfl⟩
  | throttle d e al tr0 hd =>
    cases h
    cases n with
    | next v =>
      refine ⟨?_, trivial⟩
      unfold Stage.feed
      rw [Stage.onNotif_throttle_next]; split <;> rfl
    | error e => exact ⟨rfl, rfl, rfl⟩
    | complete => exact ⟨rfl, rfl, by cases tr <;> rfl⟩
  | _ => cases h

theorem Stage.trail_unsubbed {st : Stage} {c : Bool × Option Val} (h : st.trail = some c) :
    st.unsubbed.trail = some c ∧ st.unsubbed.keepsLast = st.keepsLast := by
  cases st <;> first | exact ⟨h, rfl⟩ | cases h

/-- The task body: the trailing value leaves the cell, and goes downstream if the slot is full. -/
theorem Stage.trail_body {st : Stage} {al : Bool} {tr : Option Val} (h : st.trail = some (al, tr)) :
    st.bodyStep.1.trail = some (al, none) ∧ st.bodyStep.1.keepsLast = st.keepsLast ∧
      st.bodyStep.2 = if al = true then tr.toList.map .next else [] := by
  cases st with
  | debounce d al0 tr0 hd => cases h; cases tr <;> cases al <;> exact ⟨rfl, rfl, rfl⟩
  | throttle d e al0 tr0 hd => cases h; cases tr <;> cases al <;> exact ⟨rfl, rfl, rfl⟩
  | _ => cases h

/-- While the subject feeds the stage, log ++ trailing candidate ends with the newest
    emitted item; a logged `complete` freezes this with an empty cell. -/
def PLast : RatePred := fun st log E a T =>
  ∃ alive tr, st.trail = some (alive, tr) ∧ st.keepsLast = true ∧
    (a = true → T = false → alive = true ∧ (items log ++ tr.toList).getLast? = E.getLast?) ∧
    (Notif.complete ∈ log → alive = false ∧ T = true ∧ (items log).getLast? = E.getLast?)

theorem PLast.spec : RateSpec PLast where
  next := by
    rintro st log E v s ⟨alive, tr, ht, hk, hfull, hc⟩
    have hnc : Notif.complete ∉ log := fun h => absurd (hc h).2.1 (by simp)
    obtain ⟨rfl, _⟩ := hfull rfl rfl
    obtain ⟨tr', h1, h2, h3⟩ := st.trail_next ht hk v s
    refine ⟨true, tr', h1, h2, fun _ _ => ⟨rfl, ?_⟩, fun h => ?_⟩
    · rcases h3 with ⟨e, rfl⟩ | ⟨e, rfl⟩ <;> rw [e] <;> simp [items_snoc_next]
    · rcases h3 with ⟨e, _⟩ | ⟨e, _⟩ <;> rw [e] at h <;> exact absurd (by simpa using h) hnc
  skip := by
    rintro st log E v ⟨alive, tr, ht, hk, _, hc⟩
    exact ⟨alive, tr, ht, hk, fun h => by simp at h, fun h => absurd (hc h).2.1 (by simp)⟩
  term := by
    rintro st log E n s hn ⟨alive, tr, ht, hk, hfull, hc⟩
    have hnc : Notif.complete ∉ log := fun h => absurd (hc h).2.1 (by simp)
    obtain ⟨rfl, hlast⟩ := hfull rfl rfl
    cases n with
    | next v => cases hn
    | error er =>
      obtain ⟨h1, e1, e2⟩ := st.trail_term ht (.error er) s
      exact ⟨false, tr, e1, h1.trans hk, fun h => by simp at h,
        fun h => absurd (by rw [e2] at h; simpa using h) hnc⟩
    | complete =>
      obtain ⟨h1, e1, e2⟩ := st.trail_term ht .complete s
      refine ⟨false, none, e1, h1.trans hk, fun h => by simp at h, fun _ => ⟨rfl, rfl, ?_⟩⟩
      rw [e2, ← hlast]
      cases tr <;> simp [items_append, items]
  termDead := by
    rintro st log E ⟨alive, tr, ht, hk, _, hc⟩
    exact ⟨alive, tr, ht, hk, fun h => by simp at h, fun h => absurd (hc h).2.1 (by simp)⟩
  unsub := by
    rintro st log E a T ⟨alive, tr, ht, hk, _, hc⟩
    obtain ⟨h1, h2⟩ := st.trail_unsubbed ht
    exact ⟨alive, tr, h1, h2.trans hk, fun h => by simp at h, hc⟩
  body := by
    rintro st log E a T ⟨alive, tr, ht, hk, hfull, hc⟩
    obtain ⟨h1, h2, h3⟩ := st.trail_body ht
    refine ⟨alive, none, h1, h2.trans hk, ?_, ?_⟩ <;> rw [h3]
    · intro ha hT
      obtain ⟨rfl, hl⟩ := hfull ha hT
      refine ⟨rfl, ?_⟩
      rw [← hl]
      cases tr <;> simp [items_append, items]
    · intro h
      cases alive with
      | false => simpa using hc (by simpa using h)
      | true =>
        have : Notif.complete ∈ log := by cases tr <;> simpa using h
        exact absurd (hc this).1 (by simp)

theorem init_last (st : Stage) (h : st.trail = some (true, none)) (hk : st.keepsLast = true) :
    Inv PLast [] false (TW.step { src := .hot 0, stages := [st] } .sub) := by
  have hP : PLast st [] [] true false :=
    ⟨true, none, h, hk, fun _ _ => ⟨rfl, rfl⟩, fun hc => (by cases hc)⟩
  cases st with
  | debounce d al tr hd => exact ⟨rfl, rfl, rfl, rfl, rfl, fun _ h => (by cases h), _, rfl, rfl, hP⟩
  | throttle d e al tr hd => exact ⟨rfl, rfl, rfl, rfl, rfl, fun _ h => (by cases h), _, rfl, rfl, hP⟩
  | _ => cases h

theorem last_final (st : Stage) (h : st.trail = some (true, none)) (hk : st.keepsLast = true)
    (evs : List TW.Ev) (hc : Notif.complete ∈ (rateRun st evs).log) :
    (items (rateRun st evs).log).getLast? = (itemsEmitted evs).getLast? := by
  obtain ⟨T, I⟩ := Inv.run PLast.spec _ (init_last st h hk) evs
  obtain ⟨st', _, _, alive, tr, _, _, _, hcl⟩ := I.stage
  exact (hcl hc).2.2

end Rx.T
