import RxModel.Sched.Chain
/-
  The equations of the chain-world model (Sched/Chain.lean), each stated once: what `Stage.onNotif`,
  `cascadeF`, `push`, the subscribe / unsubscribe walks, the task bodies, the ticks, the async
  drivers, `pollAll`, `runLoop` and `step` are on each form of their arguments.  Nearly all by `rfl`;
  `unfold` of a recursive function would derive them anew inside every proof.
-/
namespace Rx.T
open Rx

/-! Lists: indexing into one that grew at the end or was set at one place; sublists of a well-formed stream. -/

theorem snoc_get_cases {α} (l : List α) (t : α) {k : Nat} {u : α} (h : (l ++ [t])[k]? = some u) :
    l[k]? = some u ∨ (k = l.length ∧ u = t) := by
  rcases Nat.lt_or_ge k l.length with hk | hk
  · rw [List.getElem?_append_left hk] at h; exact Or.inl h
  · rw [List.getElem?_append_right hk] at h
    cases hx : k - l.length with
    | zero =>
      rw [hx] at h
      exact Or.inr ⟨Nat.le_antisymm (Nat.le_of_sub_eq_zero hx) hk, (Option.some.inj h).symm⟩
    | succ m => rw [hx] at h; cases h

theorem append_get_left {α} (l new : List α) {k : Nat} {t : α} (h : l[k]? = some t) :
    (l ++ new)[k]? = some t := by
  have hk : k < l.length := by
    rcases Nat.lt_or_ge k l.length with hk | hk
    · exact hk
    · rw [List.getElem?_eq_none hk] at h; cases h
  rw [List.getElem?_append_left hk]; exact h

theorem set_get_of_ne {α} (l : List α) (j i : Nat) (y : α) (h : j ≠ i) : (l.set j y)[i]? = l[i]? :=
  List.getElem?_set_ne h

theorem set_get_same {α} (l : List α) (k : Nat) (x : α) (h : l[k]? = some x) : l.set k x = l := by
  have hlt : k < l.length := by
    rcases Nat.lt_or_ge k l.length with hk | hk
    · exact hk
    · rw [List.getElem?_eq_none hk] at h; cases h
  rw [List.getElem?_eq_getElem hlt] at h
  rw [← Option.some.inj h]; exact List.set_getElem_self hlt

theorem WF_tail {n : Notif} {l : List Notif} (h : WF (n :: l)) : WF l := by
  cases n with
  | next v => exact h
  | error e => simp at h; subst h; trivial
  | complete => simp at h; subst h; trivial

theorem WF_sublist {a b : List Notif} (h : a.Sublist b) (hb : WF b) : WF a := by
  induction h with
  | slnil => trivial
  | cons x _ ih => exact ih (WF_tail hb)
  | cons_cons x h ih =>
    cases x with
    | next v => exact ih hb
    | error e => simp at hb; subst hb; simp at h; subst h; simp
    | complete => simp at hb; subst hb; simp at h; subst h; simp

theorem split_at {α} {l : List α} {j : Nat} {x : α} (hj : l[j]? = some x) :
    l = l.take j ++ x :: l.drop (j + 1) := by
  have hlt : j < l.length := by
    rcases Nat.lt_or_ge j l.length with hk | hk
    · exact hk
    · rw [List.getElem?_eq_none hk] at hj; cases hj
  rw [List.getElem?_eq_getElem hlt] at hj
  rw [← Option.some.inj hj, ← List.drop_eq_getElem_cons hlt, List.take_append_drop]

theorem take_succ_set {α} (l : List α) (j : Nat) (x : α) (h : j < l.length) :
    (l.set j x).take (j + 1) = l.take j ++ [x] := by
  induction l generalizing j with
  | nil => simp at h
  | cons a l ih =>
    cases j with
    | zero => simp
    | succ j => simpa using ih j (by simpa using h)

namespace Stage

theorem onNotif_op1 (o : St1) (j : Nat) (n : Notif) (s : Sched) :
    (Stage.op1 o).onNotif j n s = (.op1 (o.step n).1, (o.step n).2, s) := rfl

theorem onNotif_delay_error (d : Nat) (alive : Bool) (multi) (j : Nat) (e : Err) (s : Sched) :
    (Stage.delay d alive multi).onNotif j (.error e) s =
      (.delay d false multi, if alive then [.error e] else [], s) := rfl

theorem onNotif_delay_item (d : Nat) (alive : Bool) (multi) (j : Nat) (n : Notif) (s : Sched)
    (hn : ∀ e, n ≠ .error e) :
    (Stage.delay d alive multi).onNotif j n s =
      (.delay d alive (multi.map (· ++ [(s.scheduleOnce (.emit j n) (some d)).2])), [],
        (s.scheduleOnce (.emit j n) (some d)).1) := by
  cases n with
  | error e => exact absurd rfl (hn e)
  | _ => rfl

theorem onNotif_observeOn (alive : Bool) (multi) (j : Nat) (n : Notif) (s : Sched) :
    (Stage.observeOn alive multi).onNotif j n s =
      (.observeOn alive (multi.map (· ++ [(s.scheduleOnce (.emit j n) none).2])), [],
        (s.scheduleOnce (.emit j n) none).1) := by
  cases n <;> rfl

/-- `throttle` receives an item: while its window task has finished (or there is none yet) the window
    opens — the task is scheduled by `afterEmit` —, otherwise the item is only remembered. -/
theorem onNotif_throttle_next (d : Nat) (e : Edge) (alive : Bool) (tr : Option Val)
    (h : Option TaskId) (j : Nat) (v : Val) (s : Sched) :
    (Stage.throttle d e alive tr h).onNotif j (.next v) s =
      if h.all s.handleClosed = true then
        (.throttleW d e alive (if e.hasLeading then none else if e.hasTrailing then some v else tr),
          if e.hasLeading && alive then [.next v] else [], s)
      else (.throttle d e alive (if e.hasTrailing then some v else tr) h, [], s) := by
  cases h <;> rfl

theorem onNotif_bufTime_next (d : Nat) (cnt : Option Nat) (alive : Bool) (data : List Val) (task) (j : Nat)
    (v : Val) (s : Sched) :
    (Stage.bufTime d cnt alive data task).onNotif j (.next v) s =
      if alive then
        match cnt with
        | some c =>
          if (data ++ [v]).length ≥ c then (.bufTime d cnt alive [] task, flushBuf (data ++ [v]), s)
          else (.bufTime d cnt alive (data ++ [v]) task, [], s)
        | none => (.bufTime d cnt alive (data ++ [v]) task, [], s)
      else (.bufTime d cnt alive data task, [], s) := rfl

theorem afterEmit_op1 (o : St1) (j : Nat) (s : Sched) : (Stage.op1 o).afterEmit j s = (.op1 o, s) := rfl

end Stage

theorem cascadeF_nil (f : Nat) (j : Nat) (ns : List Notif) (s : Sched) :
    cascadeF (f + 1) [] j ns s = ([], ns, s) := rfl

theorem cascadeF_cons_cons (f : Nat) (st : Stage) (rest : List Stage) (j : Nat) (n : Notif) (ns : List Notif)
    (s : Sched) :
    cascadeF (f + 1) (st :: rest) j (n :: ns) s =
      (let r := st.onNotif j n s
       let c1 := cascadeF f rest (j + 1) r.2.1 r.2.2
       let a := r.1.afterEmit j c1.2.2
       let c2 := cascadeF f (a.1 :: c1.1) j ns a.2
       (c2.1, c1.2.1 ++ c2.2.1, c2.2.2)) := rfl

theorem cascadeF_nil_ns (f : Nat) (stages : List Stage) (j : Nat) (s : Sched) :
    cascadeF f stages j [] s = (stages, [], s) := by
  cases f with
  | zero => rfl
  | succ f => cases stages <;> rfl

theorem cascade_nil (j : Nat) (ns : List Notif) (s : Sched) : cascade [] j ns s = ([], ns, s) := rfl

theorem cascade_single (st : Stage) (j : Nat) (n : Notif) (s : Sched) :
    cascade [st] j [n] s =
      ([((st.onNotif j n s).1.afterEmit j (st.onNotif j n s).2.2).1], (st.onNotif j n s).2.1,
        ((st.onNotif j n s).1.afterEmit j (st.onNotif j n s).2.2).2) :=
  Eq.trans (b := ([((st.onNotif j n s).1.afterEmit j (st.onNotif j n s).2.2).1],
    (st.onNotif j n s).2.1 ++ [], ((st.onNotif j n s).1.afterEmit j (st.onNotif j n s).2.2).2)) rfl
    (by rw [List.append_nil])

namespace TW

theorem push_eq (w : TW) (j : Nat) (ns : List Notif) :
    w.push j ns = { w with
      stages := w.stages.take j ++ (cascade (w.stages.drop j) j ns w.sched).1,
      sched := (cascade (w.stages.drop j) j ns w.sched).2.2,
      log := w.log ++ (cascade (w.stages.drop j) j ns w.sched).2.1 } := rfl

theorem push_nil (w : TW) (h : w.stages = []) (ns : List Notif) :
    w.push 0 ns = { w with log := w.log ++ ns } := by
  cases w; simp only at h; subst h; rfl

theorem push_one (w : TW) (st : Stage) (ns : List Notif) (h : w.stages = [st]) :
    w.push 1 ns = { w with log := w.log ++ ns } := by
  rw [push_eq, h]; rfl

theorem push_zero (w : TW) (st : Stage) (n : Notif) (h : w.stages = [st]) :
    w.push 0 [n] =
      { w with stages := [((st.onNotif 0 n w.sched).1.afterEmit 0 (st.onNotif 0 n w.sched).2.2).1],
               sched := ((st.onNotif 0 n w.sched).1.afterEmit 0 (st.onNotif 0 n w.sched).2.2).2,
               log := w.log ++ (st.onNotif 0 n w.sched).2.1 } := by
  rw [push_eq, h, List.drop_zero, cascade_single]; rfl

theorem setStage_stages (w : TW) (j : Nat) (st : Stage) : (w.setStage j st).stages = w.stages.set j st := rfl

theorem push_empty (w : TW) (j : Nat) : w.push j [] = w := by
  rw [push_eq]; unfold cascade
  simp only [cascadeF_nil_ns, List.take_append_drop, List.append_nil]

theorem setStage_same (w : TW) (j : Nat) (st : Stage) (hj : w.stages[j]? = some st) :
    w.setStage j st = w := by
  show { w with stages := w.stages.set j st } = w
  rw [set_get_same _ _ _ hj]

theorem pushB_eq (w : TW) (j : Nat) (ns : List Notif) :
    w.pushB j ns =
      (match w.stages[j]? with
       | some (.op2n st nsrc na nt) =>
           (w.setStage j (.op2n (st.run .b ns).1 nsrc na nt)).push (j + 1) (st.run .b ns).2
       | _ => w) := rfl

theorem subscribeSource_eq (w : TW) :
    w.subscribeSource =
      (match w.src with
       | .hot _ => { w with srcSubscribed := true, srcAlive := true }
       | .cold s =>
           (match s with
            | .create _ => { ({ w with srcSubscribed := true } : TW).push 0 s.emit with
                srcAlive := !Rx.terminated s.emit }
            | _ => ({ w with srcSubscribed := true } : TW).push 0 s.emit)
       | .interval delay period =>
           { w with srcSubscribed := true,
                    sched := (w.sched.scheduleRepeat .tick period none (delay.getD period)).1,
                    srcTask := some (w.sched.scheduleRepeat .tick period none (delay.getD period)).2 }
       | .timer v dur =>
           { w with srcSubscribed := true, sched := (w.sched.scheduleOnce (.timerSrc v) (some dur)).1,
                    srcTask := some (w.sched.scheduleOnce (.timerSrc v) (some dur)).2 }
       | .iterc n => subscribeSource.loop n (n + 1) 0 { w with srcSubscribed := true }
       | .future _ script =>
           { w with srcSubscribed := true, sched := (w.sched.scheduleOnce .futureSrc none).1,
                    srcTask := some (w.sched.scheduleOnce .futureSrc none).2, srcRest := script }
       | .stream _ script _ =>
           { w with srcSubscribed := true, sched := (w.sched.scheduleOnce .streamSrc none).1,
                    srcTask := some (w.sched.scheduleOnce .streamSrc none).2, srcRest := script }) := by
  unfold subscribeSource
  cases w.src <;> rfl

theorem subscribeNotifier_eq (w : TW) (j : Nat) :
    w.subscribeNotifier j =
      (match w.stages[j]? with
       | some (.op2n st nsrc _ nt) =>
           match nsrc with
           | .hot _ => w.setStage j (.op2n st nsrc true nt)
           | .cold s => w.pushB j s.emit
           | .interval delay period =>
               ({ w with sched := (w.sched.scheduleRepeat (.tickN j) period none (delay.getD period)).1 } : TW).setStage j
                 (.op2n st nsrc false (some (w.sched.scheduleRepeat (.tickN j) period none (delay.getD period)).2))
           | .timer v dur =>
               ({ w with sched := (w.sched.scheduleOnce (.emit j (.next v)) (some dur)).1 } : TW).setStage j
                 (.op2n st nsrc false (some (w.sched.scheduleOnce (.emit j (.next v)) (some dur)).2))
           | .iterc n => subscribeNotifier.loopB j n (n + 1) 0 w
           | .future _ _ => w
           | .stream _ _ _ => w
       | _ => w) := rfl

theorem subscribeFrom_zero (w : TW) : subscribeFrom w 0 = w.subscribeSource := rfl

theorem isClosedFrom_zero (w : TW) :
    isClosedFrom w 0 =
      (match w.src, w.srcTask with
       | .hot _, _ => !w.srcAlive
       | .cold (.create _), _ => !w.srcAlive
       | .cold _, _ => true
       | _, some h => w.sched.handleClosed h
       | _, none => false) := rfl

theorem isClosedFrom_succ (w : TW) (j : Nat) :
    isClosedFrom w (j + 1) =
      (match w.stages[j]? with
       | some (.delay _ _ multi) => isClosedFrom w j && (multi.getD []).all w.sched.handleClosed
       | some (.observeOn _ multi) => isClosedFrom w j && (multi.getD []).all w.sched.handleClosed
       | some (.subscribeOn _ (some h)) => if w.sched.handleClosed h then isClosedFrom w j else false
       | some (.subscribeOn _ none) => false
       | some (.debounce _ _ _ handler) => isClosedFrom w j && handler.isNone
       | some (.throttle _ _ _ _ handler) => isClosedFrom w j && handler.isNone
       | some (.bufTime _ _ _ _ (some h)) => w.sched.handleClosed h && isClosedFrom w j
       | some (.op2n _ nsrc na nt) =>
           isClosedFrom w j &&
             (match nsrc, nt with
              | .hot _, _ => !na
              | .cold (.create _), _ => !na
              | .cold _, _ => true
              | _, some h => w.sched.handleClosed h
              | _, none => false)
       | _ => isClosedFrom w j) := rfl

theorem pollFuture_eq (w : TW) (res : Bool) :
    w.pollFuture res =
      (match w.srcRest with
       | [] => (w, .pending false)
       | .hang :: _ => (w, .pending false)
       | .pending :: r => ({ w with srcRest := r }, .pending true)
       | .ready v :: r => (({ w with srcRest := r } : TW).push 0 [.next v, .complete], .done)
       | .err e :: r =>
           (if res then ({ w with srcRest := r } : TW).push 0 [.error e]
            else ({ w with srcRest := r } : TW).push 0 [.next (.int e), .complete], .done)) := rfl

theorem runAsync_eq (w : TW) (b : Body) :
    w.runAsync b =
      (match b, w.src with
       | .futureSrc, .future res _ => w.pollFuture res
       | .streamSrc, .stream res script cyc => pollStream res script cyc 10000 w
       | _, _ => (w, .done)) := rfl

theorem deliverNotifiers_succ (w : TW) (i : Nat) (n : Notif) (k : Nat) :
    deliverNotifiers w i n (k + 1) =
      match (deliverNotifiers w i n k).stages[k]? with
      | some (.op2n st (.hot j) na nt) =>
          if i = j && na then
            match n with
            | .next _ => (deliverNotifiers w i n k).pushB k [n]
            | _ => ((deliverNotifiers w i n k).setStage k (.op2n st (.hot j) false nt)).pushB k [n]
          else deliverNotifiers w i n k
      | _ => deliverNotifiers w i n k := rfl

theorem unsubFrom_zero (w : TW) :
    unsubFrom w 0 =
      (match w.srcTask with
       | some h => { w with srcAlive := false, sched := w.sched.cancel h }
       | none => { w with srcAlive := false }) := rfl

theorem unsubFrom_succ (w : TW) (j : Nat) :
    unsubFrom w (j + 1) =
      (match w.stages[j]? with
       | some (.delay d alive multi) =>
           let w1 := unsubFrom w j
           { w1 with sched := (multi.getD []).foldl Sched.cancel w1.sched }.setStage j (.delay d alive none)
       | some (.observeOn alive multi) =>
           let w1 := unsubFrom w j
           { w1 with sched := (multi.getD []).foldl Sched.cancel w1.sched }.setStage j (.observeOn alive none)
       | some (.subscribeOn _ (some h)) =>
           if w.sched.handleClosed h then unsubFrom { w with sched := w.sched.cancel h } j
           else { w with sched := w.sched.cancel h }
       | some (.debounce d alive tr handler) =>
           let w1 := unsubFrom w j
           { w1 with sched := match handler with | some h => w1.sched.cancel h | none => w1.sched }.setStage j
             (.debounce d alive tr none)
       | some (.throttle d e alive tr handler) =>
           let w1 := unsubFrom w j
           { w1 with sched := match handler with | some h => w1.sched.cancel h | none => w1.sched }.setStage j
             (.throttle d e alive tr none)
       | some (.bufTime _ _ _ _ (some h)) => unsubFrom { w with sched := w.sched.cancel h } j
       | some (.op2n st nsrc _ nt) =>
           let w1 := unsubFrom w j
           { w1 with sched := match nt with | some h => w1.sched.cancel h | none => w1.sched }.setStage j
             (.op2n st nsrc false nt)
       | _ => unsubFrom w j) := rfl

/-- `unsubFrom w j` walks the stages below `j`: those from `j` on are left alone. -/
theorem unsubFrom_stages_ge (j : Nat) : ∀ (w : TW) (i : Nat), j ≤ i →
    (unsubFrom w j).stages[i]? = w.stages[i]? := by
  induction j with
  | zero =>
    intro w i _
    rw [unsubFrom_zero]
    split <;> rfl
  | succ j ih =>
    intro w i hi
    have hne : j ≠ i := by omega
    have hle : j ≤ i := by omega
    have set : ∀ (w' : TW) (s : Sched) (st : Stage), w'.stages[i]? = w.stages[i]? →
        (({ w' with sched := s } : TW).setStage j st).stages[i]? = w.stages[i]? := by
      intro w' s st h
      rw [setStage_stages, set_get_of_ne _ _ _ _ hne]; exact h
    rw [unsubFrom_succ]
    split
    · exact set _ _ _ (ih w i hle)
    · exact set _ _ _ (ih w i hle)
    · split
      · exact ih _ i hle
      · rfl
    · exact set _ _ _ (ih w i hle)
    · exact set _ _ _ (ih w i hle)
    · exact ih _ i hle
    · exact set _ _ _ (ih w i hle)
    · exact ih w i hle

theorem subscribeFrom_succ (w : TW) (j : Nat) :
    subscribeFrom w (j + 1) =
      (match w.stages[j]? with
       | some (.bufTime d cnt alive data _) =>
           subscribeFrom ({ w with sched := (w.sched.scheduleRepeat (.bufTick j) d none).1 }.setStage j
             (.bufTime d cnt alive data (some (w.sched.scheduleRepeat (.bufTick j) d none).2))) j
       | some (.subscribeOn delay _) =>
           { w with sched := (w.sched.scheduleOnce (.subscribe j) delay).1 }.setStage j
             (.subscribeOn delay (some (w.sched.scheduleOnce (.subscribe j) delay).2))
       | some (.op2n st _ _ _) =>
           match st.firstSide with
           | .a => (subscribeFrom w j).subscribeNotifier j
           | .b => subscribeFrom (w.subscribeNotifier j) j
       | _ => subscribeFrom w j) := rfl

theorem runBody_emit (w : TW) (j : Nat) (n : Notif) :
    w.runBody (.emit j n) =
      (match w.stages[j]? with
       | some (.delay d alive multi) =>
           if alive then
             (if n.isTerm then w.setStage j (.delay d false multi) else w).push (j + 1) [n]
           else w
       | some (.observeOn alive multi) =>
           if alive then
             (if n.isTerm then w.setStage j (.observeOn false multi) else w).push (j + 1) [n]
           else w
       | _ => w) := rfl

theorem runBody_debounce (w : TW) (j : Nat) :
    w.runBody (.debounce j) =
      (match w.stages[j]? with
       | some (.debounce d alive (some v) h) =>
           if alive then (w.setStage j (.debounce d alive none h)).push (j + 1) [.next v]
           else w.setStage j (.debounce d alive none h)
       | _ => w) := rfl

theorem runBody_throttle (w : TW) (j : Nat) :
    w.runBody (.throttle j) =
      (match w.stages[j]? with
       | some (.throttle d e alive (some v) h) =>
           if alive then (w.setStage j (.throttle d e alive none h)).push (j + 1) [.next v]
           else w.setStage j (.throttle d e alive none h)
       | _ => w) := rfl

theorem runTick_tickN (w : TW) (j seq : Nat) :
    w.runTick (.tickN j) seq =
      (match w.stages[j]? with
       | some (.op2n st _ _ _) =>
           if st.finished .b (fin (w.stages.drop (j + 1))) then (w, false)
           else (w.pushB j [.next (.int seq)], true)
       | _ => (w, false)) := rfl

theorem runTick_bufTick (w : TW) (j seq : Nat) :
    w.runTick (.bufTick j) seq =
      (match w.stages[j]? with
       | some (.bufTime d cnt alive data t) =>
           if !alive || fin (w.stages.drop (j + 1)) then (w, false)
           else ((w.setStage j (.bufTime d cnt alive [] t)).push (j + 1) (flushBuf data), true)
       | _ => (w, false)) := rfl

theorem runBody_tick (w : TW) : w.runBody .tick = w := rfl

theorem runBody_timerSrc (w : TW) (v : Val) : w.runBody (.timerSrc v) = w.push 0 [.next v, .complete] := rfl

theorem runTick_timerSrc (w : TW) (v : Val) (seq : Nat) : w.runTick (.timerSrc v) seq = (w, false) := rfl

theorem loop_succ (n fuel k : Nat) (w : TW) :
    subscribeSource.loop n (fuel + 1) k w =
      if fin w.stages then w
      else if k < n then
        subscribeSource.loop n fuel (k + 1) ({ w with pulls := w.pulls + 1 }.push 0 [.next (.int k)])
      else w.push 0 [.complete] := rfl

theorem loopB_succ (j n fuel k : Nat) (w : TW) :
    subscribeNotifier.loopB j n (fuel + 1) k w =
      (match w.stages[j]? with
       | some (.op2n st' _ _ _) =>
         if st'.finished .b (fin (w.stages.drop (j + 1))) then w
         else if k < n then
           subscribeNotifier.loopB j n fuel (k + 1) ({ w with pulls := w.pulls + 1 }.pushB j [.next (.int k)])
         else w.pushB j [.complete]
       | _ => w) := rfl

theorem runTick_tick (w : TW) (seq : Nat) :
    w.runTick .tick seq = if fin w.stages then (w, false) else (w.push 0 [.next (.int seq)], true) := rfl

theorem streamLap_cons (res : Bool) (st : AStep) (r : List AStep) (w : TW) :
    streamLap res (st :: r) w =
      if fin w.stages then ({ w with srcRest := st :: r }, .done)
      else
        match st with
        | .ready v => streamLap res r ({ w with pulls := w.pulls + 1 }.push 0 [.next v])
        | .err e =>
            if res then ({ w with pulls := w.pulls + 1, srcRest := r }.push 0 [.error e], .done)
            else streamLap res r ({ w with pulls := w.pulls + 1 }.push 0 [.next (.int e)])
        | .pending => ({ w with srcRest := r }, .pending true)
        | .hang => ({ w with srcRest := st :: r }, .pending false) := rfl

theorem pollStream_succ (res : Bool) (script : List AStep) (cyc : Bool) (f : Nat) (w : TW) :
    pollStream res script cyc (f + 1) w =
      match streamLap res w.srcRest w with
      | (w1, .exhausted) =>
          if cyc && !script.isEmpty then pollStream res script cyc f { w1 with srcRest := script }
          else (w1.push 0 [.complete], .done)
      | r => r := rfl

theorem pollAll_nil (w : TW) : pollAll w [] = w := rfl

theorem pollAll_cons (w : TW) (k : TaskId) (r : List TaskId) :
    pollAll w (k :: r) =
      pollAll (if (match w.sched.tasks[k]? with | some t => !t.done | none => false) then w.pollTask k else w) r :=
  rfl

theorem runLoop_succ (f : Nat) (w : TW) :
    runLoop (f + 1) w =
      (let due := w.sched.dueTimers
       let w1 := { w with sched := due.foldl Sched.fire w.sched }
       let ready := w1.sched.liveTasks.filter fun k =>
         match w1.sched.tasks[k]? with | some t => t.woken | none => false
       if due.isEmpty && ready.isEmpty then w1 else runLoop f (w1.pollAll ready)) := rfl

theorem step_sub (w : TW) :
    w.step .sub = if w.subscribed then w else subscribeFrom { w with subscribed := true } w.stages.length :=
  rfl

theorem step_unsub (w : TW) :
    w.step .unsub =
      if w.subscribed && !w.unsubscribed then { unsubFrom w w.stages.length with unsubscribed := true }
      else w := rfl

/-- The part of an emission of subject `i` (not yet terminated) that concerns the chain's own
    source: `w1` is `w` with the subject marked as terminated if `n` is a terminal; the notifier
    inputs come after it. -/
def emitSrc (w w1 : TW) (i : Nat) (n : Notif) : TW :=
  match w.src with
  | .hot j =>
    if i = j && w.srcSubscribed && w.srcAlive then
      match n with
      | .next _ => w1.push 0 [n]
      | _ => { w1 with srcAlive := false }.push 0 [n]
    else w1
  | _ => w1

theorem step_emit (w : TW) (i : Nat) (n : Notif) :
    w.step (.emit i n) =
      if w.terminated.contains i then w
      else deliverNotifiers
        (emitSrc w (if n.isTerm then { w with terminated := i :: w.terminated } else w) i n) i n
        (emitSrc w (if n.isTerm then { w with terminated := i :: w.terminated } else w) i n).stages.length :=
  rfl

theorem step_fire (w : TW) (i : Nat) :
    w.step (.fire i) =
      (match w.sched.dueTimers[i]? with
       | some tm => { w with sched := w.sched.fire tm }
       | none => w) := rfl

theorem step_poll (w : TW) (i : Nat) :
    w.step (.poll i) = (match w.sched.liveTasks[i]? with | some k => w.pollTask k | none => w) := rfl

theorem step_run (w : TW) : w.step .run = runLoop 10000 w := rfl

end TW

/-- `TW.pollTask` as a function of the answer of `pollPre`. -/
def pollPost (w : TW) (k : TaskId) : Sched × Sched.Poll → TW
  | (s1, .none) => { w with sched := s1 }
  | (s1, .runOnce b) =>
      if b.isAsync then
        match ({ w with sched := s1 } : TW).runAsync b with
        | (w1, .pending wk) => { w1 with sched := w1.sched.stayPending k wk }
        | (w1, _) => { w1 with sched := w1.sched.finishOnce k }
      else
        { ({ w with sched := s1 } : TW).runBody b with
          sched := (({ w with sched := s1 } : TW).runBody b).sched.finishOnce k }
  | (s1, .runTick b seq) =>
      if (({ w with sched := s1 } : TW).runTick b seq).2 then
        { (({ w with sched := s1 } : TW).runTick b seq).1 with
          sched := (({ w with sched := s1 } : TW).runTick b seq).1.sched.continueRepeat k }
      else
        { (({ w with sched := s1 } : TW).runTick b seq).1 with
          sched := (({ w with sched := s1 } : TW).runTick b seq).1.sched.finishOnce k }

theorem pollTask_eq (w : TW) (k : TaskId) : w.pollTask k = pollPost w k (w.sched.pollPre k) := by
  unfold TW.pollTask pollPost
  rcases w.sched.pollPre k with ⟨s1, p⟩
  cases p <;> rfl

/-- The shape of one poll: `pollPre` (the world `w0` carries its scheduler), then the body by kind of
    answer, then the bookkeeping on task `k`. -/
theorem TW.pollTask_cases {M : TW → Prop} (w : TW) (k : TaskId)
    (idle : (w.sched.pollPre k).2 = .none → M { w with sched := (w.sched.pollPre k).1 })
    (once : ∀ b, (w.sched.pollPre k).2 = .runOnce b → b.isAsync = false →
      M { ({ w with sched := (w.sched.pollPre k).1 } : TW).runBody b with
          sched := (({ w with sched := (w.sched.pollPre k).1 } : TW).runBody b).sched.finishOnce k })
    (pending : ∀ b w1 wk, (w.sched.pollPre k).2 = .runOnce b → b.isAsync = true →
      ({ w with sched := (w.sched.pollPre k).1 } : TW).runAsync b = (w1, .pending wk) →
      M { w1 with sched := w1.sched.stayPending k wk })
    (ready : ∀ b w1 o, (w.sched.pollPre k).2 = .runOnce b → b.isAsync = true →
      ({ w with sched := (w.sched.pollPre k).1 } : TW).runAsync b = (w1, o) → (∀ wk, o ≠ .pending wk) →
      M { w1 with sched := w1.sched.finishOnce k })
    (again : ∀ b seq, (w.sched.pollPre k).2 = .runTick b seq →
      (({ w with sched := (w.sched.pollPre k).1 } : TW).runTick b seq).2 = true →
      M { (({ w with sched := (w.sched.pollPre k).1 } : TW).runTick b seq).1 with
          sched := (({ w with sched := (w.sched.pollPre k).1 } : TW).runTick b seq).1.sched.continueRepeat k })
    (last : ∀ b seq, (w.sched.pollPre k).2 = .runTick b seq →
      (({ w with sched := (w.sched.pollPre k).1 } : TW).runTick b seq).2 = false →
      M { (({ w with sched := (w.sched.pollPre k).1 } : TW).runTick b seq).1 with
          sched := (({ w with sched := (w.sched.pollPre k).1 } : TW).runTick b seq).1.sched.finishOnce k }) :
    M (w.pollTask k) := by
  unfold TW.pollTask
  generalize w.sched.pollPre k = r at idle once pending ready again last
  obtain ⟨s1, p⟩ := r
  cases p with
  | none => exact idle rfl
  | runOnce b =>
    dsimp only
    split
    · next hb =>
      split
      · next w1 wk h => exact pending b w1 wk rfl hb h
      · next w1 o hne h => exact ready b w1 o rfl hb h (fun wk e => hne wk (e ▸ rfl))
    · next hb => exact once b rfl (by simpa using hb)
  | runTick b seq =>
    dsimp only
    split
    · next hc => exact again b seq rfl hc
    · next hc => exact last b seq rfl (by simpa using hc)

end Rx.T
