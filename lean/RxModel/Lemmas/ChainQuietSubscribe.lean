import RxModel.Lemmas.ChainQuietPush
/-
  `Good` survives `subscribeNotifier`, `subscribeSource` and `subscribeFrom`; what they keep
  is `FrN j` (everything but the notifier part of stage `j`) resp. `FrU j` (the stages from
  `j` up).
-/
namespace Rx.T
open Rx

/-- What subscribing the second input of stage `j` keeps. -/
structure FrN (j : Nat) (w w' : TW) : Prop where
  subH : w'.stages.map Stage.subH = w.stages.map Stage.subH
  n2 : ∀ i, i ≠ j → (w'.stages[i]?).map Stage.n2 = (w.stages[i]?).map Stage.n2
  keep : SubKeep w.sched w'.sched
  info : w'.info = w.info
  fl : Fl w w'
  low : ∀ i, i < j → w'.stages[i]? = w.stages[i]?

theorem Fr.toN {w w' : TW} (f : Fr w w') (j : Nat) (low : ∀ i, i < j → w'.stages[i]? = w.stages[i]?) :
    FrN j w w' :=
  ⟨f.subH, fun i _ => map_get _ f.n2 i, f.keep, f.info, f.fl, low⟩

theorem FrN.refl (j : Nat) (w : TW) : FrN j w w := (Fr.refl w).toN j (fun _ _ => rfl)

theorem scheduleRepeat_tasks (s : Sched) (b : Body) (p : Nat) (d : Option Nat) (f : Nat) :
    (s.scheduleRepeat b p d f).1.tasks =
      s.tasks ++ [{ body := b, outerDelay := d, rep := some (s.timers.length, p, 0) }] := rfl
theorem scheduleRepeat_id (s : Sched) (b : Body) (p : Nat) (d : Option Nat) (f : Nat) :
    (s.scheduleRepeat b p d f).2 = s.tasks.length := rfl

theorem map_set_other {α β} (f : α → β) (l : List α) (j i : Nat) (y : α) (h : i ≠ j) :
    ((l.set j y)[i]?).map f = (l[i]?).map f := by
  rw [set_get_of_ne _ _ _ _ (Ne.symm h)]

theorem FrN.setStage {w : TW} {j : Nat} {st st1 : Stage} {s' : Sched} (hj : w.stages[j]? = some st)
    (hs : st1.subH = st.subH) (hk : SubKeep w.sched s') :
    FrN j w (({ w with sched := s' } : TW).setStage j st1) :=
  ⟨map_set_same _ _ _ _ _ hj hs, fun _ hi => map_set_other _ _ _ _ _ hi, hk, rfl, ⟨rfl, rfl, rfl⟩,
    fun _ hi => setStage_low _ _ _ _ (Nat.ne_of_lt hi)⟩

theorem subscribeNotifier_good {r : Option TaskId} {w : TW} (j : Nat) (g : GoodW r w)
    (hr : ReachedW r w (j + 1))
    (hnt : ∀ st ns na nt, w.stages[j]? = some (.op2n st ns na nt) → nt = none) :
    GoodW r (w.subscribeNotifier j) ∧ FrN j w (w.subscribeNotifier j) := by
  rw [TW.subscribeNotifier_eq]
  split
  next st nsrc na nt hj =>
    obtain rfl : nt = none := hnt _ _ _ _ hj
    cases nsrc with
    | hot i =>
      -- the slot is taken, which needs the stage to have been reached
      exact ⟨Good.stage_same g hj (fun h hm => hm) (fun h hm _ _ _ => hm) rfl (fun h => nomatch h)
        (Or.inr hr) rfl, FrN.setStage hj rfl (SubKeep.refl _)⟩
    | cold s =>
      obtain ⟨g1, f1⟩ := pushB_good j s.emit g hr
      exact ⟨g1, f1.toN j (fun i hi => pushB_low _ _ _ _ hi)⟩
    | interval delay period =>
      exact ⟨Good.stage_adopt g hj (scheduleRepeat_tasks _ _ _ _ _) rfl rfl rfl rfl rfl rfl (fun _ => rfl) hr
        (Or.inl rfl), FrN.setStage hj rfl (SubKeep.of_append (scheduleRepeat_tasks _ _ _ _ _))⟩
    | timer v dur =>
      exact ⟨Good.stage_adopt g hj (scheduleOnce_tasks _ _ _) rfl rfl rfl rfl rfl rfl (fun _ => rfl) hr
        (Or.inl rfl), FrN.setStage hj rfl (SubKeep.of_append (scheduleOnce_tasks _ _ _))⟩
    | iterc n =>
      obtain ⟨g1, f1, l1⟩ := loopB_good (r := r) j n (n + 1) 0 w g hr
      exact ⟨g1, f1.toN j l1⟩
    | future res script | stream res script cyc => exact ⟨g, FrN.refl _ _⟩
  next => exact ⟨g, FrN.refl _ _⟩

/-- What subscribing everything below stage `j` keeps: the stages from `j` up keep
    their subscribe_on handle and notifier part. -/
structure FrU (j : Nat) (w w' : TW) : Prop where
  subH : ∀ i, j ≤ i → (w'.stages[i]?).map Stage.subH = (w.stages[i]?).map Stage.subH
  n2 : ∀ i, j ≤ i → (w'.stages[i]?).map Stage.n2 = (w.stages[i]?).map Stage.n2
  keep : SubKeep w.sched w'.sched
  fl : Fl w w'

theorem Fr.toU {w w' : TW} (f : Fr w w') (j : Nat) : FrU j w w' :=
  ⟨fun i _ => map_get _ f.subH i, fun i _ => map_get _ f.n2 i, f.keep, f.fl⟩

theorem FrN.toU {j : Nat} {w w' : TW} (f : FrN j w w') : FrU (j + 1) w w' :=
  ⟨fun i _ => map_get _ f.subH i, fun i hi => f.n2 i (Nat.ne_of_gt hi), f.keep, f.fl⟩

theorem FrU.refl (j : Nat) (w : TW) : FrU j w w := (Fr.refl w).toU j

theorem FrU.trans {j : Nat} {a b c : TW} (h1 : FrU j a b) (h2 : FrU j b c) : FrU j a c :=
  ⟨fun i hi => (h2.subH i hi).trans (h1.subH i hi), fun i hi => (h2.n2 i hi).trans (h1.n2 i hi),
    h1.keep.trans h2.keep, h1.fl.trans h2.fl⟩

theorem FrU.mono {j j' : Nat} {a b : TW} (h : FrU j a b) (hj : j ≤ j') : FrU j' a b :=
  ⟨fun i hi => h.subH i (Nat.le_trans hj hi), fun i hi => h.n2 i (Nat.le_trans hj hi), h.keep, h.fl⟩

theorem ReachedW.frameU {r : Option TaskId} {w w' : TW} {j l : Nat} (hr : ReachedW r w l)
    (g : GoodW r w) (f : FrU j w w') (hl : j ≤ l) : ReachedW r w' l := by
  intro i st' h hi hs e
  have h1 := f.subH i (Nat.le_trans hl hi)
  rw [hs] at h1
  cases hst : w.stages[i]? with
  | none => rw [hst] at h1; simp at h1
  | some st =>
    rw [hst] at h1; simp at h1
    rw [e] at h1
    exact g.ran_keep f.keep hst h1.symm (hr i st h hi hst h1.symm)

theorem loop_good {r : Option TaskId} (n : Nat) (fuel : Nat) :
    ∀ (k : Nat) (w : TW), GoodW r w → ReachedW r w 0 →
      GoodW r (TW.subscribeSource.loop n fuel k w) ∧ Fr w (TW.subscribeSource.loop n fuel k w) := by
  induction fuel with
  | zero => intro k w g _; exact ⟨g, Fr.refl _⟩
  | succ fuel ih =>
    intro k w g hr
    rw [TW.loop_succ]
    split
    · exact ⟨g, Fr.refl _⟩
    · split
      · exact good_then g hr (pulls_good (w.pulls + 1) g) fun g0 hr0 =>
          good_then g0 hr0 (push_good 0 [.next (.int k)] g0 hr0) (ih (k + 1) _)
      · exact push_good 0 [.complete] g hr

theorem subscribed_good {r : Option TaskId} {w : TW} (g : GoodW r w) :
    GoodW r { w with srcSubscribed := true } ∧ Fr w { w with srcSubscribed := true } :=
  ⟨g, rfl, rfl, SubKeep.refl _, rfl, ⟨rfl, rfl, rfl⟩⟩

theorem srcTask_good {r : Option TaskId} {w w' : TW} {t : Task} (g : GoodW r w) (hr : ReachedW r w 0)
    (hnone : w.srcTask = none) (hsrc : w.src.hasTask = true)
    (hs : w'.sched.tasks = w.sched.tasks ++ [t]) (hd : t.done = false) (hv : t.hasValue = false)
    (hl : t.body.level = 0) (hi : w'.info = ⟨w.src, some w.sched.tasks.length, w.srcAlive⟩)
    (hst : w'.stages = w.stages) (h4 : w'.subscribed = w.subscribed)
    (h5 : w'.unsubscribed = w.unsubscribed) : GoodW r w' ∧ FrU 0 w w' := by
  refine ⟨?_, fun _ _ => by rw [hst], fun _ _ => by rw [hst], SubKeep.of_append hs,
    ⟨h4, h5, congrArg Info.src hi⟩⟩
  unfold GoodW; rw [hi, hst]
  exact Good.srcTask g hs hd hv hl hnone hsrc hr

theorem subscribeSource_good {r : Option TaskId} {w : TW} (g : GoodW r w) (hr : ReachedW r w 0)
    (hnone : w.srcTask = none) :
    GoodW r w.subscribeSource ∧ FrU 0 w w.subscribeSource := by
  have task : ∀ {w' : TW} {t : Task}, w.src.hasTask = true → w'.sched.tasks = w.sched.tasks ++ [t] →
      t.done = false → t.hasValue = false → t.body.level = 0 →
      w'.info = ⟨w.src, some w.sched.tasks.length, w.srcAlive⟩ → w'.stages = w.stages →
      w'.subscribed = w.subscribed → w'.unsubscribed = w.unsubscribed → GoodW r w' ∧ FrU 0 w w' :=
    fun hsrc => srcTask_good g hr hnone hsrc
  rw [TW.subscribeSource_eq]
  split
  next i hsrc =>
    exact ⟨Good.srcAlive g true (Or.inr hr), fun _ _ => rfl, fun _ _ => rfl, SubKeep.refl _, ⟨rfl, rfl, rfl⟩⟩
  next s hsrc =>
    obtain ⟨g1, f1⟩ := good_then g hr (subscribed_good g) (push_good 0 s.emit)
    split
    · exact ⟨Good.srcAlive g1 _ (Or.inr (hr.frame g f1)), fun i _ => map_get _ f1.subH i,
        fun i _ => map_get _ f1.n2 i, f1.keep, ⟨f1.fl.1, f1.fl.2, f1.fl.3⟩⟩
    · exact ⟨g1, f1.toU 0⟩
  next delay period hsrc =>
    exact task (by rw [hsrc]; rfl) (scheduleRepeat_tasks _ _ _ _ _) rfl rfl rfl rfl rfl rfl rfl
  next v dur hsrc => exact task (by rw [hsrc]; rfl) (scheduleOnce_tasks _ _ _) rfl rfl rfl rfl rfl rfl rfl
  next n hsrc =>
    obtain ⟨g1, f1⟩ := good_then g hr (subscribed_good g) (loop_good (r := r) n (n + 1) 0 _)
    exact ⟨g1, f1.toU 0⟩
  next res script hsrc =>
    exact task (by rw [hsrc]; rfl) (scheduleOnce_tasks _ _ _) rfl rfl rfl rfl rfl rfl rfl
  next res script cyc hsrc =>
    exact task (by rw [hsrc]; rfl) (scheduleOnce_tasks _ _ _) rfl rfl rfl rfl rfl rfl rfl

theorem toList_nil {α} {o : Option α} (h : o.toList = []) : o = none := by
  cases o <;> simp at h ⊢

theorem subscribeFrom_good {r : Option TaskId} (j : Nat) :
    ∀ w : TW, GoodW r w → PristineBelow w.info w.stages j → ReachedW r w j →
      GoodW r (w.subscribeFrom j) ∧ FrU j w (w.subscribeFrom j) := by
  induction j with
  | zero =>
    intro w g hp hr
    exact subscribeSource_good g hr hp.1
  | succ j ih =>
    intro w g hp hr
    have hp' : PristineBelow w.info w.stages j := hp.mono (Nat.le_succ _)
    rw [TW.subscribeFrom_succ]
    split
    next d cnt alive data t hj =>
      have ht : t = none := toList_nil (hp.2.2 j _ (Nat.lt_succ_self _) hj).1
      subst ht
      have g1 : GoodW r (({ w with sched := (w.sched.scheduleRepeat (.bufTick j) d none).1 } : TW).setStage j
          (.bufTime d cnt alive data (some (w.sched.scheduleRepeat (.bufTick j) d none).2))) :=
        Good.stage_adopt g hj (scheduleRepeat_tasks _ _ _ _ _) rfl rfl rfl rfl rfl rfl trivial hr (Or.inl rfl)
      have f1 : Fr w (({ w with sched := (w.sched.scheduleRepeat (.bufTick j) d none).1 } : TW).setStage j
          (.bufTime d cnt alive data (some (w.sched.scheduleRepeat (.bufTick j) d none).2))) :=
        ⟨map_set_same _ _ _ _ _ hj rfl, map_set_same _ _ _ _ _ hj rfl,
          SubKeep.of_append (scheduleRepeat_tasks _ _ _ _ _), rfl, ⟨rfl, rfl, rfl⟩⟩
      have hr1 := (hr.frame g f1).step_down (j := j) (fun st hs => by
        obtain rfl := Option.some.inj ((set_get_self w.stages j _ _ hj).symm.trans hs)
        rfl)
      obtain ⟨g2, f2⟩ := ih _ g1 (hp'.of_low (fun i hi => set_get_of_ne _ _ _ _ (Nat.ne_of_gt hi))) hr1
      exact ⟨g2, (f1.toU (j + 1)).trans (f2.mono (Nat.le_succ _))⟩
    next delay t hj =>
      have ht : t = none := toList_nil (hp.2.2 j _ (Nat.lt_succ_self _) hj).1
      subst ht
      refine ⟨?_, ?_⟩
      · exact Good.stage_adopt g hj (scheduleOnce_tasks _ _ _) rfl rfl rfl rfl rfl rfl trivial hr (Or.inr hp')
      · exact ⟨fun i hi => by rw [setStage_low _ _ _ _ (Nat.ne_of_gt hi)],
          fun i hi => by rw [setStage_low _ _ _ _ (Nat.ne_of_gt hi)],
          SubKeep.of_append (scheduleOnce_tasks _ _ _), ⟨rfl, rfl, rfl⟩⟩
    next st ns na nt hj =>
      have hnt0 : nt = none := toList_nil (hp.2.2 j _ (Nat.lt_succ_self _) hj).1
      subst hnt0
      have hsub : ∀ st', w.stages[j]? = some st' → st'.subH = none := by
        intro st' hs; rw [hj] at hs; cases hs; rfl
      split
      next =>
        obtain ⟨g1, f1⟩ := ih w g hp' (hr.step_down hsub)
        have hnt : ∀ st' ns' na' nt', (w.subscribeFrom j).stages[j]? = some (.op2n st' ns' na' nt') →
            nt' = none := by
          intro st' ns' na' nt' hs
          have := f1.n2 j (Nat.le_refl _)
          rw [hs, hj] at this
          simp [Stage.n2] at this
          exact this.2.2
        obtain ⟨g2, f2⟩ := subscribeNotifier_good j g1 (hr.frameU g f1 (Nat.le_succ _)) hnt
        exact ⟨g2, (f1.mono (Nat.le_succ _)).trans f2.toU⟩
      next =>
        obtain ⟨g1, f1⟩ := subscribeNotifier_good j g hr (fun _ _ _ _ hs => by
          rw [hj] at hs; cases hs; rfl)
        have hr1 : ReachedW r (w.subscribeNotifier j) j := by
          apply Reached.step_down (Reached.frame hr g f1.subH f1.keep)
          intro st' hs
          have := map_get Stage.subH f1.subH j
          rw [hs, hj] at this
          simpa [Stage.subH] using this
        obtain ⟨g2, f2⟩ := ih _ g1 (by rw [f1.info]; exact hp'.of_low f1.low) hr1
        exact ⟨g2, f1.toU.trans (f2.mono (Nat.le_succ _))⟩
    next h1 h2 h3 =>
      have hsub : ∀ st', w.stages[j]? = some st' → st'.subH = none := by
        intro st' hs
        cases st' with
        | subscribeOn d t => exact absurd hs (h2 d t)
        | _ => rfl
      obtain ⟨g1, f1⟩ := ih w g hp' (hr.step_down hsub)
      exact ⟨g1, f1.mono (Nat.le_succ _)⟩

end Rx.T
