import RxModel.Pipe.World
import RxModel.Lemmas.SingleChain
import RxModel.Lemmas.St1WF
import RxModel.Lemmas.Multi
/-
  Every instantiated pipeline, under every sequence of node actions, has a
  well-formed cumulative output; the run of a `pipe` world is the run of its
  root under some action list (helper lemmas for C01, C02, C17).
-/
namespace Rx
open Node Spec

@[simp] theorem runActs_nil (nd : Node) : nd.runActs [] = (nd, []) := rfl
@[simp] theorem runActs_cons (nd : Node) (a : Act) (r : List Act) :
    nd.runActs (a :: r) = (((nd.act a).1.runActs r).1, (nd.act a).2 ++ ((nd.act a).1.runActs r).2) := rfl

theorem runActs_append (nd : Node) (a b : List Act) :
    nd.runActs (a ++ b) =
      (((nd.runActs a).1.runActs b).1, (nd.runActs a).2 ++ ((nd.runActs a).1.runActs b).2) := by
  induction a generalizing nd with
  | nil => rfl
  | cons x r ih => simp only [List.cons_append, runActs_cons, ih, List.append_assoc]

theorem runActs_one (nd : Node) (a : Act) : nd.runActs [a] = nd.act a := by
  simp only [runActs_cons, runActs_nil, List.append_nil]

/-- The order in which the two inputs are started is hidden in `tl`: what follows needs only that the
    cell sees some tagged input, and none when both inputs are silent. -/
theorem n2_start (st : St2) (a b : Node) :
    ∃ tl, (a.start.2 = [] → b.start.2 = [] → tl = []) ∧
      (n2 st a b).start = (n2 (st.runT tl).1 a.start.1 b.start.1, (st.runT tl).2) := by
  cases hf : st.firstSide with
  | a =>
    exact ⟨(a.start.2.map fun n => (Side.a, n)) ++ b.start.2.map fun n => (Side.b, n),
      fun ha hb => by rw [ha, hb]; rfl, by simp only [Node.start, hf, run_eq_runT, runT_append]⟩
  | b =>
    exact ⟨(b.start.2.map fun n => (Side.b, n)) ++ a.start.2.map fun n => (Side.a, n),
      fun ha hb => by rw [ha, hb]; rfl, by simp only [Node.start, hf, run_eq_runT, runT_append]⟩

theorem run_init_wf (o : Op1) (X : List Notif) (h : WF X) : WF (St1.run o.init X).2 :=
  St1.run_wf X _ h

theorem hot_act (i : Nat) (al : Bool) (a : Act) :
    (∃ al', (al = false → al' = false) ∧ (hot i al).act a = (hot i al', [])) ∨
    al = true ∧ ((∃ v, (hot i al).act a = (hot i true, [.next v])) ∨
      ∃ t, (hot i al).act a = (hot i false, [t])) := by
  cases a with
  | start => exact .inl ⟨al, id, rfl⟩
  | unsub => exact .inl ⟨false, fun _ => rfl, rfl⟩
  | deliver p df n =>
    cases p with
    | cons _ _ => exact .inl ⟨al, id, rfl⟩
    | nil =>
      cases al with
      | false => exact .inl ⟨false, id, by cases n <;> rfl⟩
      | true =>
        cases n with
        | next v => exact .inr ⟨rfl, .inl ⟨v, rfl⟩⟩
        | error _ | complete => exact .inr ⟨rfl, .inr ⟨_, rfl⟩⟩

theorem hot_dead (i : Nat) (acts : List Act) : ((hot i false).runActs acts).2 = [] := by
  induction acts with
  | nil => rfl
  | cons a r ih =>
    rcases hot_act i false a with ⟨al', h0, h⟩ | ⟨h, _⟩
    · cases h0 rfl; rw [runActs_cons, h]; exact ih
    · cases h

theorem hot_runActs (i : Nat) (alive : Bool) (acts : List Act) :
    WF ((hot i alive).runActs acts).2 := by
  induction acts generalizing alive with
  | nil => trivial
  | cons a r ih =>
    rw [runActs_cons]
    rcases hot_act i alive a with ⟨al', _, h⟩ | ⟨_, ⟨v, h⟩ | ⟨t, h⟩⟩ <;> rw [h]
    · exact ih al'
    · exact ih true
    · show WF ([t] ++ _); rw [hot_dead]; exact WF_single t

theorem emit_wf (s : Src) : WF s.emit := by
  cases s with
  | ofOption o => cases o <;> rfl
  | ofResult r => cases r <;> rfl
  | iter xs => exact (WF_nexts_append xs [.complete]).mpr rfl
  | repeat_ v n => exact (WF_nexts_append (List.replicate n v) [.complete]).mpr rfl
  | create sc => exact WF_gate sc
  | never => trivial
  | _ => rfl

theorem cold_act (s : Src) (st al : Bool) (a : Act) :
    ∃ al', (cold s st al).act a = (cold s st al', []) ∨
      st = false ∧ (cold s st al).act a = (cold s true al', s.emit) := by
  cases a with
  | start =>
    cases st with
    | true => exact ⟨al, .inl rfl⟩
    | false => exact ⟨_, .inr ⟨rfl, rfl⟩⟩
  | deliver p df n => exact ⟨al, .inl (by cases p <;> rfl)⟩
  | unsub => cases s <;> exact ⟨_, .inl rfl⟩

theorem cold_started (s : Src) (al : Bool) (acts : List Act) :
    ((cold s true al).runActs acts).2 = [] := by
  induction acts generalizing al with
  | nil => rfl
  | cons a r ih =>
    obtain ⟨al', h | ⟨h, _⟩⟩ := cold_act s true al a
    · rw [runActs_cons, h]; exact ih al'
    · cases h

theorem cold_runActs (s : Src) (st al : Bool) (acts : List Act) :
    WF ((cold s st al).runActs acts).2 := by
  induction acts generalizing st al with
  | nil => trivial
  | cons a r ih =>
    obtain ⟨al', h | ⟨_, h⟩⟩ := cold_act s st al a <;> rw [runActs_cons, h]
    · exact ih st al'
    · show WF (s.emit ++ _)
      rw [cold_started, List.append_nil]; exact emit_wf s

/- Inner nodes: one action of the node is its observer applied to what some actions of its
   children deliver; folding that over an action list gives the `_sim` lemmas. -/

theorem n1_act (st : St1) (c : Node) (a : Act) :
    ∃ as, (n1 st c).act a =
      (n1 (st.run (c.runActs as).2).1 (c.runActs as).1, (st.run (c.runActs as).2).2) := by
  cases a with
  | start => exact ⟨[.start], by rw [runActs_one]; rfl⟩
  | unsub => exact ⟨[.unsub], by rw [runActs_one]; rfl⟩
  | deliver p df n =>
    match p with
    | .down :: q => exact ⟨[.deliver q (st.finished df) n], by rw [runActs_one]; rfl⟩
    | [] | .left :: _ | .right :: _ => exact ⟨[], rfl⟩

theorem n1_sim (st : St1) (c : Node) (acts : List Act) :
    ∃ acts', (n1 st c).runActs acts =
      (n1 (St1.run st (c.runActs acts').2).1 (c.runActs acts').1, (St1.run st (c.runActs acts').2).2) := by
  induction acts generalizing st c with
  | nil => exact ⟨[], rfl⟩
  | cons a r ih =>
    obtain ⟨as, h⟩ := n1_act st c a
    obtain ⟨acts', h'⟩ := ih (st.run (c.runActs as).2).1 (c.runActs as).1
    exact ⟨as ++ acts', by simp only [runActs_cons, h, h', runActs_append, St1.run_append]⟩

theorem n2_act (st : St2) (a b : Node) (x : Act) :
    ∃ tl a' b', (n2 st a b).act x = (n2 (st.runT tl).1 a' b', (st.runT tl).2) := by
  cases x with
  | start => obtain ⟨tl, _, h⟩ := n2_start st a b; exact ⟨tl, _, _, h⟩
  | unsub => exact ⟨[], _, _, rfl⟩
  | deliver p df n =>
    match p with
    | .left :: q =>
      exact ⟨(a.deliver q (st.finished .a df) n).2.map fun n => (Side.a, n), _, _, by
        rw [← run_eq_runT]; rfl⟩
    | .right :: q =>
      exact ⟨(b.deliver q (st.finished .b df) n).2.map fun n => (Side.b, n), _, _, by
        rw [← run_eq_runT]; rfl⟩
    | [] | .down :: _ => exact ⟨[], _, _, rfl⟩

theorem n2_sim (st : St2) (a b : Node) (acts : List Act) :
    ∃ tl a' b', (n2 st a b).runActs acts = (n2 (st.runT tl).1 a' b', (st.runT tl).2) := by
  induction acts generalizing st a b with
  | nil => exact ⟨[], a, b, rfl⟩
  | cons x r ih =>
    obtain ⟨tl, a', b', h⟩ := n2_act st a b x
    obtain ⟨tl', a'', b'', h'⟩ := ih (st.runT tl).1 a' b'
    exact ⟨tl ++ tl', a'', b'', by simp only [runActs_cons, h, h', runT_append]⟩

theorem startWith_started (vs : List Val) (c : Node) (acts : List Act) :
    ∃ acts', ((startWith vs true c).runActs acts).2 = (c.runActs acts').2 := by
  induction acts generalizing c with
  | nil => exact ⟨[], rfl⟩
  | cons x r ih =>
    have : ∃ as, (startWith vs true c).act x = (startWith vs true (c.runActs as).1, (c.runActs as).2) := by
      cases x with
      | start => exact ⟨[.start], by rw [runActs_one]; rfl⟩
      | unsub => exact ⟨[.unsub], by rw [runActs_one]; rfl⟩
      | deliver p df n =>
        match p with
        | .down :: q => exact ⟨[.deliver q df n], by rw [runActs_one]; rfl⟩
        | [] | .left :: _ | .right :: _ => exact ⟨[], rfl⟩
    obtain ⟨as, h⟩ := this
    obtain ⟨acts', h'⟩ := ih (c.runActs as).1
    exact ⟨as ++ acts', by simp only [runActs_cons, h, h', runActs_append]⟩

theorem startWith_unstarted (vs : List Val) (c : Node) (acts : List Act) :
    ((startWith vs false c).runActs acts).2 = [] ∨
    ∃ acts', ((startWith vs false c).runActs acts).2 = vs.map .next ++ (c.runActs acts').2 := by
  induction acts generalizing c with
  | nil => exact Or.inl rfl
  | cons x r ih =>
    cases x with
    | start =>
      obtain ⟨acts', h⟩ := startWith_started vs c.start.1 r
      have e : (startWith vs false c).act .start = (startWith vs true c.start.1, vs.map .next ++ c.start.2) := rfl
      exact .inr ⟨.start :: acts', by simp only [runActs_cons, e, h, List.append_assoc]; rfl⟩
    | unsub =>
      rcases ih c.unsub with h | ⟨acts', h⟩
      · exact .inl h
      · exact .inr ⟨.unsub :: acts', h⟩
    | deliver p df n =>
      have e : (startWith vs false c).act (.deliver p df n) = (startWith vs false c, []) := by
        match p with
        | [] | .down :: _ | .left :: _ | .right :: _ => rfl
      rw [runActs_cons, e]
      exact ih c

theorem instantiate_wf (p : Pipe) : ∀ acts, WF (p.instantiate.runActs acts).2 := by
  induction p with
  | hot i => exact hot_runActs i true
  | src s => exact cold_runActs s false true
  | defer p ih => exact ih
  | op1 o p ih =>
    intro acts
    obtain ⟨acts', h⟩ := n1_sim o.init p.instantiate acts
    show WF ((n1 o.init p.instantiate).runActs acts).2
    rw [h]
    exact run_init_wf o _ (ih acts')
  | startWith vs p ih =>
    intro acts
    show WF ((startWith vs false p.instantiate).runActs acts).2
    rcases startWith_unstarted vs p.instantiate acts with h | ⟨acts', h⟩
    · rw [h]; trivial
    · rw [h, WF_nexts_append]; exact ih acts'
  | op2 k a b _ _ =>
    intro acts
    obtain ⟨tl, a', b', h⟩ := n2_sim k.init a.instantiate b.instantiate acts
    show WF ((n2 k.init a.instantiate b.instantiate).runActs acts).2
    rw [h]
    exact runT_wf _ tl

namespace World

/-- Output of one step as a notification list. -/
def outOf : Obs → List Notif
  | .out ns => ns
  | _ => []

@[simp] theorem run_nil (w : World) : w.run [] = (w, []) := rfl
@[simp] theorem run_cons (w : World) (e : Ext) (r : List Ext) :
    w.run (e :: r) = (((w.step e).1.run r).1, outOf (w.step e).2 ++ ((w.step e).1.run r).2) := rfl

theorem step_subscribed (w : World) (nd : Node) (h : w.root = some nd) (e : Ext) :
    ∃ as, (w.step e).1.root = some (nd.runActs as).1 ∧ outOf (w.step e).2 = (nd.runActs as).2 := by
  obtain ⟨pipe, term, root⟩ := w
  cases h
  cases e with
  | sub | qClosed | qTap => exact ⟨[], rfl, rfl⟩
  | emit i n => exact ⟨_, rfl, rfl⟩
  | unsub => exact ⟨[.unsub], rfl, rfl⟩

theorem step_unsub (w : World) (nd : Node) (h : w.root = some nd) :
    (w.step .unsub).1.root = some nd.unsub := by
  obtain ⟨pipe, term, root⟩ := w
  cases h; rfl

theorem step_sub (w : World) (h : w.root = none) :
    (w.step .sub).1.root = some (w.pipe.instantiate.runActs [.start]).1 ∧
    outOf (w.step .sub).2 = (w.pipe.instantiate.runActs [.start]).2 := by
  obtain ⟨pipe, term, root⟩ := w
  cases h; exact ⟨rfl, rfl⟩

theorem step_idle (w : World) (h : w.root = none) (e : Ext) (he : e ≠ .sub) :
    (w.step e).1.root = none ∧ (w.step e).1.pipe = w.pipe ∧ outOf (w.step e).2 = [] := by
  obtain ⟨pipe, term, root⟩ := w
  cases h
  cases e with
  | sub => exact absurd rfl he
  | emit i n =>
    have : ∀ b : Bool, (if b = true then (⟨pipe, i :: term, none⟩ : World) else ⟨pipe, term, none⟩).root = none ∧
        (if b = true then (⟨pipe, i :: term, none⟩ : World) else ⟨pipe, term, none⟩).pipe = pipe := by
      intro b; cases b <;> exact ⟨rfl, rfl⟩
    exact ⟨(this _).1, (this _).2, rfl⟩
  | unsub | qClosed | qTap => exact ⟨rfl, rfl, rfl⟩

theorem run_subscribed (w : World) (nd : Node) (h : w.root = some nd) (es : List Ext) :
    ∃ acts, (w.run es).1.root = some (nd.runActs acts).1 ∧ (w.run es).2 = (nd.runActs acts).2 := by
  induction es generalizing w nd with
  | nil => exact ⟨[], h, rfl⟩
  | cons e r ih =>
    obtain ⟨as, h1, h2⟩ := step_subscribed w nd h e
    obtain ⟨acts, h3, h4⟩ := ih _ _ h1
    exact ⟨as ++ acts, by simp only [run_cons, runActs_append, h2, h3, h4, and_self]⟩

theorem run_unsubscribed (w : World) (h : w.root = none) (es : List Ext) :
    ((w.run es).1.root = none ∧ (w.run es).2 = []) ∨
    ∃ acts, (w.run es).1.root = some (w.pipe.instantiate.runActs (.start :: acts)).1 ∧
      (w.run es).2 = (w.pipe.instantiate.runActs (.start :: acts)).2 := by
  induction es generalizing w with
  | nil => exact .inl ⟨h, rfl⟩
  | cons e r ih =>
    by_cases he : e = .sub
    · subst he
      obtain ⟨h1, h2⟩ := step_sub w h
      obtain ⟨acts, h3, h4⟩ := run_subscribed _ _ h1 r
      exact .inr ⟨acts, by
        simp only [run_cons, h2, h3, h4, runActs_cons, runActs_nil, List.append_nil, and_self]⟩
    · obtain ⟨h1, h2, h3⟩ := step_idle w h e he
      have := ih _ h1
      rw [h2] at this
      simpa only [run_cons, h3, List.nil_append] using this

end World
end Rx
