import RxModel.Core.Notif
/-
  Logs made of copies of one notification (a broadcast to `m` subscribers), and counting the
  elements of a duplicate-free list that satisfy a predicate at most one element can satisfy.
-/
namespace Rx

theorem WF_replicate_next (m : Nat) (v : Val) (r : List Notif) :
    WF (List.replicate m (.next v) ++ r) ↔ WF r := by
  induction m with
  | zero => simp
  | succ m ih => simpa [List.replicate_succ] using ih

theorem terminated_replicate_next (m : Nat) (v : Val) :
    terminated (List.replicate m (Notif.next v)) = false := by
  induction m with
  | zero => rfl
  | succ m ih => simpa [List.replicate_succ, terminated] using ih

theorem WF_replicate_le_one (m : Nat) (t : Notif) (h : m ≤ 1) : WF (List.replicate m t) := by
  match m, h with
  | 0, _ => simp
  | 1, _ => exact WF_single t

theorem filterMap_ite_const {α β : Type} (q : α → Bool) (b : β) (l : List α) :
    l.filterMap (fun a => if q a then some b else none) = List.replicate (l.countP q) b := by
  induction l with
  | nil => rfl
  | cons a r ih =>
    rw [List.filterMap_cons, List.countP_cons, ih]
    cases q a <;> simp [List.replicate_succ]

theorem countP_le_one {α : Type} (q : α → Bool) (l : List α) (hnd : l.Nodup)
    (hu : ∀ a ∈ l, ∀ b ∈ l, q a = true → q b = true → a = b) : l.countP q ≤ 1 := by
  induction l with
  | nil => simp
  | cons a r ih =>
    have hnd' := List.nodup_cons.1 hnd
    have ihr := ih hnd'.2 fun x hx y hy => hu x (List.mem_cons_of_mem _ hx) y (List.mem_cons_of_mem _ hy)
    rw [List.countP_cons]
    cases ha : q a with
    | false => simpa using ihr
    | true =>
      have : r.countP q = 0 := by
        rw [List.countP_eq_zero]
        intro b hb hqb
        exact hnd'.1 (hu a List.mem_cons_self b (List.mem_cons_of_mem _ hb) ha hqb ▸ hb)
      simp [this]

end Rx
