import RxModel.Lemmas.ChainFifoSubPoll
/-
  C07 over chains with several time stages: the world invariant over the
  FIFO events, the first `sub`, and the final extraction.

  `WInvF kd sf w`: the world `hot 0 → stages → probe` has been subscribed, `sf` is what
  subject 0 has emitted so far (once it has emitted a terminal it is in
  `w.terminated`), and `DynF` holds w.r.t. the items of `gate sf`.
-/
namespace Rx.T
open Rx Rx.Spec

variable {kd : Nat → Option (Option Nat)} {E E' : List Val}

theorem DynF.weaken {w : TW} (D : DynF kd E w) (h : E.Sublist E') : DynF kd E' w := by
  obtain ⟨up, hup, hch⟩ := D.chain
  exact ⟨D.good, D.kinds, D.disc, up, hup.trans h, hch⟩

/-- Subject 0 hands `ns` to stage 0. -/
theorem DynF.push0 {w : TW} (D : DynF kd E w) (ns : List Notif)
    (hE : ∀ up : List Notif, (items up).Sublist E → (items (up ++ ns)).Sublist E') :
    DynF kd E' (w.push 0 ns) := by
  obtain ⟨hf, hkk, hc⟩ := TW.push_zeroF (kd := kd) w ns D.kinds
  obtain ⟨up, hup, hch⟩ := D.chain
  exact ⟨D.good.frame hf, hkk, fun j dl hkd => (D.disc j dl hkd).frame hf hkd, up ++ ns, hE up hup, hc up hch⟩

theorem DynF.adv {w : TW} (D : DynF kd E w) (d : Nat) :
    DynF kd E { w with sched := { w.sched with now := w.sched.now + d } } := by
  refine ⟨D.good.of_tasks rfl, D.kinds, ?_, ?_⟩
  · intro j dl hkd
    refine (D.disc j dl hkd).of_sub (Nat.le_add_right _ _) (TimersLe.of_eq rfl) ?_
    intro k t' hk' hE'
    exact Or.inl ⟨t', hk', hE', rfl, rfl, fun h => Or.inl h⟩
  · obtain ⟨up, hup, hch⟩ := D.chain
    exact ⟨up, hup, hch.anti (fun i _ => (PwLe.of_tasks (s := w.sched) rfl).sublist)⟩

/-- No two-input cell in a chain that has a `ChainF` history. -/
theorem ChainF.noOp2n {P : Nat → List Notif} {up : List Notif} {stages : List Stage} {log : List Notif}
    (h : ChainF P 0 up stages log) : NoOp2n stages := by
  intro st hst a b c d e
  subst e
  obtain ⟨k, hk⟩ := List.getElem?_of_mem hst
  obtain ⟨p, inp, out, hs⟩ := h.get hk
  exact hs

structure WInvF (kd : Nat → Option (Option Nat)) (sf : List Notif) (w : TW) : Prop where
  src : w.src = .hot 0
  subscribed : w.subscribed = true
  srcSubscribed : w.srcSubscribed = true
  term : terminated sf = true → 0 ∈ w.terminated
  dyn : DynF kd (items (gate sf)) w

variable {sf : List Notif} {w : TW}

theorem WInvF.stat {w' : TW} (I : WInvF kd sf w) (S : StatEq w w') (D : DynF kd (items (gate sf)) w') :
    WInvF kd sf w' :=
  ⟨S.1.trans I.src, S.2.1.trans I.subscribed, S.2.2.1.trans I.srcSubscribed,
    fun h => by rw [S.2.2.2]; exact I.term h, D⟩

/-- The world after subject 0 (not yet terminated) emitted `n`, before the notifier inputs. -/
theorem step_emit0_cases (w : TW) (n : Notif) (hsrc : w.src = .hot 0) (h : ¬ 0 ∈ w.terminated)
    (hsub : w.srcSubscribed = true) :
    ∃ w2, w.step (.emit 0 n) = TW.deliverNotifiers w2 0 n w2.stages.length ∧
      (w2 = (if n.isTerm then { w with terminated := 0 :: w.terminated } else w) ∨
       (n.isTerm = false ∧ w2 = w.push 0 [n]) ∨
       (n.isTerm = true ∧
          w2 = ({ w with terminated := 0 :: w.terminated, srcAlive := false } : TW).push 0 [n])) := by
  have hc : w.terminated.contains 0 = false := by simpa using h
  by_cases hal : w.srcAlive = true
  case neg =>
    have hal : w.srcAlive = false := by simpa using hal
    refine ⟨_, ?_, Or.inl rfl⟩
    rw [TW.step_emit, if_neg (by rw [hc]; exact Bool.false_ne_true)]
    unfold TW.emitSrc
    cases n <;> simp [hsrc, hsub, hal, Notif.isTerm]
  case pos =>
    cases n with
    | next v =>
      exact ⟨_, TW.step_emit_next w 0 v hsrc hc hsub hal, Or.inr (Or.inl ⟨rfl, rfl⟩)⟩
    | error e =>
      have := TW.step_emit_term w 0 (.error e) rfl hsrc hc hsub hal
      exact ⟨_, this, Or.inr (Or.inr ⟨rfl, rfl⟩)⟩
    | complete =>
      have := TW.step_emit_term w 0 .complete rfl hsrc hc hsub hal
      exact ⟨_, this, Or.inr (Or.inr ⟨rfl, rfl⟩)⟩

theorem WInvF.noOp2n (I : WInvF kd sf w) : NoOp2n w.stages := by
  obtain ⟨up, _, hch⟩ := I.dyn.chain
  exact hch.noOp2n

theorem WInvF.step (I : WInvF kd sf w) (ev : TW.Ev) (hev : FifoEv ev) :
    WInvF kd (sf ++ scriptOf ev) (w.step ev) := by
  cases hev with
  | adv d =>
    simp only [scriptOf, List.append_nil]
    exact ⟨I.src, I.subscribed, I.srcSubscribed, I.term, I.dyn.adv d⟩
  | run =>
    simp only [scriptOf, List.append_nil]
    obtain ⟨D, S⟩ := runLoop_inv 10000 w I.dyn
    exact I.stat S D
  | emit i n =>
    by_cases hi : i = 0
    · subst hi
      simp only [scriptOf, if_true]
      by_cases hmem : 0 ∈ w.terminated
      · rw [TW.step_emit_ignored w 0 n (by simpa using hmem)]
        exact ⟨I.src, I.subscribed, I.srcSubscribed, fun _ => hmem, I.dyn.weaken (items_gate_mono sf [n])⟩
      · have hT : terminated sf = false := by
          cases hT : terminated sf with
          | false => rfl
          | true => exact absurd (I.term hT) hmem
        obtain ⟨w2, hstep, hw2⟩ := step_emit0_cases w n I.src hmem I.srcSubscribed
        have hE := items_gate_snoc sf n hT
        have hTn := terminated_snoc sf n hT
        -- the invariant of the world before the notifier inputs
        have I2 : WInvF kd (sf ++ [n]) w2 := by
          rcases hw2 with rfl | ⟨hn, rfl⟩ | ⟨hn, rfl⟩
          · cases hn : n.isTerm with
            | true =>
              simp only [if_true]
              exact ⟨I.src, I.subscribed, I.srcSubscribed, fun _ => List.mem_cons_self ..,
                let D := I.dyn.weaken (items_gate_mono sf [n]); ⟨D.good, D.kinds, D.disc, D.chain⟩⟩
            | false =>
              simp only [Bool.false_eq_true, if_false]
              exact ⟨I.src, I.subscribed, I.srcSubscribed,
                (fun h => by rw [hTn, hn] at h; cases h), I.dyn.weaken (items_gate_mono sf [n])⟩
          · refine ⟨I.src, I.subscribed, I.srcSubscribed, (fun h => by rw [hTn, hn] at h; cases h), ?_⟩
            refine I.dyn.push0 [n] (fun up hup => ?_)
            rw [hE, items_append]
            exact List.Sublist.append hup (List.Sublist.refl _)
          · have D0 : DynF kd (items (gate sf))
                ({ w with terminated := 0 :: w.terminated, srcAlive := false } : TW) :=
              ⟨I.dyn.good, I.dyn.kinds, I.dyn.disc, I.dyn.chain⟩
            refine ⟨I.src, I.subscribed, I.srcSubscribed, fun _ => List.mem_cons_self .., ?_⟩
            refine D0.push0 [n] (fun up hup => ?_)
            rw [hE, items_append]
            exact List.Sublist.append hup (List.Sublist.refl _)
        rw [hstep, TW.deliverNotifiers_noop w2 0 n I2.noOp2n]
        exact I2
    · have hs : scriptOf (.emit i n) = [] := by simp [scriptOf, hi]
      rw [hs, List.append_nil, TW.step_emit_other w i 0 n I.src hi I.noOp2n]
      split
      · exact I
      · split
        · exact ⟨I.src, I.subscribed, I.srcSubscribed, fun h => List.mem_cons_of_mem _ (I.term h),
            ⟨I.dyn.good, I.dyn.kinds, I.dyn.disc, I.dyn.chain⟩⟩
        · exact I

/-- The per-subscription initial state of a filtering single-input operator, of debounce,
    throttle (any edge mode), observe_on, or delay. -/
def Stage.InitF : Stage → Prop
  | .op1 st => ∃ op : Op1, op.filtering = true ∧ st = op.init
  | .debounce _ alive tr h => alive = true ∧ tr = none ∧ h = none
  | .throttle _ _ alive tr h => alive = true ∧ tr = none ∧ h = none
  | .observeOn alive multi => alive = true ∧ multi = some []
  | .delay _ alive multi => alive = true ∧ multi = some []
  | _ => False

theorem Stage.InitF.subF {st : Stage} (h : st.InitF) : SubF [] st [] [] := by
  cases st with
  | op1 o =>
    obtain ⟨op, hf, rfl⟩ := h
    exact ⟨by rw [op.init_filtering]; exact hf, by rw [op.init_held]; exact List.Sublist.refl _⟩
  | debounce d a tr hd => obtain ⟨_, rfl, _⟩ := h; exact List.Sublist.refl _
  | throttle d e a tr hd => obtain ⟨_, rfl, _⟩ := h; exact List.Sublist.refl _
  | observeOn a m => exact List.Sublist.refl _
  | delay d a m => exact List.Sublist.refl _
  | _ => exact h.elim

theorem Stage.InitF.initial {st : Stage} (h : st.InitF) : st.Initial := by
  cases st with
  | op1 o => obtain ⟨op, _, rfl⟩ := h; exact ⟨op, rfl⟩
  | debounce d a tr hd => exact h
  | throttle d e a tr hd => exact h
  | observeOn a m => exact h
  | delay d a m => exact h
  | _ => exact h.elim

/-- The same class, spelled out. -/
theorem Stage.initF_of_cases {st : Stage}
    (h : (∃ op : Op1, op.filtering = true ∧ st = .op1 (Op1.init op)) ∨
      (∃ d, st = .debounce d true none none) ∨
      (∃ d e, st = .throttle d e true none none) ∨
      st = .observeOn true (some []) ∨
      (∃ d, st = .delay d true (some []))) : st.InitF := by
  rcases h with ⟨op, hf, rfl⟩ | ⟨d, rfl⟩ | ⟨d, e, rfl⟩ | rfl | ⟨d, rfl⟩
  · exact ⟨op, hf, rfl⟩
  · exact ⟨rfl, rfl, rfl⟩
  · exact ⟨rfl, rfl, rfl⟩
  · exact ⟨rfl, rfl⟩
  · exact ⟨rfl, rfl⟩

theorem Stage.InitF.simple {st : Stage} (h : st.InitF) : st.simpleF = true := by
  cases st <;> first | rfl | exact h.elim

/-- Where the movers of the initial stage list sit. -/
def kdOf (stages : List Stage) (i : Nat) : Option (Option Nat) :=
  match stages[i]? with
  | some st => dlOf st
  | none => none

/-- The world `hot 0 → stages → probe`, subscribed, then driven by `evs`. -/
def chainRunF (stages : List Stage) (evs : List TW.Ev) : TW :=
  evs.foldl TW.step (TW.step { src := .hot 0, stages := stages } .sub)

theorem chainRunF_eq (stages : List Stage) (evs : List TW.Ev) :
    chainRunF stages evs = (TW.Ev.sub :: evs).foldl TW.step { src := .hot 0, stages := stages } := rfl

theorem WInvF.init (stages : List Stage) (hs : ∀ st ∈ stages, st.InitF) :
    WInvF (kdOf stages) [] (TW.step { src := .hot 0, stages := stages } .sub) := by
  have e : TW.step { src := .hot 0, stages := stages } .sub
      = { src := .hot 0, stages := stages, subscribed := true, srcSubscribed := true, srcAlive := true } := by
    have e1 : TW.step { src := .hot 0, stages := stages } .sub
        = TW.subscribeFrom { src := .hot 0, stages := stages, subscribed := true } stages.length := rfl
    rw [e1, subscribeFrom_simple _ (fun st h => (hs st h).simple)]
    rfl
  rw [e]
  refine ⟨rfl, rfl, rfl, fun h => by simp [terminated] at h, ?_, ?_, ?_, ?_⟩
  · intro k t hk; simp at hk
  · intro i st hi
    simp only [kdOf, Nat.zero_add]
    rw [hi]
  · intro j dl _
    exact Disc.empty j dl _ rfl
  · exact ⟨[], List.Sublist.refl _, ChainF.initial _ (fun i => rfl) 0 stages (fun st h => (hs st h).subF)⟩

/-- The main extraction: under the FIFO executor the items at the probe are a subsequence
    of the items subject 0 emitted before its first terminal. -/
theorem multi_final (stages : List Stage) (hs : ∀ st ∈ stages, st.InitF) (evs : List TW.Ev)
    (hev : ∀ e ∈ evs, FifoEv e) :
    (items (chainRunF stages evs).log).Sublist (items (gate (script evs))) := by
  have I := fold_indexed (fun s e => s ++ scriptOf e) TW.step (fun s w => WInvF (kdOf stages) s w)
    (fun s w e he I => I.step e he) evs [] _ hev (WInvF.init stages hs)
  rw [foldl_script] at I
  obtain ⟨up, hup, hch⟩ := I.dyn.chain
  simp only [List.nil_append] at hup
  exact hch.items_sublist.trans hup

end Rx.T
