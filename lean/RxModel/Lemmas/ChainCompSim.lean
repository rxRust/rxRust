import RxModel.Lemmas.ChainCompCascade
import RxModel.Lemmas.ChainCompSched
import RxModel.Lemmas.ChainFifoBase
/-
  C07C: the simulation.  A world with stages `pre ++ [T] ++ post` (`T` a
  scheduler-moving stage, `pre` / `post` single-input observers) is `lift`ed from the
  one-stage world `[T]`: same stage `T`, same scheduler up to the renaming of the task
  bodies (`Sched.shift`), the `post` observers and the probe log are what `post` makes of
  the one-stage world's probe log.  Every executor move (`pollTask`, firing timers,
  `pollAll`, `runLoop`) commutes with `lift`; feeding a notification at the head is feeding
  the one-stage world what `pre` outputs.
-/
namespace Rx.T
open Rx

/-- The one-stage worlds considered: one mover, only slot calls of stage 0 in the scheduler. -/
structure One1 (w : TW) : Prop where
  stage : ∃ T, w.stages = [T] ∧ T.isMover = true
  emitOnly : w.sched.EmitOnly

theorem One1.setSched {w : TW} (h : One1 w) (s : Sched) (hs : s.EmitOnly) : One1 { w with sched := s } :=
  ⟨h.stage, hs⟩

/-- One poll of a task on a one-stage world, in closed form. -/
theorem pollTask_one1 (w : TW) (h : One1 w) (k : TaskId) :
    ∃ T' out s', w.pollTask k = { w with sched := s', stages := [T'], log := w.log ++ out } ∧
      T'.isMover = true ∧ s'.EmitOnly := by
  obtain ⟨⟨T, hs, hT⟩, he⟩ := h
  have hp := he.pollPre k
  unfold TW.pollTask
  generalize w.sched.pollPre k = r at hp
  obtain ⟨s1, p⟩ := r
  obtain ⟨hs1, hp⟩ := hp
  rcases hp with hp | ⟨n, hp⟩
  · simp only at hp; subst hp
    refine ⟨T, [], s1, ?_, hT, hs1⟩
    simp [hs]
  · simp only at hp; subst hp
    have hw : ({ w with sched := s1 } : TW).stages = [T] := hs
    simp only [Body.isAsync, Bool.false_eq_true, if_false]
    rw [runBody_one1 _ T hw hT n]
    refine ⟨_, _, _, rfl, ?_, hs1.finishOnce k⟩
    split
    · exact T.mKill_mover hT
    · exact hT

theorem One1.pollTask {w : TW} (h : One1 w) (k : TaskId) : One1 (w.pollTask k) := by
  obtain ⟨T', out, s', e, hT, hs⟩ := pollTask_one1 w h k
  rw [e]; exact ⟨⟨T', rfl, hT⟩, hs⟩

theorem pollTask_one1_log (w : TW) (h : One1 w) (k : TaskId) : w.log <+: (w.pollTask k).log := by
  obtain ⟨T', out, s', e, _, _⟩ := pollTask_one1 w h k
  rw [e]; exact List.prefix_append _ _

theorem One1.keeps_poll (L : List Notif) (w : TW) (k : TaskId) (h : One1 w ∧ L <+: w.log) :
    One1 (w.pollTask k) ∧ L <+: (w.pollTask k).log :=
  ⟨h.1.pollTask k, h.2.trans (pollTask_one1_log w h.1 k)⟩

theorem One1.keeps_fire (L : List Notif) (w : TW) (tm : TimerId) (h : One1 w ∧ L <+: w.log) :
    One1 { w with sched := w.sched.fire tm } ∧ L <+: w.log :=
  ⟨h.1.setSched _ (h.1.emitOnly.fire tm), h.2⟩

theorem One1.pollAll (l : List TaskId) {w : TW} (h : One1 w) : One1 (w.pollAll l) ∧ w.log <+: (w.pollAll l).log :=
  TW.pollAll_keeps (P := fun w' => One1 w' ∧ w.log <+: w'.log) (One1.keeps_poll w.log) l w
    ⟨h, List.prefix_refl _⟩

theorem One1.runLoop (f : Nat) {w : TW} (h : One1 w) : One1 (TW.runLoop f w) ∧ w.log <+: (TW.runLoop f w).log :=
  TW.runLoop_keeps (P := fun w' => One1 w' ∧ w.log <+: w'.log) (One1.keeps_poll w.log) (One1.keeps_fire w.log)
    f w ⟨h, List.prefix_refl _⟩

def readyOf (s : Sched) : List TaskId :=
  s.liveTasks.filter fun k => match s.tasks[k]? with | some t => t.woken | none => false

def lift (post0 : List St1) (j : Nat) (base : TW) (preS : List St1) (w1 : TW) : TW :=
  { base with sched := w1.sched.shift j,
              stages := preS.map .op1 ++ (w1.stages ++ (runChain post0 w1.log).1.map .op1),
              log := (runChain post0 w1.log).2 }

theorem lift_congr (post0 : List St1) (j : Nat) (base : TW) (preS : List St1) (w1 w1' : TW)
    (h1 : w1.sched = w1'.sched) (h2 : w1.stages = w1'.stages) (h3 : w1.log = w1'.log) :
    lift post0 j base preS w1 = lift post0 j base preS w1' := by
  simp only [lift, h1, h2, h3]

theorem lift_stages (post0 : List St1) (j : Nat) (base : TW) (preS : List St1) (w1 : TW) (T : Stage)
    (hs : w1.stages = [T]) :
    (lift post0 j base preS w1).stages =
      preS.map .op1 ++ T :: (runChain post0 w1.log).1.map .op1 := by
  simp [lift, hs]

theorem lift_get (post0 : List St1) (j : Nat) (base : TW) (preS : List St1) (w1 : TW) (T : Stage)
    (hs : w1.stages = [T]) (hj : preS.length = j) :
    (lift post0 j base preS w1).stages[j]? = some T := by
  rw [lift_stages _ _ _ _ _ T hs]
  simp [hj]

/-- Delivering to the first `post` observer = delivering to the probe of the one-stage world. -/
theorem push_lift_post (post0 : List St1) (hc : calmSt post0) (j : Nat) (base : TW) (preS : List St1)
    (w1 : TW) (T : Stage) (hs : w1.stages = [T]) (hj : preS.length = j) (n : Notif) :
    (lift post0 j base preS w1).push (j + 1) [n] =
      lift post0 j base preS { w1 with log := w1.log ++ [n] } := by
  have hP := calmSt_runChain post0 w1.log hc
  unfold TW.push
  rw [lift_stages _ _ _ _ _ T hs, take_mid _ _ _ _ (by simpa using hj), drop_mid _ _ _ _ (by simpa using hj)]
  unfold cascade
  rw [cascadeF_op1 _ _ rfl hP [n] (j + 1) _ _ (by simp; omega)]
  simp only [lift, hs, runChain_append]
  simp

theorem setStage_lift (post0 : List St1) (j : Nat) (base : TW) (preS : List St1)
    (w1 : TW) (T T' : Stage) (hs : w1.stages = [T]) (hj : preS.length = j) :
    (lift post0 j base preS w1).setStage j T' = lift post0 j base preS { w1 with stages := [T'] } := by
  unfold TW.setStage
  rw [lift_stages _ _ _ _ _ T hs]
  have := set_mid (preS.map Stage.op1) ((runChain post0 w1.log).1.map .op1) T T'
  simp only [List.length_map, hj] at this
  rw [this]
  simp [lift]

theorem runBody_lift (post0 : List St1) (hc : calmSt post0) (j : Nat) (base : TW) (preS : List St1)
    (w1 : TW) (T : Stage) (hs : w1.stages = [T]) (hT : T.isMover = true) (hj : preS.length = j) (n : Notif) :
    (lift post0 j base preS w1).runBody (.emit j n) = lift post0 j base preS (w1.runBody (.emit 0 n)) := by
  rw [runBody_one1 w1 T hs hT n, TW.runBody_mover _ j T (lift_get post0 j base preS w1 T hs hj) hT n]
  cases hA : T.mAlive with
  | false =>
    simp only [Bool.false_and, Bool.false_eq_true, if_false, List.append_nil]
    exact lift_congr _ _ _ _ _ _ rfl hs rfl
  | true =>
    simp only [Bool.true_and, if_true]
    cases hn : n.isTerm with
    | false =>
      simp only [Bool.false_eq_true, if_false]
      rw [push_lift_post post0 hc j base preS w1 _ hs hj n]
      exact lift_congr _ _ _ _ _ _ rfl hs rfl
    | true =>
      simp only [if_true]
      rw [setStage_lift post0 j base preS w1 _ _ hs hj,
        push_lift_post post0 hc j base preS _ _ rfl hj n]

theorem lift_setSched (post0 : List St1) (j : Nat) (base : TW) (preS : List St1) (w1 : TW) (s : Sched) :
    ({ lift post0 j base preS w1 with sched := s.shift j } : TW) = lift post0 j base preS { w1 with sched := s } :=
  rfl

theorem pollTask_lift (post0 : List St1) (hc : calmSt post0) (j : Nat) (base : TW) (preS : List St1)
    (w1 : TW) (h : One1 w1) (hj : preS.length = j) (k : TaskId) :
    (lift post0 j base preS w1).pollTask k = lift post0 j base preS (w1.pollTask k) := by
  obtain ⟨⟨T, hs, hT⟩, he⟩ := h
  have hp := he.pollPre k
  unfold TW.pollTask
  have e0 : (lift post0 j base preS w1).sched = w1.sched.shift j := rfl
  rw [e0, Sched.shift_pollPre]
  generalize w1.sched.pollPre k = r at hp
  obtain ⟨s1, p⟩ := r
  obtain ⟨hs1, hp⟩ := hp
  rcases hp with hp | ⟨n, hp⟩
  · simp only at hp; subst hp
    rfl
  · simp only at hp; subst hp
    simp only [Sched.Poll.shift, shiftBody, Nat.zero_add, Body.isAsync, Bool.false_eq_true, if_false]
    have hs' : ({ w1 with sched := s1 } : TW).stages = [T] := hs
    rw [lift_setSched, runBody_lift post0 hc j base preS _ T hs' hT hj n]
    show ({ lift post0 j base preS _ with sched := Sched.finishOnce (Sched.shift _ j) k } : TW) = _
    rw [Sched.shift_finishOnce]
    rfl

theorem pollAll_lift (post0 : List St1) (hc : calmSt post0) (j : Nat) (base : TW) (preS : List St1)
    (hj : preS.length = j) (l : List TaskId) : ∀ (w1 : TW), One1 w1 →
    (lift post0 j base preS w1).pollAll l = lift post0 j base preS (w1.pollAll l) := by
  induction l with
  | nil => intro w1 _; rfl
  | cons k r ih =>
    intro w1 h
    unfold TW.pollAll
    have e0 : (lift post0 j base preS w1).sched.tasks[k]? = (w1.sched.tasks[k]?).map (shiftTask j) :=
      Sched.shift_get _ _ _
    rw [e0]
    cases ht : w1.sched.tasks[k]? with
    | none => simp only [Option.map_none]; exact ih w1 h
    | some t =>
      simp only [Option.map_some, Sched.shiftTask_done]
      by_cases hd : t.done = true
      · simp only [hd, Bool.not_true, Bool.false_eq_true, if_false]
        exact ih w1 h
      · have hd' : t.done = false := by simpa using hd
        simp only [hd', Bool.not_false, if_true]
        rw [pollTask_lift post0 hc j base preS w1 h hj k]
        exact ih _ (h.pollTask k)

theorem runLoop_lift (post0 : List St1) (hc : calmSt post0) (j : Nat) (base : TW) (preS : List St1)
    (hj : preS.length = j) (f : Nat) : ∀ (w1 : TW), One1 w1 →
    TW.runLoop f (lift post0 j base preS w1) = lift post0 j base preS (TW.runLoop f w1) := by
  induction f with
  | zero => intro w1 _; rfl
  | succ f ih =>
    intro w1 h
    rw [TW.runLoop_succ, TW.runLoop_succ]
    show (if _ && (readyOf _).isEmpty then _ else TW.runLoop f (TW.pollAll _ (readyOf _))) =
      lift post0 j base preS (if _ && (readyOf _).isEmpty then _ else TW.runLoop f (TW.pollAll _ (readyOf _)))
    have e0 : (lift post0 j base preS w1).sched = w1.sched.shift j := rfl
    have e2 : ∀ s : Sched, readyOf (s.shift j) = readyOf s := fun s => Sched.shift_ready s j
    simp only [e0, Sched.shift_dueTimers, Sched.shift_fireAll, e2]
    rw [lift_setSched]
    have h1 : One1 { w1 with sched := w1.sched.dueTimers.foldl Sched.fire w1.sched } :=
      h.setSched _ (h.emitOnly.fireAll _)
    split
    · rfl
    · rw [pollAll_lift post0 hc j base preS hj _ _ h1]
      exact ih _ (One1.pollAll _ h1).1

/-- The one-stage world after its stage received `mid` (directly, not through the subject). -/
theorem push_many_one1 (mid : List Notif) : ∀ (w : TW) (T : Stage), w.stages = [T] → T.isMover = true →
    mid.foldl (fun w m => w.push 0 [m]) w =
      { w with stages := [(mid.foldl (feedT 0) (T, [], w.sched)).1],
               sched := (mid.foldl (feedT 0) (T, [], w.sched)).2.2,
               log := w.log ++ (mid.foldl (feedT 0) (T, [], w.sched)).2.1 } := by
  induction mid with
  | nil => intro w T hs _; cases w; simp_all
  | cons m r ih =>
    intro w T hs hT
    have hm := T.onNotif_mover hT 0 m w.sched
    simp only [List.foldl_cons]
    rw [TW.push_zero w T m hs, Stage.afterEmit_mover _ hm.1]
    rw [ih _ (T.onNotif 0 m w.sched).1 rfl hm.1]
    simp only [feedT, List.nil_append]
    rw [feedT_acc 0 r _ ((T.onNotif 0 m w.sched).2.1)]
    simp [List.append_assoc]

theorem Stage.onNotif_shift (T : Stage) (hT : T.isMover = true) (j : Nat) (m : Notif) (s : Sched) :
    T.onNotif j m (s.shift j) = ((T.onNotif 0 m s).1, (T.onNotif 0 m s).2.1, (T.onNotif 0 m s).2.2.shift j) := by
  have e : ∀ n, Body.emit j n = shiftBody j (.emit 0 n) := by intro n; simp [shiftBody]
  cases T with
  | delay d a mu =>
    rcases error_or m with ⟨er, rfl⟩ | hm
    · rfl
    · rw [Stage.onNotif_delay_item _ _ _ _ _ _ hm, Stage.onNotif_delay_item _ _ _ _ _ _ hm, e,
        Sched.shift_scheduleOnce]
  | observeOn a mu => rw [Stage.onNotif_observeOn, Stage.onNotif_observeOn, e, Sched.shift_scheduleOnce]
  | _ => cases hT

theorem feedT_shift (j : Nat) (mid : List Notif) : ∀ (T : Stage) (acc : List Notif) (s : Sched), T.isMover = true →
    mid.foldl (feedT j) (T, acc, s.shift j) =
      ((mid.foldl (feedT 0) (T, acc, s)).1, (mid.foldl (feedT 0) (T, acc, s)).2.1,
       (mid.foldl (feedT 0) (T, acc, s)).2.2.shift j) := by
  induction mid with
  | nil => intro T acc s _; rfl
  | cons m r ih =>
    intro T acc s hT
    simp only [List.foldl_cons, feedT]
    rw [T.onNotif_shift hT j m s]
    exact ih _ _ _ (T.onNotif_mover hT 0 m s).1

/-- Feeding a notification at the head of the lifted world = feeding the one-stage world
    what `pre` outputs for it. -/
theorem push_lift_head (post0 : List St1) (hc : calmSt post0) (j : Nat) (base : TW) (preS : List St1)
    (hcp : calmSt preS) (w1 : TW) (T : Stage) (hs : w1.stages = [T]) (hT : T.isMover = true)
    (hj : preS.length = j) (n : Notif) :
    (lift post0 j base preS w1).push 0 [n] =
      lift post0 j base (runChain preS [n]).1
        ((runChain preS [n]).2.foldl (fun w m => w.push 0 [m]) w1) := by
  have hP := calmSt_runChain post0 w1.log hc
  rw [push_many_one1 _ w1 T hs hT]
  unfold TW.push
  simp only [List.take_zero, List.drop_zero, List.nil_append]
  rw [lift_stages _ _ _ _ _ T hs]
  unfold cascade
  rw [cascadeF_comp j preS hj hcp [n] T hT _ hP 0 _ _
    (by simp [runChain_length, hj]; omega)]
  simp only [Nat.zero_add]
  have e0 : (lift post0 j base preS w1).sched = w1.sched.shift j := rfl
  rw [e0, feedT_shift j _ T [] w1.sched hT]
  simp only [lift, runChain_append]
  simp

end Rx.T
