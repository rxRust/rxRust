import RxModel.Lemmas.ChainFifoBase
import RxModel.Lemmas.Sched
/-
  C07 (FIFO clause), `delay d` over a hot source: the concrete worlds in closed form.

  A world reachable from `{ src := .hot 0, stages := [.delay d true (some [])] }`
  is described by `DA`: per task that has been polled at least once a phase
  (`armed`: awaiting its timer; `ready`: timer fired, task woken; `done`: body has
  run) and the clock value at which its timer was armed; the tasks not yet polled
  (`F`); the slot; the log.  Task k owns timer k.  `te` (clock at emission) is a
  ghost field: `mkW` does not look at it.  The executor's loop on `DA` keeps the FIFO
  shape `Core` (done tasks, then armed tasks with non-decreasing arm times, then fresh
  tasks) and is quiescent after at most two passes.
-/
namespace Rx.T.Del
open Rx Rx.T

inductive Ph where
  | done | ready | armed
  deriving DecidableEq, Repr

structure DE where
  n : Notif
  te : Nat      -- ghost: clock at emission
  ta : Nat      -- clock at the first poll (the timer is due at `ta + d`)

structure FE where
  n : Notif
  te : Nat      -- ghost: clock at emission

def taskOf (k : Nat) (x : Ph × DE) : Task :=
  match x.1 with
  | .done => { body := .emit 0 x.2.n, hasValue := true, done := true, woken := false }
  | .ready => { body := .emit 0 x.2.n, woken := true, outerTimer := some k }
  | .armed => { body := .emit 0 x.2.n, woken := false, outerTimer := some k }

def timerOf (d : Nat) (k : Nat) (x : Ph × DE) : Timer :=
  { dur := d, due := x.2.ta + d, fired := x.1 != .armed, owner := k, registered := true }

def freshT (d : Nat) (e : FE) : Task := { body := .emit 0 e.n, outerDelay := some d }

structure DA where
  now : Nat := 0
  q : List (Ph × DE) := []
  F : List FE := []
  alive : Bool := true
  log : List Notif := []
  term : Bool := false       -- subject 0 has seen a terminal

def mkS (d : Nat) (now : Nat) (q : List (Ph × DE)) (F : List FE) : Sched :=
  { now := now, timers := mapK (timerOf d) 0 q, tasks := mapK taskOf 0 q ++ F.map (freshT d) }

def mkW (d : Nat) (base : TW) (a : DA) (m : Option (List TaskId)) : TW :=
  { base with sched := mkS d a.now a.q a.F, stages := [.delay d a.alive m], log := a.log }

theorem mkW_congr (d : Nat) (base : TW) (a a' : DA) (m) (h1 : a.now = a'.now) (h2 : a.q = a'.q)
    (h3 : a.F = a'.F) (h4 : a.alive = a'.alive) (h5 : a.log = a'.log) :
    mkW d base a m = mkW d base a' m := by
  cases a; cases a'; simp_all [mkW]

theorem timers_get (d now q F k) (x : Ph × DE) (h : q[k]? = some x) :
    (mkS d now q F).timers[k]? = some (timerOf d k x) := by
  simp [mkS, mapK_get, h]

theorem tasks_get (d now q F k) (x : Ph × DE) (h : q[k]? = some x) :
    (mkS d now q F).tasks[k]? = some (taskOf k x) := by
  have hk : k < q.length := (List.getElem?_eq_some_iff.mp h).1
  simp only [mkS]
  rw [List.getElem?_append_left (by simpa using hk)]
  simp [mapK_get, h]

theorem tasks_get_fresh (d now q) (e : FE) (F : List FE) :
    (mkS d now q (e :: F)).tasks[q.length]? = some (freshT d e) := by
  simp [mkS]

theorem fire_eq (s : Sched) (k : TimerId) (t : Timer) (tk : Task) (h1 : s.timers[k]? = some t)
    (hr : t.registered = true) (h2 : s.tasks[t.owner]? = some tk) :
    s.fire k = { s with timers := s.timers.set k { t with fired := true },
                        tasks := s.tasks.set t.owner { tk with woken := true } } := by
  simp [Sched.fire, h1, hr, Sched.setTimer, Sched.setTask, h2]

theorem fire_armed (d now q F k) (e : DE) (h : q[k]? = some (.armed, e)) :
    (mkS d now q F).fire k = mkS d now (q.set k (.ready, e)) F := by
  have hk : k < q.length := (List.getElem?_eq_some_iff.mp h).1
  have h1 := timers_get d now q F k _ h
  have h2 := tasks_get d now q F k _ h
  rw [fire_eq _ k _ _ h1 rfl h2]
  have e1 : ({ timerOf d k (.armed, e) with fired := true } : Timer) = timerOf d (0 + k) (.ready, e) := by
    simp [timerOf]
  have e2 : ({ taskOf k (.armed, e) with woken := true } : Task) = taskOf (0 + k) (.ready, e) := by
    simp [taskOf]
  have e3 : (timerOf d k (.armed, e)).owner = k := rfl
  rw [e1, e2, e3]
  simp only [mkS]
  rw [List.set_append_left _ _ (by simpa using hk), mapK_set, mapK_set]

def isDue (d now : Nat) (x : Ph × DE) : Bool := x.1 == .armed && decide (x.2.ta + d ≤ now)

/-- Firing the timer of an armed task whose delay is over. -/
def fireDue (d now : Nat) (x : Ph × DE) : Ph × DE := if isDue d now x then (.ready, x.2) else x

theorem dueTimers_mkS (d now q F) : (mkS d now q F).dueTimers = idxs (isDue d now) q 0 := by
  rw [Sched.dueTimers_eq]
  apply idxs_mapK
  intro i x
  obtain ⟨ph, e⟩ := x
  cases ph <;> simp [timerOf, isDue, mkS] <;> rfl

theorem fold_fire (d now : Nat) (F : List FE) : ∀ (l pre : List (Ph × DE)),
    (idxs (isDue d now) l pre.length).foldl Sched.fire (mkS d now (pre ++ l) F)
      = mkS d now (pre ++ l.map (fireDue d now)) F := by
  intro l
  induction l with
  | nil => intro pre; rfl
  | cons x xs ih =>
    intro pre
    have hpre : ∀ y : Ph × DE, pre ++ y :: xs = (pre ++ [y]) ++ xs := by intro y; simp
    cases hx : isDue d now x with
    | false =>
      have := ih (pre ++ [x])
      simp only [List.length_append, List.length_singleton] at this
      simp only [idxs, hx, Bool.false_eq_true, if_false, List.map_cons, fireDue]
      rw [hpre x, this]; simp
    | true =>
      obtain ⟨ph, e⟩ := x
      have hph : ph = .armed := by
        simp only [isDue, Bool.and_eq_true, beq_iff_eq] at hx; exact hx.1
      subst hph
      have := ih (pre ++ [(.ready, e)])
      simp only [List.length_append, List.length_singleton] at this
      simp only [idxs, hx, if_true, List.map_cons, fireDue, List.foldl_cons]
      rw [fire_armed d now _ F pre.length e (get_mid pre xs _), set_mid, hpre, this]; simp

theorem finishOnce_eq (s : Sched) (k : TaskId) (t : Task) (h : s.tasks[k]? = some t) :
    s.finishOnce k = { s with tasks := s.tasks.set k { t with done := true, hasValue := true } } := by
  simp [Sched.finishOnce, h, Sched.setTask]

/-- The task between `pollPre` and `finishOnce`. -/
def runT (k : Nat) (e : DE) : Task := { taskOf k (.ready, e) with woken := false, outerTimer := none }

/-- The body of a ready task runs: its notification passes the slot if that is alive. -/
theorem pollTask_ready (d : Nat) (base : TW) (a : DA) (m) (k : Nat) (e : DE)
    (h : a.q[k]? = some (.ready, e)) :
    (mkW d base a m).pollTask k =
      mkW d base { a with q := a.q.set k (.done, e), alive := a.alive && !e.n.isTerm,
                          log := a.log ++ (if a.alive then [e.n] else []) } m := by
  have hk : k < a.q.length := (List.getElem?_eq_some_iff.mp h).1
  have h1 := timers_get d a.now a.q a.F k _ h
  have h2 := tasks_get d a.now a.q a.F k _ h
  have hf : (mkS d a.now a.q a.F).timerFired k = true := by
    simp [Sched.timerFired, h1, timerOf]
  have hp : (mkS d a.now a.q a.F).pollPre k
      = ((mkS d a.now a.q a.F).setTask k (runT k e), .runOnce (.emit 0 e.n)) :=
    Sched.pollPre_once (s := mkS d a.now a.q a.F) (k := k) h2 rfl rfl rfl (fun tm e => by cases e; exact hf) rfl
  have hfin := finishOnce_eq ((mkS d a.now a.q a.F).setTask k (runT k e)) k (runT k e)
      (Sched.setTask_get_self _ _ _ _ h2)
  have e2 : ({ runT k e with done := true, hasValue := true } : Task)
      = taskOf (0 + k) (.done, e) := by simp [taskOf, runT]
  have htasks : ((mkS d a.now a.q a.F).setTask k (runT k e)).finishOnce k
      = mkS d a.now (a.q.set k (.done, e)) a.F := by
    have e3 : mapK (timerOf d) 0 (a.q.set k (.done, e)) = mapK (timerOf d) 0 a.q := by
      rw [← mapK_set]
      apply set_get_same
      have e4 : timerOf d (0 + k) (.done, e) = timerOf d k (.ready, e) := by
        rw [Nat.zero_add]; rfl
      rw [e4]; exact h1
    rw [hfin, e2]
    simp only [Sched.setTask, mkS, List.set_set]
    rw [List.set_append_left _ _ (by simpa using hk), mapK_set, e3]
  have hst : (if (Stage.delay d a.alive m).mAlive && e.n.isTerm then (Stage.delay d a.alive m).mKill
      else .delay d a.alive m) = .delay d (a.alive && !e.n.isTerm) m := by
    cases a.alive <;> cases e.n.isTerm <;> rfl
  unfold TW.pollTask
  have hs : (mkW d base a m).sched = mkS d a.now a.q a.F := rfl
  rw [hs, hp]
  simp only [Body.isAsync, Bool.false_eq_true, if_false]
  rw [runBody_one1 _ (.delay d a.alive m) rfl rfl e.n, hst]
  simp [mkW, Stage.mAlive, htasks]
  rfl

/-- The first poll of a task: its delay timer is armed (due `now + d`) and registered. -/
theorem pollTask_fresh (d : Nat) (base : TW) (a : DA) (m) (fe : FE) (F' : List FE) (hF : a.F = fe :: F') :
    (mkW d base a m).pollTask a.q.length =
      mkW d base { a with q := a.q ++ [(.armed, ⟨fe.n, fe.te, a.now⟩)], F := F' } m := by
  have hget := tasks_get_fresh d a.now a.q fe F'
  have hp := Sched.pollPre_arm (s := mkS d a.now a.q (fe :: F')) (k := a.q.length) (t := freshT d fe) (d := d) hget rfl rfl rfl
  have hs : (mkW d base a m).sched = mkS d a.now a.q (fe :: F') := by simp [mkW, hF]
  unfold TW.pollTask
  rw [hs, hp]
  simp only []
  have hlen : (mkS d a.now a.q (fe :: F')).timers.length = a.q.length := by simp [mkS]
  rw [hlen]
  have : (((mkS d a.now a.q (fe :: F')).newTimer d a.q.length).1.registerTimer a.q.length).setTask a.q.length
        { freshT d fe with woken := false, outerDelay := none, outerTimer := some a.q.length }
      = mkS d a.now (a.q ++ [(.armed, ⟨fe.n, fe.te, a.now⟩)]) F' := by
    simp [mkS, Sched.newTimer, Sched.registerTimer, Sched.setTimer, Sched.setTask, mapK_append, mapK,
      timerOf, taskOf, freshT]
  rw [this]
  rfl

def isReady (x : Ph × DE) : Bool := x.1 == .ready

/-- The body of a ready task has run. -/
def runR (x : Ph × DE) : Ph × DE := if isReady x then (.done, x.2) else x

/-- The notifications of the ready tasks, in task order. -/
def readyNotifs (l : List (Ph × DE)) : List Notif := (l.filter isReady).map (·.2.n)

def armNow (now : Nat) (fe : FE) : Ph × DE := (.armed, ⟨fe.n, fe.te, now⟩)

theorem pollAll_ready (d : Nat) (base : TW) (m) : ∀ (l pre : List (Ph × DE)) (a : DA), a.q = pre ++ l →
    (mkW d base a m).pollAll (idxs isReady l pre.length) =
      mkW d base { a with q := pre ++ l.map runR, alive := (deliver a.alive (readyNotifs l)).1,
                          log := a.log ++ (deliver a.alive (readyNotifs l)).2 } m := by
  intro l
  induction l with
  | nil =>
    intro pre a hq
    simp only [idxs, TW.pollAll_nil]
    apply mkW_congr <;> simp [hq, readyNotifs, deliver]
  | cons x xs ih =>
    intro pre a hq
    cases hx : isReady x with
    | false =>
      have := ih (pre ++ [x]) a (by simp [hq])
      simp only [List.length_append, List.length_singleton] at this
      simp only [idxs, hx, Bool.false_eq_true, if_false]
      rw [this]
      apply mkW_congr <;> simp [readyNotifs, runR, hx]
    | true =>
      obtain ⟨ph, e⟩ := x
      have hph : ph = .ready := by simpa [isReady] using hx
      subst hph
      have hget : a.q[pre.length]? = some (.ready, e) := by rw [hq]; exact get_mid pre xs _
      have htask := tasks_get d a.now a.q a.F pre.length _ hget
      simp only [idxs, hx, if_true]
      rw [TW.pollAll_cons_live (mkW d base a m) _ _ _ htask rfl,
        pollTask_ready d base a m pre.length e hget]
      have := ih (pre ++ [(.done, e)])
        { a with q := a.q.set pre.length (.done, e), alive := a.alive && !e.n.isTerm,
                 log := a.log ++ (if a.alive then [e.n] else []) }
        (by simp [hq])
      simp only [List.length_append, List.length_singleton] at this
      rw [this]
      apply mkW_congr <;> simp [readyNotifs, runR, hx, deliver]

theorem pollAll_fresh (d : Nat) (base : TW) (m) : ∀ (F : List FE) (a : DA), a.F = F →
    (mkW d base a m).pollAll (List.range' a.q.length F.length) =
      mkW d base { a with q := a.q ++ F.map (armNow a.now), F := [] } m := by
  intro F
  induction F with
  | nil =>
    intro a hF
    simp only [List.length_nil, List.range'_zero, TW.pollAll_nil]
    apply mkW_congr <;> simp [hF]
  | cons fe F' ih =>
    intro a hF
    have htask : (mkW d base a m).sched.tasks[a.q.length]? = some (freshT d fe) := by
      rw [show (mkW d base a m).sched = mkS d a.now a.q a.F from rfl, hF]
      exact tasks_get_fresh d a.now a.q fe F'
    simp only [List.length_cons, List.range'_succ]
    rw [TW.pollAll_cons_live (mkW d base a m) _ _ _ htask rfl, pollTask_fresh d base a m fe F' hF]
    have := ih { a with q := a.q ++ [(.armed, ⟨fe.n, fe.te, a.now⟩)], F := F' } rfl
    simp only [List.length_append, List.length_singleton] at this
    rw [this]
    apply mkW_congr <;> simp [armNow]

theorem ready_mkS (d now q F) :
    idxs (fun t => t.woken && !t.done) (mkS d now q F).tasks 0
      = idxs isReady q 0 ++ List.range' q.length F.length := by
  simp only [mkS, idxs_append, mapK_length, Nat.zero_add]
  congr 1
  · apply idxs_mapK
    intro i x
    obtain ⟨ph, e⟩ := x
    cases ph <;> rfl
  · rw [idxs_all]
    · simp
    · intro x hx; simp only [List.mem_map] at hx; obtain ⟨n, _, rfl⟩ := hx; rfl

/-- All due timers fire. -/
def DA.fire (d : Nat) (a : DA) : DA := { a with q := a.q.map (fireDue d a.now) }

/-- All woken tasks are polled: first the ready ones run, then the fresh ones arm their timers. -/
def DA.poll (a : DA) : DA :=
  { a with q := a.q.map runR ++ a.F.map (armNow a.now), F := [],
           alive := (deliver a.alive (readyNotifs a.q)).1,
           log := a.log ++ (deliver a.alive (readyNotifs a.q)).2 }

/-- Nothing due, nothing woken. -/
def DA.quietB (d : Nat) (a : DA) : Bool :=
  (idxs (isDue d a.now) a.q 0).isEmpty &&
    (idxs isReady (a.fire d).q 0 ++ List.range' (a.fire d).q.length a.F.length).isEmpty

def aLoop (d : Nat) : Nat → DA → DA
  | 0, a => a
  | f + 1, a => if a.quietB d then a.fire d else aLoop d f (a.fire d).poll

theorem aLoop_term (d : Nat) : ∀ (f : Nat) (a : DA), (aLoop d f a).term = a.term := by
  intro f
  induction f with
  | zero => intro a; rfl
  | succ f ih =>
    intro a
    simp only [aLoop]
    split
    · rfl
    · rw [ih]; rfl

theorem aLoop_now (d : Nat) : ∀ (f : Nat) (a : DA), (aLoop d f a).now = a.now := by
  intro f
  induction f with
  | zero => intro a; rfl
  | succ f ih =>
    intro a
    simp only [aLoop]
    split
    · rfl
    · rw [ih]; rfl

theorem runLoop_mkW (d : Nat) (base : TW) (m) : ∀ (f : Nat) (a : DA),
    TW.runLoop f (mkW d base a m) = mkW d base (aLoop d f a) m := by
  intro f
  induction f with
  | zero => intro a; rfl
  | succ f ih =>
    intro a
    have hs : (mkW d base a m).sched = mkS d a.now a.q a.F := rfl
    have hfire : (idxs (isDue d a.now) a.q 0).foldl Sched.fire (mkS d a.now a.q a.F)
        = mkS d a.now (a.q.map (fireDue d a.now)) a.F := by
      have := fold_fire d a.now a.F a.q []
      simpa using this
    have hw : ({ mkW d base a m with sched := mkS d a.now (a.q.map (fireDue d a.now)) a.F } : TW)
        = mkW d base (a.fire d) m := rfl
    rw [TW.runLoop_succ_idxs, hs, dueTimers_mkS, hfire, hw, ready_mkS]
    have hcond : ((idxs (isDue d a.now) a.q 0).isEmpty &&
        (idxs isReady (a.q.map (fireDue d a.now)) 0 ++
          List.range' (a.q.map (fireDue d a.now)).length a.F.length).isEmpty) = a.quietB d := rfl
    rw [hcond]
    cases hc : a.quietB d with
    | true => simp only [aLoop, hc, if_true]
    | false =>
      simp only [aLoop, hc, Bool.false_eq_true, if_false]
      have hq : (a.fire d).q = a.q.map (fireDue d a.now) := rfl
      rw [← hq, TW.pollAll_append]
      have h1 := pollAll_ready d base m (a.fire d).q [] (a.fire d) rfl
      simp only [List.length_nil, List.nil_append] at h1
      rw [h1]
      have h2 := pollAll_fresh d base m a.F
        { a.fire d with q := (a.fire d).q.map runR,
                        alive := (deliver (a.fire d).alive (readyNotifs (a.fire d).q)).1,
                        log := (a.fire d).log ++ (deliver (a.fire d).alive (readyNotifs (a.fire d).q)).2 } rfl
      simp only [List.length_map] at h2
      rw [h2, ← ih]
      rfl

def DA.step (d : Nat) (a : DA) : TW.Ev → DA
  | .emit i n =>
    if i ≠ 0 ∨ a.term then a
    else match n with
      -- `delay` forwards an error at once and closes the slot: the pending items are cut off
      | .error e => { a with alive := false, log := a.log ++ (if a.alive then [.error e] else []), term := true }
      | n => { a with F := a.F ++ [⟨n, a.now⟩], term := n.isTerm }
  | .adv k => { a with now := a.now + k }
  | .run => aLoop d 10000 a
  | _ => a

/-- An item or the completion of the live subject joins the fresh tasks. -/
theorem DA.step_emit_item (d : Nat) (a : DA) (n : Notif) (hT : a.term = false) (hn : ∀ e, n ≠ .error e) :
    a.step d (.emit 0 n) = { a with F := a.F ++ [⟨n, a.now⟩], term := n.isTerm } := by
  cases n with
  | error e => exact absurd rfl (hn e)
  | _ => simp [DA.step, hT]

/-- `w` is the world described by `a`. -/
def RD (d : Nat) (a : DA) (w : TW) : Prop := ∃ base m, w = mkW d base a m ∧ Hot0 a.term base

theorem push_emit_error (d : Nat) (base : TW) (a : DA) (m) (e : Err) :
    (mkW d base a m).push 0 [.error e] =
      mkW d base { a with alive := false, log := a.log ++ (if a.alive then [.error e] else []) } m := by
  rw [TW.push_zero _ (.delay d a.alive m) _ rfl, Stage.onNotif_delay_error, Stage.afterEmit_mover (.delay _ _ _) rfl]
  simp [mkW]

theorem push_emit (d : Nat) (base : TW) (a : DA) (m) (n : Notif) (hn : ∀ e, n ≠ .error e) :
    (mkW d base a m).push 0 [n] =
      mkW d base { a with F := a.F ++ [⟨n, a.now⟩] } (m.map (· ++ [a.q.length + a.F.length])) := by
  rw [TW.push_zero _ (.delay d a.alive m) n rfl, Stage.onNotif_delay_item _ _ _ _ _ _ hn,
    Stage.afterEmit_mover (.delay _ _ _) rfl]
  simp [mkW, mkS, Sched.scheduleOnce, freshT]

theorem step_sim (d : Nat) (a : DA) (w : TW) (ev : TW.Ev) (hev : FifoEv ev) (h : RD d a w) :
    RD d (a.step d ev) (w.step ev) := by
  obtain ⟨base, m, rfl, hH⟩ := h
  cases hev with
  | adv k => exact ⟨base, m, rfl, hH⟩
  | run =>
    refine ⟨base, m, runLoop_mkW d base m 10000 a, ?_⟩
    rw [show (a.step d .run).term = a.term from aLoop_term d 10000 a]
    exact hH
  | emit i n =>
    have hH' : Hot0 a.term (mkW d base a m) := ⟨hH.src, hH.sub, hH.alive, hH.term⟩
    obtain ⟨tl, al, hN, hstep⟩ := hH'.step_emit (st := .delay d a.alive m) rfl rfl i n
    rw [hstep]
    by_cases hc : i = 0 ∧ a.term = false
    · obtain ⟨rfl, hT⟩ := hc
      rw [if_pos ⟨rfl, hT⟩]
      rw [hT] at hN
      have hN' : Hot0 n.isTerm { base with terminated := tl, srcAlive := al } :=
        ⟨hN.src, hN.sub, hN.alive, hN.term⟩
      show RD d _ ((mkW d { base with terminated := tl, srcAlive := al } a m).push 0 [n])
      rcases error_or n with ⟨e, rfl⟩ | hn
      · have ha : a.step d (.emit 0 (.error e)) =
            { a with alive := false, log := a.log ++ (if a.alive then [.error e] else []), term := true } := by
          simp [DA.step, hT]
        rw [push_emit_error, ha]
        exact ⟨_, m, mkW_congr d _ _ _ m rfl rfl rfl rfl rfl, hN'⟩
      · rw [push_emit d _ a m n hn, a.step_emit_item d n hT hn]
        exact ⟨_, _, mkW_congr d _ _ _ _ rfl rfl rfl rfl rfl, hN'⟩
    · rw [if_neg hc]
      obtain ⟨hc', ht⟩ := emit_flag n hc
      have ha : a.step d (.emit i n) = a := by simp only [DA.step]; rw [if_pos hc']
      rw [ha]
      rw [ht] at hN
      exact ⟨{ base with terminated := tl, srcAlive := al }, m, rfl, ⟨hN.src, hN.sub, hN.alive, hN.term⟩⟩

/-- What the closed-form description records per notification of the gated script. -/
structure Stamp where
  n : Notif
  te : Nat            -- clock at emission
  ta : Option Nat     -- clock at the first `run` after the emission (the delay timer is armed then)

def stD (e : DE) : Stamp := ⟨e.n, e.te, some e.ta⟩
def stF (fe : FE) : Stamp := ⟨fe.n, fe.te, none⟩
def stC (c : Nat) (fe : FE) : Stamp := ⟨fe.n, fe.te, some c⟩
def armE (c : Nat) (fe : FE) : DE := ⟨fe.n, fe.te, c⟩

def Sorted (A : List DE) : Prop := A.Pairwise (fun x y => x.ta ≤ y.ta)

def dueE (d c : Nat) (e : DE) : Bool := decide (e.ta + d ≤ c)

/-- FIFO shape of the abstract state, relative to the stamped script `gq`: `D` have run, `A` are
    armed (arm times non-decreasing), then the fresh ones; everything in `D` was due at `c`. -/
structure Core (d c : Nat) (sf : FE → Stamp) (gq : List Stamp) (a : DA) (D A : List DE) : Prop where
  q : a.q = D.map (Prod.mk .done) ++ A.map (Prod.mk .armed)
  gqe : gq = D.map stD ++ A.map stD ++ a.F.map sf
  dD : ∀ e ∈ D, e.ta + d ≤ c
  dA : ∀ e ∈ A, e.ta ≤ c
  sorted : Sorted A
  alive : a.alive = !terminated (D.map (·.n))
  wf : WF (gq.map (·.n))
  log : a.log = D.map (·.n)

theorem split_sorted (d c : Nat) : ∀ (A : List DE), Sorted A →
    A = A.filter (dueE d c) ++ A.filter (fun e => !dueE d c e) := by
  intro A
  induction A with
  | nil => intro _; rfl
  | cons x xs ih =>
    intro h
    obtain ⟨hx, hxs⟩ := List.pairwise_cons.mp h
    cases hd : dueE d c x with
    | true =>
      simp only [List.filter_cons, hd, if_true, Bool.not_true, Bool.false_eq_true, if_false, List.cons_append]
      rw [← ih hxs]
    | false =>
      have hnone : xs.filter (dueE d c) = [] := by
        rw [List.filter_eq_nil_iff]
        intro y hy
        have := hx y hy
        simp only [dueE, decide_eq_false_iff_not, decide_eq_true_eq] at hd ⊢
        omega
      have hall : xs.filter (fun e => !dueE d c e) = xs := by
        have := ih hxs
        rw [hnone] at this
        simpa using this.symm
      simp [hd, hnone, hall]

theorem fire_done (d c : Nat) (D : List DE) :
    (D.map (Prod.mk Ph.done)).map (fireDue d c) = D.map (Prod.mk Ph.done) := by
  rw [List.map_map]; apply List.map_congr_left; intro e _; simp [fireDue, isDue]

theorem fire_due (d c : Nat) (A : List DE) (h : ∀ e ∈ A, dueE d c e = true) :
    (A.map (Prod.mk Ph.armed)).map (fireDue d c) = A.map (Prod.mk Ph.ready) := by
  rw [List.map_map]; apply List.map_congr_left; intro e he
  have := h e he
  simp only [dueE, decide_eq_true_eq] at this
  simp [fireDue, isDue, this]

theorem fire_notdue (d c : Nat) (A : List DE) (h : ∀ e ∈ A, dueE d c e = false) :
    (A.map (Prod.mk Ph.armed)).map (fireDue d c) = A.map (Prod.mk Ph.armed) := by
  rw [List.map_map]; apply List.map_congr_left; intro e he
  have := h e he
  simp only [dueE, decide_eq_false_iff_not] at this
  simp [fireDue, isDue, this]

theorem runR_done (D : List DE) : (D.map (Prod.mk Ph.done)).map runR = D.map (Prod.mk Ph.done) := by
  rw [List.map_map]; apply List.map_congr_left; intro e _; rfl
theorem runR_armed (D : List DE) : (D.map (Prod.mk Ph.armed)).map runR = D.map (Prod.mk Ph.armed) := by
  rw [List.map_map]; apply List.map_congr_left; intro e _; rfl
theorem runR_ready (D : List DE) : (D.map (Prod.mk Ph.ready)).map runR = D.map (Prod.mk Ph.done) := by
  rw [List.map_map]; apply List.map_congr_left; intro e _; rfl

theorem readyNotifs_append (a b : List (Ph × DE)) : readyNotifs (a ++ b) = readyNotifs a ++ readyNotifs b := by
  simp [readyNotifs]
theorem readyNotifs_done (D : List DE) : readyNotifs (D.map (Prod.mk Ph.done)) = [] := by
  simp only [readyNotifs, List.map_eq_nil_iff, List.filter_eq_nil_iff]
  intro x hx; simp only [List.mem_map] at hx; obtain ⟨e, _, rfl⟩ := hx; simp [isReady]
theorem readyNotifs_armed (D : List DE) : readyNotifs (D.map (Prod.mk Ph.armed)) = [] := by
  simp only [readyNotifs, List.map_eq_nil_iff, List.filter_eq_nil_iff]
  intro x hx; simp only [List.mem_map] at hx; obtain ⟨e, _, rfl⟩ := hx; simp [isReady]
theorem readyNotifs_ready (D : List DE) : readyNotifs (D.map (Prod.mk Ph.ready)) = D.map (·.n) := by
  have : (D.map (Prod.mk Ph.ready)).filter isReady = D.map (Prod.mk Ph.ready) := by
    rw [List.filter_eq_self]
    intro x hx; simp only [List.mem_map] at hx; obtain ⟨e, _, rfl⟩ := hx; rfl
  simp [readyNotifs, this]

/-- One pass of the loop in FIFO shape. -/
theorem iter_core (d c : Nat) (gq : List Stamp) (a : DA) (D A : List DE)
    (h : Core d c (stC c) gq a D A) (hnow : a.now = c) :
    Core d c (stC c) gq (a.fire d).poll (D ++ A.filter (dueE d c))
      (A.filter (fun e => !dueE d c e) ++ a.F.map (armE c)) ∧ ((a.fire d).poll).F = [] := by
  refine ⟨?_, rfl⟩
  have hsplit := split_sorted d c A h.sorted
  have hA1 : ∀ e ∈ A.filter (dueE d c), dueE d c e = true := fun e he => (List.mem_filter.mp he).2
  have hA2 : ∀ e ∈ A.filter (fun e => !dueE d c e), dueE d c e = false := by
    intro e he; have := (List.mem_filter.mp he).2; simpa using this
  -- the queue after firing
  have hfq : (a.fire d).q = D.map (Prod.mk .done) ++ (A.filter (dueE d c)).map (Prod.mk .ready)
      ++ (A.filter (fun e => !dueE d c e)).map (Prod.mk .armed) := by
    simp only [DA.fire, h.q, hnow, List.map_append, fire_done]
    conv => lhs; rw [hsplit]
    rw [List.map_append, List.map_append, fire_due d c _ hA1, fire_notdue d c _ hA2, List.append_assoc]
  have hrn : readyNotifs (a.fire d).q = (A.filter (dueE d c)).map (·.n) := by
    rw [hfq]; simp [readyNotifs_append, readyNotifs_done, readyNotifs_armed, readyNotifs_ready]
  -- well-formedness of the script: D, then the due ones, then the rest
  have hwf : WF (D.map (·.n) ++ ((A.filter (dueE d c)).map (·.n) ++
      ((A.filter (fun e => !dueE d c e)).map (·.n) ++ a.F.map (·.n)))) := by
    have := h.wf
    rw [h.gqe] at this
    conv at this => rw [hsplit]
    simpa [stD, stC, List.map_append, Function.comp_def] using this
  have hdel := deliver_of_WF _ _ _ hwf
  rw [← h.alive] at hdel
  constructor
  · simp only [DA.poll, hfq, List.map_append, runR_done, runR_ready, runR_armed]
    have : (a.fire d).F = a.F := rfl
    have hn : (a.fire d).now = c := hnow
    rw [this, hn]
    simp [armNow, armE, Function.comp_def]
  · show gq = _
    rw [h.gqe]
    conv => lhs; rw [hsplit]
    simp [stD, stC, armE, List.map_append, Function.comp_def, DA.poll]
  · intro e he
    rcases List.mem_append.mp he with he | he
    · exact h.dD e he
    · have := hA1 e he; simpa [dueE] using this
  · intro e he
    rcases List.mem_append.mp he with he | he
    · exact h.dA e (List.mem_filter.mp he).1
    · simp only [List.mem_map] at he; obtain ⟨fe, _, rfl⟩ := he; exact Nat.le_refl _
  · show List.Pairwise _ _
    rw [List.pairwise_append]
    refine ⟨h.sorted.filter _, ?_, ?_⟩
    · rw [List.pairwise_map]
      exact List.Pairwise.imp (fun _ => Nat.le_refl c) (List.pairwise_of_forall (fun _ _ => trivial))
    · intro x hx y hy
      simp only [List.mem_map] at hy; obtain ⟨fe, _, rfl⟩ := hy
      exact h.dA x (List.mem_filter.mp hx).1
  · show (deliver (a.fire d).alive (readyNotifs (a.fire d).q)).1 = _
    rw [hrn, show (a.fire d).alive = a.alive from rfl, hdel]; simp
  · exact h.wf
  · show (a.fire d).log ++ (deliver (a.fire d).alive (readyNotifs (a.fire d).q)).2 = _
    rw [hrn, show (a.fire d).alive = a.alive from rfl, hdel, show (a.fire d).log = a.log from rfl, h.log]; simp

theorem fire_id (d : Nat) (a : DA) (h : ∀ x ∈ a.q, isDue d a.now x = false) : a.fire d = a := by
  have : a.q.map (fireDue d a.now) = a.q := by
    have := List.map_congr_left (l := a.q) (f := fireDue d a.now) (g := id)
      (fun x hx => by simp [fireDue, h x hx])
    simpa using this
  cases a; simp_all [DA.fire]

theorem quiet_case (d c : Nat) (sf) (gq : List Stamp) (a : DA) (D A : List DE)
    (h : Core d c sf gq a D A) (hnow : a.now = c) (hq : a.quietB d = true) :
    a.fire d = a ∧ a.F = [] ∧ ∀ e ∈ A, c < e.ta + d := by
  simp only [DA.quietB, Bool.and_eq_true, List.isEmpty_iff, List.append_eq_nil_iff] at hq
  obtain ⟨h1, _, h3⟩ := hq
  have hnd := idxs_eq_nil _ _ _ h1
  refine ⟨fire_id d a hnd, ?_, ?_⟩
  · have : a.F.length = 0 := by
      cases hl : a.F.length with
      | zero => rfl
      | succ n => rw [hl] at h3; simp [List.range'_succ] at h3
    exact List.eq_nil_of_length_eq_zero this
  · intro e he
    have hm : (Ph.armed, e) ∈ a.q := by
      rw [h.q]; exact List.mem_append_right _ (List.mem_map_of_mem he)
    have := hnd _ hm
    simp only [isDue, hnow, beq_self_eq_true, Bool.true_and, decide_eq_false_iff_not] at this
    omega

theorem quietB_of (d c : Nat) (sf) (gq : List Stamp) (a : DA) (D A : List DE)
    (h : Core d c sf gq a D A) (hnow : a.now = c) (hF : a.F = []) (hnd : ∀ e ∈ A, c < e.ta + d) :
    a.quietB d = true := by
  have hdue : ∀ x ∈ a.q, isDue d a.now x = false := by
    intro x hx
    rw [h.q] at hx
    rcases List.mem_append.mp hx with hx | hx
    · simp only [List.mem_map] at hx; obtain ⟨e, _, rfl⟩ := hx; simp [isDue]
    · simp only [List.mem_map] at hx; obtain ⟨e, he, rfl⟩ := hx
      have := hnd e he
      simp only [isDue, hnow, beq_self_eq_true, Bool.true_and, decide_eq_false_iff_not]
      omega
  have hrdy : ∀ x ∈ a.q, isReady x = false := by
    intro x hx
    rw [h.q] at hx
    rcases List.mem_append.mp hx with hx | hx <;>
      (simp only [List.mem_map] at hx; obtain ⟨e, _, rfl⟩ := hx; rfl)
  simp only [DA.quietB, fire_id d a hdue, hF, List.length_nil, List.range'_zero, List.append_nil,
    idxs_none _ _ _ hdue, idxs_none _ _ _ hrdy]
  rfl

/-- `run` at clock `c`: at most two passes, then the loop is quiescent: no fresh task, no armed
    task whose delay is over.  (The fuel of `runLoop` is never exhausted: 3 would do.) -/
theorem loop_core (d c : Nat) (gq : List Stamp) (a : DA) (D A : List DE)
    (h : Core d c (stC c) gq a D A) (hnow : a.now = c) (f : Nat) :
    ∃ D' A', Core d c (stC c) gq (aLoop d (f + 3) a) D' A' ∧ (aLoop d (f + 3) a).F = [] ∧
      ∀ e ∈ A', c < e.ta + d := by
  have step : ∀ (g : Nat) (a : DA), aLoop d (g + 1) a =
      if a.quietB d then a.fire d else aLoop d g (a.fire d).poll := fun _ _ => rfl
  rw [step]
  cases hq : a.quietB d with
  | true =>
    obtain ⟨h1, h2, h3⟩ := quiet_case d c _ gq a D A h hnow hq
    simp only [if_true, h1]
    exact ⟨D, A, h, h2, h3⟩
  | false =>
    simp only [Bool.false_eq_true, if_false]
    obtain ⟨hc1, hF1⟩ := iter_core d c gq a D A h hnow
    have hnow1 : ((a.fire d).poll).now = c := hnow
    rw [step]
    cases hq1 : ((a.fire d).poll).quietB d with
    | true =>
      obtain ⟨h1, h2, h3⟩ := quiet_case d c _ gq _ _ _ hc1 hnow1 hq1
      simp only [if_true, h1]
      exact ⟨_, _, hc1, h2, h3⟩
    | false =>
      simp only [Bool.false_eq_true, if_false]
      obtain ⟨hc2, hF2⟩ := iter_core d c gq _ _ _ hc1 hnow1
      have hnow2 : ((((a.fire d).poll).fire d).poll).now = c := hnow
      have hnd : ∀ e ∈ (A.filter (fun e => !dueE d c e) ++ a.F.map (armE c)).filter (fun e => !dueE d c e)
          ++ ((a.fire d).poll).F.map (armE c), c < e.ta + d := by
        intro e he
        rw [hF1] at he
        simp only [List.map_nil, List.append_nil] at he
        have := (List.mem_filter.mp he).2
        simp only [dueE, Bool.not_eq_eq_eq_not, Bool.not_true, decide_eq_false_iff_not] at this
        omega
      have hq2 := quietB_of d c _ gq _ _ _ hc2 hnow2 hF2 hnd
      rw [step]
      obtain ⟨h1, h2, h3⟩ := quiet_case d c _ gq _ _ _ hc2 hnow2 hq2
      simp only [hq2, if_true, h1]
      exact ⟨_, _, hc2, h2, h3⟩

end Rx.T.Del
