import RxModel.Conc.TimeSteps
/-
  What suite `coop` replays (`TS.par`) IS a schedule of `exec`.
-/
namespace Rx.Conc.TS
open Rx

theorem exec_append (K : Conf) (c : Cfg) (a b : List Nat) : exec K c (a ++ b) = exec K (exec K c a) b := by
  simp [exec, List.foldl_append]

theorem exec_cons (K : Conf) (c : Cfg) (i : Nat) (r : List Nat) : exec K c (i :: r) = exec K (c.sched1 K i) r := rfl

theorem drain_exec (K : Conf) : ∀ (f : Nat) (c : Cfg) (i : Nat), (drain K f c i).1 = exec K c (drain K f c i).2 := by
  intro f
  induction f with
  | zero => intro c i; rfl
  | succ f ih =>
    intro c i
    unfold drain
    split
    · simp only [exec_cons]; exact ih _ _
    · rfl

theorem parLoop_exec (K : Conf) (k : Nat) :
    ∀ (f : Nat) (c : Cfg) (arr : Nat), (parLoop K k f c arr).cfg = exec K c (parLoop K k f c arr).fine := by
  intro f
  induction f with
  | zero => intro c arr; rfl
  | succ f ih =>
    intro c arr
    unfold parLoop
    split
    · rfl
    · simp only []
      split
      · rfl
      · next w hw =>
        simp only [exec_cons, exec_append]
        rw [← drain_exec]
        exact ih _ _

theorem par_exec (K : Conf) (k fuel : Nat) (c : Cfg) : (par K k fuel c).cfg = exec K c (par K k fuel c).fine := by
  unfold par
  simp only [exec_append]
  rw [← drain_exec, ← drain_exec]
  exact parLoop_exec K k fuel _ _

end Rx.Conc.TS
