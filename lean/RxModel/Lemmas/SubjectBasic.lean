import RxModel.Subject.Subject
import RxModel.Conc.SubjectSteps
/-
  Lists of subscribers and slots of the sequential subject model: admitting a fresh index
  (`fresh_append`, shared with the spec and the step model), what `modSlot` does to a slot list and to
  its flags and scripts.  The step model keeps of a slot only its flag: `isOpenIn` on the flags is
  `aliveAt` on the slots (`aliveAt_eq`), and the facts about `aliveAt` are read off those about `isOpenIn`.
-/
namespace Rx

/-- Appending an index that bounds all entries keeps them distinct, and bounded by the next index:
    what admitting a new subscriber does to a list of subscribers. -/
theorem fresh_append {l : List Nat} {n : Nat} (hb : ∀ i ∈ l, i < n) (hn : l.Nodup) :
    (l ++ [n]).Nodup ∧ ∀ i ∈ l ++ [n], i < n + 1 := by
  refine ⟨List.nodup_append.mpr ⟨hn, List.pairwise_singleton _ _, fun a ha b hb' => ?_⟩, fun i hi => ?_⟩
  · cases List.mem_singleton.mp hb'; exact Nat.ne_of_lt (hb a ha)
  · rcases List.mem_append.mp hi with hi | hi
    · exact Nat.lt_succ_of_lt (hb i hi)
    · cases List.mem_singleton.mp hi; exact Nat.lt_succ_self _

end Rx

namespace Rx.Conc.SS

theorem isOpenIn_lt {slots : List Bool} {u : Nat} (h : isOpenIn slots u = true) : u < slots.length := by
  unfold isOpenIn at h
  rw [List.getD_eq_getElem?_getD] at h
  cases hu : slots[u]? with
  | none => simp [hu] at h
  | some b => exact (List.getElem?_eq_some_iff.mp hu).1

theorem isOpenIn_set_self (slots : List Bool) (u : Nat) : isOpenIn (slots.set u false) u = false := by
  unfold isOpenIn
  rw [List.getD_eq_getElem?_getD, List.getElem?_set]
  by_cases h : u < slots.length <;> simp [h]

theorem isOpenIn_set_ne (slots : List Bool) {u w : Nat} (h : w ≠ u) :
    isOpenIn (slots.set w false) u = isOpenIn slots u := by
  unfold isOpenIn
  rw [List.getD_eq_getElem?_getD, List.getD_eq_getElem?_getD, List.getElem?_set]
  simp [h]

theorem isOpenIn_set_closed (slots : List Bool) (u w : Nat) (h : isOpenIn slots u = false) :
    isOpenIn (slots.set w false) u = false := by
  by_cases e : w = u
  · subst e; exact isOpenIn_set_self slots w
  · rw [isOpenIn_set_ne slots e]; exact h

theorem isOpenIn_append_lt (slots : List Bool) (b : Bool) {u : Nat} (h : u < slots.length) :
    isOpenIn (slots ++ [b]) u = isOpenIn slots u := by
  unfold isOpenIn
  rw [List.getD_eq_getElem?_getD, List.getD_eq_getElem?_getD, List.getElem?_append]
  simp [h]

end Rx.Conc.SS

namespace Rx.Subj
open Rx.Conc.SS (isOpenIn isOpenIn_lt isOpenIn_set_self isOpenIn_set_ne isOpenIn_append_lt)

theorem modSlot_length (f : Slot → Slot) : ∀ (l : List Slot) (i : Nat), (modSlot f l i).length = l.length
  | [], _ => rfl
  | _ :: _, 0 => rfl
  | x :: r, n + 1 => by simp [modSlot, modSlot_length f r n]

theorem modSlot_get (f : Slot → Slot) : ∀ (l : List Slot) (i j : Nat),
    (modSlot f l i)[j]? = if i = j then l[j]?.map f else l[j]?
  | [], _, _ => by simp [modSlot]
  | x :: r, 0, 0 => by simp [modSlot]
  | x :: r, 0, j + 1 => by simp [modSlot]
  | x :: r, i + 1, 0 => by simp [modSlot]
  | x :: r, i + 1, j + 1 => by simp [modSlot, modSlot_get f r i j]

theorem aliveAt_append_new (l : List Slot) (x : Slot) : aliveAt (l ++ [x]) l.length = x.alive := by
  unfold aliveAt
  simp

theorem modSlot_map_of_fix {β : Type} (g : Slot → β) (f : Slot → Slot) (hf : ∀ x, g (f x) = g x) :
    ∀ (l : List Slot) (i : Nat), (modSlot f l i).map g = l.map g
  | [], _ => rfl
  | x :: r, 0 => by simp [modSlot, hf]
  | x :: r, n + 1 => by simp [modSlot, modSlot_map_of_fix g f hf r n]

theorem modSlot_map_dead (f : Slot → Slot) (hf : ∀ x, (f x).alive = false) :
    ∀ (l : List Slot) (i : Nat), (modSlot f l i).map (·.alive) = (l.map (·.alive)).set i false
  | [], _ => rfl
  | x :: r, 0 => by simp [modSlot, hf]
  | x :: r, i + 1 => by simp [modSlot, modSlot_map_dead f hf r i]

theorem modSlot_plain (f : Slot → Slot) (hf : ∀ x, x.script = [] → (f x).script = []) :
    ∀ (l : List Slot) (i : Nat), (∀ sl ∈ l, sl.script = []) → ∀ sl ∈ modSlot f l i, sl.script = []
  | [], _, _ => by simp [modSlot]
  | x :: r, 0, h => by
    intro sl hsl
    simp only [modSlot, List.mem_cons] at hsl
    rcases hsl with rfl | hsl
    · exact hf x (h x (List.mem_cons_self ..))
    · exact h sl (List.mem_cons_of_mem _ hsl)
  | x :: r, i + 1, h => by
    intro sl hsl
    simp only [modSlot, List.mem_cons] at hsl
    rcases hsl with rfl | hsl
    · exact h sl (List.mem_cons_self ..)
    · exact modSlot_plain f hf r i (fun y hy => h y (List.mem_cons_of_mem _ hy)) sl hsl

theorem aliveAt_eq (js : List Slot) : aliveAt js = isOpenIn (js.map (·.alive)) := by
  funext u
  unfold aliveAt isOpenIn
  rw [List.getD_eq_getElem?_getD, List.getElem?_map]
  cases js[u]? <;> rfl

theorem aliveAt_modSlot_same (f : Slot → Slot) (hf : ∀ x, (f x).alive = x.alive) (l : List Slot) (i j : Nat) :
    aliveAt (modSlot f l i) j = aliveAt l j := by
  rw [aliveAt_eq, aliveAt_eq, modSlot_map_of_fix _ f hf]

theorem aliveAt_modSlot_dead (f : Slot → Slot) (hf : ∀ x, (f x).alive = false) (l : List Slot) (t j : Nat) :
    aliveAt (modSlot f l t) j = (aliveAt l j && decide (j ≠ t)) := by
  rw [aliveAt_eq, aliveAt_eq, modSlot_map_dead f hf]
  by_cases h : t = j
  · subst h; rw [isOpenIn_set_self]; simp
  · have : j ≠ t := fun e => h e.symm
    rw [isOpenIn_set_ne _ h]; simp [this]

theorem aliveAt_append_lt (l : List Slot) (x : Slot) (j : Nat) (h : j < l.length) :
    aliveAt (l ++ [x]) j = aliveAt l j := by
  rw [aliveAt_eq, aliveAt_eq, List.map_append]
  exact isOpenIn_append_lt _ _ (by rwa [List.length_map])

theorem aliveAt_lt (l : List Slot) (j : Nat) (h : aliveAt l j = true) : j < l.length := by
  rw [aliveAt_eq] at h
  exact List.length_map Slot.alive ▸ isOpenIn_lt h

end Rx.Subj
