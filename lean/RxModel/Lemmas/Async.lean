import RxModel.Lemmas.ChainWorld
import RxModel.Lemmas.Sched
/-
  The async sources (C08, C16): what a script promises (`relayStream`, `relayFuture`); one lap of
  the stream driver over a bare source (no stages: the probe is the observer) by induction over the
  script, one poll of the stream driver and of the FutureTask (`PollOK`); the executor polling the
  task any number of times (`drivePolls`); the scheduler side of such a poll (`pollPre_plain`,
  `TW.afterAsync`).
-/
namespace Rx.T
open Rx

/-- What from_stream (`res = false`) / from_stream_result (`res = true`) must
    relay for a script: the values in order up to the first `Err`, then that
    error; `complete` when the script ends; nothing beyond a point where the
    stream stays silent for ever.  `pending` steps do not show. -/
def relayStream (res : Bool) : List AStep → List Notif
  | [] => [.complete]
  | .ready v :: r => .next v :: relayStream res r
  | .pending :: r => relayStream res r
  | .hang :: _ => []
  | .err e :: r => if res then [.error e] else .next (.int e) :: relayStream res r

/-- What from_future / from_future_result must relay: the single output, then
    `complete` (or the error); nothing if the future never resolves. -/
def relayFuture (res : Bool) : List AStep → List Notif
  | [] => []
  | .pending :: r => relayFuture res r
  | .hang :: _ => []
  | .ready v :: _ => [.next v, .complete]
  | .err e :: _ => if res then [.error e] else [.next (.int e), .complete]

/-- Number of `pending` steps of a script. -/
def pendings : List AStep → Nat
  | [] => 0
  | .pending :: r => pendings r + 1
  | _ :: r => pendings r

/-- No step after which the script stays silent for ever. -/
def noHang : List AStep → Bool
  | [] => true
  | .hang :: _ => false
  | _ :: r => noHang r

/-- The fields of a world that a poll of an async body leaves alone. -/
structure TW.SameFrame (w w' : TW) : Prop where
  sched : w'.sched = w.sched
  src : w'.src = w.src
  stages : w'.stages = w.stages
  srcTask : w'.srcTask = w.srcTask
  subscribed : w'.subscribed = w.subscribed
  unsubscribed : w'.unsubscribed = w.unsubscribed

theorem TW.SameFrame.refl (w : TW) : w.SameFrame w := ⟨rfl, rfl, rfl, rfl, rfl, rfl⟩

theorem TW.SameFrame.trans {a b c : TW} (h1 : a.SameFrame b) (h2 : b.SameFrame c) : a.SameFrame c :=
  ⟨h2.sched.trans h1.sched, h2.src.trans h1.src, h2.stages.trans h1.stages,
   h2.srcTask.trans h1.srcTask, h2.subscribed.trans h1.subscribed,
   h2.unsubscribed.trans h1.unsubscribed⟩

theorem TW.push_bare (w : TW) (ns : List Notif) (h : w.stages = []) :
    w.SameFrame (w.push 0 ns) ∧ (w.push 0 ns).log = w.log ++ ns ∧
      (w.push 0 ns).srcRest = w.srcRest := by
  rw [TW.push_nil w h ns]
  exact ⟨⟨rfl, rfl, rfl, rfl, rfl, rfl⟩, rfl, rfl⟩

theorem fin_nil_of {w : TW} (h : w.stages = []) : fin w.stages = false := by rw [h]; rfl

/-! Unfolding the driver loop one step (observer not finished). -/
theorem streamLap_nil (res : Bool) (w : TW) (hf : fin w.stages = false) :
    TW.streamLap res [] w = ({ w with srcRest := [] }, .exhausted) := by
  simp [TW.streamLap, hf]
theorem streamLap_ready (res : Bool) (v : Val) (r : List AStep) (w : TW) (hf : fin w.stages = false) :
    TW.streamLap res (.ready v :: r) w
      = TW.streamLap res r ({ w with pulls := w.pulls + 1 }.push 0 [.next v]) := by
  simp [TW.streamLap, hf]
theorem streamLap_err_res (e : Err) (r : List AStep) (w : TW) (hf : fin w.stages = false) :
    TW.streamLap true (.err e :: r) w
      = ({ w with pulls := w.pulls + 1, srcRest := r }.push 0 [.error e], .done) := by
  simp [TW.streamLap, hf]
theorem streamLap_err_plain (e : Err) (r : List AStep) (w : TW) (hf : fin w.stages = false) :
    TW.streamLap false (.err e :: r) w
      = TW.streamLap false r ({ w with pulls := w.pulls + 1 }.push 0 [.next (.int e)]) := by
  simp [TW.streamLap, hf]
theorem streamLap_pending (res : Bool) (r : List AStep) (w : TW) (hf : fin w.stages = false) :
    TW.streamLap res (.pending :: r) w = ({ w with srcRest := r }, .pending true) := by
  simp [TW.streamLap, hf]
theorem streamLap_hang (res : Bool) (r : List AStep) (w : TW) (hf : fin w.stages = false) :
    TW.streamLap res (.hang :: r) w = ({ w with srcRest := .hang :: r }, .pending false) := by
  simp [TW.streamLap, hf]
/-- FIXED behaviour: a finished observer retires the driver at once, nothing is pulled. -/
theorem streamLap_finished (res : Bool) (rest : List AStep) (w : TW) (hf : fin w.stages = true) :
    TW.streamLap res rest w = ({ w with srcRest := rest }, .done) := by
  cases rest <;> simp [TW.streamLap, hf]

/-- The outcome of a lap over a bare source, relative to the promise. -/
def LapOK (res : Bool) (rest : List AStep) (w : TW) (r : TW × AOut) : Prop :=
  w.SameFrame r.1 ∧
  match r.2 with
  | .done => r.1.log = w.log ++ relayStream res rest
  | .exhausted => r.1.log ++ [.complete] = w.log ++ relayStream res rest
  | .pending wk =>
      r.1.log ++ relayStream res r.1.srcRest = w.log ++ relayStream res rest ∧
      (noHang rest = true →
        wk = true ∧ noHang r.1.srcRest = true ∧ pendings r.1.srcRest + 1 = pendings rest)

/-- A lap that starts one item later. -/
theorem LapOK.step {res : Bool} {st : AStep} {rest : List AStep} {w w' : TW} {n : Notif} {r : TW × AOut}
    (hfr : w.SameFrame w') (hlog : w'.log = w.log ++ [n])
    (hrel : relayStream res (st :: rest) = n :: relayStream res rest)
    (hp : pendings (st :: rest) = pendings rest) (hh : noHang (st :: rest) = noHang rest)
    (h : LapOK res rest w' r) : LapOK res (st :: rest) w r := by
  obtain ⟨h1, h2⟩ := h
  refine ⟨hfr.trans h1, ?_⟩
  revert h2
  cases r.2 <;> simp only [hlog, hrel, hp, hh, List.append_assoc, List.singleton_append] <;> exact id

/-- One lap of the stream driver over a bare source, by induction over the
    script: whatever the outcome, what has been logged plus what the remaining
    script promises is what the script promised before. -/
theorem streamLap_bare (res : Bool) (rest : List AStep) :
    ∀ w : TW, w.stages = [] → LapOK res rest w (TW.streamLap res rest w) := by
  induction rest with
  | nil =>
    intro w h
    rw [streamLap_nil res w (fin_nil_of h)]
    exact ⟨⟨rfl, rfl, rfl, rfl, rfl, rfl⟩, by simp [relayStream]⟩
  | cons st r ih =>
    intro w h
    have hf := fin_nil_of h
    cases st with
    | ready v =>
      rw [streamLap_ready res v r w hf]
      have hb := TW.push_bare { w with pulls := w.pulls + 1 } [.next v] h
      have h' : ({ w with pulls := w.pulls + 1 }.push 0 [.next v]).stages = [] := by
        rw [hb.1.stages]; exact h
      have h0 : w.SameFrame { w with pulls := w.pulls + 1 } := ⟨rfl, rfl, rfl, rfl, rfl, rfl⟩
      exact LapOK.step (h0.trans hb.1) hb.2.1 rfl rfl rfl (ih _ h')
    | err e =>
      cases res with
      | true =>
        rw [streamLap_err_res e r w hf]
        have hb := TW.push_bare { w with pulls := w.pulls + 1, srcRest := r } [.error e] h
        have h0 : w.SameFrame { w with pulls := w.pulls + 1, srcRest := r } := ⟨rfl, rfl, rfl, rfl, rfl, rfl⟩
        exact ⟨h0.trans hb.1, by simpa [relayStream] using hb.2.1⟩
      | false =>
        rw [streamLap_err_plain e r w hf]
        have hb := TW.push_bare { w with pulls := w.pulls + 1 } [.next (.int e)] h
        have h' : ({ w with pulls := w.pulls + 1 }.push 0 [.next (.int e)]).stages = [] := by
          rw [hb.1.stages]; exact h
        have h0 : w.SameFrame { w with pulls := w.pulls + 1 } := ⟨rfl, rfl, rfl, rfl, rfl, rfl⟩
        exact LapOK.step (h0.trans hb.1) hb.2.1 (by simp [relayStream]) rfl rfl (ih _ h')
    | pending =>
      rw [streamLap_pending res r w hf]
      exact ⟨⟨rfl, rfl, rfl, rfl, rfl, rfl⟩, by simp [relayStream, pendings, noHang]⟩
    | hang =>
      rw [streamLap_hang res r w hf]
      exact ⟨⟨rfl, rfl, rfl, rfl, rfl, rfl⟩, by simp [relayStream, noHang]⟩

/-- A scripted future that resolves: some `ready`/`err` step is reached. -/
def resolves : List AStep → Bool
  | [] => false
  | .hang :: _ => false
  | .pending :: r => resolves r
  | _ :: _ => true

/-- The outcome of one `poll` of an async body over a bare source, relative to
    what the remaining script promises (`relay`) and to whether it gets there
    (`good`). -/
def PollOK (relay : List AStep → List Notif) (good : List AStep → Bool) (w : TW) (r : TW × AOut) : Prop :=
  w.SameFrame r.1 ∧
  match r.2 with
  | .done => r.1.log = w.log ++ relay w.srcRest
  | .exhausted => False
  | .pending wk =>
      r.1.log ++ relay r.1.srcRest = w.log ++ relay w.srcRest ∧
      (good w.srcRest = true →
        wk = true ∧ good r.1.srcRest = true ∧ pendings r.1.srcRest + 1 = pendings w.srcRest)

theorem pollStream_noncyc (res : Bool) (script : List AStep) (f : Nat) (w : TW) :
    TW.pollStream res script false (f + 1) w =
      match TW.streamLap res w.srcRest w with
      | (w1, .exhausted) => (w1.push 0 [.complete], .done)
      | r => r := by
  simp only [TW.pollStream, Bool.false_and, Bool.false_eq_true, if_false]
  generalize TW.streamLap res w.srcRest w = r
  obtain ⟨w1, o⟩ := r
  cases o <;> rfl

/-- One `poll` of the (non-cyclic) stream driver over a bare source. -/
theorem pollStream_bare (res : Bool) (script : List AStep) (f : Nat) (w : TW) (h : w.stages = []) :
    PollOK (relayStream res) noHang w (TW.pollStream res script false (f + 1) w) := by
  rw [pollStream_noncyc]
  have hl := streamLap_bare res w.srcRest w h
  revert hl
  generalize TW.streamLap res w.srcRest w = r
  obtain ⟨w1, o⟩ := r
  intro hl
  obtain ⟨h1, h2⟩ := hl
  cases o with
  | done => exact ⟨h1, h2⟩
  | pending wk => exact ⟨h1, h2⟩
  | exhausted =>
    have h1' : w1.stages = [] := by rw [h1.stages]; exact h
    have hb := TW.push_bare w1 [.complete] h1'
    exact ⟨h1.trans hb.1, by simpa [hb.2.1] using h2⟩

/-- One `poll` of the FutureTask over a bare source. -/
theorem pollFuture_bare (res : Bool) (w : TW) (h : w.stages = []) :
    PollOK (relayFuture res) resolves w (w.pollFuture res) := by
  unfold TW.pollFuture
  cases hr : w.srcRest with
  | nil => exact ⟨TW.SameFrame.refl w, by simp [hr, relayFuture, resolves]⟩
  | cons st r =>
    cases st with
    | hang => exact ⟨TW.SameFrame.refl w, by simp [hr, relayFuture, resolves]⟩
    | pending =>
      exact ⟨⟨rfl, rfl, rfl, rfl, rfl, rfl⟩, by simp [hr, relayFuture, resolves, pendings]⟩
    | ready v =>
      have hb := TW.push_bare { w with srcRest := r } [.next v, .complete] h
      have h0 : w.SameFrame { w with srcRest := r } := ⟨rfl, rfl, rfl, rfl, rfl, rfl⟩
      exact ⟨h0.trans hb.1, by simpa [hr, relayFuture] using hb.2.1⟩
    | err e =>
      cases res with
      | true =>
        have hb := TW.push_bare { w with srcRest := r } [.error e] h
        have h0 : w.SameFrame { w with srcRest := r } := ⟨rfl, rfl, rfl, rfl, rfl, rfl⟩
        exact ⟨h0.trans hb.1, by simpa [hr, relayFuture] using hb.2.1⟩
      | false =>
        have hb := TW.push_bare { w with srcRest := r } [.next (.int e), .complete] h
        have h0 : w.SameFrame { w with srcRest := r } := ⟨rfl, rfl, rfl, rfl, rfl, rfl⟩
        exact ⟨h0.trans hb.1, by simpa [hr, relayFuture] using hb.2.1⟩

/-- The executor polls an async task `n` times (as often and whenever it likes;
    a task that answered `Ready` is not polled again): the world afterwards and
    whether the task has finished. -/
def drivePolls (poll : TW → TW × AOut) : Nat → TW → TW × Bool
  | 0, w => (w, false)
  | n + 1, w =>
    match poll w with
    | (w1, .pending _) => drivePolls poll n w1
    | (w1, _) => (w1, true)

theorem drivePolls_ok (relay : List AStep → List Notif) (good : List AStep → Bool)
    (poll : TW → TW × AOut) (hp : ∀ w, w.stages = [] → PollOK relay good w (poll w)) :
    ∀ (n : Nat) (w : TW), w.stages = [] →
      w.SameFrame (drivePolls poll n w).1 ∧
      ((drivePolls poll n w).2 = true → (drivePolls poll n w).1.log = w.log ++ relay w.srcRest) ∧
      ((drivePolls poll n w).2 = false →
        (drivePolls poll n w).1.log ++ relay (drivePolls poll n w).1.srcRest = w.log ++ relay w.srcRest) := by
  intro n
  induction n with
  | zero => intro w _; exact ⟨TW.SameFrame.refl w, by simp [drivePolls], by simp [drivePolls]⟩
  | succ n ih =>
    intro w h
    have hw := hp w h
    unfold drivePolls
    revert hw
    generalize poll w = r
    obtain ⟨w1, o⟩ := r
    intro hw
    obtain ⟨h1, h2⟩ := hw
    cases o with
    | done => exact ⟨h1, fun _ => h2, by simp⟩
    | exhausted => exact absurd h2 id
    | pending wk =>
      dsimp only at h1 h2
      have h1' : w1.stages = [] := by rw [h1.stages]; exact h
      obtain ⟨i1, i2, i3⟩ := ih w1 h1'
      refine ⟨h1.trans i1, ?_, ?_⟩
      · intro hd; rw [i2 hd, h2.1]
      · intro hd; rw [i3 hd, h2.1]

theorem drivePolls_complete (relay : List AStep → List Notif) (good : List AStep → Bool)
    (poll : TW → TW × AOut) (hp : ∀ w, w.stages = [] → PollOK relay good w (poll w)) :
    ∀ (n : Nat) (w : TW), w.stages = [] → good w.srcRest = true → pendings w.srcRest < n →
      (drivePolls poll n w).2 = true := by
  intro n
  induction n with
  | zero => intro w _ _ hn; exact absurd hn (Nat.not_lt_zero _)
  | succ n ih =>
    intro w h hg hn
    have hw := hp w h
    unfold drivePolls
    revert hw
    generalize poll w = r
    obtain ⟨w1, o⟩ := r
    intro hw
    obtain ⟨h1, h2⟩ := hw
    cases o with
    | done => rfl
    | exhausted => exact absurd h2 id
    | pending wk =>
      dsimp only at h1 h2
      have h1' : w1.stages = [] := by rw [h1.stages]; exact h
      obtain ⟨_, g2, g3⟩ := h2.2 hg
      exact ih w1 h1' g2 (by omega)

/-- `Remote::poll` of a task spawned with `schedule(task, None)` that is neither
    finished nor a RepeatTask: cancelled → finished without running the body;
    otherwise the body is polled. -/
theorem pollPre_plain (s : Sched) (k : TaskId) (t : Task) (hk : s.tasks[k]? = some t)
    (hd : t.done = false) (hod : t.outerDelay = none) (hot : t.outerTimer = none)
    (hr : t.rep = none) :
    s.pollPre k =
      if t.keepRunning then (s.setTask k { t with woken := false, outerTimer := none }, .runOnce t.body)
      else (s.setTask k { t with woken := false, done := true }, .none) := by
  rcases Bool.eq_false_or_eq_true t.keepRunning with hkr | hkr
  · rw [if_pos hkr]; exact Sched.pollPre_once hk hd hkr hod (fun tm h => by rw [hot] at h; cases h) hr
  · rw [if_neg (by rw [hkr]; exact Bool.false_ne_true)]; exact Sched.pollPre_cancelled hk hd hkr

theorem pollStream_finished (res cyc : Bool) (script : List AStep) (f : Nat) (w : TW)
    (h : fin w.stages = true) :
    (TW.pollStream res script cyc (f + 1) w).2 = .done ∧
    (TW.pollStream res script cyc (f + 1) w).1.log = w.log ∧
    (TW.pollStream res script cyc (f + 1) w).1.pulls = w.pulls ∧
    (TW.pollStream res script cyc (f + 1) w).1.sched = w.sched := by
  simp [TW.pollStream, streamLap_finished res w.srcRest w h]

/-- What `pollTask` does after `pollPre` answered `runOnce` for an async body. -/
def TW.afterAsync (w : TW) (k : TaskId) (b : Body) : TW :=
  match w.runAsync b with
  | (w1, .pending wk) => { w1 with sched := w1.sched.stayPending k wk }
  | (w1, _) => { w1 with sched := w1.sched.finishOnce k }

/-- A poll of a live async task that was scheduled without delay is `pollPre`, then `afterAsync`. -/
theorem pollTask_afterAsync (w : TW) (k : TaskId) (t : Task)
    (hk : w.sched.tasks[k]? = some t) (hd : t.done = false) (hod : t.outerDelay = none)
    (hot : t.outerTimer = none) (hr : t.rep = none) (hc : t.keepRunning = true)
    (hb : t.body.isAsync = true) :
    w.pollTask k =
      ({ w with sched := w.sched.setTask k { t with woken := false, outerTimer := none } } : TW).afterAsync
        k t.body := by
  rw [pollTask_eq, pollPre_plain w.sched k t hk hd hod hot hr, if_pos hc]
  show (if t.body.isAsync then _ else _) = _
  rw [if_pos hb]; rfl

theorem afterAsync_stream_finished (w : TW) (k : TaskId) (t1 : Task) (res cyc : Bool)
    (script : List AStep) (hsrc : w.src = .stream res script cyc)
    (hk : w.sched.tasks[k]? = some t1) (hfin : fin w.stages = true) :
    ∃ t', (w.afterAsync k .streamSrc).sched.tasks[k]? = some t' ∧ t'.done = true ∧
      (w.afterAsync k .streamSrc).log = w.log := by
  obtain ⟨r1, r2, _, r4⟩ := pollStream_finished res cyc script 9999 w hfin
  unfold TW.afterAsync
  simp only [TW.runAsync, hsrc]
  rw [show (10000 : Nat) = 9999 + 1 from rfl]
  revert r1 r2 r4
  generalize TW.pollStream res script cyc (9999 + 1) w = r
  obtain ⟨w1, o⟩ := r
  intro r1 r2 r4
  dsimp only at r1 r2 r4
  subst r1
  refine ⟨{ t1 with done := true, hasValue := true }, ?_, rfl, r2⟩
  simp [Sched.finishOnce, r4, hk, Sched.setTask_get_self _ _ _ _ hk]

end Rx.T
