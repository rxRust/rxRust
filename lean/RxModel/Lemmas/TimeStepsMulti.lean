import RxModel.Lemmas.TimeStepsEv
/-
  delay and observe_on (one task per notification, handles collected in a `MultiSubscriptionThreads`) with the ORIGINAL
  order of their subscription: the invariant of all schedules behind Props/C02S.lean.
-/
namespace Rx.Conc.TS
open Rx

/-- past `SubscriberThreads::unsubscribe` of the source half -/
def Pc.mLate : Pc → Bool
  | .u_multi _ | .u_mc _ _ | .u_end => true
  | _ => false

structure MConf (K : Conf) : Prop where
  kind : K.kind.isM = true
  order : K.order = .original

theorem mLate_inUnsub {p : Pc} (hl : p.mLate = true) : p.inUnsub = true := by
  cases p <;> simp_all [Pc.mLate, Pc.inUnsub]

theorem ev_mLate (K : Conf) (hK : K.order = .original) (s : St) (p : Pc) (ok : p.okM = true)
    (h : (step K s p).2.mLate = true) : p.mLate = true ∨ ∃ b, p = .u_slot b := by
  rcases ev_inUnsub K s p (mLate_inUnsub h) with hp | ⟨rfl, _⟩
  · cases p <;> simp [Pc.inUnsub] at hp
    case u_slot b => exact .inr ⟨b, rfl⟩
    case u_multi b => exact .inl rfl
    case u_mc hs b => exact .inl rfl
    case u_end => exact .inl rfl
    all_goals cases ok
  · rcases step_u_begin hK s with e | e <;> rw [e] at h <;> cases h

theorem step_dl_append (K : Conf) (s : St) (k : Nat) :
    step K s (.dl_append k) = match s.multi with
      | some l => ({ s with multi := some (l ++ [k]) }, .fin)
      | none => (s, .dl_late k) := rfl

/-- the next stage of the teardown loop -/
theorem mc_next (K : Conf) (s : St) (h : Nat) (r : List Nat) (b : Bool) :
    (step K s (.u_mc (h :: r) b)).1 = s.upd h cancel ∧
      ((r = [] ∧ (step K s (.u_mc (h :: r) b)).2 = uAfter b) ∨
        (r ≠ [] ∧ (step K s (.u_mc (h :: r) b)).2 = .u_mc r b)) := by
  cases r with
  | nil => exact ⟨rfl, .inl ⟨rfl, rfl⟩⟩
  | cons a r => exact ⟨rfl, .inr ⟨nofun, rfl⟩⟩

theorem down_casesM (p : Pc) (h : p.cell = some .down) (ok : p.okM = true) :
    Cell.slot ∈ p.holds ∨ ∃ k n ret, p = .p_emit k n ret := by
  cases p <;> simp [Pc.cell] at h <;> simp [Pc.holds, Pc.okM] at ok ⊢

/-- what a thread standing at a program counter knows -/
def AssertM (s : St) : Pc → Prop
  | .dl_append k => k < s.tasks.length
  | .p_emit k _ _ => s.armed k = true
  | .u_multi _ => s.slotOpen = false
  | .u_mc hs _ => s.slotOpen = false ∧ s.multi = none ∧ ∀ k, s.armed k = true → k ∈ hs
  | .u_end => s.slotOpen = false ∧ ∀ k, s.armed k = false
  | _ => True

structure MData (s : St) (f : Nat → Pc) : Prop where
  ok : ∀ j, (f j).okM = true
  body : ∀ t ∈ s.tasks, ∃ n, t.body = .emit n
  as : ∀ j, AssertM s (f j)
  poll : PollInv s f
  /-- one unsubscribing thread -/
  uu : ∀ j j', (f j).inUnsub = true → (f j').inUnsub = true → j = j'
  us : ∀ j, (f j).inUnsub = true → s.subHeld = false
  /-- an armed task is registered in the composite, or about to be, or about to be cancelled -/
  t1 : ∀ k, s.armed k = true →
    (∃ l, s.multi = some l ∧ k ∈ l) ∨
      ∃ j, f j = .dl_append k ∨ f j = .dl_late k ∨ ∃ hs b, f j = .u_mc hs b ∧ k ∈ hs
  /-- once the source half is closed nobody is inside the slot section -/
  u1 : ∀ j j', (f j).mLate = true → Cell.slot ∉ (f j').holds
  q : Item.R ∈ s.log → QuietM s f
  ql : quietAfterR s.log = true

structure MInv (s : St) (f : Nat → Pc) : Prop where
  ld : LD s f
  dd : MData s f

theorem task_bodyM (s : St) (hb : ∀ t ∈ s.tasks, ∃ n, t.body = .emit n) (k : Nat) (hk : k < s.tasks.length) :
    ∃ n, (s.task k).body = .emit n := by
  rw [task_eq, List.getElem?_eq_getElem hk]
  exact hb _ (List.getElem_mem hk)

theorem entry_okM {q : Pc} (h : q.isEntry = true) : q.okM = true := by
  cases q <;> first | rfl | cases h

theorem entry_assertM (s : St) {q : Pc} (h : q.isEntry = true) : AssertM s q := by
  cases q <;> first | trivial | cases h

theorem mLate_assert {s : St} {p : Pc} (hl : p.mLate = true) (a : AssertM s p) : s.slotOpen = false := by
  cases p <;> simp [Pc.mLate] at hl <;> first | exact a | exact a.1

section frameM
variable {K : Conf} {s : St} {f : Nat → Pc} {i : Nat}

theorem okM_entries {K : Conf} (h1 : K.kind.isM = true) :
    (∀ v, (nextEntry K v).okM = true) ∧ (∀ t, (termEntry K t).okM = true) ∧ ∀ b, (uSecond K b).okM = !b := by
  obtain ⟨kind, order⟩ := K
  cases kind <;> first | cases h1 | skip
  all_goals exact ⟨fun v => rfl, fun t => by cases t <;> rfl, fun b => rfl⟩

theorem step_okM' (hK : MConf K) (p : Pc) (ok : p.okM = true)
    (hn : ∀ k ret, p = .p_handle k ret → ∃ n, (s.task k).body = .emit n) : (step K s p).2.okM = true := by
  have h1 := hK.kind
  obtain ⟨hne, hte, hu⟩ := okM_entries h1
  revert ok hn
  induction p using step_elim K s <;> intro ok hn
  case u_begin_held => simp only [hK.order]; rfl
  case sj_slot => split <;> first | rfl | exact hne _
  case sj_tslot_open => exact hte _
  case te_down =>
    -- only throttle goes on to its handler cell
    split
    · next e => rw [e] at h1; cases h1
    · rfl
  case p_handle_body =>
    obtain ⟨n, hn⟩ := hn _ _ rfl
    simp only [hn]; rfl
  case u_slot b => cases b <;> first | (cases ok; done) | exact hu false
  case u_multi b => cases b <;> first | (cases ok; done) | (split <;> rfl)
  case u_mc_nil b | u_mc_last _ b => cases b <;> first | rfl | cases ok
  case u_mc_more => exact ok
  all_goals
    first
    | rfl
    | (cases ok; done)
    | ((repeat' split) <;> rfl)
    | (simp only [retPc]; (repeat' split) <;> rfl)

theorem step_okM (hK : MConf K) (h : MInv s f) : (step K s (f i)).2.okM = true :=
  step_okM' hK (f i) (h.dd.ok i) fun k ret hp => by
    obtain ⟨t, ht, _⟩ := h.dd.poll.p2 k i (by rw [hp]; simp [Pc.inPoll])
    exact task_bodyM s h.dd.body k (List.getElem?_eq_some_iff.mp ht).1

theorem assertM_frame (h : MInv s f) (he : s.enabled (f i) = true) {j : Nat} (hj : j ≠ i) :
    AssertM (step K s (f i)).1 (f j) := by
  have a := h.dd.as j
  have hdead : (f j).mLate = true → ∀ k, (step K s (f i)).1.armed k = true → s.armed k = true := by
    intro hl k hx
    rcases ev_armed _ _ _ _ hx with e | ⟨_, e⟩
    · exact e
    · exact absurd e (h.dd.u1 j i hl)
  generalize hfj : f j = q at a ⊢
  cases q <;> first | trivial | skip
  case dl_append k => exact Nat.lt_of_lt_of_le a (len_mono _ _ _)
  case p_emit k n ret => exact armed_kept h.ld he hj (by rw [hfj]; simp [Pc.holds]) a
  case u_multi b => exact slot_closed _ a
  case u_mc hs b =>
    exact ⟨slot_closed _ a.1, ev_multi_none _ _ _ a.2.1, fun k hx => a.2.2 k (hdead (by rw [hfj]; rfl) k hx)⟩
  case u_end =>
    refine ⟨slot_closed _ a.1, fun k => ?_⟩
    cases hx : (step K s (f i)).1.armed k with
    | false => rfl
    | true => have := hdead (by rw [hfj]; rfl) k hx; rw [a.2 k] at this; cases this

/-- what is armed when the composite is taken is in the taken list (or there is nothing armed) -/
theorem armed_in_taken (h : MInv s f) {b : Bool} (hp : f i = .u_multi b) (k : Nat) (hk : s.armed k = true) :
    ∃ l, s.multi = some l ∧ k ∈ l := by
  have late : (f i).mLate = true := by rw [hp]; rfl
  rcases h.dd.t1 k hk with e | ⟨j, e | e | ⟨hs, b', e, _⟩⟩
  · exact e
  · exact absurd (by rw [e]; simp [Pc.holds]) (h.dd.u1 i j late)
  · exact absurd (by rw [e]; simp [Pc.holds]) (h.dd.u1 i j late)
  · have := h.dd.uu j i (by rw [e]; rfl) (by rw [hp]; rfl)
    subst this
    rw [hp] at e; cases e

theorem armed_upd_cancel (s : St) (h k : Nat) (hk : (s.upd h cancel).armed k = true) : s.armed k = true := by
  by_cases e : h = k
  · subst e; rw [cancel_unarmed] at hk; cases hk
  · unfold St.armed St.upd at hk; simp only [getElem?_updT, if_neg e] at hk; exact hk

/-- as `assert_step`; `htaken`: what is armed when `unsubscribe` takes the composite is in the list it takes -/
theorem assertM_step (hK : MConf K) (p : Pc) (a : AssertM s p) (ok : p.okM = true)
    (hbody : ∀ k ret, p = .p_handle k ret → (s.task k).keep = true → s.armed k = true)
    (hn : ∀ k ret, p = .p_handle k ret → ∃ n, (s.task k).body = .emit n)
    (htaken : ∀ b, p = .u_multi b → ∀ k, s.armed k = true → ∃ l, s.multi = some l ∧ k ∈ l) :
    AssertM (step K s p).1 (step K s p).2 := by
  have h1 := hK.kind
  revert a ok hbody hn htaken
  induction p using step_elim K s <;> intro a ok hbody hn htaken
  case u_begin_held => simp only [hK.order]; trivial
  case dl_retain => simp [AssertM, St.spawn]
  case p_handle_body k ret hk _ =>
    obtain ⟨n, hn⟩ := hn k ret rfl
    simp only [hn]
    exact hbody k ret rfl hk
  case u_slot b =>
    cases b
    · cases ok
    · rw [if_pos rfl, uSecond_M h1]; rfl
  case u_multi b =>
    have dead : (∀ h r, s.multi ≠ some (h :: r)) → ∀ k, s.armed k = false := fun hne k => by
      cases hx : s.armed k with
      | false => rfl
      | true =>
        obtain ⟨l, hl, hkl⟩ := htaken _ rfl k hx
        cases l with
        | nil => cases hkl
        | cons a r => exact absurd hl (hne a r)
    split
    · next h0 r hm =>
      refine ⟨a, rfl, fun k hk => ?_⟩
      obtain ⟨l, hl, hkl⟩ := htaken _ rfl k hk
      cases hm.symm.trans hl; exact hkl
    · next hne =>
      cases b
      · exact ⟨a, dead fun h r e => hne h r e⟩
      · cases ok
  case u_mc_nil b =>
    cases b
    · exact ⟨a.1, fun k => Bool.eq_false_iff.mpr fun hk => nomatch a.2.2 k hk⟩
    · cases ok
  case u_mc_last h0 b =>
    cases b
    · refine ⟨a.1, fun k => Bool.eq_false_iff.mpr fun hk => ?_⟩
      cases List.mem_singleton.mp (a.2.2 k (armed_upd_cancel s _ _ hk))
      exact absurd hk (by rw [cancel_unarmed]; nofun)
    · cases ok
  case u_mc_more h0 r b _ =>
    refine ⟨a.1, a.2.1, fun k hk => ?_⟩
    rcases List.mem_cons.mp (a.2.2 k (armed_upd_cancel s _ _ hk)) with e | e
    · subst e; exact absurd hk (by rw [cancel_unarmed]; nofun)
    · exact e
  all_goals
    first
    | trivial
    | (cases ok; done)
    | ((repeat' split) <;> trivial)
    | (simp only [nextEntry, termEntry, afterTrail, thOver, retPc]; (repeat' split) <;> trivial)

theorem assertM_self (hK : MConf K) (h : MInv s f) :
    AssertM (step K s (f i)).1 (step K s (f i)).2 :=
  assertM_step hK (f i) (h.dd.as i) (h.dd.ok i) (fun _ _ hp => armed_at_body h.dd.poll hp)
    (fun k ret hp => by
      obtain ⟨t, ht, _⟩ := h.dd.poll.p2 k i (by rw [hp]; simp [Pc.inPoll])
      exact task_bodyM s h.dd.body k (List.getElem?_eq_some_iff.mp ht).1)
    (fun _ hp => armed_in_taken h hp)

theorem mdata_preserved (hK : MConf K) (h : MInv s f) (he : s.enabled (f i) = true) {q : Pc}
    (ha : After (step K s (f i)).2 q) :
    MData (step K s (f i)).1 (fun j => if j = i then q else f j) := by
  have hb' : ∀ t ∈ (step K s (f i)).1.tasks, ∃ n, t.body = .emit n := by
    intro t' hm
    obtain ⟨k, ht'⟩ := List.getElem?_of_mem hm
    cases h0 : s.tasks[k]? with
    | some t =>
      obtain ⟨t'', ht'', hkept⟩ := ev_old K s (f i) k t h0
      cases ht'.symm.trans ht''
      rw [hkept.body]; exact h.dd.body t (List.mem_of_getElem? h0)
    | none =>
      obtain ⟨_, b, rfl, _, ⟨e, _⟩ | ⟨_, e, _⟩⟩ := ev_new K s (f i) k t' ht' h0
      · rw [h.dd.ok i] at e; cases e
      · exact e
  have hq_un : q.inUnsub = true →
      (f i).inUnsub = true ∨ (f i = .u_begin ∧ s.subHeld = true ∧ (step K s (f i)).1.subHeld = false) := by
    intro hu
    rcases ha with rfl | ⟨_, hent⟩
    · exact ev_inUnsub _ _ _ hu
    · rw [entry_inUnsub hent] at hu; cases hu
  refine ⟨fun j => ?_, hb', fun j => ?_, h.dd.poll.preserved ha, ?_, ?_, ?_, ?_, ?_, ?_⟩
  · by_cases hj : j = i
    · simp only [hj, if_true]
      rcases ha with rfl | ⟨_, hent⟩
      · exact step_okM hK h
      · exact entry_okM hent
    · simp only [hj, if_false]; exact h.dd.ok j
  · by_cases hj : j = i
    · simp only [hj, if_true]
      rcases ha with rfl | ⟨_, hent⟩
      · exact assertM_self hK h
      · exact entry_assertM _ hent
    · simp only [hj, if_false]; exact assertM_frame h he hj
  · -- one unsubscribing thread: the subscription value is handed out once
    intro j j' h1 h2
    by_cases hj : j = i <;> by_cases hj' : j' = i
    · rw [hj, hj']
    · simp only [hj, hj', if_true, if_false] at h1 h2
      rcases hq_un h1 with e | ⟨_, e, _⟩
      · exact hj ▸ (h.dd.uu i j' e h2)
      · rw [h.dd.us j' h2] at e; cases e
    · simp only [hj, hj', if_true, if_false] at h1 h2
      rcases hq_un h2 with e | ⟨_, e, _⟩
      · exact hj' ▸ (h.dd.uu j i h1 e)
      · rw [h.dd.us j h1] at e; cases e
    · simp only [hj, hj', if_false] at h1 h2
      exact h.dd.uu j j' h1 h2
  · -- inside `unsubscribe()` the subscription value is gone
    intro j hu
    have keep : s.subHeld = false → (step K s (f i)).1.subHeld = false := by
      intro hn
      cases hx : (step K s (f i)).1.subHeld with
      | false => rfl
      | true => rw [ev_sub _ _ _ hx] at hn; cases hn
    by_cases hj : j = i
    · simp only [hj, if_true] at hu
      rcases hq_un hu with e | ⟨_, _, e⟩
      · exact keep (h.dd.us i e)
      · exact e
    · simp only [hj, if_false] at hu
      exact keep (h.dd.us j hu)
  · -- an armed task stays tracked
    intro k hx
    rcases ev_armed _ _ _ _ hx with e | ⟨h0, _⟩
    · rcases h.dd.t1 k e with ⟨l, hl, hkl⟩ | ⟨j, hj⟩
      · rcases ev_multi_mem K s (f i) l k hl hkl with e1 | ⟨b, e1⟩
        · exact .inl e1
        · exact .inr ⟨i, .inr (.inr ⟨l, b, by simp only [if_true]; exact after_eq ha e1 nofun, hkl⟩)⟩
      · by_cases hji : j = i
        · subst hji
          rcases hj with e1 | e1 | ⟨hs, b, e1, hk⟩
          · -- the append: into the composite, or (the composite gone) on to cancel the task
            rw [e1] at ha ⊢
            rw [step_dl_append] at ha ⊢
            cases hm : s.multi with
            | some l => exact .inl ⟨_, rfl, List.mem_append_right _ (List.mem_singleton.mpr rfl)⟩
            | none =>
              rw [hm] at ha
              exact .inr ⟨j, .inr (.inl (by simp only [if_true]; exact after_eq ha rfl nofun))⟩
          · rw [e1] at hx; cases (cancel_unarmed s k).symm.trans hx
          · cases hs with
            | nil => cases hk
            | cons h1 r =>
              obtain ⟨e0, e3⟩ := mc_next K s h1 r b
              rw [e1, e0] at hx
              rcases List.mem_cons.mp hk with e2 | e2
              · subst e2; cases (cancel_unarmed s k).symm.trans hx
              · rcases e3 with ⟨er, _⟩ | ⟨_, e3⟩
                · subst er; cases e2
                · rw [← e1] at e3
                  exact .inr ⟨j, .inr (.inr ⟨r, b, by simp only [if_true]; exact after_eq ha e3 nofun, e2⟩)⟩
        · exact .inr ⟨j, by simp only [hji, if_false]; exact hj⟩
    · obtain ⟨t', ht', _⟩ := (armed_iff _ _).mp hx
      obtain ⟨_, b, _, _, ⟨e, _⟩ | ⟨_, _, e⟩⟩ := ev_new K s (f i) k t' ht' h0
      · rw [h.dd.ok i] at e; cases e
      · exact .inr ⟨i, .inl (by simp only [if_true]; exact after_eq ha e nofun)⟩
  · -- behind the source half nobody is inside the slot section
    refine late_preserved Pc.mLate (fun _ => mLate_inUnsub) h.ld he ha (fun hl => ?_)
      (fun j hl => mLate_assert hl (h.dd.as j)) h.dd.u1
    exact ev_mLate K hK.order s (f i) (h.dd.ok i) hl
  · -- behind the marker: `u_end` knows the pipeline is dead, every later step keeps it so
    intro hR
    refine QuietM.preserved ?_ ha
    rcases R_mem _ hR with hR | e
    · exact h.dd.q hR
    · have a := h.dd.as i
      rw [e] at a
      exact ⟨a.1, a.2, fun j => h.dd.u1 i j (by rw [e]; rfl)⟩
  · -- ql: whoever delivers is inside the slot section or runs an armed task, which `QuietM` excludes
    refine quiet_log _ h.dd.ql fun hc hR => ?_
    have hq := h.dd.q hR
    rcases down_casesM (f i) hc (h.dd.ok i) with e | ⟨k, n, ret, e⟩
    · exact hq.out i e
    · have a := h.dd.as i
      rw [e] at a
      cases (hq.dead k).symm.trans a

end frameM

theorem MData.setHeld {s : St} {f : Nat → Pc} (h : MData s f) (i : Tid) (c : List Cell) :
    MData (s.setHeld i c) f :=
  ⟨h.ok, h.body, h.as, ⟨h.poll.p1, h.poll.p2, h.poll.v⟩, h.uu, h.us, h.t1, h.u1,
    fun hR => ⟨(h.q hR).slot, (h.q hR).dead, (h.q hR).out⟩, h.ql⟩

theorem MInv.preserved {K : Conf} (hK : MConf K) {s : St} {f : Nat → Pc} (h : MInv s f) (i : Nat) (q : Pc)
    (he : s.enabled (f i) = true) (ha : After (step K s (f i)).2 q) :
    MInv ((step K s (f i)).1.setHeld i q.holds) (fun j => if j = i then q else f j) :=
  ⟨h.ld.preserved K i q he ha, (mdata_preserved hK h he ha).setHeld i q.holds⟩

theorem MInv.init (live : Bool) (progs : List (List Op)) :
    MInv (St.subscribed live) (Cfg.init (St.subscribed live) progs).pcOf := by
  have hpc := init_pcOf (St.subscribed live) progs
  have hno : ∀ k, (St.subscribed live).armed k = false := by intro k; rfl
  refine ⟨LD.init _ rfl progs, ⟨?_, ?_, ?_, PollInv.init live progs, ?_, ?_, ?_, ?_, ?_, rfl⟩⟩
  · intro j; rcases hpc j with e | e
    · rw [e]; rfl
    · exact entry_okM e
  · intro t ht; cases ht
  · intro j; rcases hpc j with e | e
    · rw [e]; trivial
    · exact entry_assertM _ e
  · intro j j' h1; rcases hpc j with e | e
    · rw [e] at h1; cases h1
    · rw [entry_inUnsub e] at h1; cases h1
  · intro j h1; rcases hpc j with e | e
    · rw [e] at h1; cases h1
    · rw [entry_inUnsub e] at h1; cases h1
  · intro k hk; rw [hno k] at hk; cases hk
  · intro j j' h1; rcases hpc j with e | e
    · rw [e] at h1; cases h1
    · cases (entry_inUnsub e).symm.trans (mLate_inUnsub h1)
  · intro hR; cases hR

/-- The invariant holds along every schedule of every set of threads. -/
theorem MInv.exec {K : Conf} (hK : MConf K) (live : Bool) (progs : List (List Op)) (sched : List Nat) :
    MInv (exec K (Cfg.init (St.subscribed live) progs) sched).st
      (exec K (Cfg.init (St.subscribed live) progs) sched).pcOf :=
  view_induction K MInv (fun _ _ i q h he ha => h.preserved hK i q he ha) sched _ (MInv.init live progs)

theorem mconf_delay (d : Nat) : MConf ⟨.delay d, .original⟩ := ⟨rfl, rfl⟩
theorem mconf_observeOn : MConf ⟨.observeOn, .original⟩ := ⟨rfl, rfl⟩

end Rx.Conc.TS
