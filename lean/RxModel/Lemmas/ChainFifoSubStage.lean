import RxModel.Lemmas.ChainFifoSubBase
/-
  C07 over chains with several time stages: one notification arriving at a
  stage (`Stage.onNotif`, `Stage.afterEmit`) and the cascade, for every fuel value:

  * `Frame`: what happens to the scheduler;
  * `PwLe`: the pending lists of the other positions can only shrink;
  * `SubF` / `ChainF`: the ghost histories stay consistent (a mover appends the
    notification to its own pending list).
-/
namespace Rx.T
open Rx Rx.Spec

variable {kd : Nat → Option (Option Nat)}

theorem Stage.onNotif_frame (st : Stage) (j : Nat) (n : Notif) (s : Sched) (hk : dlOf st = kd j) :
    Frame kd j s (st.onNotif j n s).2.2 := by
  fun_cases Stage.onNotif st j n s
  all_goals first
    | exact Frame.refl _ _
    | exact Frame.cancelOpt j s _
    | ((repeat' split) <;> exact Frame.refl _ _)
    | (rename_i heq; cases heq
       exact Frame.scheduleOnce j s _ _ rfl (fun i m e => by cases e; exact ⟨Nat.le_refl _, hk.symm⟩))
    | (rename_i heq; cases heq
       exact (Frame.cancelOpt j s _).trans (Frame.scheduleOnce j _ _ _ rfl (fun i m e => by cases e)))

theorem Stage.onNotif_pw (st : Stage) (j : Nat) (n : Notif) (s : Sched) (i : Nat) (hi : i ≠ j) :
    PwLe i s (st.onNotif j n s).2.2 := by
  have hne : ∀ m k, Body.emit j m ≠ Body.emit i k := by
    intro m k e; cases e; exact hi rfl
  fun_cases Stage.onNotif st j n s
  all_goals first
    | exact PwLe.refl _ _
    | exact PwLe.cancelOpt i s _
    | ((repeat' split) <;> exact PwLe.refl _ _)
    | (rename_i heq; cases heq; exact PwLe.scheduleOnce i s _ _ (fun k => hne _ k))
    | (rename_i heq; cases heq
       exact (PwLe.cancelOpt i s _).trans (PwLe.scheduleOnce i _ _ _ (fun k e => by cases e)))

theorem Stage.onNotif_dl (st : Stage) (j : Nat) (n : Notif) (s : Sched) :
    dlOf (st.onNotif j n s).1 = dlOf st := by
  fun_cases Stage.onNotif st j n s
  all_goals first | rfl | ((repeat' split) <;> rfl)

theorem Stage.afterEmit_frame (st : Stage) (j : Nat) (s : Sched) : Frame kd j s (st.afterEmit j s).2 := by
  cases st with
  | throttleW d e alive tr => exact Frame.scheduleOnce j s _ _ rfl (fun i m e => by cases e)
  | _ => exact Frame.refl _ _

theorem Stage.afterEmit_pw (st : Stage) (j : Nat) (s : Sched) (i : Nat) : PwLe i s (st.afterEmit j s).2 := by
  cases st with
  | throttleW d e alive tr => exact PwLe.scheduleOnce i s _ _ (fun k e => by cases e)
  | _ => exact PwLe.refl _ _

theorem Stage.afterEmit_dl (st : Stage) (j : Nat) (s : Sched) : dlOf (st.afterEmit j s).1 = dlOf st := by
  cases st <;> rfl

theorem Stage.onNotif_subF (st : Stage) (j : Nat) (n : Notif) (s : Sched) {inp out : List Notif}
    (h : SubF (pend j s) st inp out) :
    SubF (pend j (st.onNotif j n s).2.2) (st.onNotif j n s).1 (inp ++ [n]) (out ++ (st.onNotif j n s).2.1) := by
  cases hm : st.isMover with
  | false =>
    exact .of_sub9 (st.onNotif_sub9 j n s (h.sub9 hm)) ((st.onNotif_isBuf j n s).trans h.notBuf)
  | true =>
    -- a mover: what arrives joins the pending notifications
    have sched : ∀ (d : Option Nat), (items out ++ items (pend j s)).Sublist (items inp) →
        (items (out ++ []) ++ items (pend j (s.scheduleOnce (.emit j n) d).1)).Sublist (items (inp ++ [n])) := by
      intro d h
      rw [pend_scheduleOnce_emit]
      exact sub9_items (em := []) (h' := items (pend j s ++ [n])) h
        (by rw [items_append]; exact List.Sublist.refl _)
    cases st with
    | delay d alive multi =>
      cases n with
      | error e =>
        exact sub9_items (em := if alive then [.error e] else []) (h' := items (pend j s)) h
          (by cases alive <;> simp [items])
      | next v => exact sched _ h
      | complete => exact sched _ h
    | observeOn alive multi => exact sched _ h
    | _ => cases hm

theorem Stage.afterEmit_subF (st : Stage) (j : Nat) (s : Sched) {p p' : List Notif} {inp out : List Notif}
    (h : SubF p st inp out) (hp : p'.Sublist p) : SubF p' (st.afterEmit j s).1 inp out := by
  cases st with
  | throttleW d e alive tr => exact h
  | _ => exact h.mono hp

theorem cascadeF_frame (f : Nat) (stages : List Stage) (j : Nat) (ns : List Notif) (s : Sched) :
    Kinds kd j stages →
      Frame kd j s (cascadeF f stages j ns s).2.2 ∧
        (cascadeF f stages j ns s).1.map dlOf = stages.map dlOf := by
  refine cascadeF_rec (M := fun stages j _ s r => Kinds kd j stages →
    Frame kd j s r.2.2 ∧ r.1.map dlOf = stages.map dlOf) ?_ ?_ ?_ f stages j ns s
  · intro _ _ _ _ _; exact ⟨Frame.refl _ _, rfl⟩
  · intro _ _ _ _; exact ⟨Frame.refl _ _, rfl⟩
  · intro st rest j n ns s c d ih1 ih2 hk
    have i1 := ih1 hk.tail
    have hm : (((st.onNotif j n s).1.afterEmit j c.2.2).1 :: c.1).map dlOf = (st :: rest).map dlOf := by
      rw [List.map_cons, List.map_cons, i1.2, Stage.afterEmit_dl, Stage.onNotif_dl]
    have i2 := ih2 (hk.of_map hm)
    exact ⟨(((st.onNotif_frame j n s hk.head).trans (i1.1.mono (Nat.le_succ j))).trans
      (Stage.afterEmit_frame _ j _)).trans i2.1, i2.2.trans hm⟩

theorem cascadeF_subF (f : Nat) (stages : List Stage) (j : Nat) (ns : List Notif) (s : Sched) :
    ∀ up log, ChainF (pendOf s) j up stages log →
      ChainF (pendOf (cascadeF f stages j ns s).2.2) j (up ++ ns) (cascadeF f stages j ns s).1
          (log ++ (cascadeF f stages j ns s).2.1) ∧
        ∀ i, i < j → PwLe i s (cascadeF f stages j ns s).2.2 := by
  refine cascadeF_rec (M := fun stages j ns s r => ∀ up log, ChainF (pendOf s) j up stages log →
    ChainF (pendOf r.2.2) j (up ++ ns) r.1 (log ++ r.2.1) ∧ ∀ i, i < j → PwLe i s r.2.2) ?_ ?_ ?_
    f stages j ns s
  · intro stages j ns s up log h
    rw [List.append_nil]
    exact ⟨h.mono (List.sublist_append_left _ _), fun i _ => PwLe.refl _ _⟩
  · intro j ns s up log h
    exact ⟨List.Sublist.append h (List.Sublist.refl _), fun i _ => PwLe.refl _ _⟩
  · rintro st rest j n ns s c d ih1 ih2 up log ⟨inp, out, h1, h2, h3⟩
    have p1 := st.onNotif_pw j n s
    have p2 := Stage.afterEmit_pw (st.onNotif j n s).1 j c.2.2
    -- the rest of the chain does not see what stage `j` did to the scheduler
    obtain ⟨c1, q1⟩ := ih1 out log (h3.anti (fun i hi => (p1 i (by omega)).sublist))
    have hj : (pend j ((st.onNotif j n s).1.afterEmit j c.2.2).2).Sublist (pend j (st.onNotif j n s).2.2) :=
      ((q1 j (Nat.lt_succ_self j)).trans (p2 j)).sublist
    obtain ⟨c3, q3⟩ := ih2 (up ++ [n]) _ ⟨inp ++ [n], out ++ _, List.Sublist.append h1 (List.Sublist.refl _),
      Stage.afterEmit_subF _ j _ (st.onNotif_subF j n s h2) hj, c1.anti (fun i _ => (p2 i).sublist)⟩
    refine ⟨by rwa [List.append_assoc, List.append_assoc] at c3, fun i hi => ?_⟩
    exact (((p1 i (by omega)).trans (q1 i (by omega))).trans (p2 i)).trans (q3 i hi)

theorem cascade_frame (stages : List Stage) (j : Nat) (ns : List Notif) (s : Sched) (hk : Kinds kd j stages) :
    Frame kd j s (cascade stages j ns s).2.2 ∧ (cascade stages j ns s).1.map dlOf = stages.map dlOf :=
  cascadeF_frame _ stages j ns s hk

theorem cascade_subF (stages : List Stage) (j : Nat) (ns : List Notif) (s : Sched) (up log : List Notif)
    (h : ChainF (pendOf s) j up stages log) :
    ChainF (pendOf (cascade stages j ns s).2.2) j (up ++ ns) (cascade stages j ns s).1
        (log ++ (cascade stages j ns s).2.1) ∧
      ∀ i, i < j → PwLe i s (cascade stages j ns s).2.2 :=
  cascadeF_subF _ stages j ns s up log h

end Rx.T
