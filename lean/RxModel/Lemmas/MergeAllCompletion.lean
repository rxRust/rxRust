import RxModel.Lemmas.MergeAllHistory
/-
  The accounting invariant of merge_all on error-free histories, and what it
  gives: downstream completes exactly when the outer stream has completed and
  every inner observable that arrived has completed.
-/
namespace Rx.MergeAll

/-- No cold inner of the table ends with an error. -/
def NoErrTable (inners : List Inner) : Prop := ∀ xs e, Inner.cold xs (.error e) ∉ inners

/-- Events of an error-free history without unsubscription. -/
def Ev.benign : Ev → Bool
  | .outerError _ => false
  | .innerError _ _ => false
  | .unsub => false
  | _ => true

theorem inner_noerr {s : St} (h : NoErrTable s.inners) (k : Nat) (xs : List Val) (e : Err) :
    s.inner k ≠ .cold xs (.error e) := by
  intro hk
  unfold St.inner at hk
  by_cases hlt : k < s.inners.length
  · have : s.inners.getD k (.cold [] .open_) ∈ s.inners := by
      simp [List.getD_eq_getElem?_getD, hlt]
    rw [hk] at this
    exact h xs e this
  · rw [List.getD_eq_getElem?_getD, List.getElem?_eq_none (by omega)] at hk
    cases hk

/-- Accounting invariant.  It is about the counters only: the limit and the live observers are
    `GInv` and `LiveBound`. -/
structure InvD (s : St) : Prop where
  conc : 1 ≤ s.concurrent
  cnt : s.started = s.subscribed + s.completed
  arr : s.arrivals = s.started + s.queue.length
  oc : s.outsideCompleted = true → s.outerOpen = false
  done : s.alive = false ↔ (s.outsideCompleted = true ∧ s.subscribed = 0 ∧ s.queue = [])
  noerr : NoErrTable s.inners

/-- While an inner observable is subscribed the data is in the cell. -/
theorem InvD.alive {s : St} (h : InvD s) (h1 : 1 ≤ s.subscribed) : s.alive = true := by
  cases ha : s.alive with
  | true => rfl
  | false => have := (h.done.mp ha).2.1; omega

/-- The hypothesis is the invariant of the state in which `actual_subscribe` has been counted. -/
theorem startTop_inv (f : Bool) (s : St) (i : Inst)
    (hd : ∀ s', InvD { s' with queue := s.queue } → 1 ≤ s'.subscribed →
      (drain f s' s.queue).1.stuck = false → InvD (drain f s' s.queue).1)
    (h : InvD { s with started := s.started + 1 }) (h1 : 1 ≤ s.subscribed) :
    (startTop f s i).1.stuck = false → InvD (startTop f s i).1 :=
  startTop_cases f s i (P := fun r _ => r.1.stuck = false → InvD r.1)
    (hot := fun _ _ _ => ⟨h.conc, h.cnt, h.arr, h.oc, h.done, h.noerr⟩) (open_ := fun _ _ _ => h)
    (error := fun _ _ hin _ => absurd hin (inner_noerr (s := s) h.noerr _ _ _))
    (complete := fun _ _ hs => hd { s with started := s.started + 1 } h h1 hs)

theorem drain_inv (f : Bool) : ∀ q s, InvD { s with queue := q } → 1 ≤ s.subscribed →
    (drain f s q).1.stuck = false → InvD (drain f s q).1 :=
  drain_induct f (P := fun s q r _ => InvD { s with queue := q } → 1 ≤ s.subscribed →
      r.1.stuck = false → InvD r.1)
    (last := fun s hz ho h h1 _ => ⟨h.conc, pred_add_succ_eq h.cnt h1, h.arr, h.oc,
      ⟨fun _ => ⟨ho, hz, rfl⟩, fun _ => rfl⟩, h.noerr⟩)
    (more := fun s hz h h1 _ => by
      refine ⟨h.conc, pred_add_succ_eq h.cnt h1, h.arr, h.oc,
        ⟨fun ha => ?_, fun hh => absurd ⟨hh.2.1, hh.1⟩ hz⟩, h.noerr⟩
      rw [show s.alive = true from h.alive h1] at ha; cases ha)
    (stuck := fun _ _ _ _ _ _ hs => by cases hs)
    (start := fun s i rest _ ih h h1 hs => by
      have hc : s.started = s.subscribed + s.completed := h.cnt
      have ha : s.arrivals = s.started + (rest.length + 1) := h.arr
      exact startTop_inv f { s with completed := s.completed + 1, queue := rest } i ih
        ⟨h.conc, congrArg (· + 1) hc, ha.trans (Nat.add_right_comm s.started rest.length 1), h.oc,
          ⟨fun hf => (by rw [show s.alive = true from h.alive h1] at hf; cases hf),
            fun hh => absurd (show 1 ≤ 0 from hh.2.1 ▸ h1) (Nat.not_succ_le_zero 0)⟩, h.noerr⟩ h1 hs)

theorem completeAll_inv (f : Bool) (d : Nat) (ts : List (Nat × Nat)) : ∀ s : St, InvD s →
    LiveBound s (d + ts.length) → (completeAll f s ts).1.stuck = false → InvD (completeAll f s ts).1 := by
  induction ts with
  | nil => intro s h _ _; exact h
  | cons t r ih =>
    intro s h hl hs
    rw [completeAll_cons] at hs ⊢
    have h1 : (innerComplete f s).1.stuck = false → InvD (innerComplete f s).1 :=
      innerComplete_cases f s (P := fun r _ => r.1.stuck = false → InvD r.1)
        (alive := fun _ => drain_inv f _ s h (Nat.le_trans (Nat.le_add_left _ _) hl)) (dead := fun _ _ => h)
    split at hs
    · rename_i hst; rw [hs] at hst; cases hst
    · rename_i hst
      rw [if_neg hst]
      exact ih _ (h1 (by simpa using hst)) (innerComplete_liv f (d + r.length) s hl) hs

theorem stepG_inv (f : Bool) (s : St) (ev : Ev) (h : InvD s) (hl : LiveBound s 0) (hb : ev.benign = true)
    (hs : (stepG f s ev).1.stuck = false) : InvD (stepG f s ev).1 := by
  have hc : s.started = s.subscribed + s.completed := h.cnt
  have har : s.arrivals = s.started + s.queue.length := h.arr
  refine stepG_cases f s ev (P := fun r _ => r.1.stuck = false → InvD r.1) (idle := fun _ _ => h)
    (lost := fun _ _ _ ho ha _ => ?_) (room := fun k _ _ _ ha _ => ?_) (full := fun k _ _ _ ha _ _ => ?_)
    (outer := fun _ _ _ _ _ hx _ _ hE _ => ?_) (inext := fun _ _ _ _ _ _ => h) (ierr := fun _ _ _ _ he => by subst he; cases hb)
    (icomp := fun j _ _ hd => ?_) (unsub := fun he => by subst he; cases hb) hs
  · -- not alive means the outer stream has completed, so its slot is empty
    rw [h.oc (h.done.mp ha).1] at ho; cases ho
  · exact startTop_inv f _ _ (fun s' => drain_inv f _ s')
      ⟨h.conc, (congrArg (· + 1) hc).trans (Nat.add_right_comm s.subscribed s.completed 1),
        (congrArg (· + 1) har).trans (Nat.add_right_comm s.started s.queue.length 1), h.oc,
        ⟨fun hf => (by rw [ha] at hf; cases hf), fun hh => by cases hh.2.1⟩, h.noerr⟩
      (Nat.le_add_left 1 s.subscribed)
  · exact ⟨h.conc, hc, by rw [List.length_append]; exact congrArg (· + 1) har,
      h.oc, ⟨fun hf => (by rw [ha] at hf; cases hf), fun hh => by simp at hh⟩, h.noerr⟩
  · rcases hx with ⟨_, _, rfl, rfl⟩ | ⟨_, he, _⟩
    · -- the outer `complete`: the data is taken iff nothing is subscribed or queued
      cases hE with
      | term ha hw =>
        exact ⟨h.conc, hc, har, fun _ => rfl, ⟨fun _ => ⟨by rw [ha]; rfl, hw⟩, fun _ => rfl⟩, h.noerr⟩
      | none hn =>
        refine ⟨h.conc, hc, har, fun _ => rfl, ?_, h.noerr⟩
        cases ha : s.alive with
        | true => exact ⟨nofun, fun hh => absurd ⟨ha, hh.2⟩ hn⟩
        | false => have := h.done; rw [ha] at this; exact this
    · subst he; cases hb
  · have := liveOf_take s.subs s.dead j hd
    exact completeAll_inv f 0 _ (s.take j) ⟨h.conc, hc, har, h.oc, h.done, h.noerr⟩
      (by show liveOf (s.subs.filter _) (j :: s.dead) + (0 + (targets s j).length) ≤ s.subscribed
          have hl' : liveOf s.subs s.dead + 0 ≤ s.subscribed := hl
          unfold targets; omega)

theorem init_inv (inners : List Inner) (n : Nat) (hn : 1 ≤ n) (ht : NoErrTable inners) :
    InvD (init inners n) :=
  ⟨hn, rfl, rfl, nofun, ⟨nofun, fun h => nomatch h.1⟩, ht⟩

theorem runG_inv (f : Bool) (evs : List Ev) : ∀ s : St, InvD s → LiveBound s 0 →
    (∀ ev ∈ evs, Ev.benign ev = true) → (runG f s evs).1.stuck = false →
    InvD (runG f s evs).1 := by
  induction evs with
  | nil => intro s h _ _ _; exact h
  | cons ev r ih =>
    intro s h hl hb hs
    have h1 := stepG_inv f s ev h hl (hb ev (List.mem_cons_self ..)) (not_stuck_head f s ev r hs).2
    exact ih _ h1 (stepG_liv f s ev hl) (fun e he => hb e (List.mem_cons_of_mem _ he)) hs

/-- On an error-free history from the initial state: `complete` is emitted exactly when the data
    has left the cell — the only terminal such a history can produce is `complete`. -/
theorem complete_iff_dead (f : Bool) (inners : List Inner) (n : Nat) (evs : List Ev)
    (ht : NoErrTable inners) (hb : ∀ ev ∈ evs, Ev.benign ev = true) :
    Out.complete ∈ (runG f (init inners n) evs).2 ↔ (runG f (init inners n) evs).1.alive = false := by
  have hE := (runG_ends f evs (init inners n)).1
  rw [← outs_runL]
  constructor
  · intro hc
    exact hE.dead_of_term ((hasTerm_iff_outs _).mpr (Or.inl hc))
  · intro hd
    cases hT : hasTerm (runL f (init inners n) evs) with
    | false => rw [hE.alive_of_noterm hT] at hd; cases hd
    | true =>
      rcases (hasTerm_iff_outs _).mp hT with hc | ⟨e, he⟩
      · exact hc
      · rcases runG_err_src f e evs _ ((mem_outs_iff _ _).mp he) with h | ⟨j, h⟩ | ⟨i, _, xs, hx⟩
        · cases hb _ h
        · cases hb _ h
        · exact absurd hx (inner_noerr (s := init inners n) ht _ _ _)

theorem runG_completion (f : Bool) (inners : List Inner) (n : Nat) (evs : List Ev) (hn : 1 ≤ n)
    (ht : NoErrTable inners) (hb : ∀ ev ∈ evs, Ev.benign ev = true)
    (hs : (runG f (init inners n) evs).1.stuck = false) :
    (Out.complete ∈ (runG f (init inners n) evs).2 ↔
      ((runG f (init inners n) evs).1.outsideCompleted = true ∧
       (runG f (init inners n) evs).1.completed = (runG f (init inners n) evs).1.arrivals)) ∧
    InvD (runG f (init inners n) evs).1 := by
  have h := runG_inv f evs _ (init_inv inners n hn ht) (init_liv inners n) hb hs
  refine ⟨?_, h⟩
  rw [complete_iff_dead f inners n evs ht hb, h.done]
  have h1 := h.cnt; have h2 := h.arr
  constructor
  · rintro ⟨ho, hz, hq⟩
    rw [hq] at h2
    exact ⟨ho, by simp at h2; omega⟩
  · rintro ⟨ho, hc⟩
    exact ⟨ho, by omega, List.eq_nil_of_length_eq_zero (by omega)⟩

end Rx.MergeAll
