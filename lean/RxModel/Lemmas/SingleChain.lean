import RxModel.Ops.Init
/-
  Single-input observers against their list specification (C03): per operator the run over the
  items from any state of that observer, then the whole stream from the initial state; validity,
  chains, the derived operators, the error-only form.
-/
namespace Rx
open Spec St1

theorem run_mk (s : St1) (xs : List Val) (t : Option Notif) :
    (run s (mk xs t)).2 =
      (run s (xs.map .next)).2 ++ (run (run s (xs.map .next)).1 (termL t)).2 := by
  rw [mk_eq, run_append]

@[simp] theorem run_nil (s : St1) : run s [] = (s, []) := rfl
@[simp] theorem run_cons (s : St1) (n : Notif) (r : List Notif) :
    run s (n :: r) = ((run (s.step n).1 r).1, (s.step n).2 ++ (run (s.step n).1 r).2) := rfl

@[simp] theorem step_next (s : St1) (v : Val) : s.step (.next v) = s.onNext v := rfl
@[simp] theorem step_error (s : St1) (e : Err) : s.step (.error e) = s.onError' e := rfl
@[simp] theorem step_complete (s : St1) : s.step .complete = s.onComplete' := rfl

theorem map_items (f : Val → Val) (xs : List Val) :
    run (.map f) (xs.map .next) = (.map f, (xs.map f).map .next) := by
  induction xs with
  | nil => rfl
  | cons x xs ih => simp [st1_eqns, ih]

theorem mapTo_items (c : Val) (xs : List Val) :
    run (.mapTo c) (xs.map .next) = (.mapTo c, (xs.map fun _ => c).map .next) := by
  induction xs with
  | nil => rfl
  | cons x xs ih => simp [st1_eqns, ih]

theorem filter_items (p : Val → Bool) (xs : List Val) :
    run (.filter p) (xs.map .next) = (.filter p, (xs.filter p).map .next) := by
  induction xs with
  | nil => rfl
  | cons x xs ih => by_cases h : p x <;> simp [st1_eqns, ih, h]

theorem filterMap_items (f : Val → Option Val) (xs : List Val) :
    run (.filterMap f) (xs.map .next) = (.filterMap f, (xs.filterMap f).map .next) := by
  induction xs with
  | nil => rfl
  | cons x xs ih => cases h : f x <;> simp [st1_eqns, ih, h]

theorem tap_items (c : Nat) (xs : List Val) :
    run (.tap c) (xs.map .next) = (.tap (c + xs.length), xs.map .next) := by
  induction xs generalizing c with
  | nil => rfl
  | cons x xs ih => simp [st1_eqns, ih]; omega

theorem onErrorMap_items (f : Err → Err) (xs : List Val) :
    run (.onErrorMap f) (xs.map .next) = (.onErrorMap f, xs.map .next) := by
  induction xs with
  | nil => rfl
  | cons x xs ih => simp [st1_eqns, ih]

theorem take_dead (n h : Nat) (s : List Notif) :
    run (.take n h false) s = (.take n h false, []) := run_of_dead _ rfl s

theorem takeWhile_dead (p : Val → Bool) (i : Bool) (s : List Notif) :
    run (.takeWhile p i false) s = (.takeWhile p i false, []) := run_of_dead _ rfl s

theorem contains_dead (tg : Val) (s : List Notif) :
    run (.contains tg false) s = (.contains tg false, []) := run_of_dead _ rfl s

theorem take_items (n : Nat) (xs : List Val) (h : Nat) (hlt : h < n) :
    run (.take n h true) (xs.map .next) =
      if n - h ≤ xs.length then (.take n n false, (xs.take (n - h)).map .next ++ [.complete])
      else (.take n (h + xs.length) true, xs.map .next) := by
  induction xs generalizing h with
  | nil => simp; omega
  | cons x xs ih =>
    simp only [List.map_cons, run_cons, step_next, st1_eqns, hlt, if_true]
    by_cases h1 : h + 1 = n
    · subst h1
      simp [take_dead]
    · have hlt' : h + 1 < n := by omega
      simp only [h1, if_false, ih (h + 1) hlt', List.length_cons]
      have e : n - h = (n - (h + 1)) + 1 := by omega
      by_cases h2 : n - (h + 1) ≤ xs.length
      · simp [h2, e]
      · have : ¬ (n - h ≤ xs.length + 1) := by omega
        simp [h2, this]; omega

theorem take_zero (xs : List Val) :
    run (.take 0 0 true) (xs.map .next) = (.take 0 0 true, []) := by
  induction xs with
  | nil => rfl
  | cons x xs ih => simp [st1_eqns, ih]

theorem takeWhile_items (p : Val → Bool) (i : Bool) (xs : List Val) :
    run (.takeWhile p i true) (xs.map .next) =
      if xs.all p then (.takeWhile p i true, xs.map .next)
      else (.takeWhile p i false,
        (xs.takeWhile p ++ (if i then (xs.dropWhile p).take 1 else [])).map .next ++ [.complete]) := by
  induction xs with
  | nil => simp
  | cons x xs ih =>
    by_cases hx : p x
    · simp only [List.map_cons, run_cons, step_next, st1_eqns, hx, if_true, ih, List.all_cons,
        Bool.true_and, List.takeWhile_cons, List.dropWhile_cons]
      by_cases ha : xs.all p <;> simp [ha]
    · cases i <;> simp [st1_eqns, hx, takeWhile_dead]

theorem contains_items (tg : Val) (xs : List Val) :
    run (.contains tg true) (xs.map .next) =
      if xs.contains tg then (.contains tg false, [.next (.bool true), .complete])
      else (.contains tg true, []) := by
  induction xs with
  | nil => simp
  | cons x xs ih =>
    by_cases h : tg = x
    · subst h; simp [st1_eqns, contains_dead]
    · have h' : ¬ x = tg := fun e => h e.symm
      simp [st1_eqns, h, ih]

theorem skip_items (n : Nat) (xs : List Val) (h : Nat) :
    run (.skip n h) (xs.map .next) = (.skip n (h + xs.length), (xs.drop (n - h)).map .next) := by
  induction xs generalizing h with
  | nil => simp
  | cons x xs ih =>
    simp only [List.map_cons, run_cons, step_next, st1_eqns, ih, List.length_cons]
    by_cases hgt : h + 1 > n
    · have e1 : n - h = 0 := by omega
      have e2 : n - (h + 1) = 0 := by omega
      simp [hgt, e1, e2]; omega
    · have e : n - h = (n - (h + 1)) + 1 := by omega
      simp [hgt, e]; omega

theorem skipWhile_done (p : Val → Bool) (xs : List Val) :
    run (.skipWhile p true) (xs.map .next) = (.skipWhile p true, xs.map .next) := by
  induction xs with
  | nil => rfl
  | cons x xs ih => simp [st1_eqns, ih]

theorem skipWhile_items (p : Val → Bool) (xs : List Val) :
    ∃ d, run (.skipWhile p false) (xs.map .next) = (.skipWhile p d, (xs.dropWhile p).map .next) := by
  induction xs with
  | nil => exact ⟨false, rfl⟩
  | cons x xs ih =>
    by_cases hx : p x
    · obtain ⟨d, hd⟩ := ih
      exact ⟨d, by simp [st1_eqns, hx, hd]⟩
    · exact ⟨true, by simp [st1_eqns, hx, skipWhile_done]⟩

theorem lastN_lastN_append (n : Nat) (a b : List Val) :
    lastN n (lastN n a ++ b) = lastN n (a ++ b) := by
  unfold lastN
  by_cases h : a.length ≤ n
  · have : a.length - n = 0 := by omega
    simp [this]
  · have hl : (List.drop (a.length - n) a).length = n := by simp; omega
    simp only [List.length_append, hl]
    have e1 : n + b.length - n = b.length := by omega
    have e2 : a.length + b.length - n = (a.length - n) + b.length := by omega
    rw [e1, e2, ← List.drop_drop]
    congr 1
    rw [List.drop_append_of_le_length (by omega)]

theorem takeLast_items (n : Nat) (xs q : List Val) :
    run (.takeLast n q) (xs.map .next) =
      (.takeLast n (if xs = [] then q else lastN n (q ++ xs)), []) := by
  induction xs generalizing q with
  | nil => simp
  | cons x xs ih =>
    simp only [List.map_cons, run_cons, step_next, st1_eqns, ih, List.nil_append]
    by_cases hx : xs = []
    · subst hx; simp
    · simp [hx, lastN_lastN_append]

theorem skipLast_items (xs : List Val) (cd : Nat) (q : List Val) :
    run (.skipLast cd q) (xs.map .next) =
      if xs.length ≤ cd then (.skipLast (cd - xs.length) (q ++ xs), [])
      else (.skipLast 0 ((q ++ xs).drop (xs.length - cd)),
            ((q ++ xs).take (xs.length - cd)).map .next) := by
  induction xs generalizing cd q with
  | nil => simp
  | cons x xs ih =>
    simp only [List.map_cons, run_cons, step_next, st1_eqns]
    by_cases hcd : cd = 0
    · subst hcd
      cases hq : q ++ [x] with
      | nil => simp at hq
      | cons h t =>
        have e : q ++ x :: xs = h :: (t ++ xs) := by
          rw [show q ++ x :: xs = (q ++ [x]) ++ xs by simp, hq]; rfl
        by_cases hx : xs = []
        · subst hx; simp [e]
        · simp [ih, e, hx]
    · have e : q ++ [x] ++ xs = q ++ x :: xs := by simp
      simp only [hcd, if_false, ih, e, List.length_cons, List.nil_append]
      by_cases h1 : xs.length ≤ cd - 1
      · have h2 : xs.length + 1 ≤ cd := by omega
        simp [h1, h2]; omega
      · have h2 : ¬ xs.length + 1 ≤ cd := by omega
        have e3 : xs.length + 1 - cd = xs.length - (cd - 1) := by omega
        simp [h1, h2, e3]

theorem last_items (xs : List Val) (l : Option Val) :
    run (.last l) (xs.map .next) = (.last (if xs = [] then l else xs.getLast?), []) := by
  induction xs generalizing l with
  | nil => simp
  | cons x xs ih =>
    simp only [List.map_cons, run_cons, step_next, st1_eqns, ih, List.nil_append]
    cases xs with
    | nil => simp
    | cons y ys => simp [List.getLast?_cons_cons]

theorem defaultIfEmpty_items (d : Val) (xs : List Val) (b : Bool) :
    run (.defaultIfEmpty b d) (xs.map .next) =
      (.defaultIfEmpty (if xs = [] then b else false) d, xs.map .next) := by
  induction xs generalizing b with
  | nil => simp
  | cons x xs ih => simp [st1_eqns, ih]

theorem scan_items (op : Val → Val → Val) (xs : List Val) (a : Val) :
    run (.scan op a) (xs.map .next) = (.scan op (xs.foldl op a), (scanFrom op a xs).map .next) := by
  induction xs generalizing a with
  | nil => simp [scanFrom]
  | cons x xs ih => simp [st1_eqns, ih, scanFrom]

theorem distinct_items (xs seen : List Val) :
    ∃ s', run (.distinct seen) (xs.map .next) = (.distinct s', (dedupBy id seen xs).map .next) := by
  induction xs generalizing seen with
  | nil => exact ⟨seen, rfl⟩
  | cons x xs ih =>
    by_cases h : x ∈ seen
    · obtain ⟨s', hs⟩ := ih seen
      exact ⟨s', by simp [st1_eqns, h, hs, dedupBy]⟩
    · obtain ⟨s', hs⟩ := ih (x :: seen)
      exact ⟨s', by simp [st1_eqns, h, hs, dedupBy]⟩

theorem distinctKey_items (key : Val → Val) (xs seen : List Val) :
    ∃ s', run (.distinctKey key seen) (xs.map .next) =
      (.distinctKey key s', (dedupBy key seen xs).map .next) := by
  induction xs generalizing seen with
  | nil => exact ⟨seen, rfl⟩
  | cons x xs ih =>
    by_cases h : key x ∈ seen
    · obtain ⟨s', hs⟩ := ih seen
      exact ⟨s', by simp [st1_eqns, h, hs, dedupBy]⟩
    · obtain ⟨s', hs⟩ := ih (key x :: seen)
      exact ⟨s', by simp [st1_eqns, h, hs, dedupBy]⟩

theorem distinctUntilChanged_items (xs : List Val) (l : Option Val) :
    ∃ l', run (.distinctUntilChanged l) (xs.map .next) =
      (.distinctUntilChanged l', (dedupAdj id l xs).map .next) := by
  induction xs generalizing l with
  | nil => exact ⟨l, by cases l <;> rfl⟩
  | cons x xs ih =>
    by_cases h : l = some x
    · obtain ⟨l', hl⟩ := ih l
      exact ⟨l', by subst h; simp [st1_eqns, hl, dedupAdj]⟩
    · obtain ⟨l', hl⟩ := ih (some x)
      refine ⟨l', ?_⟩
      cases l with
      | none => simp [st1_eqns, hl, dedupAdj]
      | some p => simp [st1_eqns, h, hl, dedupAdj, show p ≠ x from fun e => h (e ▸ rfl)]

theorem distinctUntilKeyChanged_items (key : Val → Val) (xs : List Val) (l : Option Val) :
    ∃ l', run (.distinctUntilKeyChanged key l) (xs.map .next) =
      (.distinctUntilKeyChanged key l', (dedupAdj key l xs).map .next) := by
  induction xs generalizing l with
  | nil => exact ⟨l, by cases l <;> rfl⟩
  | cons x xs ih =>
    cases l with
    | none =>
      obtain ⟨l', hl⟩ := ih (some x)
      exact ⟨l', by simp [st1_eqns, hl, dedupAdj]⟩
    | some p =>
      by_cases h : key p = key x
      · obtain ⟨l', hl⟩ := ih (some p)
        exact ⟨l', by simp [st1_eqns, h, hl, dedupAdj]⟩
      · obtain ⟨l', hl⟩ := ih (some x)
        exact ⟨l', by simp [st1_eqns, h, hl, dedupAdj]⟩

theorem pairwise_items (xs : List Val) (x0 y : Option Val) :
    ∃ a b, run (.pairwise x0 y) (xs.map .next) = (.pairwise a b, (pairs (y.toList ++ xs)).map .next) := by
  induction xs generalizing x0 y with
  | nil => exact ⟨x0, y, by cases y <;> rfl⟩
  | cons x xs ih =>
    obtain ⟨a, b, h⟩ := ih y (some x)
    refine ⟨a, b, ?_⟩
    simp only [List.map_cons, run_cons, step_next, onNext_pairwise, h]
    cases y <;> rfl

theorem bufferCount_items (n : Nat) (xs data : List Val) :
    run (.bufferCount n data) (xs.map .next) =
      (.bufferCount n (chunks n data xs).2, (chunks n data xs).1.map .next) := by
  induction xs generalizing data with
  | nil => simp [chunks]
  | cons x xs ih =>
    by_cases h : n ≤ (data ++ [x]).length
    · simp only [List.map_cons, run_cons, step_next, st1_eqns, ge_iff_le, h, if_true, ih, chunks]
      rfl
    · simp only [List.map_cons, run_cons, step_next, st1_eqns, ge_iff_le, h, if_false, ih, chunks]
      simp

theorem collect_items (xs coll : List Val) :
    run (.collect coll) (xs.map .next) = (.collect (coll ++ xs), []) := by
  induction xs generalizing coll with
  | nil => simp
  | cons x xs ih => simp [st1_eqns, ih]


theorem run_pass {s s' : St1} {xs ys : List Val} {t : Option Notif}
    (hi : run s (xs.map .next) = (s', ys.map .next))
    (hE : ∀ e, s'.onError' e = (s', [.error e])) (hC : s'.onComplete' = (s', [.complete]))
    (hv : ∀ n, t = some n → n.isTerm = true) : (run s (mk xs t)).2 = mk ys t := by
  rw [run_mk, hi, mk_eq]
  rcases valid_cases hv with rfl | rfl | ⟨e, rfl⟩
  · rfl
  · exact congrArg (fun r => _ ++ (r.2 ++ [])) hC
  · exact congrArg (fun r => _ ++ (r.2 ++ [])) (hE e)

theorem spec_map (f) (xs t) (hv : (Stream.mk xs t).Valid) :
    (run (.map f) (mk xs t)).2 = mk (xs.map f) t :=
  run_pass (map_items f xs) (fun _ => rfl) rfl hv

theorem spec_mapTo (c) (xs t) (hv : (Stream.mk xs t).Valid) :
    (run (.mapTo c) (mk xs t)).2 = mk (xs.map fun _ => c) t :=
  run_pass (mapTo_items c xs) (fun _ => rfl) rfl hv

theorem spec_filter (p) (xs t) (hv : (Stream.mk xs t).Valid) :
    (run (.filter p) (mk xs t)).2 = mk (xs.filter p) t :=
  run_pass (filter_items p xs) (fun _ => rfl) rfl hv

theorem spec_filterMap (f) (xs t) (hv : (Stream.mk xs t).Valid) :
    (run (.filterMap f) (mk xs t)).2 = mk (xs.filterMap f) t :=
  run_pass (filterMap_items f xs) (fun _ => rfl) rfl hv

theorem spec_tap (xs t) (hv : (Stream.mk xs t).Valid) :
    (run (.tap 0) (mk xs t)).2 = mk xs t :=
  run_pass (tap_items 0 xs) (fun _ => rfl) rfl hv

theorem spec_onErrorMap (f) (xs t) (hv : (Stream.mk xs t).Valid) :
    (run (.onErrorMap f) (mk xs t)).2 = mk xs (match (generalizing := false) t with | some (.error e) => some (.error (f e)) | t => t) := by
  rw [run_mk]; rcases valid_cases hv with rfl | rfl | ⟨e, rfl⟩ <;>
    simp [mk_eq, termL, onErrorMap_items, st1_eqns]

theorem spec_take (n) (xs t) (hv : (Stream.mk xs t).Valid) :
    (run (.take n 0 true) (mk xs t)).2 = Stream.toNotifs (if 0 < n ∧ n ≤ xs.length then ⟨xs.take n, some .complete⟩
        else if n = 0 then ⟨[], t⟩ else ⟨xs, t⟩) := by
  rw [run_mk]
  by_cases hn : n = 0
  · subst hn
    rcases valid_cases hv with rfl | rfl | ⟨e, rfl⟩ <;>
      simp [Stream.toNotifs, mk_eq, termL, take_zero, st1_eqns]
  · have hpos : 0 < n := Nat.pos_of_ne_zero hn
    simp only [take_items n xs 0 hpos, Nat.sub_zero, hpos, true_and, hn, if_false]
    by_cases hle : n ≤ xs.length
    · simp [hle, take_dead, Stream.toNotifs, mk_eq, termL]
    · rcases valid_cases hv with rfl | rfl | ⟨e, rfl⟩ <;> simp [hle, Stream.toNotifs, mk_eq, termL, st1_eqns]

theorem spec_takeWhile (p i) (xs t) (hv : (Stream.mk xs t).Valid) :
    (run (.takeWhile p i true) (mk xs t)).2 = Stream.toNotifs (if xs.all p then ⟨xs, t⟩
        else ⟨xs.takeWhile p ++ (if i then (xs.dropWhile p).take 1 else []), some .complete⟩) := by
  rw [run_mk]
  simp only [takeWhile_items]
  by_cases ha : xs.all p
  · rcases valid_cases hv with rfl | rfl | ⟨e, rfl⟩ <;> simp [ha, Stream.toNotifs, mk_eq, termL, st1_eqns]
  · simp [ha, takeWhile_dead, Stream.toNotifs, mk_eq, termL]

theorem spec_skip (n) (xs t) (hv : (Stream.mk xs t).Valid) :
    (run (.skip n 0) (mk xs t)).2 = mk (xs.drop n) t :=
  run_pass (skip_items n xs 0) (fun _ => rfl) rfl hv

theorem spec_skipWhile (p) (xs t) (hv : (Stream.mk xs t).Valid) :
    (run (.skipWhile p false) (mk xs t)).2 = mk (xs.dropWhile p) t := by
  obtain ⟨d, h⟩ := skipWhile_items p xs
  exact run_pass h (fun _ => rfl) rfl hv

theorem spec_takeLast (n) (xs t) (hv : (Stream.mk xs t).Valid) :
    (run (.takeLast n []) (mk xs t)).2 = mk (onlyOnComplete t (xs.drop (xs.length - n))) t := by
  rw [run_mk]
  simp only [takeLast_items]
  rcases valid_cases hv with rfl | rfl | ⟨e, rfl⟩ <;> simp [mk_eq, termL, st1_eqns, onlyOnComplete, isComplete]
  by_cases hx : xs = []
  · subst hx; simp
  · simp [hx, lastN]

theorem spec_skipLast (n) (xs t) (hv : (Stream.mk xs t).Valid) :
    (run (.skipLast n []) (mk xs t)).2 = mk (xs.take (xs.length - n)) t := by
  rw [run_mk]
  simp only [skipLast_items, List.nil_append]
  by_cases hle : xs.length ≤ n
  · have h0 : xs.length - n = 0 := by omega
    rcases valid_cases hv with rfl | rfl | ⟨e, rfl⟩ <;> simp [hle, h0, mk_eq, termL, st1_eqns]
  · rcases valid_cases hv with rfl | rfl | ⟨e, rfl⟩ <;> simp [hle, mk_eq, termL, st1_eqns]

theorem spec_last (xs t) (hv : (Stream.mk xs t).Valid) :
    (run (.last none) (mk xs t)).2 = mk (onlyOnComplete t xs.getLast?.toList) t := by
  rw [run_mk]
  simp only [last_items]
  rcases valid_cases hv with rfl | rfl | ⟨e, rfl⟩ <;> simp [mk_eq, termL, st1_eqns, onlyOnComplete, isComplete]
  by_cases hx : xs = []
  · subst hx; simp
  · simp [hx]; cases xs.getLast? <;> simp

theorem spec_defaultIfEmpty (d) (xs t) (hv : (Stream.mk xs t).Valid) :
    (run (.defaultIfEmpty true d) (mk xs t)).2 = mk (if xs.isEmpty then onlyOnComplete t [d] else xs) t := by
  rw [run_mk]
  simp only [defaultIfEmpty_items]
  by_cases hx : xs = []
  · subst hx
    rcases valid_cases hv with rfl | rfl | ⟨e, rfl⟩ <;> simp [mk_eq, termL, st1_eqns, onlyOnComplete, isComplete]
  · rcases valid_cases hv with rfl | rfl | ⟨e, rfl⟩ <;>
      simp [hx, mk_eq, termL, st1_eqns]

theorem spec_scan (op a) (xs t) (hv : (Stream.mk xs t).Valid) :
    (run (.scan op a) (mk xs t)).2 = mk (scanFrom op a xs) t :=
  run_pass (scan_items op xs a) (fun _ => rfl) rfl hv

theorem spec_distinct (xs t) (hv : (Stream.mk xs t).Valid) :
    (run (.distinct []) (mk xs t)).2 = mk (dedupBy id [] xs) t := by
  obtain ⟨s', h⟩ := distinct_items xs []
  exact run_pass h (fun _ => rfl) rfl hv

theorem spec_distinctKey (key) (xs t) (hv : (Stream.mk xs t).Valid) :
    (run (.distinctKey key []) (mk xs t)).2 = mk (dedupBy key [] xs) t := by
  obtain ⟨s', h⟩ := distinctKey_items key xs []
  exact run_pass h (fun _ => rfl) rfl hv

theorem spec_distinctUntilChanged (xs t) (hv : (Stream.mk xs t).Valid) :
    (run (.distinctUntilChanged none) (mk xs t)).2 = mk (dedupAdj id none xs) t := by
  obtain ⟨l, h⟩ := distinctUntilChanged_items xs none
  exact run_pass h (fun _ => rfl) rfl hv

theorem spec_distinctUntilKeyChanged (key) (xs t) (hv : (Stream.mk xs t).Valid) :
    (run (.distinctUntilKeyChanged key none) (mk xs t)).2 = mk (dedupAdj key none xs) t := by
  obtain ⟨l, h⟩ := distinctUntilKeyChanged_items key xs none
  exact run_pass h (fun _ => rfl) rfl hv

theorem spec_pairwise (xs t) (hv : (Stream.mk xs t).Valid) :
    (run (.pairwise none none) (mk xs t)).2 = mk (pairs xs) t := by
  obtain ⟨a, b, h⟩ := pairwise_items xs none none
  exact run_pass h (fun _ => rfl) rfl hv

theorem spec_bufferCount (n) (xs t) (hv : (Stream.mk xs t).Valid) :
    (run (.bufferCount n []) (mk xs t)).2 =
      mk ((chunks n [] xs).1 ++ onlyOnComplete t
        (if (chunks n [] xs).2.isEmpty then [] else [Val.ofList (chunks n [] xs).2])) t := by
  rw [run_mk]
  simp only [bufferCount_items]
  rcases valid_cases hv with rfl | rfl | ⟨e, rfl⟩ <;> simp [mk_eq, termL, st1_eqns, onlyOnComplete, isComplete]
  cases (chunks n [] xs).2 <;> simp

theorem spec_contains (tg) (xs t) (hv : (Stream.mk xs t).Valid) :
    (run (.contains tg true) (mk xs t)).2 = Stream.toNotifs (if xs.contains tg then ⟨[.bool true], some .complete⟩
        else ⟨onlyOnComplete t [.bool false], t⟩) := by
  rw [run_mk]
  simp only [contains_items]
  by_cases hc : tg ∈ xs
  · simp [hc, contains_dead, Stream.toNotifs, mk_eq, termL]
  · rcases valid_cases hv with rfl | rfl | ⟨e, rfl⟩ <;>
      simp [hc, Stream.toNotifs, mk_eq, termL, st1_eqns, onlyOnComplete, isComplete]

theorem spec_collect (xs t) (hv : (Stream.mk xs t).Valid) :
    (run (.collect []) (mk xs t)).2 = mk (onlyOnComplete t [Val.ofList xs]) t := by
  rw [run_mk]
  simp only [collect_items]
  rcases valid_cases hv with rfl | rfl | ⟨e, rfl⟩ <;> simp [mk_eq, termL, st1_eqns, onlyOnComplete, isComplete]

theorem run_spec (op : Op1) (s : Stream) (hv : s.Valid) :
    (run op.init s.toNotifs).2 = (apply op s).toNotifs := by
  obtain ⟨xs, t⟩ := s
  cases op with
  | map f => exact spec_map f xs t hv
  | mapTo c => exact spec_mapTo c xs t hv
  | filter p => exact spec_filter p xs t hv
  | filterMap f => exact spec_filterMap f xs t hv
  | tap => exact spec_tap xs t hv
  | onErrorMap f => exact spec_onErrorMap f xs t hv
  | take n => exact spec_take n xs t hv
  | takeWhile p i => exact spec_takeWhile p i xs t hv
  | skip n => exact spec_skip n xs t hv
  | skipWhile p => exact spec_skipWhile p xs t hv
  | takeLast n => exact spec_takeLast n xs t hv
  | skipLast n => exact spec_skipLast n xs t hv
  | last => exact spec_last xs t hv
  | defaultIfEmpty d => exact spec_defaultIfEmpty d xs t hv
  | scan f a => exact spec_scan f a xs t hv
  | distinct => exact spec_distinct xs t hv
  | distinctKey key => exact spec_distinctKey key xs t hv
  | distinctUntilChanged => exact spec_distinctUntilChanged xs t hv
  | distinctUntilKeyChanged key => exact spec_distinctUntilKeyChanged key xs t hv
  | pairwise => exact spec_pairwise xs t hv
  | bufferCount n => exact spec_bufferCount n xs t hv
  | contains c => exact spec_contains c xs t hv
  | collect => exact spec_collect xs t hv

theorem apply_valid (op : Op1) (s : Stream) (hv : s.Valid) : (apply op s).Valid := by
  fun_cases apply op s
  -- the terminal is the source's, or `complete`, or (on_error_map) the source's with its error mapped
  all_goals first
    | exact hv
    | exact fun _ h => by cases h; rfl
    | (intro n hn; rcases valid_cases hv with h | h | ⟨e, h⟩ <;> subst h <;> cases hn <;> rfl)

theorem runChain_spec (ops : List Op1) (s : Stream) (hv : s.Valid) :
    (runChain (ops.map Op1.init) s.toNotifs).2 = (applyChain ops s).toNotifs := by
  induction ops generalizing s with
  | nil => rfl
  | cons o os ih =>
    simp only [List.map_cons, runChain, applyChain, List.foldl_cons]
    rw [run_spec o s hv]
    exact ih (apply o s) (apply_valid o s hv)

theorem applyChain_valid (ops : List Op1) (s : Stream) (hv : s.Valid) :
    (applyChain ops s).Valid := by
  induction ops generalizing s with
  | nil => exact hv
  | cons o os ih => exact ih _ (apply_valid o s hv)

theorem toNotifs_WF (s : Stream) (hv : s.Valid) : WF s.toNotifs := WF_mk _ _ hv

section ApplyEquations
variable (xs : List Val) (t : Option Notif)
theorem apply_map (f : Val → Val) : apply (.map f) ⟨xs, t⟩ = ⟨xs.map f, t⟩ := rfl
theorem apply_filter (p : Val → Bool) : apply (.filter p) ⟨xs, t⟩ = ⟨xs.filter p, t⟩ := rfl
theorem apply_take (n : Nat) : apply (.take n) ⟨xs, t⟩ =
    if 0 < n ∧ n ≤ xs.length then ⟨xs.take n, some .complete⟩
    else if n = 0 then ⟨[], t⟩ else ⟨xs, t⟩ := rfl
theorem apply_skip (n : Nat) : apply (.skip n) ⟨xs, t⟩ = ⟨xs.drop n, t⟩ := rfl
theorem apply_last : apply .last ⟨xs, t⟩ = ⟨onlyOnComplete t xs.getLast?.toList, t⟩ := rfl
theorem apply_defaultIfEmpty (d : Val) : apply (.defaultIfEmpty d) ⟨xs, t⟩ =
    ⟨if xs.isEmpty then onlyOnComplete t [d] else xs, t⟩ := rfl
theorem apply_scan (op : Val → Val → Val) (a : Val) :
    apply (.scan op a) ⟨xs, t⟩ = ⟨scanFrom op a xs, t⟩ := rfl
end ApplyEquations

theorem derived_first (s : Stream) : applyChain Derived.first s = Spec.first s := by
  obtain ⟨xs, t⟩ := s
  cases xs <;> simp [applyChain, Derived.first, apply_take, Spec.first]

theorem derived_firstOr (d : Val) (s : Stream) : applyChain (Derived.firstOr d) s = Spec.firstOr d s := by
  obtain ⟨xs, t⟩ := s
  cases xs <;> simp [applyChain, Derived.firstOr, apply_take, apply_defaultIfEmpty, Spec.firstOr, onlyOnComplete, isComplete]

theorem derived_lastOr (d : Val) (s : Stream) : applyChain (Derived.lastOr d) s = Spec.lastOr d s := by
  obtain ⟨xs, t⟩ := s
  simp only [applyChain, Derived.lastOr, apply_last, apply_defaultIfEmpty, Spec.lastOr, List.foldl_cons, List.foldl_nil,
    onlyOnComplete]
  by_cases hc : isComplete t
  · cases h : xs.getLast? <;> simp [hc]
  · simp [hc]

theorem derived_elementAt (n : Nat) (s : Stream) :
    applyChain (Derived.elementAt n) s = Spec.elementAt n s := by
  obtain ⟨xs, t⟩ := s
  simp only [applyChain, Derived.elementAt, apply_skip, apply_take, Spec.elementAt, List.foldl_cons, List.foldl_nil]
  by_cases h : n < xs.length
  · have h0 : ¬ (xs.length - n = 0) := by omega
    have h1 : 1 ≤ xs.length - n := by omega
    simp [h, h1, List.take_one, List.head?_drop]
  · have h1 : xs.length ≤ n := by omega
    simp [List.drop_eq_nil_of_le h1, List.getElem?_eq_none h1]

theorem derived_ignoreElements (s : Stream) :
    applyChain Derived.ignoreElements s = Spec.ignoreElements s := by
  obtain ⟨xs, t⟩ := s
  simp [applyChain, Derived.ignoreElements, apply_filter, Spec.ignoreElements]

theorem filter_isFalse_map (p : Val → Bool) (xs : List Val) :
    (xs.map fun v => Val.bool (p v)).filter Derived.isFalse =
      (xs.filter (fun v => !p v)).map (fun _ => Val.bool false) := by
  induction xs with
  | nil => rfl
  | cons x xs ih => cases h : p x <;> simp [Derived.isFalse, h, ih]

theorem derived_all (p : Val → Bool) (s : Stream) :
    applyChain (Derived.all p) s = Spec.all p s := by
  obtain ⟨xs, t⟩ := s
  simp only [applyChain, Derived.all, apply_map, apply_filter, apply_take, Spec.all, List.foldl_cons, List.foldl_nil,
    filter_isFalse_map]
  by_cases ha : xs.all p
  · have : xs.filter (fun v => !p v) = [] := by
      simp only [List.filter_eq_nil_iff]; intro a ha'; simp at ha; simp [ha a ha']
    simp [ha, this, apply_defaultIfEmpty]
  · have hne : xs.filter (fun v => !p v) ≠ [] := by
      intro h; apply ha; simp only [List.filter_eq_nil_iff] at h; simp; intro a ha'
      have := h a ha'; simpa using this
    cases hf : xs.filter (fun v => !p v) with
    | nil => exact absurd hf hne
    | cons y ys => simp [ha, apply_defaultIfEmpty]

theorem scanFrom_getLast (op : Val → Val → Val) (a : Val) (xs : List Val) :
    (scanFrom op a xs).getLast? = if xs = [] then none else some (xs.foldl op a) := by
  induction xs generalizing a with
  | nil => rfl
  | cons x xs ih =>
    cases xs with
    | nil => simp [scanFrom]
    | cons y ys =>
      have := ih (op a x)
      simp only [scanFrom] at this ⊢
      simp [List.getLast?_cons_cons, this]

theorem scanFrom_isEmpty (op : Val → Val → Val) (a : Val) (xs : List Val) :
    (scanFrom op a xs).isEmpty = xs.isEmpty := by
  cases xs <;> simp [scanFrom]

theorem derived_reduceInitial (op : Val → Val → Val) (init : Val) (s : Stream) :
    applyChain (Derived.reduceInitial op init) s = Spec.reduceInitial op init s := by
  obtain ⟨xs, t⟩ := s
  simp only [applyChain, Derived.reduceInitial, apply_scan, apply_last, apply_defaultIfEmpty, Spec.reduceInitial, List.foldl_cons,
    List.foldl_nil, onlyOnComplete, scanFrom_getLast]
  by_cases hc : isComplete t
  · by_cases hx : xs = []
    · subst hx; simp [hc]
    · simp [hc, hx]
  · simp [hc]

theorem derived_aggregate (op : Val → Val → Val) (init : Val) (fin : Val → Val) (s : Stream) :
    applyChain (Derived.aggregate op init fin) s = Spec.aggregate op init fin s := by
  obtain ⟨xs, t⟩ := s
  simp only [applyChain, Derived.aggregate, apply_scan, apply_last, apply_map, Spec.aggregate, List.foldl_cons,
    List.foldl_nil, onlyOnComplete, scanFrom_getLast]
  by_cases hc : isComplete t
  · by_cases hx : xs = []
    · subst hx; simp [hc]
    · simp [hc, hx]
  · simp [hc]


/-- How an operator maps an input error. -/
def Spec.Op1.mapErr : Op1 → Err → Err
  | .onErrorMap f, e => f e
  | _, e => e

theorem gate_nexts_append (xs : List Val) (s : List Notif) :
    gate (xs.map .next ++ s) = xs.map .next ++ gate s := by
  induction xs with
  | nil => rfl
  | cons x xs ih => simp [gate, ih]

theorem gate_nexts_complete (xs : List Val) (s : List Notif) :
    gate (xs.map .next ++ (.complete :: s)) = xs.map .next ++ [.complete] := by
  rw [gate_nexts_append]; rfl

theorem gate_nexts_error (xs : List Val) (e : Err) :
    gate (xs.map .next ++ [.error e]) = xs.map .next ++ [.error e] := by
  rw [gate_nexts_append]; rfl

/-- The documented behaviour on an input error against an input still open, operator by operator:
    the same items and the (mapped) error instead of no terminal — an aggregate, default or
    buffered remainder appears in neither — or both cut at the same `complete`. -/
theorem apply_error_cases (op : Op1) (xs : List Val) (e : Err) :
    (∃ ys, apply op ⟨xs, some (.error e)⟩ = ⟨ys, some (.error (op.mapErr e))⟩ ∧
      apply op ⟨xs, none⟩ = ⟨ys, none⟩) ∨
    (∃ ys, apply op ⟨xs, some (.error e)⟩ = ⟨ys, some .complete⟩ ∧
      apply op ⟨xs, none⟩ = ⟨ys, some .complete⟩) := by
  cases op
  case take n =>
    by_cases h1 : 0 < n ∧ n ≤ xs.length
    · exact .inr ⟨_, if_pos h1, if_pos h1⟩
    · by_cases h2 : n = 0
      · exact .inl ⟨_, (if_neg h1).trans (if_pos h2), (if_neg h1).trans (if_pos h2)⟩
      · exact .inl ⟨_, (if_neg h1).trans (if_neg h2), (if_neg h1).trans (if_neg h2)⟩
  case takeWhile p i =>
    by_cases h : xs.all p = true
    · exact .inl ⟨_, if_pos h, if_pos h⟩
    · exact .inr ⟨_, if_neg h, if_neg h⟩
  case contains tg =>
    by_cases h : xs.contains tg = true
    · exact .inr ⟨_, if_pos h, if_pos h⟩
    · exact .inl ⟨_, if_neg h, if_neg h⟩
  all_goals exact .inl ⟨_, rfl, rfl⟩

theorem error_only_spec (op : Op1) (xs : List Val) (e : Err) :
    (apply op ⟨xs, some (.error e)⟩).toNotifs =
      gate ((apply op ⟨xs, none⟩).toNotifs ++ [.error (op.mapErr e)]) := by
  rcases apply_error_cases op xs e with ⟨ys, h1, h2⟩ | ⟨ys, h1, h2⟩ <;> rw [h1, h2]
  · simp only [Stream.toNotifs, mk, List.append_nil, gate_nexts_error]
  · simp only [Stream.toNotifs, mk, List.append_assoc, List.singleton_append, gate_nexts_complete]

end Rx
