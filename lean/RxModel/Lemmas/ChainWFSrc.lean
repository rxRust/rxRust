import RxModel.Lemmas.ChainWFOps
/-
  C01 over the chain model: the source side.  What the source hands to stage 0
  stays well formed: subscription happens once (the subscribing tasks are
  critical), every source task is critical or (interval) only emits items.
  Then subscription itself (`subscribeSource`, `subscribeFrom`) from a world whose
  source has not been subscribed yet.
-/
namespace Rx.T
open Rx Rx.Spec

theorem SrcOK.weaken {w : TW} {up : List Notif} (h : SrcOK none w up) (r : Option TaskId) :
    SrcOK r w up := by
  exact { h with
    uniq := fun k1 b1 k2 b2 l1 c1 l2 c2 => by
      rcases h.uniq k1 b1 k2 b2 l1 c1 l2 c2 with e | e | e
      · exact Or.inl e
      · cases e
      · cases e
    subd := fun hs k b hl hb => nomatch h.subd hs k b hl hb
    term := fun ht k b hl hc => nomatch h.term ht k b hl hc }

theorem WInv.weaken {w : TW} (h : WInv none w) (r : Option TaskId) : WInv r w := by
  obtain ⟨up, hc, hs⟩ := h
  exact ⟨up, hc, hs.weaken r⟩

/-- From the uniqueness of critical tasks: while critical task `k` is live it is the only one. -/
theorem SrcOK.only_of_live {w : TW} {up : List Notif} (h : SrcOK none w up) {k : TaskId} {b : Body}
    (hl : w.sched.Live k b) (hc : b.critical = true) : Only (some k) w := by
  intro k' b' hl' hc'
  rcases h.uniq k' b' k b hl' hc' hl hc with e | e | e
  · rw [e]
  · cases e
  · cases e

theorem SrcOK.extend {r : Option TaskId} {w : TW} {up : List Notif} (ns : List Notif)
    (h : SrcOK r w up) (hwf : WF (up ++ ns))
    (hns : w.srcSubscribed = false → terminated (up ++ ns) = false)
    (ht : terminated (up ++ ns) = true →
      Only r w ∧ (∀ i, w.src = .hot i → i ∈ w.terminated) ∧ (∀ d p, w.src ≠ .interval d p)) :
    SrcOK r w (up ++ ns) := by
  exact {
    wf := hwf, bodies := h.bodies, uniq := h.uniq, unsubd := h.unsubd, subd := h.subd
    nosrc := fun hs => ⟨hns hs, (h.nosrc hs).2⟩
    term := fun ht' k b hl hc => (ht ht').1 k b hl hc
    hot := fun i hi ht' => (ht ht').2.1 i hi
    interval := fun d p hi => by
      cases ht' : terminated (up ++ ns) with
      | false => rfl
      | true => exact absurd hi ((ht ht').2.2 d p) }

theorem SrcOK.invU {r : Option TaskId} {w : TW} {up : List Notif} (hs : SrcOK r w up)
    (hc : Chain up w.stages w.log) : WInvU r w up := ⟨hc, hs⟩

theorem WInvU.push0 {r : Option TaskId} {w : TW} {up : List Notif} (ns : List Notif)
    (h : WInvU r w up) (hs : SrcOK r w (up ++ ns)) : WInvU r (w.push 0 ns) (up ++ ns) :=
  ⟨TW.push_zero_chain w ns up h.1, hs.frame rfl rfl rfl (fun _ h => h) (TW.push_ext w 0 ns).le⟩

theorem WInvU.pushNext {r : Option TaskId} {w : TW} {up : List Notif} (v : Val)
    (h : WInvU r w up) (hnt : terminated up = false) :
    WInvU r (w.push 0 [.next v]) (up ++ [.next v]) ∧ terminated (up ++ [.next v]) = false := by
  have ht : terminated (up ++ [.next v]) = false := by simp [terminated_append, hnt, terminated]
  refine ⟨h.push0 _ (h.2.extend _ (WF_append h.2.wf hnt (by simp)) (fun _ => ht) ?_), ht⟩
  intro h'; rw [ht] at h'; cases h'

/-- The last thing the source does while `Only r`. -/
theorem WInvU.pushLast {r : Option TaskId} {w : TW} {up : List Notif} (ns : List Notif)
    (h : WInvU r w up) (hnt : terminated up = false) (hns : WF ns) (ho : Only r w)
    (hss : w.srcSubscribed = true) (hhot : ∀ i, w.src = .hot i → i ∈ w.terminated)
    (hiv : ∀ d p, w.src ≠ .interval d p) : WInvU r (w.push 0 ns) (up ++ ns) := by
  refine h.push0 _ (h.2.extend _ (WF_append h.2.wf hnt hns) ?_ (fun _ => ⟨ho, hhot, hiv⟩))
  intro hs; rw [hss] at hs; cases hs

theorem WInvU.ofEq {r : Option TaskId} {w w' : TW} {up : List Notif} (h : WInvU r w up)
    (h1 : w'.src = w.src := by rfl) (h2 : w'.srcSubscribed = w.srcSubscribed := by rfl)
    (h3 : w'.subscribed = w.subscribed := by rfl) (h4 : w'.terminated = w.terminated := by rfl)
    (h5 : w'.sched = w.sched := by rfl) (h6 : w'.stages = w.stages := by rfl) (h7 : w'.log = w.log := by rfl) : WInvU r w' up :=
  (TW.Quiet.ofEq h1 h2 h3 h4 h5 h6 h7).invU h

/-- The running critical task finishes. -/
theorem WInv.finish {k : TaskId} {w : TW} (h : WInv (some k) w) :
    WInv none { w with sched := w.sched.finishOnce k } := by
  obtain ⟨up, hc, hs⟩ := h
  have hs' : SrcOK (some k) { w with sched := w.sched.finishOnce k } up :=
    hs.frame rfl rfl rfl (fun _ h => h) (Sched.Le.finishOnce _ _)
  have nk : ∀ {k' b}, (w.sched.finishOnce k).Live k' b → some k' ≠ some k := by
    intro k' b hl e
    cases e
    exact Sched.finishOnce_not_live _ _ _ hl
  exact ⟨up, hc, {
    wf := hs'.wf, bodies := hs'.bodies, unsubd := hs'.unsubd, nosrc := hs'.nosrc, hot := hs'.hot
    interval := hs'.interval
    uniq := fun k1 b1 k2 b2 l1 c1 l2 c2 => by
      rcases hs'.uniq k1 b1 k2 b2 l1 c1 l2 c2 with e | e | e
      · exact Or.inl e
      · exact absurd e (nk l1)
      · exact absurd e (nk l2)
    subd := fun hss k' b hl hb => absurd (hs'.subd hss k' b hl hb) (nk hl)
    term := fun ht k' b hl hb => absurd (hs'.term ht k' b hl hb) (nk hl) }⟩

theorem Sched.live_append {s s' : Sched} {t : Task} (e : s'.tasks = s.tasks ++ [t]) {k : TaskId}
    {b : Body} (hl : s'.Live k b) : s.Live k b ∨ (k = s.tasks.length ∧ b = t.body) := by
  obtain ⟨t', h', hd, hb⟩ := hl
  rw [e] at h'
  rcases snoc_get_cases _ _ h' with h1 | ⟨hk, rfl⟩
  · exact Or.inl ⟨t', h1, hd, hb⟩
  · exact Or.inr ⟨hk, hb.symm⟩

theorem SrcOK.addTask {r : Option TaskId} {w : TW} {up : List Notif} (h : SrcOK r w up)
    (s' : Sched) (t : Task) (e : s'.tasks = w.sched.tasks ++ [t]) (hc : t.body.critical = false)
    (hok : t.body.okFor w.src) : SrcOK r { w with sched := s' } up := by
  refine h.frame' rfl rfl rfl (fun _ h => h) ?_ ?_
  · intro k b hl hcb
    rcases Sched.live_append e hl with h1 | ⟨_, h2⟩
    · exact h1
    · rw [h2, hc] at hcb; cases hcb
  · intro t' ht'
    have ht' : t' ∈ s'.tasks := ht'
    rw [e] at ht'
    rcases List.mem_append.mp ht' with h1 | h1
    · exact h.bodies t' h1
    · simp at h1; subst h1; exact hok

/-- A new critical task while all live critical tasks are the running one. -/
theorem SrcOK.addCrit {r : Option TaskId} {w : TW} {up : List Notif} (h : SrcOK r w up)
    (ho : Only r w) (hnt : terminated up = false) (hsub : w.subscribed = true)
    (s' : Sched) (t : Task) (e : s'.tasks = w.sched.tasks ++ [t]) (hok : t.body.okFor w.src)
    (h1 : w.srcSubscribed = false → t.body.isSub = true)
    (h2 : w.srcSubscribed = true → t.body.isSub = false) : SrcOK r { w with sched := s' } up := by
  have la : ∀ {k b}, s'.Live k b → w.sched.Live k b ∨ (k = w.sched.tasks.length ∧ b = t.body) :=
    fun hl => Sched.live_append e hl
  exact {
    wf := h.wf, hot := h.hot, interval := h.interval
    bodies := fun t' ht' => by
      have ht' : t' ∈ s'.tasks := ht'
      rw [e] at ht'
      rcases List.mem_append.mp ht' with h1 | h1
      · exact h.bodies t' h1
      · simp at h1; subst h1; exact hok
    uniq := fun k1 b1 k2 b2 l1 c1 l2 c2 => by
      rcases la l1 with o1 | ⟨n1, _⟩
      · exact Or.inr (Or.inl (ho k1 b1 o1 c1))
      · rcases la l2 with o2 | ⟨n2, _⟩
        · exact Or.inr (Or.inr (ho k2 b2 o2 c2))
        · exact Or.inl (n1.trans n2.symm)
    unsubd := fun hs => by
      have : w.subscribed = false := hs
      rw [hsub] at this; cases this
    nosrc := fun hs => ⟨hnt, fun k b hl hc => by
      rcases la hl with o | ⟨_, hb⟩
      · exact (h.nosrc hs).2 k b o hc
      · rw [hb]; exact h1 hs⟩
    subd := fun hs k b hl hb => by
      rcases la hl with o | ⟨_, hb'⟩
      · exact h.subd hs k b o hb
      · rw [hb', h2 hs] at hb; cases hb
    term := fun ht => by rw [hnt] at ht; cases ht }

theorem SrcOK.subscribed0 {r : Option TaskId} {w : TW} {up : List Notif} (h : SrcOK r w up)
    (ho : Only r w) (hsub : w.subscribed = true) : SrcOK r { w with srcSubscribed := true } up := by
  exact {
    wf := h.wf, bodies := h.bodies, uniq := h.uniq, term := h.term, hot := h.hot, interval := h.interval
    unsubd := fun hs => by
      have : w.subscribed = false := hs
      rw [hsub] at this; cases this
    nosrc := nofun
    subd := fun _ k b hl hb => ho k b hl (Body.critical_of_isSub hb) }

namespace TW

theorem loop_inv {r : Option TaskId} (n : Nat) (fuel : Nat) : ∀ (k : Nat) (w : TW) (up : List Notif),
    WInvU r w up → Rx.terminated up = false → Only r w → w.srcSubscribed = true →
    (∀ i, w.src ≠ .hot i) → (∀ d p, w.src ≠ .interval d p) →
    WInv r (subscribeSource.loop n fuel k w) := by
  induction fuel with
  | zero => intro k w up h _ _ _ _ _; exact ⟨up, h⟩
  | succ f ih =>
    intro k w up h hnt ho hss hh hiv
    rw [loop_succ]
    split
    · exact ⟨up, h⟩
    · split
      · have h1 : WInvU r { w with pulls := w.pulls + 1 } up := h.ofEq
        have h2 := h1.pushNext (.int k) hnt
        exact ih _ _ _ h2.1 h2.2 (ho.mono (push_ext _ 0 _).le) hss hh hiv
      · exact ⟨_, h.pushLast [.complete] hnt (by simp) ho hss (fun i hi => absurd hi (hh i)) hiv⟩

theorem subscribeSource_inv {r : Option TaskId} (w : TW) (h : WInv r w) (ho : Only r w)
    (hss : w.srcSubscribed = false) (hsub : w.subscribed = true) : WInv r w.subscribeSource := by
  obtain ⟨up, hc, hs⟩ := h
  have hnt := (hs.nosrc hss).1
  have hs0 : SrcOK r { w with srcSubscribed := true } up := hs.subscribed0 ho hsub
  have h0 : WInvU r { w with srcSubscribed := true } up := ⟨hc, hs0⟩
  have ho0 : Only r { w with srcSubscribed := true } := ho
  -- the sources other than a subject or an interval
  have plain : ∀ {src : TSrc}, w.src = src → (∀ i, src ≠ .hot i) → (∀ d p, src ≠ .interval d p) →
      (∀ i, ({ w with srcSubscribed := true } : TW).src ≠ .hot i) ∧
        (∀ d p, ({ w with srcSubscribed := true } : TW).src ≠ .interval d p) :=
    fun e h1 h2 => ⟨fun i => e ▸ h1 i, fun d p => e ▸ h2 d p⟩
  rw [subscribeSource_eq]
  split
  · exact ⟨up, h0.ofEq⟩
  · next s hsrc =>
    have hp := plain hsrc nofun nofun
    have h1 := h0.pushLast s.emit hnt (emit_wf s) ho0 rfl (fun i hi => absurd hi (hp.1 i)) hp.2
    split
    · exact ⟨_, h1.ofEq⟩
    · exact ⟨_, h1⟩
  · next d p hsrc =>
    have hs1 := hs0.addTask (w.sched.scheduleRepeat .tick p none (d.getD p)).1 _ rfl rfl ⟨d, p, hsrc⟩
    exact ⟨up, (hs1.invU hc).ofEq⟩
  · next v dur hsrc =>
    have hs1 := hs0.addCrit ho0 hnt hsub (w.sched.scheduleOnce (.timerSrc v) (some dur)).1 _ rfl
      ⟨v, dur, hsrc⟩ nofun (fun _ => rfl)
    exact ⟨up, (hs1.invU hc).ofEq⟩
  · next n hsrc =>
    have hp := plain hsrc nofun nofun
    exact loop_inv n _ 0 _ up h0 hnt ho0 rfl hp.1 hp.2
  · next res sc hsrc =>
    have hs1 := hs0.addCrit ho0 hnt hsub (w.sched.scheduleOnce .futureSrc none).1 _ rfl
      ⟨res, sc, hsrc⟩ nofun (fun _ => rfl)
    exact ⟨up, (hs1.invU hc).ofEq⟩
  · next res sc cyc hsrc =>
    have hs1 := hs0.addCrit ho0 hnt hsub (w.sched.scheduleOnce .streamSrc none).1 _ rfl
      ⟨res, sc, cyc, hsrc⟩ nofun (fun _ => rfl)
    exact ⟨up, (hs1.invU hc).ofEq⟩

theorem subscribeFrom_inv {r : Option TaskId} (j : Nat) : ∀ (w : TW), WInv r w → Only r w →
    w.srcSubscribed = false → w.subscribed = true → WInv r (subscribeFrom w j) := by
  induction j with
  | zero => intro w h ho hss hsub; exact subscribeSource_inv w h ho hss hsub
  | succ j ih =>
    intro w h ho hss hsub
    rw [subscribeFrom_succ]
    split
    · next d cnt alive data t hj =>
      have q : Quiet w (({ w with sched := (w.sched.scheduleRepeat (.bufTick j) d none).1 } : TW).setStage j
          (.bufTime d cnt alive data (some (w.sched.scheduleRepeat (.bufTick j) d none).2))) :=
        (Quiet.ofSched w _ (Sched.Ext.scheduleRepeat _ _ _ _ _ rfl)).trans
          (setStage_quiet _ j _ _ hj (fun _ _ h => h))
      exact ih _ (q.inv h) (q.only ho) (q.srcSubscribed.trans hss) (q.subscribed.trans hsub)
    · next delay t hj =>
      obtain ⟨up, hc, hs⟩ := h
      have hnt := (hs.nosrc hss).1
      have hs1 := hs.addCrit ho hnt hsub (w.sched.scheduleOnce (.subscribe j) delay).1 _ rfl
        trivial (fun _ => rfl) (fun h => by rw [hss] at h; cases h)
      have h1 : WInv r { w with sched := (w.sched.scheduleOnce (.subscribe j) delay).1 } := ⟨up, hc, hs1⟩
      exact (setStage_quiet ({ w with sched := (w.sched.scheduleOnce (.subscribe j) delay).1 } : TW)
        j _ (.subscribeOn delay (some (w.sched.scheduleOnce (.subscribe j) delay).2)) hj
        (fun _ _ h => h)).inv h1
    · next st nsrc na nt hj =>
      split
      · exact (subscribeNotifier_quiet _ j).inv (ih w h ho hss hsub)
      · have q := subscribeNotifier_quiet w j
        exact ih _ (q.inv h) (q.only ho) (q.srcSubscribed.trans hss) (q.subscribed.trans hsub)
    · exact ih w h ho hss hsub

end TW
end Rx.T
