import RxModel.Lemmas.ShareSilence
/-
  C01M / C02M (share), per label: the harness discipline "`sub k` only when slot `k` is free"
  (`linear`, invariant `J`) makes probe labels unambiguous (one live subscription per label), so
  the per-label log of the model's own output is a per-subscriber log (`run_label_wf`); a label
  without live cell (`NoLive`, `Lab`) receives nothing until it is subscribed again
  (`unsub_label_silent`).  The per-cell grammar `run_cell_wf` is stated here next to it.
-/
namespace Rx.Share
namespace W

/-- The discipline of the case generator: `sub k` is issued only for `k < 3`
    whose slot is free (`held` = occupied slots); `unsub k` frees slot `k`. -/
def linear : List Nat → List Ev → Bool
  | _, [] => true
  | held, .sub k :: r => decide (k < 3) && !held.contains k && linear (k :: held) r
  | held, .unsub k :: r => linear (held.filter (· != k)) r
  | held, _ :: r => linear held r

/-- Slots after an event. -/
def heldAfter (held : List Nat) : Ev → List Nat
  | .sub k => k :: held
  | .unsub k => held.filter (· != k)
  | _ => held

theorem linear_cons (held : List Nat) (e : Ev) (r : List Ev) (h : linear held (e :: r) = true) :
    linear (heldAfter held e) r = true ∧
      ∀ k, e = .sub k → k < 3 ∧ k ∉ held := by
  cases e with
  | sub k =>
    simp only [linear, Bool.and_eq_true, decide_eq_true_eq, Bool.not_eq_true',
      List.contains_eq_mem, decide_eq_false_iff_not] at h
    refine ⟨h.2, ?_⟩
    intro k' hk
    cases hk
    exact h.1
  | unsub k => exact ⟨h, fun _ hk => by cases hk⟩
  | emit n => exact ⟨h, fun _ hk => by cases hk⟩
  | connect => exact ⟨h, fun _ hk => by cases hk⟩
  | q => exact ⟨h, fun _ hk => by cases hk⟩

/-- No live cell carries label `k`. -/
def NoLive (k : Nat) (w : W) : Prop := ∀ id l : Nat, (w.cells[id]?).join = some l → l ≠ k

theorem NoLive.shrink {k : Nat} {w w' : W} (h : NoLive k w) (hs : Shrink w w') : NoLive k w' :=
  fun id l hc => h id l (hs.2 id l hc)

/-- The harness invariant: handles and live cells agree — a live cell labelled `l` is the one slot `l`
    holds, and occupied slots are recorded in `held`. -/
structure J (w : W) (held : List Nat) : Prop where
  own : ∀ id l : Nat, (w.cells[id]?).join = some l → (w.handles[l]?).join = some id
  reco : ∀ l id : Nat, (w.handles[l]?).join = some id → l ∈ held
  len : w.handles.length = 3

theorem J.shrink {w w' : W} {held : List Nat} (h : J w held) (hs : Shrink w w') : J w' held :=
  ⟨fun id l hc => by rw [hs.1]; exact h.own id l (hs.2 id l hc),
   fun l id hh => h.reco l id (by rw [← hs.1]; exact hh),
   by rw [hs.1]; exact h.len⟩

theorem J.noLive {w : W} {held : List Nat} (h : J w held) {k : Nat} (hk : k ∉ held) : NoLive k w := by
  intro id l hc hl
  subst hl
  exact hk (h.reco l id (h.own id l hc))

theorem attach_J (w : W) (k : Nat) (held : List Nat) (h : J w held) (hk : k < 3) (hn : k ∉ held) :
    J (w.attach k) (k :: held) := by
  obtain ⟨hh, x, hc, hx⟩ := attach_cells_handles w k
  refine ⟨?_, ?_, ?_⟩
  · intro id l hl
    rw [hc] at hl
    rw [hh, List.getElem?_set]
    rcases cell_append hl with a | ⟨a1, a2⟩
    · have hne := h.noLive hn id l a
      have : ¬ k = l := fun e => hne e.symm
      simp only [this, if_false]
      exact h.own id l a
    · rcases hx with hx | hx
      · rw [hx] at a2; cases a2
      · rw [hx] at a2
        simp only [Option.some.injEq] at a2
        subst a2 a1
        simp [h.len, hk]
  · intro l id hl
    rw [hh, List.getElem?_set] at hl
    split at hl
    · rename_i e; subst e; exact List.mem_cons_self
    · exact List.mem_cons_of_mem _ (h.reco l id hl)
  · rw [hh, List.length_set]; exact h.len

theorem unsubscribe_J (w : W) (k : Nat) (held : List Nat) (h : J w held) :
    J (w.unsubscribe k) (held.filter (· != k)) ∧ NoLive k (w.unsubscribe k) := by
  cases hk : (w.handles[k]?).join with
  | none =>
    rw [unsubscribe_none w k hk]
    have hnl : ∀ id l : Nat, (w.cells[id]?).join = some l → l ≠ k := by
      intro id l hc hl
      subst hl
      rw [h.own id l hc] at hk
      cases hk
    refine ⟨⟨h.own, ?_, h.len⟩, hnl⟩
    intro l id hl
    have hne : l ≠ k := by
      intro e; subst e; rw [hk] at hl; cases hl
    simp [h.reco l id hl, hne]
  | some id0 =>
    obtain ⟨hc, hh⟩ := unsubscribe_cells_handles w k id0 hk
    have hlive : ∀ id l : Nat, ((w.unsubscribe k).cells[id]?).join = some l →
        (w.cells[id]?).join = some l ∧ l ≠ k := by
      intro id l hl
      rw [hc] at hl
      have hold := cell_set_none hl
      refine ⟨hold, ?_⟩
      intro e
      subst e
      have := h.own id l hold
      rw [hk] at this
      simp only [Option.some.injEq] at this
      subst this
      rw [cell_set_self] at hl
      cases hl
    refine ⟨⟨?_, ?_, ?_⟩, fun id l hl => (hlive id l hl).2⟩
    · intro id l hl
      obtain ⟨hold, hne⟩ := hlive id l hl
      rw [hh, List.getElem?_set]
      have : ¬ k = l := fun e => hne e.symm
      simp only [this, if_false]
      exact h.own id l hold
    · intro l id hl
      rw [hh, List.getElem?_set] at hl
      split at hl
      · split at hl <;> cases hl
      · rename_i hne
        have : l ≠ k := fun e => hne e.symm
        simp [h.reco l id hl, this]
    · rw [hh, List.length_set]; exact h.len

theorem step_J (w : W) (e : Ev) (held : List Nat) (h : J w held)
    (hs : ∀ k, e = .sub k → k < 3 ∧ k ∉ held) : J (w.step e).1 (heldAfter held e) := by
  refine J.shrink ?_ (step_shrink w e)
  cases e with
  | sub k => exact attach_J w k held h (hs k rfl).1 (hs k rfl).2
  | unsub k => exact (unsubscribe_J w k held h).1
  | emit n => exact h
  | connect => exact h
  | q => exact h

/-- The selection "label = k". -/
def byLabel (k : Nat) : Nat × Nat → Bool := fun q => q.2 == k
/-- The selection "cell id = i" (one subscription). -/
def byCell (i : Nat) : Nat × Nat → Bool := fun q => q.1 == i

theorem freshRun_byCell (i : Nat) (es : List Ev) : ∀ w : W, FreshRun (byCell i) w es := by
  induction es with
  | nil => intro w; trivial
  | cons e r ih =>
    intro w
    refine ⟨?_, ih _⟩
    intro k _ hp id' l' hc
    simp only [byCell, beq_iff_eq] at hp
    have := cell_lt hc
    simp only [byCell, beq_eq_false_iff_ne, ne_eq]
    omega

theorem freshRun_linear (k : Nat) (es : List Ev) : ∀ (w : W) (held : List Nat), J w held →
    linear held es = true → FreshRun (byLabel k) w es := by
  induction es with
  | nil => intro w held _ _; trivial
  | cons e r ih =>
    intro w held h hl
    obtain ⟨hl', hs⟩ := linear_cons held e r hl
    refine ⟨?_, ih _ _ (step_J w e held h hs) hl'⟩
    intro k' he hp id' l' hc
    simp only [byLabel, beq_iff_eq] at hp
    subst hp
    simp only [byLabel, beq_eq_false_iff_ne, ne_eq]
    exact h.noLive (hs k' he).2 id' l' hc

theorem init_J (m : Model) (k : Kind) (cold : Option (List Val)) : J (init m k cold) [] := by
  refine ⟨?_, ?_, rfl⟩
  · intro id l h; simp [init] at h
  · intro l id h
    rw [init_handles] at h
    cases h

theorem run_J (es : List Ev) : ∀ (w : W) (held : List Nat), J w held → linear held es = true →
    ∃ held', J (w.run es).1 held' := by
  induction es with
  | nil => intro w held h _; exact ⟨held, h⟩
  | cons e r ih =>
    intro w held h hl
    obtain ⟨hl', hs⟩ := linear_cons held e r hl
    rw [run_fst_cons]
    exact ih _ _ (step_J w e held h hs) hl'

/-! ### a label without live cell -/

/-- A transition that starts with no live cell labelled `k` ends so and delivers nothing under `k`. -/
def Lab (k : Nat) (w w' : W) (d : List IDlv) : Prop :=
  NoLive k w → NoLive k w' ∧ ∀ x ∈ d, x.2.1 ≠ k

theorem Lab.comp {k : Nat} {w w1 w2 : W} {d1 d2 : List IDlv} (h1 : Lab k w w1 d1)
    (h2 : Lab k w1 w2 d2) : Lab k w w2 (d1 ++ d2) := by
  intro h
  obtain ⟨a1, a2⟩ := h1 h
  obtain ⟨b1, b2⟩ := h2 a1
  refine ⟨b1, ?_⟩
  intro x hx
  rcases List.mem_append.1 hx with hx | hx
  · exact a2 x hx
  · exact b2 x hx

theorem attach_noLive (k k' : Nat) (w : W) (hne : k' ≠ k) (h : NoLive k w) : NoLive k (w.attach k') := by
  obtain ⟨_, x, hc, hx⟩ := attach_cells_handles w k'
  intro id l hl
  rw [hc] at hl
  rcases cell_append hl with a | ⟨_, a⟩
  · exact h id l a
  · rcases hx with hx | hx
    · rw [hx] at a; cases a
    · rw [hx] at a
      simp only [Option.some.injEq] at a
      subst a
      exact hne

theorem step_Lab (k : Nat) (w : W) (e : Ev) (hne : e ≠ .sub k) : Lab k w (w.step e).1 (stepI w e) := by
  have hpre : Lab k w (pre w e) [] := by
    intro h
    refine ⟨?_, fun _ hx => nomatch hx⟩
    cases e with
    | sub k' => exact attach_noLive k k' w (fun e => hne (by rw [e])) h
    | unsub k' => exact fun id l hl => h id l (unsubscribe_cells_sub w k' id l hl)
    | emit n => exact h
    | connect => exact h
    | q => exact h
  exact Lab.comp hpre
    (step_emits (T := fun w w' d _ => Lab k w w' d) Lab.comp
      (fun w w' _ hc _ h => ⟨fun id l hl => h id l (by rwa [hc] at hl), fun _ hx => nomatch hx⟩)
      (fun w n h => ⟨h.shrink (tapCall_shrink w n).1, fun _ hx => h _ _ (subjCallI_mem hx)⟩) w e)

theorem run_Lab (k : Nat) (es : List Ev) (w : W) (hes : ∀ e ∈ es, e ≠ .sub k) :
    Lab k w (w.run es).1 (runI w es) :=
  run_rel (fun _ h => ⟨h, fun _ hx => nomatch hx⟩) Lab.comp es (fun w e he => step_Lab k w e (hes e he)) w

/-! ### the model's own output, per label -/

/-- What the probe(s) labelled `k` received. -/
def labelLog (k : Nat) (ds : List Dlv) : List Notif :=
  ds.filterMap fun d => if d.1 == k then some d.2 else none

theorem labelLog_erase (k : Nat) (ds : List IDlv) :
    labelLog k (ds.map eraseId) = sel (byLabel k) ds := by
  simp only [labelLog, sel, List.filterMap_map, byLabel]
  rfl

theorem run_label_wf (m : Model) (kind : Kind) (cold : Option (List Val)) (es : List Ev) (k : Nat)
    (h : linear [] es = true) : WF (labelLog k (dlvs ((init m kind cold).run es).2)) := by
  rw [← runI_erase, labelLog_erase]
  exact (run_inv es _ (init_inv _ m kind cold)
    (freshRun_linear k es _ [] (init_J m kind cold) h)).2.wf

theorem run_cell_wf (m : Model) (kind : Kind) (cold : Option (List Val)) (es : List Ev) (i : Nat) :
    WF (sel (byCell i) (runI (init m kind cold) es)) :=
  (run_inv es _ (init_inv _ m kind cold) (freshRun_byCell i es _)).2.wf

theorem unsub_label_silent (m : Model) (kind : Kind) (cold : Option (List Val)) (pre post : List Ev)
    (k : Nat) (hl : linear [] pre = true) (hp : ∀ e ∈ post, e ≠ .sub k) :
    ∀ d ∈ dlvs (((init m kind cold).run pre).1.run (.unsub k :: post)).2, d.1 ≠ k := by
  obtain ⟨held, hj⟩ := run_J pre _ [] (init_J m kind cold) hl
  have hn : NoLive k (((init m kind cold).run pre).1.unsubscribe k) := (unsubscribe_J _ k held hj).2
  have := (run_Lab k post _ hp hn).2
  intro d hd
  rw [← runI_erase] at hd
  simp only [runI, stepI, List.nil_append, List.mem_map] at hd
  obtain ⟨x, hx, rfl⟩ := hd
  exact this x hx

end W
end Rx.Share
