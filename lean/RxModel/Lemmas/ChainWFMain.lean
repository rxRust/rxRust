import RxModel.Lemmas.ChainWFSrc
import RxModel.Lemmas.ChainTraverse
/-
  C01 over the chain model: the bodies of the critical tasks and of the `interval`
  tick; polling a task keeps the invariant; every event keeps it; the initial
  world satisfies it.
-/
namespace Rx.T
open Rx Rx.Spec

/-- What is known while a live source task (critical, not subscribing) exists. -/
theorem SrcOK.srcTask_ctx {w : TW} {up : List Notif} {k : TaskId} {b : Body} (hs : SrcOK none w up)
    (hl : w.sched.Live k b) (hc : b.critical = true) (hns : b.isSub = false) :
    w.srcSubscribed = true ∧ terminated up = false ∧ Only (some k) w := by
  refine ⟨?_, ?_, hs.only_of_live hl hc⟩
  · cases hss : w.srcSubscribed with
    | true => rfl
    | false => have := (hs.nosrc hss).2 k b hl hc; rw [hns] at this; cases this
  · cases ht : terminated up with
    | false => rfl
    | true => cases hs.term ht k b hl hc

theorem SrcOK.okFor_of_live {r : Option TaskId} {w : TW} {up : List Notif} {k : TaskId} {b : Body}
    (hs : SrcOK r w up) (hl : w.sched.Live k b) : b.okFor w.src := by
  obtain ⟨t, ht, _, rfl⟩ := hl
  exact hs.bodies t (List.mem_of_getElem? ht)

namespace TW

/-- The ghost state of a running source task. -/
def Lk (k : TaskId) (w : TW) (up : List Notif) : Prop :=
  WInvU none w up ∧ Rx.terminated up = false ∧ w.srcSubscribed = true ∧ Only (some k) w ∧
    (∀ i, w.src ≠ .hot i) ∧ (∀ d p, w.src ≠ .interval d p)

theorem Lk.ofEq {k : TaskId} {w w' : TW} {up : List Notif} (h : Lk k w up)
    (h1 : w'.src = w.src := by rfl) (h2 : w'.srcSubscribed = w.srcSubscribed := by rfl)
    (h3 : w'.subscribed = w.subscribed := by rfl) (h4 : w'.terminated = w.terminated := by rfl)
    (h5 : w'.sched = w.sched := by rfl) (h6 : w'.stages = w.stages := by rfl) (h7 : w'.log = w.log := by rfl) : Lk k w' up := by
  obtain ⟨a, b, c, d, e, f⟩ := h
  refine ⟨a.ofEq h1 h2 h3 h4 h5 h6 h7, b, h2.trans c, ?_, ?_, ?_⟩
  · exact d.mono (by rw [h5]; exact Sched.Le.refl _)
  · intro i; rw [h1]; exact e i
  · intro d p; rw [h1]; exact f d p

theorem Lk.inv {k : TaskId} {w : TW} {up : List Notif} (h : Lk k w up) : WInv none w := ⟨up, h.1⟩

theorem Lk.pushNext {k : TaskId} {w : TW} {up : List Notif} (h : Lk k w up) (v : Val) :
    Lk k (w.push 0 [.next v]) (up ++ [.next v]) := by
  obtain ⟨a, b, c, d, e, f⟩ := h
  have := a.pushNext v b
  exact ⟨this.1, this.2, c, d.mono (push_ext _ 0 _).le, e, f⟩

theorem Lk.pushLast {k : TaskId} {w : TW} {up : List Notif} (h : Lk k w up) (ns : List Notif)
    (hns : WF ns) : WInv (some k) (w.push 0 ns) := by
  obtain ⟨a, b, c, d, e, f⟩ := h
  have a' : WInvU (some k) w up := ⟨a.1, a.2.weaken _⟩
  exact ⟨_, a'.pushLast ns b hns d c (fun i hi => absurd hi (e i)) f⟩

theorem Lk.of_live {k : TaskId} {w : TW} {up : List Notif} {b : Body} (h : WInvU none w up)
    (hl : w.sched.Live k b) (hc : b.critical = true) (hns : b.isSub = false)
    (hh : ∀ i, w.src ≠ .hot i) (hiv : ∀ d p, w.src ≠ .interval d p) : Lk k w up := by
  obtain ⟨c1, c2, c3⟩ := h.2.srcTask_ctx hl hc hns
  exact ⟨h, c2, c1, c3, hh, hiv⟩

theorem timerSrc_inv {w : TW} {k : TaskId} {v : Val} (h : WInv none w)
    (hl : w.sched.Live k (.timerSrc v)) : WInv (some k) (w.runBody (.timerSrc v)) := by
  obtain ⟨up, h⟩ := h
  obtain ⟨v', d', hsrc⟩ := h.2.okFor_of_live hl
  have lk : Lk k w up := Lk.of_live h hl rfl rfl (fun i hi => by rw [hsrc] at hi; cases hi)
    (fun d p hi => by rw [hsrc] at hi; cases hi)
  exact lk.pushLast _ (by simp)

theorem subscribeBody_inv {w : TW} {k : TaskId} {j : Nat} (h : WInv none w)
    (hl : w.sched.Live k (.subscribe j)) : WInv (some k) (w.runBody (.subscribe j)) := by
  obtain ⟨up, hc, hs⟩ := h
  have hss : w.srcSubscribed = false := by
    cases hss : w.srcSubscribed with
    | false => rfl
    | true => cases hs.subd hss k _ hl rfl
  have hsub : w.subscribed = true := by
    cases hsub : w.subscribed with
    | true => rfl
    | false => have := (hs.unsubd hsub).2 k _ hl; cases this
  exact subscribeFrom_inv j w ⟨up, hc, hs.weaken _⟩ (hs.only_of_live hl rfl) hss hsub

theorem tick_inv {w : TW} {k : TaskId} (seq : Nat) (h : WInv none w) (hl : w.sched.Live k .tick) :
    WInv none (w.runTick .tick seq).1 := by
  obtain ⟨up, h⟩ := h
  obtain ⟨d, p, hsrc⟩ := h.2.okFor_of_live hl
  have hnt := h.2.interval d p hsrc
  rw [runTick_tick]
  split
  · exact ⟨up, h⟩
  · exact ⟨_, (h.pushNext _ hnt).1⟩

theorem pollFuture_inv {w : TW} {k : TaskId} {up : List Notif} (res : Bool) (h : Lk k w up) :
    WInv (some k) (w.pollFuture res).1 ∧
      (∀ wk, (w.pollFuture res).2 = .pending wk → WInv none (w.pollFuture res).1) := by
  unfold pollFuture
  split
  · exact ⟨h.inv.weaken _, fun _ _ => h.inv⟩
  · exact ⟨h.inv.weaken _, fun _ _ => h.inv⟩
  · next r hr =>
    have h' : Lk k { w with srcRest := r } up := h.ofEq
    exact ⟨h'.inv.weaken _, fun _ _ => h'.inv⟩
  · next v r hr =>
    have h' : Lk k { w with srcRest := r } up := h.ofEq
    exact ⟨h'.pushLast _ (by simp), fun _ hx => by cases hx⟩
  · next e r hr =>
    have h' : Lk k { w with srcRest := r } up := h.ofEq
    refine ⟨?_, fun _ hx => by cases hx⟩
    dsimp only
    split
    · exact h'.pushLast _ (by simp)
    · exact h'.pushLast _ (by simp)

theorem streamLap_inv {k : TaskId} (res : Bool) : ∀ (l : List AStep) (w : TW) (up : List Notif),
    Lk k w up → WInv (some k) (streamLap res l w).1 ∧
      ((streamLap res l w).2 ≠ .done → ∃ up', Lk k (streamLap res l w).1 up') := by
  intro l
  induction l with
  | nil =>
    intro w up h
    have h' : Lk k { w with srcRest := [] } up := h.ofEq
    simp only [streamLap]
    exact ⟨h'.inv.weaken _, fun _ => ⟨up, h'⟩⟩
  | cons st r ih =>
    intro w up h
    rw [streamLap_cons]
    split
    · have h' : Lk k { w with srcRest := st :: r } up := h.ofEq
      exact ⟨h'.inv.weaken _, fun hx => absurd rfl hx⟩
    · cases st with
      | ready v =>
        have h' : Lk k { w with pulls := w.pulls + 1 } up := h.ofEq
        exact ih _ _ (h'.pushNext v)
      | err e =>
        dsimp only
        split
        · have h' : Lk k { w with pulls := w.pulls + 1, srcRest := r } up :=
            h.ofEq
          exact ⟨h'.pushLast _ (by simp), fun hx => absurd rfl hx⟩
        · have h' : Lk k { w with pulls := w.pulls + 1 } up := h.ofEq
          exact ih _ _ (h'.pushNext _)
      | pending =>
        have h' : Lk k { w with srcRest := r } up := h.ofEq
        exact ⟨h'.inv.weaken _, fun _ => ⟨up, h'⟩⟩
      | hang =>
        have h' : Lk k { w with srcRest := .hang :: r } up := h.ofEq
        exact ⟨h'.inv.weaken _, fun _ => ⟨up, h'⟩⟩

theorem pollStream_inv {k : TaskId} (res : Bool) (script : List AStep) (cyc : Bool) (f : Nat) :
    ∀ (w : TW) (up : List Notif), Lk k w up →
      WInv (some k) (pollStream res script cyc f w).1 ∧
      (∀ wk, (pollStream res script cyc f w).2 = .pending wk →
        WInv none (pollStream res script cyc f w).1) := by
  induction f with
  | zero => intro w up h; exact ⟨h.inv.weaken _, fun _ _ => h.inv⟩
  | succ f ih =>
    intro w up h
    have hl := streamLap_inv (k := k) res w.srcRest w up h
    rw [pollStream_succ]
    rcases hlap : streamLap res w.srcRest w with ⟨w1, o⟩
    rw [hlap] at hl
    cases o with
    | exhausted =>
      obtain ⟨up', h1⟩ := hl.2 (by simp)
      dsimp only
      split
      · exact ih _ up' (h1.ofEq)
      · exact ⟨h1.pushLast _ (by simp), fun _ hx => by cases hx⟩
    | done => exact ⟨hl.1, fun _ hx => by cases hx⟩
    | pending wk =>
      obtain ⟨up', h1⟩ := hl.2 (by simp)
      exact ⟨hl.1, fun _ _ => h1.inv⟩

theorem runAsync_inv {w : TW} {k : TaskId} {b : Body} (h : WInv none w) (hl : w.sched.Live k b)
    (hb : b.isAsync = true) :
    WInv (some k) (w.runAsync b).1 ∧
      (∀ wk, (w.runAsync b).2 = .pending wk → WInv none (w.runAsync b).1) := by
  obtain ⟨up, h⟩ := h
  -- a source task over a source that is neither a subject nor an interval
  have lk : ∀ {src : TSrc}, w.src = src → b.critical = true → b.isSub = false →
      (∀ i, src ≠ .hot i) → (∀ d p, src ≠ .interval d p) → Lk k w up :=
    fun e c1 c2 c3 c4 => Lk.of_live h hl c1 c2 (e ▸ c3) (e ▸ c4)
  rw [runAsync_eq]
  split
  · next res sc hsrc => exact pollFuture_inv res (lk hsrc rfl rfl nofun nofun)
  · next res sc cyc hsrc => exact pollStream_inv res sc cyc _ _ up (lk hsrc rfl rfl nofun nofun)
  · exact ⟨WInv.weaken ⟨up, h⟩ _, nofun⟩

theorem pollTask_inv {w : TW} (h : WInv none w) (k : TaskId) : WInv none (w.pollTask k) := by
  have hlive := Sched.pollPre_live w.sched k
  have I1 : WInv none { w with sched := (w.sched.pollPre k).1 } := h.le _ (Sched.Le.pollPre w.sched k)
  have tick : ∀ b seq, (w.sched.pollPre k).2 = .runTick b seq →
      WInv none (({ w with sched := (w.sched.pollPre k).1 } : TW).runTick b seq).1 := by
    intro b seq hp
    by_cases hb : b = .tick
    · subst hb; exact tick_inv seq I1 (hlive.2 _ seq hp)
    · exact (runTick_quiet _ b seq hb).inv I1
  refine pollTask_cases w k (idle := fun _ => I1) (once := fun b hp hb => ?_)
    (pending := fun b w1 wk hp hb hr => ?_) (ready := fun b w1 o hp hb hr _ => ?_)
    (again := fun b seq hp _ => (tick b seq hp).le _ (Sched.Ext.continueRepeat _ _).le)
    (last := fun b seq hp _ => (tick b seq hp).le _ (Sched.Le.finishOnce _ _))
  · cases hc : b.critical with
    | false => exact ((runBody_quiet _ b hc).inv I1).le _ (Sched.Le.finishOnce _ _)
    | true =>
      cases b with
      | subscribe j => exact (subscribeBody_inv I1 (hlive.1 _ hp)).finish
      | timerSrc v => exact (timerSrc_inv I1 (hlive.1 _ hp)).finish
      | futureSrc => cases hb
      | streamSrc => cases hb
      | _ => cases hc
  · have ha := runAsync_inv I1 (hlive.1 b hp) hb
    rw [hr] at ha
    exact (Quiet.ofSched w1 _ (Sched.Ext.stayPending _ _ _)).inv (ha.2 wk rfl)
  · have ha := runAsync_inv I1 (hlive.1 b hp) hb
    rw [hr] at ha
    exact ha.1.finish

/-- While the hot source is subscribed there is no live critical task. -/
theorem only_none_of_hot {w : TW} {up : List Notif} (hs : SrcOK none w up) {j : Nat}
    (hsrc : w.src = .hot j) (hss : w.srcSubscribed = true) : Only none w := by
  intro k b hl hc
  have hok := hs.okFor_of_live hl
  cases b with
  | subscribe i => exact hs.subd hss k _ hl rfl
  | timerSrc v => obtain ⟨_, _, e⟩ := hok; rw [hsrc] at e; cases e
  | futureSrc => obtain ⟨_, _, e⟩ := hok; rw [hsrc] at e; cases e
  | streamSrc => obtain ⟨_, _, _, e⟩ := hok; rw [hsrc] at e; cases e
  | _ => simp [Body.critical] at hc

/-- The terminal of the hot source reaches stage 0. -/
theorem hot_term_inv {w : TW} {up : List Notif} {i : Nat} (n : Notif) (h : WInvU none w up)
    (hsrc : w.src = .hot i) (hss : w.srcSubscribed = true) (hnt : Rx.terminated up = false)
    (hmem : i ∈ w.terminated) : WInv none (({ w with srcAlive := false } : TW).push 0 [n]) := by
  have h' : WInvU none { w with srcAlive := false } up := h.ofEq
  have ho : Only none { w with srcAlive := false } := only_none_of_hot h'.2 hsrc hss
  refine ⟨_, h'.pushLast [n] hnt (WF_single n) ho hss ?_ ?_⟩
  · intro i' hi
    have : w.src = .hot i' := hi
    rw [hsrc] at this; cases this; exact hmem
  · intro d p hi
    have : w.src = .interval d p := hi
    rw [hsrc] at this; cases this

theorem mark_quiet (w : TW) (i : Nat) : Quiet w { w with terminated := i :: w.terminated } :=
  ⟨rfl, rfl, rfl, fun _ hj => List.mem_cons_of_mem _ hj, Sched.Ext.refl _, fun _ h => h⟩

theorem emitSrc_inv {w : TW} (h : WInv none w) (i : Nat) (n : Notif) (hni : ¬ i ∈ w.terminated) :
    WInv none (emitSrc w (if n.isTerm then { w with terminated := i :: w.terminated } else w) i n) := by
  have I1 : WInv none (if n.isTerm then { w with terminated := i :: w.terminated } else w) := by
    split
    · exact (mark_quiet w i).inv h
    · exact h
  unfold emitSrc
  split
  · next j hsrc =>
    split
    · next hcond =>
      -- the subject is the chain's source and holds its slot: what it handed over is unterminated
      simp only [Bool.and_eq_true, decide_eq_true_eq] at hcond
      obtain ⟨⟨rfl, hss⟩, _⟩ := hcond
      obtain ⟨up, hu⟩ := h
      have hnt : Rx.terminated up = false := by
        cases ht : Rx.terminated up with
        | false => rfl
        | true => exact absurd (hu.2.hot i hsrc ht) hni
      have hu1 : WInvU none { w with terminated := i :: w.terminated } up := (mark_quiet w i).invU hu
      cases n with
      | next v => exact ⟨_, (hu.pushNext v hnt).1⟩
      | error e => exact hot_term_inv (.error e) hu1 hsrc hss hnt (List.mem_cons_self ..)
      | complete => exact hot_term_inv .complete hu1 hsrc hss hnt (List.mem_cons_self ..)
    · exact I1
  · exact I1

theorem sub_inv {w : TW} (h : WInv none w) : WInv none (w.step .sub) := by
  rw [step_sub]
  split
  · exact h
  · next hsub =>
    obtain ⟨up, hc, hs⟩ := h
    have hsub : w.subscribed = false := by simpa using hsub
    have hu := hs.unsubd hsub
    have ho : Only none { w with subscribed := true } := by
      intro k b hl hcb
      have := hu.2 k b hl
      rw [hcb] at this; cases this
    have hs' : SrcOK none { w with subscribed := true } up :=
      { hs with unsubd := nofun }
    exact subscribeFrom_inv _ _ ⟨up, hc, hs'⟩ ho hu.1 rfl

theorem emit_inv {w : TW} (h : WInv none w) (i : Nat) (n : Notif) : WInv none (w.step (.emit i n)) := by
  rw [step_emit]
  split
  · exact h
  · next hni =>
    exact (deliverNotifiers_quiet _ i n _).inv (emitSrc_inv h i n (by simpa using hni))

theorem unsub_inv {w : TW} (h : WInv none w) : WInv none (w.step .unsub) := by
  rw [step_unsub]
  split
  · have q : Quiet (unsubFrom w w.stages.length)
        { unsubFrom w w.stages.length with unsubscribed := true } :=
      Quiet.ofEq
    exact ((unsubFrom_quiet _ w).trans q).inv h
  · exact h

theorem step_inv {w : TW} (h : WInv none w) (ev : Ev) : WInv none (w.step ev) :=
  step_keeps (P := WInv none) (fun _ k h => pollTask_inv h k)
    (fun _ _ h => h.le _ (Sched.Ext.fire _ _).le) (fun _ h => sub_inv h) (fun _ i n h => emit_inv h i n)
    (fun _ h => unsub_inv h) (fun _ _ h => h.le _ (Sched.Ext.of_tasks rfl).le) w ev h

theorem fold_inv (evs : List Ev) {w : TW} (h : WInv none w) : WInv none (evs.foldl step w) :=
  steps_keep (P := WInv none) (fun _ e h => step_inv h e) evs w h

/-- A world nobody has touched yet: no task, nothing subscribed, every stage consistent
    with the empty history. -/
theorem init_inv (src : TSrc) (stages : List Stage) (hs : ∀ st ∈ stages, st.OK [] []) :
    WInv none { src := src, stages := stages } := by
  have hc : Chain [] stages [] := Chain.iff.2 (ChainOf.of_start hs)
  have nl : ∀ k b, ¬ ({ src := src, stages := stages } : TW).sched.Live k b := by
    rintro k b ⟨t, ht, _⟩
    simp at ht
  exact ⟨[], hc, {
    wf := trivial
    bodies := fun t ht => by simp at ht
    uniq := fun _ _ _ _ l1 => absurd l1 (nl _ _)
    unsubd := fun _ => ⟨rfl, fun _ _ hl => absurd hl (nl _ _)⟩
    nosrc := fun _ => ⟨rfl, fun _ _ hl => absurd hl (nl _ _)⟩
    subd := fun _ _ _ hl => absurd hl (nl _ _)
    term := fun ht => by simp [Rx.terminated] at ht
    hot := fun _ _ ht => by simp [Rx.terminated] at ht
    interval := fun _ _ _ => rfl }⟩

theorem WInv.wf_log {r : Option TaskId} {w : TW} (h : WInv r w) : WF w.log := by
  obtain ⟨up, hc, hs⟩ := h
  exact hc.wf hs.wf

end TW

end Rx.T
