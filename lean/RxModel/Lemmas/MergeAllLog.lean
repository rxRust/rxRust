import RxModel.Ops.MergeAll
/-
  An instrumented reading of the merge_all model.

  Next to each function of `Ops/MergeAll.lean` (`drain`, `startTop`, `outerNext`,
  `completeAll`, `hotComplete`, `stepG`, `runG`) a function `…L` computes a ghost
  LOG of the same piece of work: the outputs of the model's function, interleaved
  — at the exact program points — with

    `arrive i`  the outer `next` found the data and took the instance `i`
                (`i.tag` = arrival number, `i.k` = table index);
    `start i`   `actual_subscribe` is called on instance `i`
                (the program points at which the model increments `started`).

  The state is always the one the model's function computes; erasing the
  ghost labels gives the model's output (`outs_runL`).  This file: the log,
  the projections of a log and of an output, and how they distribute over `++`.
-/
namespace Rx.MergeAll

inductive Lab where
  | arrive (i : Inst)
  | start (i : Inst)
  | out (o : Out)
  deriving DecidableEq, Repr, Inhabited

/-- The downstream notifications of a log. -/
def outs : List Lab → List Out
  | [] => []
  | .out o :: r => o :: outs r
  | _ :: r => outs r

/-- The instances started, in the order of their `actual_subscribe` calls. -/
def startsOf : List Lab → List Inst
  | [] => []
  | .start i :: r => i :: startsOf r
  | _ :: r => startsOf r

/-- The instances accepted from the outer stream, in arrival order. -/
def arrivalsOf : List Lab → List Inst
  | [] => []
  | .arrive i :: r => i :: arrivalsOf r
  | _ :: r => arrivalsOf r

/-- Is the entry a terminal delivered downstream? -/
def Lab.isTerm : Lab → Bool
  | .out (.error _) => true
  | .out .complete => true
  | _ => false

/-- Does the log contain a terminal delivered downstream? -/
def hasTerm (l : List Lab) : Bool := l.any Lab.isTerm

/-- The items of a cold script as log entries. -/
def itemsL (tag : Nat) (xs : List Val) : List Lab := xs.map (fun v => Lab.out (.item tag v))

/-- The script of a cold inner; a hot one has none. -/
def Inner.script : Inner → List Val
  | .cold xs _ => xs
  | .hot _ => []

/-- Instance `t` is subscribed to subject `j` and can be heard downstream. -/
def Listening (s : St) (j t : Nat) : Prop :=
  s.alive = true ∧ (j, t) ∈ s.subs ∧ s.dead.contains j = false

@[simp] theorem outs_append (a b : List Lab) : outs (a ++ b) = outs a ++ outs b := by
  induction a with
  | nil => rfl
  | cons x r ih => cases x <;> simp [outs, ih]

@[simp] theorem startsOf_append (a b : List Lab) : startsOf (a ++ b) = startsOf a ++ startsOf b := by
  induction a with
  | nil => rfl
  | cons x r ih => cases x <;> simp [startsOf, ih]

@[simp] theorem arrivalsOf_append (a b : List Lab) :
    arrivalsOf (a ++ b) = arrivalsOf a ++ arrivalsOf b := by
  induction a with
  | nil => rfl
  | cons x r ih => cases x <;> simp [arrivalsOf, ih]

@[simp] theorem hasTerm_nil : hasTerm [] = false := rfl

theorem hasTerm_cons (x : Lab) (l : List Lab) : hasTerm (x :: l) = (x.isTerm || hasTerm l) := rfl

@[simp] theorem hasTerm_append (a b : List Lab) : hasTerm (a ++ b) = (hasTerm a || hasTerm b) :=
  List.any_append

@[simp] theorem outs_map_out (o : List Out) : outs (o.map Lab.out) = o := by
  induction o with
  | nil => rfl
  | cons x r ih => simp [outs, ih]

@[simp] theorem startsOf_map_out (o : List Out) : startsOf (o.map Lab.out) = [] := by
  induction o with
  | nil => rfl
  | cons x r ih => simpa [startsOf] using ih

@[simp] theorem arrivalsOf_map_out (o : List Out) : arrivalsOf (o.map Lab.out) = [] := by
  induction o with
  | nil => rfl
  | cons x r ih => simpa [arrivalsOf] using ih

theorem itemsL_eq (tag : Nat) (xs : List Val) :
    itemsL tag xs = (xs.map (Out.item tag)).map Lab.out := by
  simp [itemsL]

@[simp] theorem outs_itemsL (tag : Nat) (xs : List Val) :
    outs (itemsL tag xs) = xs.map (Out.item tag) := by
  rw [itemsL_eq, outs_map_out]
@[simp] theorem startsOf_itemsL (tag : Nat) (xs : List Val) : startsOf (itemsL tag xs) = [] := by
  rw [itemsL_eq, startsOf_map_out]
@[simp] theorem arrivalsOf_itemsL (tag : Nat) (xs : List Val) : arrivalsOf (itemsL tag xs) = [] := by
  rw [itemsL_eq, arrivalsOf_map_out]

/-- A list of items has no terminal. -/
theorem hasTerm_map_item {α : Type} (g : α → Nat) (w : α → Val) (ts : List α) :
    hasTerm ((ts.map (fun p => Out.item (g p) (w p))).map Lab.out) = false := by
  induction ts with
  | nil => rfl
  | cons x r ih => simpa [hasTerm_cons, Lab.isTerm] using ih

@[simp] theorem hasTerm_itemsL (tag : Nat) (xs : List Val) : hasTerm (itemsL tag xs) = false := by
  rw [itemsL_eq]; exact hasTerm_map_item (fun _ => tag) id xs

theorem mem_outs_iff (o : Out) (l : List Lab) : o ∈ outs l ↔ Lab.out o ∈ l := by
  induction l with
  | nil => simp [outs]
  | cons x r ih => cases x <;> simp [outs, ih]

theorem mem_startsOf {i : Inst} {l : List Lab} : i ∈ startsOf l ↔ Lab.start i ∈ l := by
  induction l with
  | nil => simp [startsOf]
  | cons x r ih => cases x <;> simp [startsOf, ih]

theorem hasTerm_iff_outs (l : List Lab) :
    hasTerm l = true ↔ (Out.complete ∈ outs l ∨ ∃ e, Out.error e ∈ outs l) := by
  induction l with
  | nil => simp [outs]
  | cons x r ih =>
    rw [hasTerm_cons]
    cases x with
    | arrive i => simpa [outs, Lab.isTerm] using ih
    | start i => simpa [outs, Lab.isTerm] using ih
    | out o =>
      cases o with
      | item t v => simpa [outs, Lab.isTerm] using ih
      | error e => simp [outs, Lab.isTerm]
      | complete => simp [outs, Lab.isTerm]

def drainL (fixed : Bool) (s : St) : List Inst → List Lab
  | [] => if s.subscribed - 1 = 0 ∧ s.outsideCompleted = true then [.out .complete] else []
  | i :: rest =>
      .start i ::
      match s.inner i.k with
      | .hot _ => []
      | .cold xs fin =>
          if !fixed && (Inner.cold xs fin).touches then []
          else
            itemsL i.tag xs ++
            match fin with
            | .open_ => []
            | .error e => [.out (.error e)]
            | .complete =>
                drainL fixed { s with completed := s.completed + 1, started := s.started + 1 } rest

def innerCompleteL (fixed : Bool) (s : St) : List Lab :=
  if s.alive then drainL fixed s s.queue else []

def startTopL (fixed : Bool) (s : St) (i : Inst) : List Lab :=
  let s := { s with started := s.started + 1 }
  .start i ::
  match s.inner i.k with
  | .hot _ => []
  | .cold xs fin =>
      itemsL i.tag xs ++
      match fin with
      | .open_ => []
      | .error e => [.out (.error e)]
      | .complete => drainL fixed s s.queue

def outerNextL (fixed : Bool) (s : St) (k : Nat) : List Lab :=
  if !s.outerOpen then [] else
  let i : Inst := ⟨s.arrivals, k⟩
  let s := { s with arrivals := s.arrivals + 1 }
  if !s.alive then [] else
  .arrive i ::
  if s.subscribed < s.concurrent then
    startTopL fixed { s with subscribed := s.subscribed + 1 } i
  else []

def completeAllL (fixed : Bool) (s : St) : List (Nat × Nat) → List Lab
  | [] => []
  | _ :: r =>
      if (innerComplete fixed s).1.stuck then innerCompleteL fixed s
      else innerCompleteL fixed s ++ completeAllL fixed (innerComplete fixed s).1 r

def hotCompleteL (fixed : Bool) (s : St) (j : Nat) : List Lab :=
  if s.dead.contains j then [] else
  completeAllL fixed { s with dead := j :: s.dead, subs := s.subs.filter (fun p => !(p.1 == j)) }
    (targets s j)

def stepL (fixed : Bool) (s : St) (ev : Ev) : List Lab :=
  if s.stuck then [] else
  match ev with
  | .outerNext k => outerNextL fixed s k
  | .outerError e => (outerError s e).2.map .out
  | .outerComplete => (outerComplete s).2.map .out
  | .innerNext j v => (hotNext s j v).2.map .out
  | .innerError j e => (hotError s j e).2.map .out
  | .innerComplete j => hotCompleteL fixed s j
  | .unsub => []

/-- The history as the observer of the experiment sees it: every external
    event with the log of what it caused. -/
def trace (fixed : Bool) (s : St) : List Ev → List (Ev × List Lab)
  | [] => []
  | ev :: r => (ev, stepL fixed s ev) :: trace fixed (stepG fixed s ev).1 r

/-- The log of a history. -/
def runL (fixed : Bool) (s : St) : List Ev → List Lab
  | [] => []
  | ev :: r => stepL fixed s ev ++ runL fixed (stepG fixed s ev).1 r

/-- The log is the concatenation of the per-event logs of the trace. -/
theorem runL_eq_trace (f : Bool) (evs : List Ev) : ∀ s : St,
    runL f s evs = (trace f s evs).flatMap (fun p => p.2) := by
  induction evs with
  | nil => intro s; rfl
  | cons ev r ih => intro s; simp [runL, trace, ih]

theorem trace_events (f : Bool) (evs : List Ev) : ∀ s : St,
    (trace f s evs).map (fun p => p.1) = evs := by
  induction evs with
  | nil => intro s; rfl
  | cons ev r ih => intro s; simp [trace, ih]

/-- Append law of the run. -/
theorem runG_append (f : Bool) (a b : List Ev) : ∀ s : St,
    runG f s (a ++ b) =
      ((runG f (runG f s a).1 b).1, (runG f s a).2 ++ (runG f (runG f s a).1 b).2) := by
  induction a with
  | nil => intro s; simp [runG]
  | cons e r ih => intro s; simp [runG, ih, List.append_assoc]

theorem runL_append (f : Bool) (a b : List Ev) : ∀ s : St,
    runL f s (a ++ b) = runL f s a ++ runL f (runG f s a).1 b := by
  induction a with
  | nil => intro s; simp [runL, runG]
  | cons ev r ih => intro s; simp [runL, runG, ih]

theorem trace_append (f : Bool) (a b : List Ev) : ∀ s : St,
    trace f s (a ++ b) = trace f s a ++ trace f (runG f s a).1 b := by
  induction a with
  | nil => intro s; simp [trace, runG]
  | cons ev r ih => intro s; simp [trace, runG, ih]

end Rx.MergeAll
