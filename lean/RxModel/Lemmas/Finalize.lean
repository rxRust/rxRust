import RxModel.Ops.Finalize
/-
  For Props/C15: the books of the callback runs over arbitrary chains (`Ledger`), and a finalizer
  at the head of a chain next to the same chain without it (`HeadSim`).
-/
namespace Rx
namespace Finalize

/-- What the probe receives for the trigger itself. -/
def triggerDelivery : Ev → List FOut
  | .emit t => [.n t]
  | .unsub => []

theorem step_term (ch : List Elem) {t : Notif} (ht : (Ev.emit t).isTrigger = true) :
    (World.init ch).step (.emit t) =
      (⟨true, false, true, (runElems ch [.n t]).1⟩, (runElems ch [.n t]).2) := by
  cases t with
  | next v => cases ht
  | error e => rfl
  | complete => rfl

theorem run_append (w : World) (a b : List Ev) :
    w.run (a ++ b) = (((w.run a).1.run b).1, (w.run a).2 ++ ((w.run a).1.run b).2) := by
  induction a generalizing w with
  | nil => rfl
  | cons e r ih => simp only [List.cons_append, World.run, ih, List.append_assoc]

theorem countF_append (id : Nat) (a b : List FOut) :
    countF id (a ++ b) = countF id a + countF id b := by
  induction a with
  | nil => exact (Nat.zero_add _).symm
  | cons x r ih =>
    cases x with
    | n y => exact ih
    | f j => exact (congrArg (_ + ·) ih).trans (Nat.add_assoc _ _ _).symm

theorem countF_n {α : Type} (id : Nat) (f : α → Notif) (xs : List α) :
    countF id (xs.map fun a => .n (f a)) = 0 := by
  induction xs with
  | nil => rfl
  | cons v r ih => exact ih

theorem countF_triggerDelivery (id : Nat) (e : Ev) : countF id (triggerDelivery e) = 0 := by
  cases e <;> rfl

/-- Runs so far of the callbacks with marker `id`. -/
def callsOf (id : Nat) : List Elem → Nat
  | [] => 0
  | .op _ :: r => callsOf id r
  | .fin c :: r => (if c.id = id then c.calls else 0) + callsOf id r

/-- Callbacks with marker `id` still waiting to run. -/
def armedOf (id : Nat) : List Elem → Nat
  | [] => 0
  | .op _ :: r => armedOf id r
  | .fin c :: r => (if c.id = id ∧ c.armed = true then 1 else 0) + armedOf id r

theorem callsOf_append (id : Nat) (a b : List Elem) :
    callsOf id (a ++ b) = callsOf id a + callsOf id b := by
  induction a with
  | nil => exact (Nat.zero_add _).symm
  | cons e r ih =>
    cases e with
    | op st => exact ih
    | fin c => exact (congrArg (_ + ·) ih).trans (Nat.add_assoc _ _ _).symm

theorem armedOf_append (id : Nat) (a b : List Elem) :
    armedOf id (a ++ b) = armedOf id a + armedOf id b := by
  induction a with
  | nil => exact (Nat.zero_add _).symm
  | cons e r ih =>
    cases e with
    | op st => exact ih
    | fin c => exact (congrArg (_ + ·) ih).trans (Nat.add_assoc _ _ _).symm

/-- The books of the callbacks with marker `id` over an operation that reads the stream `i`,
    writes `o` and takes the chain from `a` to `b`: the markers written are the markers read plus
    the new runs, and a callback never re-arms.  Composed in time (`seq`), along the chain (`pipe`)
    and side by side (`par`).  The first right side is in this order so that it reduces to
    `callsOf id b` for `i = []`. -/
def Ledger (id : Nat) (i o : List FOut) (a b : List Elem) : Prop :=
  countF id o + callsOf id a = callsOf id b + countF id i ∧
  callsOf id b + armedOf id b = callsOf id a + armedOf id a

theorem add4 {p q r s p' q' r' s' : Nat} (h : p + q = r + s) (h' : p' + q' = r' + s') :
    p + p' + (q + q') = r + r' + (s + s') := by
  rw [Nat.add_add_add_comm, h, h', Nat.add_add_add_comm]

theorem add_seq {o a b i o' c i' : Nat} (h : o + a = b + i) (h' : o' + b = c + i') :
    o + o' + a = c + (i + i') := by
  rw [Nat.add_right_comm, h, Nat.add_right_comm, Nat.add_comm b, h', Nat.add_assoc, Nat.add_comm i']

theorem add_pipe {m a b i o a' b' : Nat} (h : m + a = b + i) (h' : o + a' = b' + m) :
    o + (a + a') = b + b' + i := by
  rw [Nat.add_left_comm, h', Nat.add_left_comm, Nat.add_comm a, h, Nat.add_left_comm, ← Nat.add_assoc]

namespace Ledger
variable {id : Nat} {i i' m o o' : List FOut} {a a' b b' c : List Elem}

theorem refl (id : Nat) (s : List FOut) (a : List Elem) : Ledger id s s a a :=
  ⟨Nat.add_comm _ _, rfl⟩

theorem seq (h : Ledger id i o a b) (h' : Ledger id i' o' b c) :
    Ledger id (i ++ i') (o ++ o') a c := by
  unfold Ledger
  rw [countF_append, countF_append]
  exact ⟨add_seq h.1 h'.1, h'.2.trans h.2⟩

theorem pipe (h : Ledger id i m a b) (h' : Ledger id m o a' b') :
    Ledger id i o (a ++ a') (b ++ b') := by
  unfold Ledger
  rw [callsOf_append, callsOf_append, armedOf_append, armedOf_append]
  exact ⟨add_pipe h.1 h'.1, add4 h.2 h'.2⟩

theorem par (h : Ledger id i o a b) (h' : Ledger id i' o' a' b') :
    Ledger id (i ++ i') (o ++ o') (a ++ a') (b ++ b') := by
  unfold Ledger
  rw [countF_append, countF_append, callsOf_append, callsOf_append, armedOf_append, armedOf_append]
  exact ⟨add4 h.1 h'.1, add4 h.2 h'.2⟩

theorem spent (h : Ledger id [] o a b) : countF id o + armedOf id b = armedOf id a := by
  have h1 : _ = callsOf id b := h.1
  have h2 := h.2
  omega

end Ledger

theorem fire_ledger (id : Nat) (c : Fin) : Ledger id [] c.fire.2 [.fin c] [.fin c.fire.1] := by
  obtain ⟨j, a, n⟩ := c
  cases a
  · exact .refl id [] _
  · by_cases h : j = id <;> simp [Ledger, Fin.fire, countF, callsOf, armedOf, h] <;> omega

theorem elem_step_ledger (id : Nat) (e : Elem) (x : FOut) :
    Ledger id [x] (e.step x).2 [e] [(e.step x).1] := by
  cases x with
  | f j => cases e <;> exact .refl id _ _
  | n y =>
    cases e with
    | op st => exact ⟨countF_n id (fun y => y) _, rfl⟩
    | fin c =>
      cases y with
      | next v => exact .refl id _ _
      | error er => exact (Ledger.refl id [.n (.error er)] [.fin c]).seq (fire_ledger id c)
      | complete => exact (Ledger.refl id [.n .complete] [.fin c]).seq (fire_ledger id c)

theorem elem_run_ledger (id : Nat) (e : Elem) (s : List FOut) :
    Ledger id s (e.run s).2 [e] [(e.run s).1] := by
  induction s generalizing e with
  | nil => exact .refl id [] [e]
  | cons x r ih => exact (elem_step_ledger id e x).seq (ih (e.step x).1)

theorem runElems_ledger (id : Nat) (ch : List Elem) (s : List FOut) :
    Ledger id s (runElems ch s).2 ch (runElems ch s).1 := by
  induction ch generalizing s with
  | nil => exact .refl id s []
  | cons e r ih => exact (elem_run_ledger id e s).pipe (ih (e.run s).2)

theorem unsubFire_ledger (id : Nat) (ch : List Elem) :
    Ledger id [] (unsubFire ch).2 ch (unsubFire ch).1 := by
  induction ch with
  | nil => exact .refl id [] []
  | cons e r ih =>
    cases e with
    | op st => exact (Ledger.refl id [] [.op st]).par ih
    | fin c => exact (fire_ledger id c).par ih

theorem step_ledger (id : Nat) (w : World) (e : Ev) :
    Ledger id [] (w.step e).2 w.chain (w.step e).1.chain := by
  obtain ⟨sd, sl, hd, ch⟩ := w
  cases e with
  | unsub =>
    cases hd
    · exact .refl id [] ch
    · exact unsubFire_ledger id ch
  | emit n =>
    cases sd
    · cases sl
      · cases n <;> exact .refl id [] ch
      · cases n <;> exact runElems_ledger id ch [.n _]
    · cases n <;> exact .refl id [] ch

theorem run_ledger (id : Nat) (w : World) (evs : List Ev) :
    Ledger id [] (w.run evs).2 w.chain (w.run evs).1.chain := by
  induction evs generalizing w with
  | nil => exact .refl id [] _
  | cons e r ih => exact (step_ledger id w e).seq (ih (w.step e).1)

theorem step_unarmed (id : Nat) {w : World} (h : armedOf id w.chain = 0) (e : Ev) :
    armedOf id (w.step e).1.chain = 0 := by
  have := (step_ledger id w e).spent
  omega

theorem unsubFire_armed (id : Nat) (ch : List Elem) : armedOf id (unsubFire ch).1 = 0 := by
  induction ch with
  | nil => rfl
  | cons e r ih =>
    cases e with
    | op st => exact ih
    | fin c =>
      obtain ⟨i, a, n⟩ := c
      cases a <;> simp [unsubFire, armedOf, Fin.fire, ih]

/-- Either the subscription value is still there, or its `unsubscribe` has
    emptied every cell. -/
def HeldOrSpent (id : Nat) (w : World) : Prop := w.held = true ∨ armedOf id w.chain = 0

theorem unsub_armed (id : Nat) (w : World) (h : HeldOrSpent id w) :
    armedOf id (w.step .unsub).1.chain = 0 := by
  obtain ⟨sd, sl, hd, ch⟩ := w
  cases hd
  · rcases h with h | h
    · cases h
    · exact h
  · exact unsubFire_armed id ch

theorem heldOrSpent_run (id : Nat) (w : World) (evs : List Ev) (h : HeldOrSpent id w) :
    HeldOrSpent id (w.run evs).1 := by
  induction evs generalizing w with
  | nil => exact h
  | cons e r ih =>
    refine ih (w.step e).1 ?_
    cases e with
    | unsub => exact .inr (unsub_armed id w h)
    | emit n =>
      refine h.imp (fun hh => ?_) fun ha => ?_
      · obtain ⟨sd, sl, hd, ch⟩ := w
        cases n <;> cases sd <;> cases sl <;> exact hh
      · exact step_unarmed id ha _

theorem unsub_count (id : Nat) (w : World) (h : HeldOrSpent id w) (pre post : List Ev) :
    countF id (w.run (pre ++ .unsub :: post)).2 = armedOf id w.chain := by
  have hp := (run_ledger id w pre).spent
  have hu := (step_ledger id (w.run pre).1 .unsub).spent
  have ha := unsub_armed id _ (heldOrSpent_run id w pre h)
  have hq := (run_ledger id ((w.run pre).1.step .unsub).1 post).spent
  rw [run_append]
  show countF id ((w.run pre).2 ++ (((w.run pre).1.step .unsub).2 ++
    (((w.run pre).1.step .unsub).1.run post).2)) = _
  rw [countF_append, countF_append, Nat.eq_zero_of_add_eq_zero_right (hq.trans ha), Nat.add_zero,
    ← hp, ← hu, ha, Nat.add_zero]

theorem ops_armed (id : Nat) (l : List St1) : armedOf id (l.map Elem.op) = 0 := by
  induction l with
  | nil => rfl
  | cons a r ih => exact ih

theorem one_fin_armed (id : Nat) (up down : List St1) :
    armedOf id (World.init (up.map .op ++ .fin (Fin.new id) :: down.map .op)).chain = 1 := by
  simp [World.init, armedOf_append, ops_armed, armedOf, Fin.new]

theorem ops_no_marker (id : Nat) (down : List St1) (evs : List Ev) :
    countF id ((World.init (down.map .op)).run evs).2 = 0 := by
  have h := (run_ledger id (World.init (down.map .op)) evs).spent
  have h0 : armedOf id (World.init (down.map .op)).chain = 0 := ops_armed id down
  omega

/-! ### A finalizer at the head of a chain of operators

  `subject.finalize(f).op₁.….opₙ`: the finalizer is transparent for the deliveries, and its
  marker comes right after what the first trigger itself delivers — whatever the operators
  below do, in particular when one of them (take, take_while, first, …) had completed the
  downstream by itself before the source's terminal. -/

theorem elem_run_marker (e : Elem) (s : List FOut) (id : Nat) :
    e.run (s ++ [.f id]) = ((e.run s).1, (e.run s).2 ++ [.f id]) := by
  induction s generalizing e with
  | nil => cases e <;> rfl
  | cons x r ih => simp [Elem.run, ih, List.append_assoc]

/-- A marker passes every observer below unchanged and keeps its place at the end. -/
theorem runElems_marker (es : List Elem) (s : List FOut) (id : Nat) :
    runElems es (s ++ [.f id]) = ((runElems es s).1, (runElems es s).2 ++ [.f id]) := by
  induction es generalizing s with
  | nil => rfl
  | cons e r ih => simp [runElems, elem_run_marker, ih]

theorem runElems_head_term (id : Nat) (ch : List Elem) {t : Notif}
    (ht : (Ev.emit t).isTrigger = true) :
    runElems (.fin ⟨id, true, 0⟩ :: ch) [.n t] =
      (.fin ⟨id, false, 1⟩ :: (runElems ch [.n t]).1, (runElems ch [.n t]).2 ++ [.f id]) := by
  have h := congrArg (fun p => (Elem.fin ⟨id, false, 1⟩ :: p.1, p.2)) (runElems_marker ch [.n t] id)
  cases t with
  | next v => cases ht
  | error e => exact h
  | complete => exact h

theorem unsubFire_unarmed (ch : List Elem) (h : ∀ j, armedOf j ch = 0) : unsubFire ch = (ch, []) := by
  induction ch with
  | nil => rfl
  | cons e r ih =>
    cases e with
    | op st => exact congrArg (fun p => (Elem.op st :: p.1, p.2)) (ih h)
    | fin c =>
      obtain ⟨i, a, n⟩ := c
      cases a with
      | false =>
        exact congrArg (fun p => (Elem.fin ⟨i, false, n⟩ :: p.1, p.2))
          (ih fun j => Nat.eq_zero_of_add_eq_zero_left (h j))
      | true => exact absurd (h i) (by simp [armedOf])

/-- Nothing but items so far: `w0` a chain without an armed callback (operators, spent
    finalizers), `w1` the same with the armed finalizer `id` on top. -/
def HeadSim (id : Nat) (w1 w0 : World) : Prop :=
  ∃ ch, (∀ j, armedOf j ch = 0) ∧ w1 = World.init (.fin ⟨id, true, 0⟩ :: ch) ∧ w0 = World.init ch

def HeadSpent (id : Nat) (w1 w0 : World) : Prop :=
  w1.slot = false ∧ (∀ j, armedOf j w0.chain = 0) ∧ w1.chain = .fin ⟨id, false, 1⟩ :: w0.chain

theorem headSim_init (id : Nat) (down : List St1) :
    HeadSim id (World.init (.fin (Fin.new id) :: down.map .op)) (World.init (down.map .op)) :=
  ⟨down.map .op, fun j => ops_armed j down, rfl, rfl⟩

theorem headSim_item {id : Nat} {w1 w0 : World} (h : HeadSim id w1 w0) (v : Val) :
    HeadSim id (w1.step (.emit (.next v))).1 (w0.step (.emit (.next v))).1 ∧
      (w1.step (.emit (.next v))).2 = (w0.step (.emit (.next v))).2 := by
  obtain ⟨ch, hu, rfl, rfl⟩ := h
  exact ⟨⟨_, fun j => step_unarmed j (w := World.init ch) (hu j) (.emit (.next v)), rfl, rfl⟩, rfl⟩

theorem headSim_items {id : Nat} (xs : List Val) : ∀ {w1 w0 : World}, HeadSim id w1 w0 →
    HeadSim id (w1.run (xs.map fun v => Ev.emit (.next v))).1
        (w0.run (xs.map fun v => Ev.emit (.next v))).1 ∧
      (w1.run (xs.map fun v => Ev.emit (.next v))).2 = (w0.run (xs.map fun v => Ev.emit (.next v))).2 := by
  induction xs with
  | nil => intro w1 w0 h; exact ⟨h, rfl⟩
  | cons v r ih =>
    intro w1 w0 h
    obtain ⟨h1, e1⟩ := headSim_item h v
    obtain ⟨h2, e2⟩ := ih h1
    exact ⟨h2, by simp only [List.map_cons, World.run, e1, e2]⟩

theorem headSim_trigger {id : Nat} {w1 w0 : World} (h : HeadSim id w1 w0) (e : Ev)
    (he : e.isTrigger = true) :
    HeadSpent id (w1.step e).1 (w0.step e).1 ∧ (w1.step e).2 = (w0.step e).2 ++ [.f id] := by
  obtain ⟨ch, hu, rfl, rfl⟩ := h
  have hu' := fun j => step_unarmed j (w := World.init ch) (hu j) e
  cases e with
  | unsub =>
    refine ⟨⟨rfl, hu', rfl⟩, ?_⟩
    show [.f id] ++ (unsubFire ch).2 = (unsubFire ch).2 ++ [.f id]
    rw [unsubFire_unarmed ch hu]
    rfl
  | emit t =>
    rw [step_term _ he] at hu' ⊢
    rw [step_term _ he, runElems_head_term id _ he]
    exact ⟨⟨rfl, hu', rfl⟩, rfl⟩

theorem frozen_step {w : World} (hs : w.slot = false) (hu : unsubFire w.chain = (w.chain, []))
    (e : Ev) : (w.step e).1.slot = false ∧ (w.step e).1.chain = w.chain ∧ (w.step e).2 = [] := by
  obtain ⟨sd, sl, hd, ch⟩ := w
  dsimp only at hs hu
  subst hs
  cases e with
  | unsub =>
    cases hd
    · exact ⟨rfl, rfl, rfl⟩
    · exact ⟨rfl, congrArg Prod.fst hu, congrArg Prod.snd hu⟩
  | emit n => cases n <;> cases sd <;> exact ⟨rfl, rfl, rfl⟩

theorem frozen_run {w : World} (hs : w.slot = false) (hu : unsubFire w.chain = (w.chain, []))
    (evs : List Ev) : (w.run evs).1.chain = w.chain ∧ (w.run evs).2 = [] := by
  induction evs generalizing w with
  | nil => exact ⟨rfl, rfl⟩
  | cons e r ih =>
    obtain ⟨s1, c1, o1⟩ := frozen_step hs hu e
    obtain ⟨c2, o2⟩ := ih s1 (by rw [c1]; exact hu)
    refine ⟨c2.trans c1, ?_⟩
    show (w.step e).2 ++ ((w.step e).1.run r).2 = []
    rw [o1, o2]
    rfl

theorem HeadSpent.frozen {id : Nat} {w1 w0 : World} (h : HeadSpent id w1 w0) (evs : List Ev) :
    (w1.run evs).1.chain = w1.chain ∧ (w1.run evs).2 = [] := by
  obtain ⟨hs, hu, h1⟩ := h
  refine frozen_run hs ?_ evs
  rw [h1]
  exact congrArg (fun p => (Elem.fin ⟨id, false, 1⟩ :: p.1, p.2)) (unsubFire_unarmed _ hu)

theorem headSim_once {id : Nat} {w1 w0 : World} (h : HeadSim id w1 w0) (pre : List Val) (e : Ev)
    (he : e.isTrigger = true) (post : List Ev) :
    (w1.run (pre.map (fun v => Ev.emit (.next v)) ++ e :: post)).1.chain =
      .fin ⟨id, false, 1⟩ :: (w0.run (pre.map (fun v => Ev.emit (.next v)) ++ [e])).1.chain ∧
    (w1.run (pre.map (fun v => Ev.emit (.next v)) ++ e :: post)).2 =
      (w0.run (pre.map (fun v => Ev.emit (.next v)) ++ [e])).2 ++ [.f id] := by
  obtain ⟨h1, e1⟩ := headSim_items pre h
  obtain ⟨h2, e2⟩ := headSim_trigger h1 e he
  obtain ⟨c3, e3⟩ := h2.frozen post
  rw [run_append, run_append]
  refine ⟨c3.trans h2.2.2, ?_⟩
  simp only [World.run, e1, e2, e3, List.append_nil, List.append_assoc]

theorem bare_items (xs : List Val) :
    (World.init []).run (xs.map fun v => Ev.emit (.next v)) =
      (World.init [], xs.map fun v => FOut.n (.next v)) := by
  induction xs with
  | nil => rfl
  | cons v r ih => exact congrArg (fun p => (p.1, FOut.n (.next v) :: p.2)) ih

theorem bare_trigger (e : Ev) (he : e.isTrigger = true) :
    ((World.init []).step e).1.chain = [] ∧ ((World.init []).step e).2 = triggerDelivery e := by
  cases e with
  | unsub => exact ⟨rfl, rfl⟩
  | emit t => exact ⟨congrArg (·.1.chain) (step_term [] he), congrArg Prod.snd (step_term [] he)⟩

end Finalize
end Rx
