import RxModel.Ops.Init
import RxModel.Lemmas.PipeWF
import RxModel.Lemmas.St1WF
/-
  C07C (compositions around one scheduler-moving stage): chains of
  single-input observers (`runChain`).

  * `runChain` is compositional in the input (`runChain_append`, Lemmas/St1WF.lean) and in the
    chain (`runChain_chain_append`);
  * `St1.calm`: the observer emits at most 501 notifications per notification it
    receives (everything but `take_last n` emits at most 2; `take_last n` releases
    its queue of at most `n` items on completion) — needed because the cascade of
    the chain model carries FUEL and silently drops notifications when it runs out;
  * `St1.dead` (Lemmas/St1WF.lean) / `deadSt`: an observer whose downstream slot is empty (`take`,
    `take_while`, `contains` after they finished) emits nothing any more; this is
    what `is_finished` reports upstream.
-/
namespace Rx
open Rx.Spec

theorem runChain_length (sts : List St1) (ns : List Notif) : (runChain sts ns).1.length = sts.length := by
  induction sts generalizing ns with
  | nil => rfl
  | cons o os ih => simp [runChain, ih]

theorem runChain_chain_append (a b : List St1) (ns : List Notif) :
    runChain (a ++ b) ns =
      ((runChain a ns).1 ++ (runChain b (runChain a ns).2).1, (runChain b (runChain a ns).2).2) := by
  induction a generalizing ns with
  | nil => simp [runChain]
  | cons o os ih => simp only [List.cons_append, runChain, ih]

/-- One notification into a non-empty chain, then the rest: the depth-first order of the
    cascade gives the same result as the stage-by-stage order of `runChain`. -/
theorem runChain_cons_cons (o : St1) (os : List St1) (n : Notif) (ns : List Notif) :
    runChain (o :: os) (n :: ns) =
      ((runChain ((o.step n).1 :: (runChain os (o.step n).2).1) ns).1,
       (runChain os (o.step n).2).2 ++ (runChain ((o.step n).1 :: (runChain os (o.step n).2).1) ns).2) := by
  simp only [runChain, St1.run, runChain_append]

/-- The observer emits at most 501 notifications per notification received. -/
def St1.calm : St1 → Prop
  | .takeLast c q => c ≤ 500 ∧ q.length ≤ c
  | _ => True

/-- Descriptor level: `take_last n` only with `n ≤ 500`. -/
def Spec.Op1.calm : Op1 → Bool
  | .takeLast n => decide (n ≤ 500)
  | _ => true

theorem Spec.Op1.calm_init (o : Op1) (h : o.calm = true) : o.init.calm := by
  cases o <;> simp_all [Op1.calm, Op1.init, St1.calm]

theorem lastN_length (n : Nat) (l : List Val) : (lastN n l).length ≤ n := by
  simp [lastN]; omega

theorem St1.calm_step (st : St1) (n : Notif) (h : st.calm) :
    (st.step n).1.calm ∧ (st.step n).2.length ≤ 501 := by
  cases st with
  | takeLast c q =>
    obtain ⟨h1, h2⟩ := h
    cases n with
    | next v =>
      simp only [St1.step, St1.onNext, St1.calm, List.length_nil]
      exact ⟨⟨h1, lastN_length _ _⟩, by omega⟩
    | error e => simp only [St1.step, St1.onError', St1.calm]; exact ⟨⟨h1, h2⟩, by simp⟩
    | complete =>
      simp only [St1.step, St1.onComplete', St1.calm]
      refine ⟨⟨h1, by simp⟩, ?_⟩
      simp; omega
  | skipLast cd q =>
    cases n with
    | next v =>
      simp only [St1.step, St1.onNext]
      split
      · split <;> simp [St1.calm]
      · simp [St1.calm]
    | error e => simp [St1.step, St1.onError', St1.calm]
    | complete => simp [St1.step, St1.onComplete', St1.calm]
  | _ =>
    cases n <;> simp only [St1.step, St1.onNext, St1.onError', St1.onComplete'] <;>
      (repeat' split) <;> exact ⟨trivial, Nat.le_of_ble_eq_true rfl⟩

def calmSt (sts : List St1) : Prop := ∀ o ∈ sts, o.calm

theorem calmSt_cons {o : St1} {os : List St1} : calmSt (o :: os) ↔ o.calm ∧ calmSt os := by
  simp [calmSt]

theorem St1.calm_run (st : St1) (ns : List Notif) (h : st.calm) : (st.run ns).1.calm := by
  induction ns generalizing st with
  | nil => exact h
  | cons n r ih => simp only [St1.run]; exact ih _ (st.calm_step n h).1

theorem calmSt_runChain (sts : List St1) (ns : List Notif) (h : calmSt sts) : calmSt (runChain sts ns).1 := by
  induction sts generalizing ns with
  | nil => exact h
  | cons o os ih =>
    obtain ⟨h1, h2⟩ := calmSt_cons.mp h
    simp only [runChain]
    exact calmSt_cons.mpr ⟨o.calm_run ns h1, ih _ h2⟩

theorem calmSt_init (ops : List Op1) (h : ∀ o ∈ ops, o.calm = true) : calmSt (ops.map Op1.init) := by
  intro st hst
  simp only [List.mem_map] at hst
  obtain ⟨o, ho, rfl⟩ := hst
  exact o.calm_init (h o ho)

def deadSt (sts : List St1) : Bool := sts.any St1.dead

theorem St1.finished_eq (o : St1) (down : Bool) : o.finished down = (o.dead || down) := by
  cases o <;> simp [St1.finished, St1.dead, St1.slot]

/-- A finished observer stays finished. -/
theorem St1.dead_step_mono (o : St1) (n : Notif) (h : o.dead = true) : (o.step n).1.dead = true :=
  (o.step_dead h n).2

theorem St1.dead_run_mono (o : St1) (ns : List Notif) (h : o.dead = true) : (o.run ns).1.dead = true := by
  induction ns generalizing o with
  | nil => exact h
  | cons n r ih => exact ih _ (o.dead_step_mono n h)

/-- A chain with a finished observer emits nothing and keeps a finished observer. -/
theorem deadSt_run (sts : List St1) (ns : List Notif) (h : deadSt sts = true) :
    (runChain sts ns).2 = [] ∧ deadSt (runChain sts ns).1 = true := by
  induction sts generalizing ns with
  | nil => simp [deadSt] at h
  | cons o os ih =>
    simp only [deadSt, List.any_cons, Bool.or_eq_true] at h
    simp only [runChain]
    rcases h with h | h
    · rw [St1.run_dead ns o h, runChain_nil]
      simp [deadSt, o.dead_run_mono ns h]
    · have := ih (o.run ns).2 h
      refine ⟨this.1, ?_⟩
      simp only [deadSt, List.any_cons, Bool.or_eq_true]
      exact Or.inr this.2

end Rx
