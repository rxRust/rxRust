import RxModel.Lemmas.ChainSubOps
import RxModel.Lemmas.ChainWFBase
/-
  C09 over whole chains: vocabulary and the stage level.

  * `Stage.Sub9 st inp out`: the stage `st` is consistent with having received
    `inp` and emitted `out` so far (ghost histories) in the sense of C09: the
    items it emitted, followed by what it still holds (operator buffer, trailing
    value, time buffer), are a sublist of the items it received.  Only the
    filtering single-input observers, debounce, throttle and buffer_with_time
    have such a relation — for every other stage it is `False`.  One notification
    at a stage keeps it (every branch of `Stage.onNotif` / `Stage.afterEmit`, no
    assumption on aliveness, handles or the scheduler);
  * `Chain9 up stages log` is `ChainOf Stage.Sub9` (ChainWFBase.lean);
  * extraction: without a time buffer `items log ⊑ items up`; with exactly one,
    `released log ⊑ items up`.
-/
namespace Rx.T
open Rx Rx.Spec

theorem items_sublist {a b : List Notif} (h : a.Sublist b) : (items a).Sublist (items b) := by
  induction h with
  | slnil => exact List.Sublist.refl _
  | cons x _ ih => cases x <;> simp only [items] <;> first | exact ih | exact ih.trans (List.sublist_cons_self _ _)
  | cons_cons x _ ih => cases x <;> simp only [items] <;> first | exact ih | exact ih.cons_cons _

theorem flatMap_sublist {α β} (f : α → List β) {a b : List α} (h : a.Sublist b) :
    (a.flatMap f).Sublist (b.flatMap f) := by
  induction h with
  | slnil => exact List.Sublist.refl _
  | cons x _ ih =>
    rw [List.flatMap_cons]
    exact ih.trans (List.sublist_append_right _ _)
  | cons_cons x _ ih =>
    rw [List.flatMap_cons, List.flatMap_cons]
    exact List.Sublist.append (List.Sublist.refl _) ih

theorem released_sublist {a b : List Notif} (h : (items a).Sublist (items b)) :
    (released a).Sublist (released b) := flatMap_sublist _ h

theorem sub_left {l t E : List Val} (h : (l ++ t).Sublist E) : l.Sublist E :=
  (List.sublist_append_left l t).trans h

theorem sub_right {l t E : List Val} (h : (l ++ t).Sublist E) : t.Sublist E :=
  (List.sublist_append_right l t).trans h

theorem released_flushBuf (data : List Val) : released (flushBuf data) = data := by
  cases data <;> simp [flushBuf, released, items]

/-- Consistency of a stage with its ghost input / output histories (C09). -/
def Stage.Sub9 : Stage → List Notif → List Notif → Prop
  | .op1 o, inp, out => o.filtering = true ∧ (items out ++ o.held).Sublist (items inp)
  | .debounce _ _ tr _, inp, out => (items out ++ tr.toList).Sublist (items inp)
  | .throttle _ _ _ tr _, inp, out => (items out ++ tr.toList).Sublist (items inp)
  | .throttleW _ _ _ tr, inp, out => (items out ++ tr.toList).Sublist (items inp)
  | .bufTime _ _ _ data _, inp, out => (released out ++ data).Sublist (items inp)
  | _, _, _ => False

def Stage.isBuf : Stage → Bool
  | .bufTime _ _ _ _ _ => true
  | _ => false

/-- The items a stage without a time buffer emitted are a sublist of those it received. -/
theorem Stage.Sub9.items {st : Stage} {inp out : List Notif} (h : st.Sub9 inp out)
    (hb : st.isBuf = false) : (items out).Sublist (items inp) := by
  cases st with
  | op1 o => exact sub_left h.2
  | debounce d a tr hd => exact sub_left h
  | throttle d e a tr hd => exact sub_left h
  | throttleW d e a tr => exact sub_left h
  | bufTime d c a data t => cases hb
  | _ => exact h.elim

/-- A stage with nothing buffered starts consistent with the empty history. -/
def Stage.Start9 (st : Stage) : Prop := st.Sub9 [] []

/-- The shape of every stage step: `emitted ++ held' ⊑ held ++ arrived`. -/
theorem sub9_items {out em inp : List Notif} {n : Notif} {h h' : List Val}
    (hs : (items out ++ h).Sublist (items inp))
    (hstep : (items em ++ h').Sublist (h ++ items [n])) :
    (items (out ++ em) ++ h').Sublist (items (inp ++ [n])) := by
  rw [items_append, items_append, List.append_assoc]
  exact (List.Sublist.append (List.Sublist.refl (items out)) hstep).trans
    (by rw [← List.append_assoc]; exact List.Sublist.append hs (List.Sublist.refl _))

theorem sub9_released {out em inp : List Notif} {n : Notif} {h h' : List Val}
    (hs : (released out ++ h).Sublist (items inp))
    (hstep : (released em ++ h').Sublist (h ++ items [n])) :
    (released (out ++ em) ++ h').Sublist (items (inp ++ [n])) := by
  rw [released_append, items_append, List.append_assoc]
  exact (List.Sublist.append (List.Sublist.refl (released out)) hstep).trans
    (by rw [← List.append_assoc]; exact List.Sublist.append hs (List.Sublist.refl _))

theorem Stage.onNotif_sub9 (st : Stage) (j : Nat) (n : Notif) (s : Sched) {inp out : List Notif}
    (h : st.Sub9 inp out) : (st.onNotif j n s).1.Sub9 (inp ++ [n]) (out ++ (st.onNotif j n s).2.1) := by
  cases st with
  | op1 o =>
    obtain ⟨hf, hs⟩ := h
    obtain ⟨h1, h2⟩ := St1.step_filtering o n hf
    exact ⟨h1, sub9_items hs h2⟩
  | debounce d alive tr hd =>
    replace h : (items out ++ tr.toList).Sublist (items inp) := h
    cases n with
    | next v => exact sub9_items (em := []) (h' := [v]) h (by simp [items])
    | error e =>
      exact sub9_items (em := if alive then [.error e] else []) (h' := tr.toList) h
        (by cases alive <;> simp [items])
    | complete =>
      refine sub9_items (em := if alive then _ else []) (h' := []) h ?_
      cases alive
      · simp [items]
      · cases tr <;> simp [items]
  | throttle d e alive tr hd =>
    replace h : (items out ++ tr.toList).Sublist (items inp) := h
    cases n with
    | next v =>
      rw [Stage.onNotif_throttle_next]
      split
      · refine sub9_items (h' := Option.toList _) h ?_
        cases e <;> cases alive <;> simp [items, Edge.hasLeading, Edge.hasTrailing]
      · refine sub9_items (em := []) (h' := Option.toList _) h ?_
        cases e <;> simp [items, Edge.hasTrailing]
    | error er =>
      exact sub9_items (em := if alive then [.error er] else []) (h' := tr.toList) h
        (by cases alive <;> simp [items])
    | complete =>
      refine sub9_items (em := if alive then _ else []) (h' := []) h ?_
      cases alive
      · simp [items]
      · cases tr <;> simp [items]
  | throttleW d e alive tr =>
    exact sub9_items (em := []) (h' := tr.toList) h (by simp [items])
  | bufTime d c alive data t =>
    replace h : (released out ++ data).Sublist (items inp) := h
    cases n with
    | next v =>
      rw [Stage.onNotif_bufTime_next]
      split
      · split
        · split
          · exact sub9_released (h' := []) h (by simp [released_flushBuf, items])
          · exact sub9_released (em := []) (h' := data ++ [v]) h (by simp [released, items])
        · exact sub9_released (em := []) (h' := data ++ [v]) h (by simp [released, items])
      · exact sub9_released (em := []) (h' := data) h (by simp [released, items])
    | error e =>
      exact sub9_released (em := if alive then [.error e] else []) (h' := data) h
        (by cases alive <;> simp [released, items])
    | complete =>
      refine sub9_released (em := if alive then flushBuf data ++ [Notif.complete] else []) (h' := []) h ?_
      cases alive
      · simp [released, items]
      · simp only [if_true, released_append, released_flushBuf]; simp [released, items]
  | _ => exact h.elim

theorem Stage.afterEmit_sub9 (st : Stage) (j : Nat) (s : Sched) {inp out : List Notif}
    (h : st.Sub9 inp out) : (st.afterEmit j s).1.Sub9 inp out := by
  cases st <;> exact h

theorem Stage.sub9_closed : StepClosed Stage.Sub9 := ⟨Stage.onNotif_sub9, Stage.afterEmit_sub9⟩

/-- `up`: everything handed to the head of `stages` so far; `log`: what reached the probe.
    The recursion of `ChainOf Stage.Sub9`, written out (`Chain9.iff`). -/
def Chain9 : List Notif → List Stage → List Notif → Prop
  | up, [], log => log.Sublist up
  | up, st :: r, log => ∃ inp out, inp.Sublist up ∧ st.Sub9 inp out ∧ Chain9 out r log

theorem Chain9.iff {up : List Notif} {stages : List Stage} {log : List Notif} :
    Chain9 up stages log ↔ ChainOf Stage.Sub9 up stages log := by
  induction stages generalizing up with
  | nil => exact Iff.rfl
  | cons st r ih =>
    exact exists_congr fun _ => exists_congr fun _ => and_congr_right fun _ => and_congr_right fun _ => ih

theorem Chain9.initial (stages : List Stage) (h : ∀ st ∈ stages, st.Start9) : Chain9 [] stages [] :=
  Chain9.iff.2 (ChainOf.of_start h)

/-- No time buffer in the chain: the items at the probe are a sublist of the items
    handed to the head of the chain. -/
theorem Chain9.items_sublist {up : List Notif} {stages : List Stage} {log : List Notif}
    (h : ChainOf Stage.Sub9 up stages log) (hb : ∀ st ∈ stages, st.isBuf = false) :
    (items log).Sublist (items up) :=
  h.through (T := fun a b => (items b).Sublist (items a)) Rx.T.items_sublist (fun h1 h2 => h2.trans h1)
    (fun st hs _ _ h => h.items (hb st hs))

/-- One time buffer: the concatenation of the buffers at the probe is a sublist of the
    items handed to the head of the chain. -/
theorem Chain9.released_sublist {up : List Notif} {A B : List Stage} {log : List Notif} {st : Stage}
    (h : ChainOf Stage.Sub9 up (A ++ st :: B) log) (hst : st.isBuf = true)
    (hA : ∀ st ∈ A, st.isBuf = false) (hB : ∀ st ∈ B, st.isBuf = false) :
    (released log).Sublist (items up) := by
  obtain ⟨mid, h1, inp, out, h2, h3, h4⟩ := (ChainOf.append_iff up _ _ log).mp h
  have s1 := Chain9.items_sublist h1 hA
  have s2 := Chain9.items_sublist h4 hB
  cases st with
  | bufTime d cnt alive data task =>
    have s3 : (released out ++ data).Sublist (items inp) := h3
    exact (((Rx.T.released_sublist s2).trans (sub_left s3)).trans (Rx.T.items_sublist h2)).trans s1
  | _ => cases hst

/-! ### kinds

  Which positions of the chain hold a time buffer never changes; `Chain9K` records it. -/

def Chain9K (ks : List Bool) (up : List Notif) (stages : List Stage) (log : List Notif) : Prop :=
  stages.map Stage.isBuf = ks ∧ Chain9 up stages log

theorem kinds_all_false {l l0 : List Stage} (h : l.map Stage.isBuf = l0.map Stage.isBuf)
    (h0 : ∀ st ∈ l0, st.isBuf = false) : ∀ st ∈ l, st.isBuf = false := by
  intro st hst
  have : st.isBuf ∈ l0.map Stage.isBuf := by rw [← h]; exact List.mem_map_of_mem hst
  obtain ⟨y, hy, e⟩ := List.mem_map.mp this
  rw [← e]; exact h0 y hy

/-- No time buffer at the start: none now, and `items log ⊑ items up`. -/
theorem Chain9K.items_sublist {stages0 stages : List Stage} {up log : List Notif}
    (h : Chain9K (stages0.map Stage.isBuf) up stages log) (hb : ∀ st ∈ stages0, st.isBuf = false) :
    (items log).Sublist (items up) :=
  Chain9.items_sublist (Chain9.iff.1 h.2) (kinds_all_false h.1 hb)

/-- One time buffer at the start: still one, at the same place, and `released log ⊑ items up`. -/
theorem Chain9K.released_sublist {A B stages : List Stage} {st0 : Stage} {up log : List Notif}
    (h : Chain9K ((A ++ st0 :: B).map Stage.isBuf) up stages log) (hst : st0.isBuf = true)
    (hA : ∀ st ∈ A, st.isBuf = false) (hB : ∀ st ∈ B, st.isBuf = false) :
    (released log).Sublist (items up) := by
  obtain ⟨hk, hc⟩ := h
  rw [List.map_append, List.map_cons] at hk
  obtain ⟨A', R, rfl, hA', hR⟩ := List.map_eq_append_iff.mp hk
  obtain ⟨st, B', rfl, hst', hB'⟩ := List.map_eq_cons_iff.mp hR
  exact Chain9.released_sublist (Chain9.iff.1 hc) (hst'.trans hst) (kinds_all_false hA' hA)
    (kinds_all_false hB' hB)

theorem Stage.onNotif_isBuf (st : Stage) (j : Nat) (n : Notif) (s : Sched) :
    (st.onNotif j n s).1.isBuf = st.isBuf := by
  fun_cases Stage.onNotif st j n s
  all_goals first | rfl | ((repeat' split) <;> rfl)

theorem Stage.afterEmit_isBuf (st : Stage) (j : Nat) (s : Sched) :
    (st.afterEmit j s).1.isBuf = st.isBuf := by
  cases st <;> rfl

theorem cascadeF_kinds (f : Nat) (stages : List Stage) (j : Nat) (ns : List Notif) (s : Sched) :
    (cascadeF f stages j ns s).1.map Stage.isBuf = stages.map Stage.isBuf :=
  cascadeF_rec (M := fun stages _ _ _ r => r.1.map Stage.isBuf = stages.map Stage.isBuf)
    (fun _ _ _ _ => rfl) (fun _ _ _ => rfl)
    (fun st rest j n _ s c _ h1 h2 => by
      rw [h2, List.map_cons, List.map_cons, h1, Stage.afterEmit_isBuf, Stage.onNotif_isBuf])
    f stages j ns s

end Rx.T
