import RxModel.Lemmas.SchedStep
/-
  What one action (`Sched.exec`) does to the clock, the timers (`Frame`) and to each task; the
  reachable-state invariant `WF`; histories (`execFrom`); and the step from "P is preserved by
  every action on task k, and a run from a P-state satisfies Q" to "every run of k in the log of
  any history satisfies Q" (`TaskInv`).
-/
namespace Rx.T
namespace Sched

/-- What every action guarantees about the clock, the timers and the task table size. -/
structure Frame (s s' : Sched) : Prop where
  now_le : s.now ≤ s'.now
  tdue : ∀ tm d, s.tdue tm = some d → s'.tdue tm = some d
  fired_mono : ∀ tm, s.timerFired tm = true → s'.timerFired tm = true
  fired_inv : ∀ tm, s'.timerFired tm = true →
    s.timerFired tm = true ∨ ∃ d, s.tdue tm = some d ∧ d ≤ s.now
  length_le : s.tasks.length ≤ s'.tasks.length

theorem Frame.refl (s : Sched) : Frame s s :=
  ⟨Nat.le_refl _, fun _ _ h => h, fun _ h => h, fun _ h => Or.inl h, Nat.le_refl _⟩

theorem Frame.of_quiet {s s' : Sched} (hn : s.now ≤ s'.now)
    (hd : ∀ tm d, s.tdue tm = some d → s'.tdue tm = some d)
    (hf : ∀ tm, s'.timerFired tm = s.timerFired tm)
    (hl : s.tasks.length ≤ s'.tasks.length) : Frame s s' :=
  ⟨hn, hd, fun tm h => by rw [hf]; exact h, fun tm h => by rw [hf] at h; exact Or.inl h, hl⟩

/-- A poll rewrites the record of the polled task and, at most, registers or creates a timer. -/
theorem poll_shape (s : Sched) (k c) :
    ∃ (s0 : Sched) (t' : Task), (s.poll k c).1 = s0.setTask k t' ∧ s0.tasks = s.tasks ∧ s0.now = s.now ∧
      (∀ tm, s0.timerFired tm = s.timerFired tm) ∧ ∀ tm d, s.tdue tm = some d → s0.tdue tm = some d := by
  cases ht : s.tasks[k]? with
  | none =>
    exact ⟨s, { body := .tick }, by rw [poll_absent s k c ht, setTask_absent s k _ ht], rfl, rfl,
      fun _ => rfl, fun _ _ h => h⟩
  | some t =>
    have hold : ∀ iv tm d, s.tdue tm = some d →
        ((s.newTimer iv k).1.registerTimer s.timers.length).tdue tm = some d := fun iv tm d h => by
      rw [registerTimer_tdue]; exact newTimer_tdue_old _ _ _ _ _ h
    obtain ⟨_, _, h⟩ := poll_task_elim s k c t ht (motive := fun s' _ _ =>
      ∃ (s0 : Sched) (t' : Task), s' = s0.setTask k t' ∧ s0.tasks = s.tasks ∧ s0.now = s.now ∧
        (∀ tm, s0.timerFired tm = s.timerFired tm) ∧ ∀ tm d, s.tdue tm = some d → s0.tdue tm = some d)
      (finished := fun _ => ⟨s, t, (setTask_self s k t ht).symm, rfl, rfl, fun _ => rfl, fun _ _ h => h⟩)
      (cancelled := fun _ _ => ⟨s, _, rfl, rfl, rfl, fun _ => rfl, fun _ _ h => h⟩)
      (arm := fun d _ _ _ => ⟨_, _, rfl, by simp, by simp, by simp, hold d⟩)
      (waitOuter := fun tm _ _ _ _ _ => ⟨_, _, rfl, by simp, by simp, by simp, by simp⟩)
      (once := fun _ _ _ _ _ => ⟨s, _, rfl, rfl, rfl, fun _ => rfl, fun _ _ h => h⟩)
      (waitPeriod := fun fur _ _ _ _ _ _ _ _ => ⟨_, _, rfl, by simp, by simp, by simp, by simp⟩)
      (lastTick := fun _ _ _ _ _ _ _ _ _ _ => ⟨s, _, rfl, rfl, rfl, fun _ => rfl, fun _ _ h => h⟩)
      (tick := fun _ iv _ _ _ _ _ _ _ _ => ⟨_, _, rfl, by simp, by simp, by simp, hold iv⟩)
    exact h

theorem poll_frame (s : Sched) (k c) : Frame s (s.poll k c).1 := by
  obtain ⟨s0, t', e, h1, h2, h3, h4⟩ := poll_shape s k c
  rw [e]
  exact Frame.of_quiet (Nat.le_of_eq h2.symm) h4 h3 (by rw [setTask_length, h1]; exact Nat.le_refl _)

theorem poll_get_ne (s : Sched) (k c) (j : TaskId) (h : j ≠ k) :
    (s.poll k c).1.tasks[j]? = s.tasks[j]? := by
  obtain ⟨s0, t', e, h1, _⟩ := poll_shape s k c
  rw [e, setTask_get_ne _ _ _ _ h, h1]

theorem poll_length (s : Sched) (k c) : (s.poll k c).1.tasks.length = s.tasks.length := by
  obtain ⟨s0, t', e, h1, _⟩ := poll_shape s k c
  rw [e, setTask_length, h1]

theorem poll_runs (s : Sched) (k c) (r : Run) (h : r ∈ (s.poll k c).2) :
    r.task = k ∧ r.time = s.now ∧ (s.poll k c).2 = [r] ∧ k < s.tasks.length := by
  cases ht : s.tasks[k]? with
  | none => rw [poll_absent s k c ht] at h; cases h
  | some t =>
    obtain ⟨_, _, h'⟩ := poll_task_elim s k c t ht (motive := fun _ _ runs =>
      ∀ r ∈ runs, r.task = k ∧ r.time = s.now ∧ runs = [r])
      (finished := fun _ _ h => nomatch h) (cancelled := fun _ _ _ h => nomatch h)
      (arm := fun _ _ _ _ _ h => nomatch h) (waitOuter := fun _ _ _ _ _ _ _ h => nomatch h)
      (waitPeriod := fun _ _ _ _ _ _ _ _ _ _ h => nomatch h)
      (once := fun _ _ _ _ _ r h => by rw [List.mem_singleton.mp h]; exact ⟨rfl, rfl, rfl⟩)
      (lastTick := fun _ _ _ _ _ _ _ _ _ _ r h => by rw [List.mem_singleton.mp h]; exact ⟨rfl, rfl, rfl⟩)
      (tick := fun _ _ _ _ _ _ _ _ _ _ r h => by rw [List.mem_singleton.mp h]; exact ⟨rfl, rfl, rfl⟩)
    obtain ⟨h1, h2, h3⟩ := h' r h
    exact ⟨h1, h2, h3, get_lt ht⟩

theorem exec_fire (s : Sched) (tm : TimerId) :
    s.exec (.fire tm) = (if s.dueTimers.contains tm then s.fire tm else s, []) := rfl
theorem exec_poll (s : Sched) (k : TaskId) (c : Bool) : s.exec (.poll k c) = s.poll k c := rfl

theorem exec_frame (s : Sched) (a : SAct) : Frame s (s.exec a).1 := by
  cases a with
  | scheduleOnce b d =>
    exact Frame.of_quiet (Nat.le_refl _) (fun _ _ h => h) (fun _ => rfl)
      (Nat.le_of_lt (Nat.lt_of_lt_of_eq (Nat.lt_succ_self _) (scheduleOnce_length s b d).symm))
  | scheduleRepeat b p d =>
    exact Frame.of_quiet (Nat.le_refl _) (fun tm due h => scheduleRepeat_tdue_old s b p d tm due h)
      (scheduleRepeat_timerFired s b p d)
      (Nat.le_of_lt (Nat.lt_of_lt_of_eq (Nat.lt_succ_self _) (scheduleRepeat_length s b p d).symm))
  | cancel k =>
    exact Frame.of_quiet (Nat.le_of_eq (cancel_now s k).symm) (fun tm d h => (cancel_tdue s k tm).trans h)
      (cancel_timerFired s k) (Nat.le_of_eq (cancel_length s k).symm)
  | adv d => exact Frame.of_quiet (Nat.le_add_right _ _) (fun _ _ h => h) (fun _ => rfl) (Nat.le_refl _)
  | fire tm =>
    rw [exec_fire]
    by_cases hm : s.dueTimers.contains tm = true
    · rw [if_pos hm]
      have hm' : tm ∈ s.dueTimers := by simpa using hm
      obtain ⟨d, hd, hle, _⟩ := (mem_dueTimers s tm).1 hm'
      constructor <;> simp [fire_timerFired]
      · intro i h; exact Or.inl h
      · intro i h
        rcases h with h | ⟨e, _⟩
        · exact Or.inl h
        · subst e; exact Or.inr ⟨d, hd, hle⟩
    · rw [if_neg hm]; exact Frame.refl s
  | poll k c => exact poll_frame s k c

/-- The length of the task table changes only by scheduling. -/
theorem exec_length (s : Sched) (a : SAct) :
    (s.exec a).1.tasks.length =
      match a with
      | .scheduleOnce _ _ => s.tasks.length + 1
      | .scheduleRepeat _ _ _ => s.tasks.length + 1
      | _ => s.tasks.length := by
  cases a with
  | scheduleOnce b d => exact scheduleOnce_length s b d
  | scheduleRepeat b p d => exact scheduleRepeat_length s b p d
  | cancel k => exact cancel_length s k
  | adv d => rfl
  | fire tm =>
    rw [exec_fire]; split
    · exact fire_length s tm
    · rfl
  | poll k c => exact poll_length s k c

/-- Only `poll k` and `cancel k` touch task `k` (apart from its wake-up flag). -/
theorem exec_task_other (s : Sched) (a : SAct) (j : TaskId) (t : Task) (h : s.tasks[j]? = some t)
    (hp : ∀ c, a ≠ .poll j c) (hc : a ≠ .cancel j) :
    ∃ t', (s.exec a).1.tasks[j]? = some t' ∧ Task.sameCore t t' := by
  cases a with
  | scheduleOnce b d => exact ⟨t, scheduleOnce_get_old _ _ _ _ _ h, Task.sameCore_refl t⟩
  | scheduleRepeat b p d => exact ⟨t, scheduleRepeat_get_old _ _ _ _ _ _ h, Task.sameCore_refl t⟩
  | cancel k =>
    have : j ≠ k := fun e => hc (by rw [e])
    exact ⟨t, (cancel_get_ne s k j this).trans h, Task.sameCore_refl t⟩
  | adv d => exact ⟨t, h, Task.sameCore_refl t⟩
  | fire tm =>
    rw [exec_fire]; split
    · exact fire_get s tm j t h
    · exact ⟨t, h, Task.sameCore_refl t⟩
  | poll k c =>
    have : j ≠ k := fun e => hp c (by rw [e])
    exact ⟨t, (poll_get_ne s k c j this).trans h, Task.sameCore_refl t⟩

/-- Every entry of the run log comes from a `poll` of an existing task, at the current clock value. -/
theorem exec_runs (s : Sched) (a : SAct) (r : Run) (h : r ∈ (s.exec a).2) :
    (∃ c, a = .poll r.task c) ∧ r.time = s.now ∧ (s.exec a).2 = [r] ∧ r.task < s.tasks.length := by
  cases a with
  | poll k c =>
    obtain ⟨h1, h2, h3, h4⟩ := poll_runs s k c r h
    exact ⟨⟨c, by rw [h1]⟩, h2, h3, by rw [h1]; exact h4⟩
  | _ => cases h

/-- A task that appears is fresh. -/
theorem exec_new_task (s : Sched) (a : SAct) (j : Nat) (t' : Task) (h : s.tasks[j]? = none)
    (h' : (s.exec a).1.tasks[j]? = some t') :
    t'.done = false ∧ t'.hasValue = false ∧ t'.keepRunning = true := by
  have hl := exec_length s a
  have hj : s.tasks.length ≤ j := List.getElem?_eq_none_iff.mp h
  have hj' := get_lt h'
  cases a with
  | scheduleOnce b d =>
    have : j = s.tasks.length := Nat.le_antisymm (Nat.le_of_lt_succ (Nat.lt_of_lt_of_eq hj' hl)) hj
    subst this
    rw [show (s.exec (.scheduleOnce b d)).1 = (s.scheduleOnce b d).1 from rfl, scheduleOnce_get_new] at h'
    cases h'; exact ⟨rfl, rfl, rfl⟩
  | scheduleRepeat b p d =>
    have : j = s.tasks.length := Nat.le_antisymm (Nat.le_of_lt_succ (Nat.lt_of_lt_of_eq hj' hl)) hj
    subst this
    rw [show (s.exec (.scheduleRepeat b p d)).1 = (s.scheduleRepeat b p d).1 from rfl,
      scheduleRepeat_get_new] at h'
    cases h'; exact ⟨rfl, rfl, rfl⟩
  | cancel k => exact absurd (Nat.lt_of_lt_of_eq hj' hl) (Nat.not_lt.mpr hj)
  | adv d => exact absurd (Nat.lt_of_lt_of_eq hj' hl) (Nat.not_lt.mpr hj)
  | fire tm => exact absurd (Nat.lt_of_lt_of_eq hj' hl) (Nat.not_lt.mpr hj)
  | poll k c => exact absurd (Nat.lt_of_lt_of_eq hj' hl) (Nat.not_lt.mpr hj)

theorem exec_task_cases (s : Sched) (a : SAct) (j : TaskId) (t : Task) (h : s.tasks[j]? = some t) :
    (∃ t', (s.exec a).1.tasks[j]? = some t' ∧ Task.sameCore t t' ∧ ∀ r ∈ (s.exec a).2, r.task ≠ j) ∨
    a = .cancel j ∨ ∃ c, a = .poll j c := by
  by_cases hc : a = .cancel j
  · exact Or.inr (Or.inl hc)
  by_cases hp : ∃ c, a = .poll j c
  · exact Or.inr (Or.inr hp)
  left
  have hp' : ∀ c, a ≠ .poll j c := fun c e => hp ⟨c, e⟩
  obtain ⟨t', h1, h2⟩ := exec_task_other s a j t h hp' hc
  refine ⟨t', h1, h2, ?_⟩
  intro r hr e
  obtain ⟨⟨c, hc'⟩, _⟩ := exec_runs s a r hr
  exact hp' c (by rw [hc', e])

/-- Holds in every state a history can reach. -/
structure WF (s : Sched) : Prop where
  /-- a fired timer was due -/
  fired_due : ∀ tm, s.timerFired tm = true → ∃ d, s.tdue tm = some d ∧ d ≤ s.now
  /-- a handle holds a value only when its future has returned -/
  value_done : ∀ (k : Nat) (t : Task), s.tasks[k]? = some t → t.hasValue = true → t.done = true

theorem wf_init (c : Nat) : WF { now := c } :=
  ⟨fun _ h => (nomatch h), fun _ _ h => (nomatch h)⟩

theorem wf_exec (s : Sched) (a : SAct) (wf : WF s) : WF (s.exec a).1 := by
  have fr := exec_frame s a
  constructor
  · intro tm h
    rcases fr.fired_inv tm h with h | ⟨d, hd, hle⟩
    · obtain ⟨d, hd, hle⟩ := wf.fired_due tm h
      exact ⟨d, fr.tdue tm d hd, Nat.le_trans hle fr.now_le⟩
    · exact ⟨d, fr.tdue tm d hd, Nat.le_trans hle fr.now_le⟩
  · intro j t' h' hv
    cases hj : s.tasks[j]? with
    | none =>
      have := (exec_new_task s a j t' hj h').2.1
      rw [this] at hv; cases hv
    | some t =>
      rcases exec_task_cases s a j t hj with ⟨t'', h1, ⟨w, hw⟩, _⟩ | hc | ⟨c, hp⟩
      · rw [h1] at h'; cases h'; subst hw
        exact wf.value_done j t hj hv
      · subst hc
        rw [show (s.exec (.cancel j)).1 = s.cancel j from rfl, cancel_get_self _ _ _ hj] at h'; cases h'
        cases hv
      · subst hp
        rw [exec_poll] at h'
        -- `hasValue` is set only together with `done`; otherwise both stay as they are
        have old := wf.value_done j t hj
        obtain ⟨t'', h1, h2⟩ := poll_task_elim s j c t hj
          (motive := fun _ t' _ => t'.hasValue = true → t'.done = true)
          (cancelled := fun _ _ _ => rfl) (once := fun _ _ _ _ _ _ => rfl)
          (lastTick := fun _ _ _ _ _ _ _ _ _ _ _ => rfl)
          (finished := fun _ => old) (arm := fun _ _ _ _ => old) (waitOuter := fun _ _ _ _ _ _ => old)
          (waitPeriod := fun _ _ _ _ _ _ _ _ _ => old) (tick := fun _ _ _ _ _ _ _ _ _ _ => old)
        rw [h1] at h'; cases h'
        exact h2 hv

@[simp] theorem execFrom_nil (s : Sched) : execFrom s [] = (s, []) := rfl
theorem execFrom_cons (s : Sched) (a as) :
    execFrom s (a :: as) = ((execFrom (s.exec a).1 as).1, (s.exec a).2 ++ (execFrom (s.exec a).1 as).2) := rfl

theorem execFrom_append (s : Sched) (as bs : List SAct) :
    execFrom s (as ++ bs) =
      ((execFrom (execFrom s as).1 bs).1, (execFrom s as).2 ++ (execFrom (execFrom s as).1 bs).2) := by
  induction as generalizing s with
  | nil => simp
  | cons a as ih => simp only [List.cons_append, execFrom_cons, ih, List.append_assoc]

theorem execFrom_snoc (s : Sched) (as : List SAct) (a : SAct) :
    execFrom s (as ++ [a]) =
      (((execFrom s as).1.exec a).1, (execFrom s as).2 ++ ((execFrom s as).1.exec a).2) := by
  rw [execFrom_append, execFrom_cons, execFrom_nil, List.append_nil]

theorem wf_execFrom (s : Sched) (as : List SAct) (wf : WF s) : WF (execFrom s as).1 := by
  induction as generalizing s with
  | nil => exact wf
  | cons a as ih => exact ih _ (wf_exec s a wf)

/-- Several actions: clock, timers, table size only grow. -/
structure Frame' (s s' : Sched) : Prop where
  now_le : s.now ≤ s'.now
  tdue : ∀ tm d, s.tdue tm = some d → s'.tdue tm = some d
  fired_mono : ∀ tm, s.timerFired tm = true → s'.timerFired tm = true
  length_le : s.tasks.length ≤ s'.tasks.length

theorem execFrom_frame (s : Sched) (as : List SAct) : Frame' s (execFrom s as).1 := by
  induction as generalizing s with
  | nil => exact ⟨Nat.le_refl _, fun _ _ h => h, fun _ h => h, Nat.le_refl _⟩
  | cons a as ih =>
    have f1 := exec_frame s a
    have f2 := ih (s.exec a).1
    exact ⟨Nat.le_trans f1.now_le f2.now_le, fun tm d h => f2.tdue tm d (f1.tdue tm d h),
      fun tm h => f2.fired_mono tm (f1.fired_mono tm h), Nat.le_trans f1.length_le f2.length_le⟩

/-- A run is of an existing task, at a clock value between the start and the end of the history. -/
theorem execFrom_runs (s : Sched) (as : List SAct) (r : Run) (h : r ∈ (execFrom s as).2) :
    r.task < (execFrom s as).1.tasks.length ∧ s.now ≤ r.time ∧ r.time ≤ (execFrom s as).1.now := by
  induction as generalizing s with
  | nil => simp at h
  | cons a as ih =>
    rw [execFrom_cons] at h ⊢
    simp only [List.mem_append] at h
    have f1 := exec_frame s a
    have f2 := execFrom_frame (s.exec a).1 as
    rcases h with h | h
    · obtain ⟨_, ht, _, hl⟩ := exec_runs s a r h
      refine ⟨?_, by omega, ?_⟩
      · exact Nat.lt_of_lt_of_le hl (Nat.le_trans f1.length_le f2.length_le)
      · rw [ht]; exact Nat.le_trans f1.now_le f2.now_le
    · obtain ⟨h1, h2, h3⟩ := ih _ h
      exact ⟨h1, Nat.le_trans f1.now_le h2, h3⟩

/-- The run log is in clock order. -/
theorem execFrom_sorted (s : Sched) (as : List SAct) :
    List.Pairwise (fun r1 r2 : Run => r1.time ≤ r2.time) (execFrom s as).2 := by
  induction as generalizing s with
  | nil => simp
  | cons a as ih =>
    rw [execFrom_cons]
    simp only [List.pairwise_append]
    refine ⟨?_, ih _, ?_⟩
    · -- at most one run per action
      cases hl : (s.exec a).2 with
      | nil => simp
      | cons r l =>
        have := (exec_runs s a r (by rw [hl]; simp)).2.2.1
        rw [hl] at this; cases this; simp
    · intro r1 h1 r2 h2
      have e1 := (exec_runs s a r1 h1).2.1
      have e2 := (execFrom_runs _ as r2 h2).2.1
      have := (exec_frame s a).now_le
      omega

/-- `P` holds of task `k`. -/
def Holds (P : Sched → Task → Prop) (s : Sched) (k : TaskId) : Prop := ∃ t, s.tasks[k]? = some t ∧ P s t

/-- `P` is an invariant of task `k` and every run of `k` from a `P`-state satisfies `Q`. -/
structure TaskInv (k : TaskId) (P : Sched → Task → Prop) (Q : Run → Prop) : Prop where
  frame : ∀ s s' t t', Frame s s' → Task.sameCore t t' → P s t → P s' t'
  cancel : ∀ s t, P s t → P s { t with keepRunning := false, hasValue := false }
  poll : ∀ s c t, WF s → s.tasks[k]? = some t → P s t →
    ∃ t', (s.poll k c).1.tasks[k]? = some t' ∧ P (s.poll k c).1 t' ∧ ∀ r ∈ (s.poll k c).2, Q r

theorem TaskInv.exec {k P Q} (I : TaskInv k P Q) (s : Sched) (a : SAct) (wf : WF s)
    (h : Holds P s k) : Holds P (s.exec a).1 k ∧ ∀ r ∈ (s.exec a).2, r.task = k → Q r := by
  obtain ⟨t, ht, hp⟩ := h
  rcases exec_task_cases s a k t ht with ⟨t', h1, h2, h3⟩ | hc | ⟨c, hc⟩
  · exact ⟨⟨t', h1, I.frame s _ t t' (exec_frame s a) h2 hp⟩, fun r hr e => absurd e (h3 r hr)⟩
  · subst hc
    refine ⟨⟨_, cancel_get_self s k t ht, ?_⟩, nofun⟩
    exact I.frame s _ _ _ (exec_frame s (.cancel k)) (Task.sameCore_refl _) (I.cancel s t hp)
  · subst hc
    obtain ⟨t', h1, h2, h3⟩ := I.poll s c t wf ht hp
    exact ⟨⟨t', h1, h2⟩, fun r hr _ => h3 r hr⟩

theorem TaskInv.execFrom {k P Q} (I : TaskInv k P Q) (as : List SAct) (s : Sched) (wf : WF s)
    (h : Holds P s k) :
    Holds P (execFrom s as).1 k ∧ ∀ r ∈ (execFrom s as).2, r.task = k → Q r := by
  induction as generalizing s with
  | nil => exact ⟨h, by simp⟩
  | cons a as ih =>
    obtain ⟨h1, h2⟩ := I.exec s a wf h
    obtain ⟨h3, h4⟩ := ih _ (wf_exec s a wf) h1
    rw [execFrom_cons]
    refine ⟨h3, ?_⟩
    intro r hr e
    simp only [List.mem_append] at hr
    rcases hr with hr | hr
    · exact h2 r hr e
    · exact h4 r hr e

end Sched
end Rx.T
