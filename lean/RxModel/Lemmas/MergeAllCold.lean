import RxModel.Lemmas.MergeAllCompletion
import RxModel.Lemmas.MergeAllGrammar
/-
  Cold inners and error events.

  * When every inner observable the outer stream delivers is cold and
    terminates inside its subscription, the output is — for every limit ≥ 1,
    both codes, every history — the scripts one after the other in arrival
    order, cut at the first error, followed by the outer stream's terminal.
  * A started cold inner whose script ends with an error (repaired code): the
    log ends with its start, its items and exactly that error.
  * What a single error event of the outer stream or of a hot subject does.
-/
namespace Rx.MergeAll

/-- Expected output: `t` = arrival number of the next inner observable. -/
def coldExpected (inner : Nat → Inner) : Nat → List Ev → List Out
  | _, [] => []
  | t, .outerNext k :: r =>
      match inner k with
      | .cold xs .complete => xs.map (Out.item t) ++ coldExpected inner (t + 1) r
      | .cold xs (.error e) => xs.map (Out.item t) ++ [.error e]
      | _ => []
  | _, .outerError e :: _ => [.error e]
  | _, .outerComplete :: _ => [.complete]
  | _, .unsub :: _ => []
  | t, .innerNext _ _ :: r => coldExpected inner t r
  | t, .innerError _ _ :: r => coldExpected inner t r
  | t, .innerComplete _ :: r => coldExpected inner t r

/-- Between two events nothing is subscribed, queued or held by a subject. -/
structure ColdIdle (s : St) : Prop where
  ns : s.stuck = false
  al : s.alive = true
  oo : s.outerOpen = true
  sub : s.subscribed = 0
  qu : s.queue = []
  sb : s.subs = []
  oc : s.outsideCompleted = false
  conc : 1 ≤ s.concurrent

theorem init_coldIdle (inners : List Inner) (n : Nat) (hn : 1 ≤ n) : ColdIdle (init inners n) :=
  ⟨rfl, rfl, rfl, rfl, rfl, rfl, rfl, hn⟩

/-- One arrival of a cold inner that terminates, in the idle state: its script; on `complete`
    the operator is idle again, on `error` the cell is empty. -/
theorem cold_step (f : Bool) (s : St) (k : Nat) (xs : List Val) (fin : Fin) (h : ColdIdle s)
    (hk : s.inner k = .cold xs fin) :
    (fin = .complete → (stepG f s (.outerNext k)).2 = xs.map (Out.item s.arrivals) ∧
      ColdIdle (stepG f s (.outerNext k)).1 ∧ (stepG f s (.outerNext k)).1.arrivals = s.arrivals + 1) ∧
    (∀ e, fin = .error e → (stepG f s (.outerNext k)).2 = xs.map (Out.item s.arrivals) ++ [.error e] ∧
      (stepG f s (.outerNext k)).1.alive = false) := by
  have hlt : s.subscribed < s.concurrent := by have := h.sub; have := h.conc; omega
  refine stepG_cases f s (.outerNext k) (P := fun r _ =>
      (fin = .complete → r.2 = xs.map (Out.item s.arrivals) ∧ ColdIdle r.1 ∧ r.1.arrivals = s.arrivals + 1) ∧
      (∀ e, fin = .error e → r.2 = xs.map (Out.item s.arrivals) ++ [.error e] ∧ r.1.alive = false))
    (idle := fun hI => by rcases hI with hI | hI; rw [h.ns] at hI; cases hI; rw [h.oo] at hI; cases hI)
    (lost := fun _ _ _ _ ha => by rw [h.al] at ha; cases ha) (room := fun k' he _ _ _ _ => ?_)
    (full := fun _ _ _ _ _ hge => absurd hlt hge)
    (outer := fun _ _ _ _ _ hx => by rcases hx with ⟨hx, _⟩ | ⟨_, hx, _⟩ <;> cases hx)
    (inext := fun _ _ he => by cases he) (ierr := fun _ _ _ _ he => by cases he) (icomp := fun _ he => by cases he)
    (unsub := fun he => by cases he)
  cases he
  refine startTop_cases f _ _ (P := fun r _ =>
      (fin = .complete → r.2 = xs.map (Out.item s.arrivals) ∧ ColdIdle r.1 ∧ r.1.arrivals = s.arrivals + 1) ∧
      (∀ e, fin = .error e → r.2 = xs.map (Out.item s.arrivals) ++ [.error e] ∧ r.1.alive = false))
    (hot := fun j hin => ?_) (open_ := fun ys hin => ?_) (error := fun ys e hin => ?_)
    (complete := fun ys hin => ?_)
  -- table entry `k` is `cold xs fin`: each case learns `fin`, the hot one is impossible
  · cases hk.symm.trans hin
  · cases hk.symm.trans hin; exact ⟨nofun, nofun⟩
  · cases hk.symm.trans hin; exact ⟨nofun, fun e he => by cases he; exact ⟨rfl, rfl⟩⟩
  · cases hk.symm.trans hin
    refine ⟨fun _ => ?_, nofun⟩
    rw [h.qu]; unfold drain
    rw [if_neg (by rw [h.oc]; simp)]
    exact ⟨by simp, ⟨h.ns, h.al, h.oo, by show s.subscribed + 1 - 1 = 0; have := h.sub; omega, rfl,
      h.sb, h.oc, h.conc⟩, rfl⟩

/-- Events of the hot subjects do nothing: nobody is subscribed to them. -/
theorem cold_step_inner (f : Bool) (s : St) (ev : Ev) (h : ColdIdle s)
    (hev : (∃ j v, ev = .innerNext j v) ∨ (∃ j e, ev = .innerError j e) ∨ ∃ j, ev = .innerComplete j) :
    (stepG f s ev).2 = [] ∧ ColdIdle (stepG f s ev).1 ∧
    (stepG f s ev).1.arrivals = s.arrivals := by
  have ht : ∀ j, targets s j = [] := fun j => by simp [targets, h.sb]
  refine stepG_cases f s ev (P := fun r _ => r.2 = [] ∧ ColdIdle r.1 ∧ r.1.arrivals = s.arrivals)
    (idle := fun _ => ⟨rfl, h, rfl⟩) (lost := fun _ he => ?_) (room := fun _ he => ?_) (full := fun _ he => ?_)
    (outer := fun _ _ _ _ _ hx => ?_) (inext := fun j _ _ _ _ => ⟨by rw [ht]; split <;> rfl, h, rfl⟩)
    (ierr := fun j _ a o _ _ _ ho => ?_) (icomp := fun j _ _ _ => ?_) (unsub := fun he => ?_)
  · rcases hev with ⟨_, _, rfl⟩ | ⟨_, _, rfl⟩ | ⟨_, rfl⟩ <;> cases he
  · rcases hev with ⟨_, _, rfl⟩ | ⟨_, _, rfl⟩ | ⟨_, rfl⟩ <;> cases he
  · rcases hev with ⟨_, _, rfl⟩ | ⟨_, _, rfl⟩ | ⟨_, rfl⟩ <;> cases he
  · rcases hev with ⟨_, _, rfl⟩ | ⟨_, _, rfl⟩ | ⟨_, rfl⟩ <;> rcases hx with ⟨hx, _⟩ | ⟨_, hx, _⟩ <;> cases hx
  · cases ho with
    | none _ => exact ⟨rfl, ⟨h.ns, h.al, h.oo, h.sub, h.qu, by simp [St.take, h.sb], h.oc, h.conc⟩, rfl⟩
    | term _ hne => exact absurd (ht j) hne
  · rw [ht]
    exact ⟨rfl, ⟨h.ns, h.al, h.oo, h.sub, h.qu, by simp [St.take, completeAll_nil, h.sb], h.oc, h.conc⟩, rfl⟩
  · rcases hev with ⟨_, _, rfl⟩ | ⟨_, _, rfl⟩ | ⟨_, rfl⟩ <;> cases he

theorem error_outer_step (f : Bool) (s : St) (e : Err) (hs : s.stuck = false)
    (ho : s.outerOpen = true) (ha : s.alive = true) :
    (stepG f s (.outerError e)).2 = [.error e] ∧ (stepG f s (.outerError e)).1.alive = false := by
  rw [stepG_of_not_stuck hs]; unfold outerError; simp [ho, ha]

theorem runG_cold (f : Bool) (evs : List Ev) : ∀ s : St, ColdIdle s →
    (∀ k, Ev.outerNext k ∈ evs → ∃ xs fin, s.inner k = .cold xs fin ∧ fin ≠ .open_) →
    (runG f s evs).2 = coldExpected s.inner s.arrivals evs := by
  induction evs with
  | nil => intro s _ _; rfl
  | cons ev r ih =>
    intro s h hc
    have hi := inner_of_inners (stepG_frame f s ev).inners
    have hc' : ∀ k, Ev.outerNext k ∈ r →
        ∃ xs fin, (stepG f s ev).1.inner k = .cold xs fin ∧ fin ≠ .open_ := by
      intro k hk
      rw [hi]
      exact hc k (List.mem_cons_of_mem _ hk)
    simp only [runG]
    cases ev with
    | outerNext k =>
      obtain ⟨xs, fin, hk, hfin⟩ := hc k (List.mem_cons_self ..)
      have h1 := cold_step f s k xs fin h hk
      cases fin with
      | open_ => exact absurd rfl hfin
      | complete =>
        obtain ⟨h1, h2, h3⟩ := h1.1 rfl
        rw [h1, ih _ h2 hc', h3, hi]
        simp only [coldExpected, hk]
      | error e =>
        obtain ⟨h1, h2⟩ := h1.2 e rfl
        rw [h1, runG_dead_out f r _ h2]
        simp only [coldExpected, hk, List.append_nil]
    | outerError e =>
      have h1 := error_outer_step f s e h.ns h.oo h.al
      rw [h1.1, runG_dead_out f r _ h1.2]
      rfl
    | outerComplete =>
      have h1 : (stepG f s .outerComplete).2 = [.complete] ∧
          (stepG f s .outerComplete).1.alive = false := by
        rw [stepG_of_not_stuck h.ns]; unfold outerComplete; simp [h.oo, h.al, h.sub, h.qu]
      rw [h1.1, runG_dead_out f r _ h1.2]
      rfl
    | innerNext j v =>
      have h1 := cold_step_inner f s (.innerNext j v) h (Or.inl ⟨j, v, rfl⟩)
      rw [h1.1, ih _ h1.2.1 hc', h1.2.2, hi]
      rfl
    | innerError j e =>
      have h1 := cold_step_inner f s (.innerError j e) h (Or.inr (Or.inl ⟨j, e, rfl⟩))
      rw [h1.1, ih _ h1.2.1 hc', h1.2.2, hi]
      rfl
    | innerComplete j =>
      have h1 := cold_step_inner f s (.innerComplete j) h (Or.inr (Or.inr ⟨j, rfl⟩))
      rw [h1.1, ih _ h1.2.1 hc', h1.2.2, hi]
      rfl
    | unsub =>
      have := runG_unsub f s r
      simp only [runG] at this
      rw [this]; rfl

theorem coldExpected_all_complete (inner : Nat → Inner) (ks : List Nat) : ∀ t : Nat,
    (∀ k ∈ ks, ∃ xs, inner k = .cold xs .complete) →
    (coldExpected inner t (ks.map Ev.outerNext ++ [.outerComplete])).map Out.toNotif =
      (ks.flatMap (fun k => (inner k).script)).map Notif.next ++ [.complete] := by
  induction ks with
  | nil => intro t _; rfl
  | cons k r ih =>
    intro t h
    obtain ⟨xs, hk⟩ := h k (List.mem_cons_self ..)
    have := ih (t + 1) (fun k' hk' => h k' (List.mem_cons_of_mem _ hk'))
    simp only [List.map_cons, List.cons_append, coldExpected, hk, List.map_append, this,
      List.flatMap_cons, Inner.script, List.append_assoc]
    simp [Out.toNotif]

theorem coldExpected_complete_mem (inner : Nat → Inner) (evs : List Ev) : ∀ t : Nat,
    (∀ k, Ev.outerNext k ∈ evs → ∃ xs, inner k = .cold xs .complete) →
    (∀ ev ∈ evs, Ev.benign ev = true) → Ev.outerComplete ∈ evs →
    Out.complete ∈ coldExpected inner t evs := by
  induction evs with
  | nil => intro t _ _ h; cases h
  | cons ev r ih =>
    intro t hc hb ho
    have hc' : ∀ k, Ev.outerNext k ∈ r → ∃ xs, inner k = .cold xs .complete :=
      fun k hk => hc k (List.mem_cons_of_mem _ hk)
    have hb' : ∀ ev ∈ r, Ev.benign ev = true := fun e he => hb e (List.mem_cons_of_mem _ he)
    have hbe := hb ev (List.mem_cons_self ..)
    cases ev with
    | outerNext k =>
      obtain ⟨xs, hk⟩ := hc k (List.mem_cons_self ..)
      have ho' : Ev.outerComplete ∈ r := by simpa using ho
      simp only [coldExpected, hk, List.mem_append]
      exact Or.inr (ih _ hc' hb' ho')
    | outerError e => simp [Ev.benign] at hbe
    | outerComplete => simp [coldExpected]
    | innerNext j v =>
      have ho' : Ev.outerComplete ∈ r := by simpa using ho
      simpa [coldExpected] using ih t hc' hb' ho'
    | innerError j e => simp [Ev.benign] at hbe
    | innerComplete j =>
      have ho' : Ev.outerComplete ∈ r := by simpa using ho
      simpa [coldExpected] using ih t hc' hb' ho'
    | unsub => simp [Ev.benign] at hbe

/-- The log ends with the block of instance `i`: start, items `xs`, error `e`. -/
def EndsWithErrBlock (i : Inst) (xs : List Val) (e : Err) (l : List Lab) : Prop :=
  ∃ L1, l = L1 ++ Lab.start i :: (itemsL i.tag xs ++ [Lab.out (.error e)])

theorem EndsWithErrBlock.hasTerm {i : Inst} {xs : List Val} {e : Err} {l : List Lab}
    (h : EndsWithErrBlock i xs e l) : hasTerm l = true := by
  obtain ⟨L1, rfl⟩ := h
  simp [hasTerm_cons, Lab.isTerm]

theorem EndsWithErrBlock.prepend {i : Inst} {xs : List Val} {e : Err} {l : List Lab} (a : List Lab)
    (h : EndsWithErrBlock i xs e l) : EndsWithErrBlock i xs e (a ++ l) := by
  obtain ⟨L1, rfl⟩ := h
  exact ⟨a ++ L1, by simp⟩

theorem startTop_errblock (i0 : Inst) (xs : List Val) (e : Err) (s : St) (i : Inst)
    (hk : s.inner i0.k = .cold xs (.error e))
    (hd : ∀ s', s'.inner = s.inner → i0 ∈ startsOf (drainL true s' s.queue) →
      EndsWithErrBlock i0 xs e (drainL true s' s.queue)) :
    i0 ∈ startsOf (startTopL true s i) → EndsWithErrBlock i0 xs e (startTopL true s i) := by
  -- if the start logged first is `i0` itself, table entry `i.k` is the failing script
  have self : ∀ {l : List Lab} {y : Inner}, s.inner i.k = y → i0 ∈ startsOf (Lab.start i :: l) →
      i0 ∉ startsOf l → y = .cold xs (.error e) := fun hin h hn => by
    rcases List.mem_cons.mp h with rfl | h
    · rw [← hin, hk]
    · exact absurd h hn
  refine startTop_cases true s i (P := fun _ l => i0 ∈ startsOf l → EndsWithErrBlock i0 xs e l)
    (hot := fun _ hin h => ?_) (open_ := fun _ hin h => ?_) (error := fun ys e' hin h => ?_) (complete := fun ys hin h => ?_)
  · cases self hin h (by simp [startsOf])
  · cases self hin h (by simp)
  · have : i0 = i := by simpa [startsOf] using h
    subst this
    rw [hk] at hin; cases hin
    exact ⟨[], rfl⟩
  · by_cases hm : i0 ∈ startsOf (drainL true { s with started := s.started + 1 } s.queue)
    · exact EndsWithErrBlock.prepend (Lab.start i :: itemsL i.tag ys) (hd _ rfl hm)
    · cases self hin (by simpa [startsOf] using h) (by simpa [startsOf] using hm)

theorem drain_errblock (i0 : Inst) (xs : List Val) (e : Err) : ∀ q s,
    s.inner i0.k = .cold xs (.error e) → i0 ∈ startsOf (drainL true s q) →
    EndsWithErrBlock i0 xs e (drainL true s q) :=
  drain_induct true (P := fun s _ _ l => s.inner i0.k = .cold xs (.error e) → i0 ∈ startsOf l →
      EndsWithErrBlock i0 xs e l)
    (last := fun _ _ _ _ h => by cases h) (more := fun _ _ _ h => by cases h) (stuck := fun _ _ _ hb => by cases hb)
    (start := fun s i rest _ ih hk =>
      startTop_errblock i0 xs e { s with completed := s.completed + 1, queue := rest } i hk
        (fun s' hi => ih s' (by rw [hi]; exact hk)))

/-- What the chains carry for the block of `i0`: the table is kept, the log has its shape, and a
    start of `i0` puts its block at the end. -/
def ErrBlockRel (i0 : Inst) (xs : List Val) (e : Err) (s : St) (r : St × List Out) (l : List Lab) :
    Prop :=
  r.1.inner = s.inner ∧ Ends s r l ∧
    (s.inner i0.k = .cold xs (.error e) → i0 ∈ startsOf l → EndsWithErrBlock i0 xs e l)

/-- Composition: a block in the first piece of work ends the log; one in the second stays last. -/
theorem errblock_trans {i0 : Inst} {xs : List Val} {e : Err} {s : St} {r1 r2 : St × List Out}
    {l1 l2 : List Lab} (e1 : Ends s r1 l1) (e2 : Ends r1.1 r2 l2)
    (h1 : i0 ∈ startsOf l1 → EndsWithErrBlock i0 xs e l1)
    (h2 : i0 ∈ startsOf l2 → EndsWithErrBlock i0 xs e l2) :
    i0 ∈ startsOf (l1 ++ l2) → EndsWithErrBlock i0 xs e (l1 ++ l2) := by
  intro h
  rw [startsOf_append, List.mem_append] at h
  rcases h with h | h
  · have hb := h1 h
    rw [e2.2 (e1.1.dead_of_term hb.hasTerm), List.append_nil]
    exact hb
  · exact EndsWithErrBlock.prepend _ (h2 h)

theorem stepG_errblock (i0 : Inst) (xs : List Val) (e : Err) (s : St) (ev : Ev)
    (hk : s.inner i0.k = .cold xs (.error e)) :
    i0 ∈ startsOf (stepL true s ev) → EndsWithErrBlock i0 xs e (stepL true s ev) :=
  stepG_cases true s ev (P := fun _ l => i0 ∈ startsOf l → EndsWithErrBlock i0 xs e l)
    (idle := fun _ h => by cases h) (lost := fun _ _ _ _ _ h => by cases h)
    (room := fun k _ _ _ _ _ h =>
      EndsWithErrBlock.prepend [Lab.arrive ⟨s.arrivals, k⟩]
        (startTop_errblock i0 xs e _ _ hk
          (fun s' hi => drain_errblock i0 xs e _ s' (by rw [hi]; exact hk)) (by simpa [startsOf] using h)))
    (full := fun _ _ _ _ _ _ h => by cases h) (outer := fun _ _ _ _ _ _ _ _ _ h => by simp at h)
    (inext := fun _ _ _ _ _ h => by simp at h) (ierr := fun _ _ _ _ _ _ _ _ h => by simp at h)
    (icomp := fun j _ _ _ => (completeAll_chain true
      (R := ErrBlockRel i0 xs e)
      (fun s => ⟨rfl, Ends.refl s, fun _ h => by cases h⟩)
      (fun a _ b => ⟨b.1.trans a.1, a.2.1.trans b.2.1, fun hk =>
        errblock_trans a.2.1 b.2.1 (a.2.2 hk) (b.2.2 (by rw [a.1]; exact hk))⟩)
      (fun s => innerComplete_cases true s (P := fun r l => ErrBlockRel i0 xs e s r l)
        (alive := fun ha => ⟨inner_of_inners (drain_same true _ s).inners,
          ⟨drain_shape true _ s, fun h => by rw [ha] at h; cases h⟩, drain_errblock i0 xs e _ s⟩)
        (dead := fun _ => ⟨rfl, Ends.refl s, fun _ h => by cases h⟩)) _ (s.take j)).2.2 hk)
    (unsub := fun _ _ h => by cases h)

theorem runG_errblock (i0 : Inst) (xs : List Val) (e : Err) : ∀ evs s,
    s.inner i0.k = .cold xs (.error e) → i0 ∈ startsOf (runL true s evs) →
    EndsWithErrBlock i0 xs e (runL true s evs) := fun evs s =>
  (runG_chain true
    (R := ErrBlockRel i0 xs e)
    (fun s => ⟨rfl, Ends.refl s, fun _ h => by cases h⟩)
    (fun a b => ⟨b.1.trans a.1, a.2.1.trans b.2.1, fun hk =>
      errblock_trans a.2.1 b.2.1 (a.2.2 hk) (b.2.2 (by rw [a.1]; exact hk))⟩)
    (fun s ev => ⟨inner_of_inners (stepG_frame true s ev).inners, stepG_ends true s ev,
      stepG_errblock i0 xs e s ev⟩) evs s).2.2

theorem errblock_prefix_clean (f : Bool) (s : St) (evs : List Ev) (i : Inst) (xs : List Val)
    (e : Err) (L1 : List Lab)
    (h : runL f s evs = L1 ++ Lab.start i :: (itemsL i.tag xs ++ [Lab.out (.error e)])) :
    hasTerm L1 = false := by
  have hT : hasTerm (runL f s evs) = true := by rw [h]; simp [hasTerm_cons, Lab.isTerm]
  rcases (runG_ends f evs s).1 with ⟨a, _⟩ | ⟨l', x, e1, _, a1, _⟩
  · rw [a] at hT; cases hT
  · have he : l' ++ [x] = (L1 ++ Lab.start i :: itemsL i.tag xs) ++ [Lab.out (.error e)] := by
      rw [← e1, h]; simp
    rw [(List.append_inj' he rfl).1, hasTerm_append, Bool.or_eq_false_iff] at a1
    exact a1.1

/-- An error of subject `j`: delivered, once, exactly if the merged stream is alive and the
    subject holds an observer. -/
theorem error_hot_out (f : Bool) (s : St) (j : Nat) (e : Err) (hs : s.stuck = false)
    (hd : s.dead.contains j = false) :
    (stepG f s (.innerError j e)).2 = (if s.alive = true ∧ targets s j ≠ [] then [.error e] else []) ∧
    ((stepG f s (.innerError j e)).2 ≠ [] → (stepG f s (.innerError j e)).1.alive = false) :=
  stepG_cases f s (.innerError j e) (P := fun r _ =>
      r.2 = (if s.alive = true ∧ targets s j ≠ [] then [.error e] else []) ∧ (r.2 ≠ [] → r.1.alive = false))
    (idle := fun hI => by rcases hI with hI | hI; rw [hs] at hI; cases hI; rw [hd] at hI; cases hI)
    (lost := fun _ he => by cases he) (room := fun _ he => by cases he) (full := fun _ he => by cases he)
    (outer := fun _ _ _ _ _ hx => by rcases hx with ⟨hx, _⟩ | ⟨_, hx, _⟩ <;> cases hx)
    (inext := fun _ _ he => by cases he)
    (ierr := fun j' e' a o he _ _ ho => by
      cases he
      cases ho with
      | none hn => exact ⟨(if_neg hn).symm, fun hne => absurd rfl hne⟩
      | term ha hne => exact ⟨(if_pos ⟨ha, hne⟩).symm, fun _ => rfl⟩)
    (icomp := fun _ he => by cases he) (unsub := fun he => by cases he)

theorem error_hot_step (f : Bool) (s : St) (j t : Nat) (e : Err) (hs : s.stuck = false)
    (hl : Listening s j t) :
    (stepG f s (.innerError j e)).2 = [.error e] ∧ (stepG f s (.innerError j e)).1.alive = false := by
  obtain ⟨ha, hm, hd⟩ := hl
  have hmem : (j, t) ∈ targets s j := List.mem_filter.mpr ⟨hm, by simp⟩
  have hne : targets s j ≠ [] := fun h => by rw [h] at hmem; cases hmem
  have := error_hot_out f s j e hs hd
  rw [if_pos ⟨ha, hne⟩] at this
  exact ⟨this.1, this.2 (by rw [this.1]; simp)⟩

theorem error_hot_unheard (f : Bool) (s : St) (j : Nat) (e : Err)
    (hn : ∀ t, ¬ Listening s j t) : (stepG f s (.innerError j e)).2 = [] := by
  cases hs : s.stuck with
  | true => rw [stepG_of_stuck hs]
  | false =>
    cases hd : s.dead.contains j with
    | true => rw [stepG_of_not_stuck hs]; dsimp only; unfold hotError; rw [if_pos hd]
    | false =>
      rw [(error_hot_out f s j e hs hd).1]
      apply if_neg
      rintro ⟨ha, hne⟩
      cases htt : targets s j with
      | nil => exact hne htt
      | cons p r =>
        have hp' := List.mem_filter.mp (show p ∈ targets s j by rw [htt]; exact List.mem_cons_self ..)
        have hj : p.1 = j := by simpa using hp'.2
        exact hn p.2 ⟨ha, by rw [← hj]; exact hp'.1, hd⟩

end Rx.MergeAll
