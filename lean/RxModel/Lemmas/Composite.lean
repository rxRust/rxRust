import RxModel.Sub.Composite
/-
  Composite subscriptions.  Tearing down only kills leaves and takes cells: every relation that
  respects those two effects holds across `unsubscribe` (`Teardown`); `Le` and flatness are such.
  `is_closed = true` implies that every reachable leaf is dead.  `unsubscribe` silences every leaf
  reachable through the value: one level of composites in any world, all of it in a flat world,
  where the deeper levels are never entered.
-/
namespace Rx.Comp

theorem cell_ge2 (w : W) (j : Nat) (h : 2 ≤ j) : w.cell j = none := by
  match j, h with
  | (n + 2), _ => rfl

theorem cell_setCell_same (w : W) (j : Nat) (v : Option (List Child)) (h : j < 2) :
    (w.setCell j v).cell j = v := by
  match j, h with
  | 0, _ => rfl
  | 1, _ => rfl

theorem cell_setCell_none (w : W) (j : Nat) : (w.setCell j none).cell j = none := by
  obtain _ | _ | j := j <;> rfl

theorem cell_setCell_ne (w : W) (j j' : Nat) (v : Option (List Child)) (h : j' ≠ j) :
    (w.setCell j v).cell j' = w.cell j' := by
  -- nine pairs of indices: the two equal ones contradict `h`, the others compute
  obtain _ | _ | j := j <;> obtain _ | _ | j' := j' <;> first | rfl | exact absurd rfl h

theorem alive_setCell (w : W) (j : Nat) (v : Option (List Child)) : (w.setCell j v).alive = w.alive := by
  obtain _ | _ | j := j <;> rfl

theorem cell_congr {w' w : W} (h0 : w'.c0 = w.c0) (h1 : w'.c1 = w.c1) (j : Nat) : w'.cell j = w.cell j := by
  match j with
  | 0 => exact h0
  | 1 => exact h1
  | (n + 2) => rfl

theorem cell_kill (w : W) (i j : Nat) : (w.kill i).cell j = w.cell j := cell_congr rfl rfl j

theorem alive_kill (w : W) (i k : Nat) : (w.kill i).alive k = if k = i then false else w.alive k := rfl

theorem alive_kill_self (w : W) (i : Nat) : (w.kill i).alive i = false := if_pos rfl

theorem takeCell_none (u : Sub → W → W) {j : Nat} {w : W} (h : w.cell j = none) : takeCell u j w = w := by
  unfold takeCell; rw [h]

theorem takeCell_some (u : Sub → W → W) {j : Nat} {w : W} {cs : List Child} (h : w.cell j = some cs) :
    takeCell u j w = cs.foldl (fun w c => unsubChild u c w) (w.setCell j none) := by
  unfold takeCell; rw [h]

theorem cellReach_none (f : Sub → List Nat) {j : Nat} {w : W} (h : w.cell j = none) : cellReach f w j = [] := by
  unfold cellReach; rw [h]

theorem cellReach_some (f : Sub → List Nat) {j : Nat} {w : W} {cs : List Child} (h : w.cell j = some cs) :
    cellReach f w j = cs.flatMap (childReach f) := by
  unfold cellReach; rw [h]

theorem appendChild_fixed_sub {j : Nat} {w : W} (s : Sub) (h : w.cell j = none) :
    appendChild .fixed j (.sub s) w = unsub s w := by
  unfold appendChild; rw [h]

theorem appendChild_code_sub {j : Nat} {w : W} (s : Sub) (h : w.cell j = none) :
    appendChild .code j (.sub s) w = w := by
  unfold appendChild; rw [h]

theorem step_dropGuard (m : Model) (w : W) (k : Nat) : step m w (.dropGuard k) =
    match w.guards[k]? with
    | some (some s) => (unsub s { w with guards := w.guards.set k none }, .ok)
    | _ => (w, .ok) := rfl

theorem cell_run (m : Model) (w : W) (j : Nat) : (step m w .run).1.cell j = (w.cell j).map markRan := by
  obtain _ | _ | j := j <;> rfl

theorem run_cons (m : Model) (w : W) (e : Op) (es : List Op) :
    (run m w (e :: es)).1 = (run m (step m w e).1 es).1 := rfl

theorem isClosed_leaf (w : W) (i : Nat) : isClosed w (.leaf i) = !w.alive i := rfl

theorem isClosed_multi_of_none (w : W) (j : Nat) (h : w.cell j = none) : isClosed w (.multi j) = true := by
  show cellClosed _ w j = true
  unfold cellClosed; rw [h]

/-- A transitive relation from a world to a later one that every operation respects: a subscriber's
    slot is taken, a composite's vector is taken (the two effects of an unsubscription), an entry is
    pushed by an operation satisfying `ok`, the executor runs, or neither slots nor vectors are touched. -/
structure Teardown (R : W → W → Prop) (ok : Op → Prop) : Prop where
  trans : ∀ {a b c}, R a b → R b c → R a c
  frame : ∀ {w w' : W}, w'.alive = w.alive → w'.c0 = w.c0 → w'.c1 = w.c1 → R w w'
  kill : ∀ w i, R w (w.kill i)
  setNone : ∀ w j, R w (w.setCell j none)
  push : ∀ {w : W} {j : Nat} {cs : List Child} (c : Child), (∀ s, c = .sub s → ok (.append j s)) →
    w.cell j = some cs → R w (w.setCell j (some (cs ++ [c])))
  ran : ∀ m w, R w (step m w .run).1

section
variable {R : W → W → Prop} {ok : Op → Prop}

theorem Teardown.refl (hR : Teardown R ok) (w : W) : R w w := hR.frame rfl rfl rfl

theorem Teardown.unsubAt_le (hR : Teardown R ok) (k : Nat → W → W)
    (hk : ∀ j w, R w (k j w)) : ∀ (s : Sub) (w : W), R w (unsubAt k s w)
  | .unit, w => hR.refl w
  | .leaf i, w => hR.kill w i
  | .multi j, w => hk j w
  | .zip a b, w => hR.trans (hR.unsubAt_le k hk a w) (hR.unsubAt_le k hk b _)

theorem Teardown.foldl_le (hR : Teardown R ok) (u : Sub → W → W)
    (hu : ∀ s w, R w (u s w)) : ∀ (cs : List Child) (w : W), R w (cs.foldl (fun w c => unsubChild u c w) w)
  | [], w => hR.refl w
  | .sub s :: cs, w => hR.trans (hu s w) (hR.foldl_le u hu cs _)
  | .task _ :: cs, w => hR.foldl_le u hu cs w

theorem Teardown.takeCell_le (hR : Teardown R ok) (u : Sub → W → W)
    (hu : ∀ s w, R w (u s w)) (j : Nat) (w : W) : R w (takeCell u j w) := by
  cases h : w.cell j with
  | none => rw [takeCell_none u h]; exact hR.refl w
  | some cs => rw [takeCell_some u h]; exact hR.trans (hR.setNone w j) (hR.foldl_le u hu cs _)

theorem Teardown.unsub2_le (hR : Teardown R ok) (s : Sub) (w : W) : R w (unsub2 s w) :=
  hR.unsubAt_le _ (fun _ w => hR.refl w) s w

theorem Teardown.unsub1_le (hR : Teardown R ok) (s : Sub) (w : W) : R w (unsub1 s w) :=
  hR.unsubAt_le _ (hR.takeCell_le _ hR.unsub2_le) s w

theorem Teardown.unsub_le (hR : Teardown R ok) (s : Sub) (w : W) : R w (unsub s w) :=
  hR.unsubAt_le _ (hR.takeCell_le _ hR.unsub1_le) s w

theorem Teardown.appendChild_le (hR : Teardown R ok) (m : Model) (j : Nat) (c : Child) (w : W)
    (hc : ∀ s, c = .sub s → ok (.append j s)) : R w (appendChild m j c w) := by
  unfold appendChild
  cases h : w.cell j with
  | some cs => exact hR.push c hc h
  | none =>
    match m, c with
    | .fixed, .sub s => exact hR.unsub_le s w
    | .code, .task _ => exact hR.frame rfl rfl rfl
    | .fixed, .task _ | .code, .sub _ => exact hR.refl w

theorem Teardown.step_le (hR : Teardown R ok) (m : Model) (w : W) (e : Op) (he : ok e) :
    R w (step m w e).1 := by
  cases e with
  | append j s => exact hR.appendChild_le m j _ w fun _ h => by cases h; exact he
  | appendTask j tag =>
    exact hR.trans (b := { w with nextId := w.nextId + 1 }) (hR.frame rfl rfl rfl)
      (hR.appendChild_le m j _ _ fun _ h => nomatch h)
  | unsub s => exact hR.unsub_le s w
  | closed s => exact hR.refl w
  | retain j => exact hR.refl w
  | size j => exact hR.refl w
  | emit v => exact hR.refl w
  | guard s => exact hR.frame rfl rfl rfl
  | clone j =>
    match j with
    | 0 => exact hR.frame rfl rfl rfl
    | 1 => exact hR.frame rfl rfl rfl
    | (n + 2) => exact hR.refl w
  | dropGuard k =>
    rw [step_dropGuard]
    split
    · exact hR.trans (b := { w with guards := w.guards.set k none }) (hR.frame rfl rfl rfl) (hR.unsub_le _ _)
    · exact hR.refl w
  | run => exact hR.ran m w
  | unsubReapp j s =>
    cases m with
    | fixed => exact hR.trans (hR.unsub_le (.multi j) w) (hR.unsub_le s _)
    | code => exact hR.unsub_le (.multi j) w

theorem Teardown.run_le (hR : Teardown R ok) (m : Model) :
    ∀ (es : List Op) (w : W), (∀ e ∈ es, ok e) → R w (run m w es).1
  | [], w, _ => hR.refl w
  | e :: es, w, h => by
    rw [run_cons]
    exact hR.trans (hR.step_le m w e (h e (.head _))) (hR.run_le m es _ fun e' h' => h e' (.tail _ h'))

end

/-- `w'` is `w` torn down further: no leaf has come back to life, no composite that was gone is back. -/
def Le (w w' : W) : Prop :=
  (∀ i, w'.alive i = true → w.alive i = true) ∧ ∀ j, w.cell j = none → w'.cell j = none

theorem Le.dead {w w' : W} (h : Le w w') {i : Nat} (hd : w.alive i = false) : w'.alive i = false :=
  Bool.eq_false_iff.mpr fun h' => Bool.eq_false_iff.mp hd (h.1 i h')

theorem Le.teardown : Teardown Le fun _ => True where
  trans h₁ h₂ := ⟨fun i h => h₁.1 i (h₂.1 i h), fun j h => h₂.2 j (h₁.2 j h)⟩
  frame ha h0 h1 := ⟨fun i h => (congrFun ha i).symm.trans h, fun j h => (cell_congr h0 h1 j).trans h⟩
  kill w i := by
    refine ⟨fun k h => ?_, fun j h => (cell_kill w i j).trans h⟩
    rw [alive_kill] at h
    split at h
    · cases h
    · exact h
  setNone w j := by
    refine ⟨fun i h => (congrFun (alive_setCell w j none) i).symm.trans h, fun j' h => ?_⟩
    by_cases hj : j' = j
    · rw [hj]; exact cell_setCell_none w j
    · rw [cell_setCell_ne w j j' none hj]; exact h
  push {w j cs} c _ h := by
    refine ⟨fun i hi => (congrFun (alive_setCell w j _) i).symm.trans hi, fun j' hj' => ?_⟩
    have hne : j' ≠ j := fun e => by rw [e, h] at hj'; cases hj'
    rw [cell_setCell_ne w j j' _ hne]; exact hj'
  ran m w := ⟨fun _ h => h, fun j h => by rw [cell_run, h]; rfl⟩

theorem run_le (m : Model) (es : List Op) (w : W) : Le w (run m w es).1 :=
  Le.teardown.run_le m es w fun _ _ => trivial

theorem takeCell_cell_none (u : Sub → W → W) (hu : ∀ s w, Le w (u s w)) (j : Nat) (w : W) :
    (takeCell u j w).cell j = none := by
  cases h : w.cell j with
  | none => rw [takeCell_none u h]; exact h
  | some cs =>
    rw [takeCell_some u h]
    exact (Le.teardown.foldl_le u hu cs _).2 j (cell_setCell_none w j)

theorem unsub_multi_cell_none (j : Nat) (w : W) : (unsub (.multi j) w).cell j = none :=
  takeCell_cell_none _ Le.teardown.unsub1_le j w

theorem isClosedAt_sound (look : Nat → Bool) (r : Nat → List Nat) (w : W)
    (hl : ∀ j, look j = true → ∀ i ∈ r j, w.alive i = false) :
    ∀ (s : Sub), isClosedAt look w s = true → ∀ i ∈ reachAt r s, w.alive i = false
  | .unit, _, _, hi => absurd hi List.not_mem_nil
  | .leaf k, h, i, hi => by
    cases List.mem_singleton.mp hi
    exact (Bool.not_eq_true' _).mp h
  | .multi j, h, i, hi => hl j h i hi
  | .zip a b, h, i, hi =>
    have h := Bool.and_eq_true_iff.mp h
    (List.mem_append.mp hi).elim (isClosedAt_sound look r w hl a h.1 i) (isClosedAt_sound look r w hl b h.2 i)

theorem cellClosed_sound (f : Sub → Bool) (g : Sub → List Nat) (w : W)
    (hf : ∀ s, f s = true → ∀ i ∈ g s, w.alive i = false) (j : Nat)
    (h : cellClosed f w j = true) : ∀ i ∈ cellReach g w j, w.alive i = false := by
  intro i hi
  unfold cellClosed at h
  cases hc : w.cell j with
  | none => rw [cellReach_none g hc] at hi; cases hi
  | some cs =>
    rw [cellReach_some g hc, List.mem_flatMap] at hi
    rw [hc] at h
    obtain ⟨c, hcs, hic⟩ := hi
    have hcl := List.all_eq_true.mp h c hcs
    match c with
    | .sub s => exact hf s hcl i hic
    | .task _ => cases hic

theorem isClosed2_sound (w : W) (s : Sub) (h : isClosed2 w s = true) :
    ∀ i ∈ reach2 s, w.alive i = false :=
  isClosedAt_sound _ _ w (fun _ _ _ hi => absurd hi List.not_mem_nil) s h

theorem isClosed1_sound (w : W) (s : Sub) (h : isClosed1 w s = true) :
    ∀ i ∈ reach1 w s, w.alive i = false :=
  isClosedAt_sound _ _ w (cellClosed_sound _ _ w (isClosed2_sound w)) s h

theorem isClosed_sound (w : W) (s : Sub) (h : isClosed w s = true) :
    ∀ i ∈ reach w s, w.alive i = false :=
  isClosedAt_sound _ _ w (cellClosed_sound _ _ w (isClosed1_sound w)) s h

theorem unsub2_cell : ∀ (s : Sub) (w : W) (j : Nat), (unsub2 s w).cell j = w.cell j
  | .unit, _, _ => rfl
  | .leaf i, w, j => cell_kill w i j
  | .multi _, _, _ => rfl
  | .zip a b, w, j => (unsub2_cell b _ j).trans (unsub2_cell a w j)

theorem unsub2_kills (i : Nat) : ∀ (s : Sub) (w : W), i ∈ reach2 s → (unsub2 s w).alive i = false
  | .unit, _, hi => absurd hi List.not_mem_nil
  | .leaf k, w, hi => by cases List.mem_singleton.mp hi; exact alive_kill_self w i
  | .multi _, _, hi => absurd hi List.not_mem_nil
  | .zip a b, w, hi => (List.mem_append.mp hi).elim
      (fun ha => (Le.teardown.unsub2_le b _).dead (unsub2_kills i a w ha))
      (unsub2_kills i b _)

theorem foldl_unsub2_cell : ∀ (cs : List Child) (w : W) (j : Nat),
    (cs.foldl (fun w c => unsubChild unsub2 c w) w).cell j = w.cell j
  | [], _, _ => rfl
  | .sub s :: cs, w, j => (foldl_unsub2_cell cs _ j).trans (unsub2_cell s w j)
  | .task _ :: cs, w, j => foldl_unsub2_cell cs w j

theorem foldl_unsub2_kills (i : Nat) : ∀ (cs : List Child) (w : W), i ∈ cs.flatMap (childReach reach2) →
    (cs.foldl (fun w c => unsubChild unsub2 c w) w).alive i = false
  | [], _, hi => absurd hi List.not_mem_nil
  | .sub s :: cs, w, hi => by
    rw [List.flatMap_cons, List.mem_append] at hi
    cases hi with
    | inl h => exact (Le.teardown.foldl_le _ Le.teardown.unsub2_le cs _).dead (unsub2_kills i s w h)
    | inr h => exact foldl_unsub2_kills i cs _ h
  | .task _ :: cs, w, hi => by
    rw [List.flatMap_cons] at hi
    exact foldl_unsub2_kills i cs w hi

/-- Relative to the world `w` in which the traversal started: every composite is untouched, or
    gone with everything that was reachable through it dead. -/
def Inv (w w₁ : W) : Prop :=
  ∀ j, w₁.cell j = w.cell j ∨ (w₁.cell j = none ∧ ∀ i ∈ cellReach reach2 w j, w₁.alive i = false)

theorem Inv.refl (w : W) : Inv w w := fun _ => Or.inl rfl

theorem Inv.step {w w₁ w₂ : W} (h : Inv w w₁) (hle : Le w₁ w₂) {j : Nat} (hc : w₂.cell j = w₁.cell j) :
    w₂.cell j = w.cell j ∨ (w₂.cell j = none ∧ ∀ i ∈ cellReach reach2 w j, w₂.alive i = false) :=
  (h j).imp hc.trans fun e => ⟨hc.trans e.1, fun i hi => hle.dead (e.2 i hi)⟩

theorem Inv.dead {w w₁ : W} (h : Inv w w₁) {j : Nat} (hn : w₁.cell j = none) :
    ∀ i ∈ cellReach reach2 w j, w₁.alive i = false := by
  cases h j with
  | inr e => exact e.2
  | inl e =>
    intro i hi
    rw [cellReach_none reach2 (e.symm.trans hn)] at hi
    cases hi

theorem Inv.takeCell {w w₁ : W} (h : Inv w w₁) (j : Nat) : Inv w (takeCell unsub2 j w₁) := by
  cases hc : w₁.cell j with
  | none => rw [takeCell_none _ hc]; exact h
  | some cs =>
    rw [takeCell_some _ hc]
    intro j'
    by_cases hj : j' = j
    · subst hj
      -- the cell was still there, so it is the one the traversal started with
      have hsame : w.cell j' = some cs := by
        cases h j' with
        | inl e => exact e.symm.trans hc
        | inr e => rw [e.1] at hc; cases hc
      refine .inr ⟨(foldl_unsub2_cell cs _ j').trans (cell_setCell_none w₁ j'), fun i hi => ?_⟩
      rw [cellReach_some reach2 hsame] at hi
      exact foldl_unsub2_kills i cs _ hi
    · exact h.step (Le.teardown.trans (Le.teardown.setNone w₁ j) (Le.teardown.foldl_le _ Le.teardown.unsub2_le cs _))
        ((foldl_unsub2_cell cs _ j').trans (cell_setCell_ne w₁ j j' none hj))

theorem unsub1_inv {w : W} : ∀ (s : Sub) (w₁ : W), Inv w w₁ →
    Inv w (unsub1 s w₁) ∧ ∀ i ∈ reach1 w s, (unsub1 s w₁).alive i = false
  | .unit, _, h => ⟨h, fun _ hi => absurd hi List.not_mem_nil⟩
  | .leaf k, w₁, h =>
    ⟨fun j => h.step (Le.teardown.kill w₁ k) (cell_kill w₁ k j),
      fun i hi => by cases List.mem_singleton.mp hi; exact alive_kill_self w₁ k⟩
  | .multi j, w₁, h =>
    ⟨h.takeCell j, (h.takeCell j).dead (takeCell_cell_none _ Le.teardown.unsub2_le j w₁)⟩
  | .zip a b, w₁, h =>
    have ha := unsub1_inv a w₁ h
    have hb := unsub1_inv b _ ha.1
    ⟨hb.1, fun i hi => (List.mem_append.mp hi).elim
      (fun h' => (Le.teardown.unsub1_le b _).dead (ha.2 i h')) (hb.2 i)⟩

theorem unsub1_kills (w : W) (s : Sub) (i : Nat) (hi : i ∈ reach1 w s) : (unsub1 s w).alive i = false :=
  (unsub1_inv s w (Inv.refl w)).2 i hi

/-- no composite handle inside -/
def Sub.flat : Sub → Bool
  | .unit => true
  | .leaf _ => true
  | .multi _ => false
  | .zip a b => a.flat && b.flat

section
variable (P : Sub → Prop)

/-- all entries of a vector satisfy `P` -/
def AllP (cs : List Child) : Prop := ∀ s, Child.sub s ∈ cs → P s

/-- the entries of every composite of `w` satisfy `P` -/
def CellsP (w : W) : Prop := ∀ j cs, w.cell j = some cs → AllP P cs

end

/-- No composite inside a composite. -/
def Flat (w : W) : Prop := CellsP (fun s => s.flat = true) w

/-- the operation puts no composite into a composite -/
def FlatOp : Op → Prop
  | .append _ s => s.flat = true
  | _ => True

theorem Flat.of_cell_eq {w' w : W} (hw : Flat w) (h : ∀ j, w'.cell j = w.cell j) : Flat w' :=
  fun j cs hc => hw j cs ((h j).symm.trans hc)

theorem Flat.setCell {w : W} (hw : Flat w) (j : Nat) (v : Option (List Child))
    (h : ∀ cs, v = some cs → AllP (fun s => s.flat = true) cs) : Flat (w.setCell j v) := by
  intro j' cs' hc'
  by_cases hj : j' = j
  · subst hj
    by_cases h2 : j' < 2
    · rw [cell_setCell_same w j' v h2] at hc'; exact h cs' hc'
    · rw [cell_ge2 _ j' (by omega)] at hc'; cases hc'
  · rw [cell_setCell_ne w j j' v hj] at hc'; exact hw j' cs' hc'

theorem mem_markRan (s : Sub) (cs : List Child) (h : Child.sub s ∈ markRan cs) : Child.sub s ∈ cs := by
  induction cs with
  | nil => exact h
  | cons c cs ih =>
    match c with
    | .task _ => exact (List.mem_cons.mp h).elim nofun fun e => .tail _ (ih e)
    | .sub _ => exact (List.mem_cons.mp h).elim (· ▸ .head _) fun e => .tail _ (ih e)

theorem flat_teardown : Teardown (fun w w' => Flat w → Flat w') FlatOp where
  trans h₁ h₂ := h₂ ∘ h₁
  frame _ h0 h1 hw := hw.of_cell_eq (cell_congr h0 h1)
  kill w i hw := hw.of_cell_eq (cell_kill w i)
  setNone _ j hw := hw.setCell j none fun _ h => nomatch h
  push {w j cs} c hc h hw := hw.setCell j _ fun cs' e s hs => by
    cases e
    cases List.mem_append.mp hs with
    | inl e => exact hw j cs h s e
    | inr e => exact hc s (List.mem_singleton.mp e).symm
  ran m w hw j cs hc := by
    rw [cell_run] at hc
    cases h : w.cell j with
    | none => rw [h] at hc; cases hc
    | some cs₀ =>
      rw [h] at hc
      cases hc
      exact fun s hs => hw j cs₀ h s (mem_markRan s cs₀ hs)

theorem run_flat (m : Model) (es : List Op) (w : W) (hw : Flat w) (h : ∀ e ∈ es, FlatOp e) :
    Flat (run m w es).1 :=
  flat_teardown.run_le m es w h hw

theorem flat_init (n : Nat) : Flat (init n) := by
  intro j cs hc s hs
  match j with
  | 0 | 1 => cases hc; cases hs
  | (_ + 2) => cases hc

theorem unsubAt_flat (k k' : Nat → W → W) : ∀ (s : Sub) (w : W), s.flat = true →
    unsubAt k s w = unsubAt k' s w
  | .unit, _, _ => rfl
  | .leaf _, _, _ => rfl
  | .multi _, _, h => absurd h Bool.false_ne_true
  | .zip a b, w, h => by
    have h := Bool.and_eq_true_iff.mp h
    show unsubAt k b (unsubAt k a w) = unsubAt k' b (unsubAt k' a w)
    rw [unsubAt_flat k k' a w h.1, unsubAt_flat k k' b _ h.2]

theorem reachAt_flat (r r' : Nat → List Nat) : ∀ (s : Sub), s.flat = true → reachAt r s = reachAt r' s
  | .unit, _ => rfl
  | .leaf _, _ => rfl
  | .multi _, h => absurd h Bool.false_ne_true
  | .zip a b, h => by
    have h := Bool.and_eq_true_iff.mp h
    show reachAt r a ++ reachAt r b = reachAt r' a ++ reachAt r' b
    rw [reachAt_flat r r' a h.1, reachAt_flat r r' b h.2]

theorem unsub1_eq_unsub2 (s : Sub) (w : W) (h : s.flat = true) : unsub1 s w = unsub2 s w :=
  unsubAt_flat _ _ s w h

theorem foldl_unsub1_flat : ∀ (cs : List Child) (w : W), AllP (fun s => s.flat = true) cs →
    cs.foldl (fun w c => unsubChild unsub1 c w) w = cs.foldl (fun w c => unsubChild unsub2 c w) w
  | [], _, _ => rfl
  | .sub s :: cs, w, h => by
    show cs.foldl _ (unsub1 s w) = cs.foldl _ (unsub2 s w)
    rw [unsub1_eq_unsub2 s w (h s (.head _))]
    exact foldl_unsub1_flat cs _ fun s hs => h s (.tail _ hs)
  | .task _ :: cs, w, h => foldl_unsub1_flat cs w fun s hs => h s (.tail _ hs)

theorem unsub_eq_unsub1 : ∀ (s : Sub) (w : W), Flat w → unsub s w = unsub1 s w
  | .unit, _, _ => rfl
  | .leaf _, _, _ => rfl
  | .multi j, w, hw => by
    show takeCell unsub1 j w = takeCell unsub2 j w
    unfold takeCell
    cases h : w.cell j with
    | none => rfl
    | some cs => exact foldl_unsub1_flat cs _ (hw j cs h)
  | .zip a b, w, hw => by
    show unsub b (unsub a w) = unsub1 b (unsub1 a w)
    rw [unsub_eq_unsub1 a w hw, unsub_eq_unsub1 b _ (flat_teardown.unsub1_le a w hw)]

theorem cellReach_flat {w : W} (hw : Flat w) (j : Nat) : cellReach (reach1 w) w j = cellReach reach2 w j := by
  unfold cellReach
  cases hc : w.cell j with
  | none => rfl
  | some cs =>
    show cs.flatMap (childReach (reach1 w)) = cs.flatMap (childReach reach2)
    have hp := hw j cs hc
    clear hc
    induction cs with
    | nil => rfl
    | cons c cs ih =>
      rw [List.flatMap_cons, List.flatMap_cons, ih fun s hs => hp s (.tail _ hs)]
      match c with
      | .task _ => rfl
      | .sub s => exact congrArg (· ++ _) (reachAt_flat _ _ s (hp s (.head _)))

theorem reach_eq_reach1 {w : W} (hw : Flat w) (s : Sub) : reach w s = reach1 w s :=
  congrArg (reachAt · s) (funext (cellReach_flat hw))

theorem unsub_kills_flat (w : W) (hw : Flat w) (s : Sub) (i : Nat) (hi : i ∈ reach w s) :
    (unsub s w).alive i = false := by
  rw [unsub_eq_unsub1 s w hw]
  exact unsub1_kills w s i (reach_eq_reach1 hw s ▸ hi)

end Rx.Comp
