import RxModel.Lemmas.ChainSources
import RxModel.Lemmas.SchedTask
/-
  A world without stages whose source is `interval` / `timer` IS a history of the scheduler alone:
  `adv`, `fire`, `poll`, `unsub` are `SAct.adv`, `.fire`, `.poll`, `.cancel`, and the probe log is the
  image of the run log under `emitOf` (`Hist`, `hist_run`).  What C19 proves about the runs of one
  task (sequence numbers, never early, spacing, at most once, none when cancelled) is thereby a
  statement about the probe log.
-/
namespace Rx.T
open Rx

namespace TW
open Sched

/-- Every fired timer exists and was due. -/
def FiredDue (s : Sched) : Prop := ∀ tm, s.timerFired tm = true → Due s tm

theorem firedDue_empty (c : Nat) : FiredDue { now := c } := by
  intro tm h; simp [timerFired] at h

/-- A bare world with one task, the source task with body `b`, whose scheduler is reached from `s0` by a
    history and whose probe log is `L0` followed by what the runs of that history emit.  Once `unsub`
    has happened the task is cancelled or finished. -/
structure Hist (b : Body) (s0 : Sched) (L0 : List Notif) (w : TW) : Prop where
  bare : Bare w
  wf : Sched.WF w.sched
  len : w.sched.tasks.length = 1
  task : ∃ t, w.sched.tasks[0]? = some t ∧ t.body = b ∧
    (w.unsubscribed = true → t.keepRunning = false ∨ t.done = true)
  hist : ∃ as, w.sched = (execFrom s0 as).1 ∧ w.log = L0 ++ (execFrom s0 as).2.flatMap (emitOf b)

theorem Hist.snoc {b s0 L0} {w : TW} (h : Hist b s0 L0 w) (a : SAct) {s' : Sched} {L' : List Notif}
    (hs : s' = (w.sched.exec a).1) (hl : L' = w.log ++ (w.sched.exec a).2.flatMap (emitOf b)) :
    Sched.WF s' ∧ ∃ as, s' = (execFrom s0 as).1 ∧ L' = L0 ++ (execFrom s0 as).2.flatMap (emitOf b) := by
  obtain ⟨as, e1, e2⟩ := h.hist
  refine ⟨hs ▸ wf_exec _ a h.wf, as ++ [a], ?_, ?_⟩
  · rw [execFrom_snoc, hs, e1]
  · rw [execFrom_snoc, hl, e2, e1, List.flatMap_append, List.append_assoc]

theorem hist_run {b s0 L0} (hb : srcBody b) (evs : List Ev) (w : TW) (h : Hist b s0 L0 w) :
    Hist b s0 L0 (run w evs) := by
  refine run_induction (Hist b s0 L0) (fun w h => h.bare) ?_ ?_ ?_ ?_ ?_ evs w h
  · intro w term h; exact ⟨h.bare.congr rfl rfl rfl rfl, h.wf, h.len, h.task, h.hist⟩
  · intro w d h
    obtain ⟨h1, h2⟩ := h.snoc (.adv d) (L' := w.log) rfl (List.append_nil _).symm
    exact ⟨h.bare.congr rfl rfl rfl rfl, h1, h.len, h.task, h2⟩
  · intro w tm h hm
    obtain ⟨t, ht, hb, hu⟩ := h.task
    obtain ⟨t', h1, wk, h2⟩ := fire_get w.sched tm 0 t ht
    have e : (w.sched.exec (.fire tm)) = (w.sched.fire tm, []) := by
      rw [exec_fire, if_pos (List.contains_iff_mem.mpr hm)]
    obtain ⟨h3, h4⟩ := h.snoc (.fire tm) (s' := w.sched.fire tm) (L' := w.log) (by rw [e]) (by rw [e]; exact (List.append_nil _).symm)
    exact ⟨h.bare.congr rfl rfl rfl rfl, h3, (fire_length _ _).trans h.len,
      ⟨t', h1, by rw [h2]; exact hb, by rw [h2]; exact hu⟩, h4⟩
  · intro w k h
    obtain ⟨t, ht, hb', hu⟩ := h.task
    by_cases hk : k = 0
    · subst hk
      rw [pollTask_src w h.bare.stages 0 t ht (hb' ▸ hb), hb']
      obtain ⟨t', h1, ⟨h2, h3, h4, _⟩, _⟩ :=
        (flags_inv 0 t).poll w.sched (contOf b) t h.wf ht ⟨rfl, id, id, id⟩
      obtain ⟨h5, h6⟩ := h.snoc (.poll 0 (contOf b)) rfl rfl
      exact ⟨h.bare.congr rfl rfl rfl rfl, h5, (poll_length _ _ _).trans h.len,
        ⟨t', h1, h2.trans hb', fun hun => (hu hun).imp h4 h3⟩, h6⟩
    · rw [pollTask_absent w k (List.getElem?_eq_none (h.len ▸ Nat.pos_of_ne_zero hk))]; exact h
  · intro w h _
    obtain ⟨t, ht, hb', _⟩ := h.task
    obtain ⟨h1, h2⟩ := h.snoc (.cancel 0) (L' := w.log) rfl (List.append_nil _).symm
    exact ⟨h.bare.congr rfl rfl rfl rfl, h1, (cancel_length _ _).trans h.len,
      ⟨_, cancel_get_self _ _ _ ht, hb', fun _ => Or.inl rfl⟩, h2⟩

/-- The history can be restarted anywhere. -/
theorem Hist.rebase {b s0 L0} {w : TW} (h : Hist b s0 L0 w) : Hist b w.sched w.log w :=
  ⟨h.bare, h.wf, h.len, h.task, [], rfl, (List.append_nil _).symm⟩

/-- Every run of the history is a run of the source task, at a clock value between start and now. -/
theorem Hist.runs {b s0 L0} {w : TW} (h : Hist b s0 L0 w) :
    ∃ as, w.sched = (execFrom s0 as).1 ∧ w.log = L0 ++ (runsOf 0 (execFrom s0 as).2).flatMap (emitOf b) ∧
      ∀ r ∈ runsOf 0 (execFrom s0 as).2, s0.now ≤ r.time ∧ r.time ≤ w.clock := by
  obtain ⟨as, e1, e2⟩ := h.hist
  have all : runsOf 0 (execFrom s0 as).2 = (execFrom s0 as).2 := by
    refine List.filter_eq_self.mpr fun r hr => ?_
    have := (execFrom_runs s0 as r hr).1
    rw [← e1, h.len] at this
    exact beq_iff_eq.mpr (Nat.lt_one_iff.mp this)
  refine ⟨as, e1, by rw [all]; exact e2, fun r hr => ?_⟩
  obtain ⟨_, h1, h2⟩ := execFrom_runs s0 as r (all ▸ hr)
  exact ⟨h1, by rw [clock, e1]; exact h2⟩

/-- Once `unsub` has happened the log is frozen. -/
theorem hist_frozen {b s0 L0} (hb : srcBody b) {w : TW} (h : Hist b s0 L0 w) (hu : w.unsubscribed = true)
    (evs : List Ev) : (run w evs).log = w.log := by
  obtain ⟨t, ht, _, hd⟩ := h.task
  obtain ⟨as, _, e, _⟩ := (hist_run hb evs w h.rebase).runs
  rw [e, dead_no_runs 0 as w.sched h.wf t ht (hd hu)]
  exact List.append_nil _

/-- After `unsub` the log never grows. -/
theorem unsub_freezes {b s0 L0} (hb : srcBody b) {w : TW} (h : Hist b s0 L0 w) (post : List Ev) :
    (run w (.unsub :: post)).log = w.log := by
  have h1 := hist_run hb [.unsub] w h
  rw [run_cons] at h1 ⊢
  rw [run_nil] at h1
  have e : (step w .unsub).unsubscribed = true ∧ (step w .unsub).log = w.log := by
    rw [step_unsub_bare w h.bare]
    split
    · rename_i hun; exact ⟨hun, rfl⟩
    · exact ⟨rfl, rfl⟩
  rw [hist_frozen hb h1 e.1, e.2]

theorem emit_ticks (rs : List Run) (n : Nat) (h : rs.map (·.seq) = (List.range' n rs.length).map some) :
    rs.flatMap (emitOf .tick) = (List.range' n rs.length).map fun (i : Nat) => Notif.next (Val.int i) := by
  induction rs generalizing n with
  | nil => rfl
  | cons r rs ih =>
    rw [List.length_cons, List.range'_succ, List.map_cons, List.map_cons, List.cons.injEq] at h
    rw [List.flatMap_cons, ih (n + 1) h.2, List.length_cons, List.range'_succ, List.map_cons]
    simp [emitOf, h.1]

theorem emit_tick_length (rs : List Run) : (rs.flatMap (emitOf .tick)).length ≤ rs.length := by
  induction rs with
  | nil => exact Nat.le_refl _
  | cons r rs ih =>
    rw [List.flatMap_cons, List.length_append, List.length_cons, Nat.add_comm]
    refine Nat.add_le_add ih ?_
    cases h : r.seq <;> simp [emitOf, h]

/-- Tick `j` of an interval subscribed at `c` is due at `c + first + j·p`. -/
def ivL (c first p : Nat) (j : Nat) : Nat := c + first + j * p

theorem lstep_ivL (c first p : Nat) : LStep c (ivL c first p) p :=
  .of_or fun j => Or.inl (by show _ + (j + 1) * p ≤ _; rw [Nat.succ_mul, ← Nat.add_assoc]; exact Nat.le_refl _)

/-- `sub` on the idle world of `interval` / `interval_at` schedules the source task … -/
theorem interval_sub (delay : Option Nat) (p c : Nat) (term : List Nat) :
    Hist .tick (step (idle (.interval delay p) c term) .sub).sched [] (step (idle (.interval delay p) c term) .sub) := by
  refine ⟨⟨rfl, fun i h => (by cases h), rfl, rfl⟩, ⟨fun tm h => ?_, fun k t hk hv => ?_⟩, rfl,
    ⟨_, rfl, rfl, fun h => (by cases h)⟩, [], rfl, rfl⟩
  · cases tm <;> exact Bool.noConfusion h
  · cases k with
    | zero => cases Option.some.inj hk; cases hv
    | succ k => cases hk

/-- … at tick 0, with its first period timer due `first` after the subscription. -/
theorem interval_sub_task (delay : Option Nat) (p c : Nat) (term : List Nat) :
    Holds (repP c (ivL c (delay.getD p) p) p) (step (idle (.interval delay p) c term) .sub).sched 0 ∧
    Holds (repAtP 0) (step (idle (.interval delay p) c term) .sub).sched 0 :=
  ⟨⟨_, rfl, Or.inr (Nat.le_refl c), Or.inr ⟨0, 0, c + delay.getD p, rfl, rfl,
      Nat.le_of_eq (by show c + delay.getD p + 0 * p = _; rw [Nat.zero_mul]; rfl)⟩⟩,
    ⟨_, rfl, Or.inr ⟨_, _, rfl⟩⟩⟩

/-- An interval world after `sub`: the log is `ticks` of the number of runs, and run `i` happens neither
    before `c + first + i·p` nor after the present clock value. -/
theorem interval_log (delay : Option Nat) (p c : Nat) (term : List Nat) (post : List Ev) :
    ∃ rs : List Run, (run (step (idle (.interval delay p) c term) .sub) post).log = ticks rs.length ∧
      ∀ i r, rs[i]? = some r → c + delay.getD p + i * p ≤ r.time ∧
        r.time ≤ (run (step (idle (.interval delay p) c term) .sub) post).clock := by
  have h0 := interval_sub delay p c term
  obtain ⟨hb, hs⟩ := interval_sub_task delay p c term
  obtain ⟨as, _, e, ht⟩ := (hist_run (Or.inl rfl) post _ h0).runs
  have hseq := rep_seq 0 as _ 0 h0.wf hs
  refine ⟨_, by rw [e, List.nil_append, emit_ticks _ 0 hseq, ticks, List.range_eq_range'], fun i r hi => ?_⟩
  have hm := List.mem_of_getElem? hi
  rw [mem_runsOf] at hm
  obtain ⟨n, h1, _, h2⟩ := ((rep_inv 0 c _ p (lstep_ivL _ _ _)).execFrom as _ h0.wf hb).2 r hm.1 hm.2
  have : r.seq = some i := by
    have := congrArg (·[i]?) hseq
    simp only [List.getElem?_map, hi, List.getElem?_range' (get_lt hi), Option.map_some] at this
    rw [Nat.zero_add, Nat.one_mul] at this; exact Option.some.inj this
  rw [this] at h1; cases h1
  exact ⟨h2, (ht r (List.mem_of_getElem? hi)).2⟩

/-- … and it is again a history, in which the period timer bounds what follows. -/
theorem interval_keeps (delay : Option Nat) (p c : Nat) (term : List Nat) (post : List Ev) :
    Hist .tick (step (idle (.interval delay p) c term) .sub).sched []
      (run (step (idle (.interval delay p) c term) .sub) post) ∧
    Holds (repP c (ivL c (delay.getD p) p) p) (run (step (idle (.interval delay p) c term) .sub) post).sched 0 := by
  have h0 := interval_sub delay p c term
  have h := hist_run (Or.inl rfl) post _ h0
  obtain ⟨as, e, _⟩ := h.hist
  exact ⟨h, e ▸ ((rep_inv 0 c _ p (lstep_ivL _ _ _)).execFrom as _ h0.wf (interval_sub_task delay p c term).1).1⟩

/-- At most one tick in a window shorter than the period. -/
theorem spacing_of {p c : Nat} {L : Nat → Nat} {s0 L0} {w : TW} (h : Hist .tick s0 L0 w) (hL : LStep c L p)
    (hp : Holds (repP c L p) w.sched 0) (post : List Ev)
    (hc : (run w post).clock < w.clock + p) : (run w post).log.length ≤ w.log.length + 1 := by
  obtain ⟨as, _, e, ht⟩ := (hist_run (Or.inl rfl) post w h.rebase).runs
  have hpw := rep_spacing 0 p as w.sched h.wf hL hp
  rw [e, List.length_append]
  refine Nat.add_le_add_left (Nat.le_trans (emit_tick_length _) ?_) _
  match hrs : runsOf 0 (execFrom w.sched as).2, hpw, ht with
  | [], _, _ => exact Nat.zero_le _
  | [_], _, _ => exact Nat.le_refl _
  | r1 :: r2 :: _, hpw, ht =>
    have h1 := (ht r1 (by simp)).1
    have h2 := (ht r2 (by simp)).2
    have h3 := (List.pairwise_cons.mp hpw).1 r2 (by simp)
    have : w.sched.now = w.clock := rfl
    omega

/-- `sub` on the idle world of `timer`. -/
theorem timer_sub (v : Val) (d c : Nat) (term : List Nat) :
    Hist (.timerSrc v) (step (idle (.timer v d) c term) .sub).sched [] (step (idle (.timer v d) c term) .sub) ∧
    Holds (fun s t => t.rep = none ∧ earlyP (c + d) s t) (step (idle (.timer v d) c term) .sub).sched 0 :=
  ⟨⟨⟨rfl, fun i h => (by cases h), rfl, rfl⟩, wf_exec { now := c } (.scheduleOnce (.timerSrc v) (some d)) (wf_init c),
      rfl, ⟨_, rfl, rfl, fun h => (by cases h)⟩, [], rfl, rfl⟩,
    ⟨_, rfl, rfl, Or.inr (Nat.le_refl _)⟩⟩

/-- A timer world after `sub`: at most one run, not before `c + d`, and the log is what it emits. -/
theorem timer_log (v : Val) (d c : Nat) (term : List Nat) (post : List Ev) :
    ((run (step (idle (.timer v d) c term) .sub) post).log = [] ∨
      (run (step (idle (.timer v d) c term) .sub) post).log = [.next v, .complete] ∧
        c + d ≤ (run (step (idle (.timer v d) c term) .sub) post).clock) := by
  obtain ⟨h0, t, ht, hrep, he⟩ := timer_sub v d c term
  obtain ⟨as, _, e, htm⟩ := (hist_run (Or.inr ⟨v, rfl⟩) post _ h0).runs
  have hlen := once_count 0 as _ h0.wf t ht hrep
  rw [e, List.nil_append]
  match hrs : runsOf 0 (execFrom (step (idle (.timer v d) c term) .sub).sched as).2, hlen, htm with
  | [], _, _ => exact Or.inl rfl
  | [r], _, htm =>
    have hm : r ∈ runsOf 0 (execFrom (step (idle (.timer v d) c term) .sub).sched as).2 := by
      rw [hrs]; exact List.mem_singleton_self r
    have hseq := (((flags_inv 0 t).execFrom as _ h0.wf ⟨t, ht, rfl, id, id, id⟩).2 r
      ((mem_runsOf _ _ _).mp hm).1 ((mem_runsOf _ _ _).mp hm).2).2.2 hrep
    have hlo := ((early_inv 0 (c + d)).execFrom as _ h0.wf ⟨t, ht, he⟩).2 r
      ((mem_runsOf _ _ _).mp hm).1 ((mem_runsOf _ _ _).mp hm).2
    exact Or.inr ⟨by simp [emitOf, hseq], Nat.le_trans hlo (htm r (List.mem_singleton_self r)).2⟩
  | _ :: _ :: _, hlen, _ => exact absurd hlen (by simp)

end TW
end Rx.T
