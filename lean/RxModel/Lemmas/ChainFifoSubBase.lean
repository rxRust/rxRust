import RxModel.Lemmas.ChainFifoBase
import RxModel.Lemmas.ChainSubBase
import RxModel.Lemmas.SchedStep
/-
  C07 over chains with SEVERAL time stages (FIFO executor): vocabulary.

  * `Elig j t` / `pend j s`: the notifications a mover at position `j`
    (observe_on / delay) has handed to the scheduler and that are still going to be
    delivered (task not finished, not cancelled), in spawn order;
  * `PwLe i s s'`: pointwise, every pending notification of position `i` in `s'` was
    pending (same task) in `s`; it gives `pend i s' ⊑ pend i s`;
  * `Frame kd j s s'`: what a cascade starting at position `j` may do to the scheduler:
    clock and timers untouched, existing tasks only lose `keepRunning`, new tasks are
    appended fresh (`kd i` = the outer delay of the mover at position `i`);
  * `SubF p st inp out`, `ChainF P j up stages log`: ghost histories as in
    ChainSubBase.lean, the relation of a mover mentions its pending list `P j`.
-/
namespace Rx.T
open Rx Rx.Spec

/-- Pointwise domination gives a sublist of the `filterMap`s. -/
theorem filterMap_sublist_of_pw {α β} (f : α → Option β) : ∀ (l' l : List α),
    (∀ (k : Nat) a' b, l'[k]? = some a' → f a' = some b → ∃ a, l[k]? = some a ∧ f a = some b) →
    (l'.filterMap f).Sublist (l.filterMap f) := by
  intro l'
  induction l' with
  | nil => intro l _; simp
  | cons a' r' ih =>
    intro l h
    cases l with
    | nil =>
      have h0 : f a' = none := by
        cases hf : f a' with
        | none => rfl
        | some b =>
          obtain ⟨a, ha, _⟩ := h 0 a' b (by simp) hf
          simp at ha
      have := ih [] (fun k a b hk hb => by
        obtain ⟨a2, ha2, _⟩ := h (k + 1) a b (by simpa using hk) hb
        simp at ha2)
      rw [List.filterMap_cons_none h0]
      exact this
    | cons a r =>
      have hr := ih r (fun k a2 b hk hb => by
        obtain ⟨a3, ha3, hb3⟩ := h (k + 1) a2 b (by simpa using hk) hb
        exact ⟨a3, by simpa using ha3, hb3⟩)
      cases hf : f a' with
      | none =>
        rw [List.filterMap_cons_none hf]
        cases hfa : f a with
        | none => rw [List.filterMap_cons_none hfa]; exact hr
        | some b => rw [List.filterMap_cons_some hfa]; exact hr.trans (List.sublist_cons_self _ _)
      | some b =>
        obtain ⟨a2, ha2, hb2⟩ := h 0 a' b (by simp) hf
        simp only [List.getElem?_cons_zero, Option.some.injEq] at ha2
        subst ha2
        rw [List.filterMap_cons_some hf, List.filterMap_cons_some hb2]
        exact hr.cons_cons _

/-- The notification task `t` is going to hand to the slot of position `j`. -/
def Elig (j : Nat) (t : Task) : Option Notif :=
  match t.body with
  | .emit i n => if i = j ∧ t.done = false ∧ t.keepRunning = true then some n else none
  | _ => none

theorem Elig_eq_some {j : Nat} {t : Task} {n : Notif} :
    Elig j t = some n ↔ t.body = .emit j n ∧ t.done = false ∧ t.keepRunning = true := by
  unfold Elig
  cases hb : t.body with
  | emit i m =>
    simp only
    by_cases h : i = j ∧ t.done = false ∧ t.keepRunning = true
    · rw [if_pos h]
      obtain ⟨rfl, h2, h3⟩ := h
      constructor
      · intro e; cases e; exact ⟨rfl, h2, h3⟩
      · rintro ⟨e, _, _⟩; cases e; rfl
    · rw [if_neg h]
      constructor
      · intro e; cases e
      · rintro ⟨e, h2, h3⟩; cases e; exact absurd ⟨rfl, h2, h3⟩ h
  | _ => simp

/-- `Elig` only looks at body, `done` and `keepRunning`. -/
theorem Elig_congr {j : Nat} {t t' : Task} (hb : t'.body = t.body) (hd : t'.done = t.done)
    (hk : t'.keepRunning = t.keepRunning) : Elig j t' = Elig j t := by
  unfold Elig; rw [hb, hd, hk]

def pend (j : Nat) (s : Sched) : List Notif := s.tasks.filterMap (Elig j)

def pendOf (s : Sched) : Nat → List Notif := fun j => pend j s

def PwLe (i : Nat) (s s' : Sched) : Prop :=
  ∀ (k : Nat) t' n, s'.tasks[k]? = some t' → Elig i t' = some n → ∃ t, s.tasks[k]? = some t ∧ Elig i t = some n

theorem PwLe.refl (i : Nat) (s : Sched) : PwLe i s s := fun _ t' _ h1 h2 => ⟨t', h1, h2⟩

theorem PwLe.trans {i : Nat} {a b c : Sched} (h1 : PwLe i a b) (h2 : PwLe i b c) : PwLe i a c := by
  intro k t'' n hk he
  obtain ⟨t', hk', he'⟩ := h2 k t'' n hk he
  exact h1 k t' n hk' he'

theorem PwLe.sublist {i : Nat} {s s' : Sched} (h : PwLe i s s') : (pend i s').Sublist (pend i s) :=
  filterMap_sublist_of_pw _ _ _ h

theorem PwLe.of_tasks {i : Nat} {s s' : Sched} (e : s'.tasks = s.tasks) : PwLe i s s' := by
  intro k t' n hk he; rw [e] at hk; exact ⟨t', hk, he⟩

/-- Task `k` is replaced by a task that is not pending any more (or pending the same). -/
theorem PwLe.setTask (i : Nat) (s : Sched) (k : TaskId) (t0 t1 : Task) (h0 : s.tasks[k]? = some t0)
    (h : ∀ n, Elig i t1 = some n → Elig i t0 = some n) : PwLe i s (s.setTask k t1) := by
  intro k' t' n hk he
  by_cases e : k' = k
  · subst e
    rw [Sched.setTask_get_self _ _ _ _ h0] at hk
    cases hk
    exact ⟨t0, h0, h n he⟩
  · rw [Sched.setTask_get_ne _ _ _ _ e] at hk
    exact ⟨t', hk, he⟩

theorem PwLe.cancel (i : Nat) (s : Sched) (k : TaskId) : PwLe i s (s.cancel k) := by
  unfold Sched.cancel
  split
  · next t ht =>
    refine PwLe.setTask i s k t _ ht ?_
    intro n hn
    have := (Elig_eq_some.mp hn).2.2
    simp at this
  · exact PwLe.refl _ _

theorem PwLe.cancelOpt (i : Nat) (s : Sched) (o : Option TaskId) :
    PwLe i s (match o with | some h => s.cancel h | none => s) := by
  cases o
  · exact PwLe.refl _ _
  · exact PwLe.cancel _ _ _

theorem PwLe.finishOnce (i : Nat) (s : Sched) (k : TaskId) : PwLe i s (s.finishOnce k) := by
  unfold Sched.finishOnce
  split
  · next t ht =>
    refine PwLe.setTask i s k t _ ht ?_
    intro n hn
    have := (Elig_eq_some.mp hn).2.1
    simp at this
  · exact PwLe.refl _ _

/-- Scheduling a task that is not an `emit i`. -/
theorem PwLe.scheduleOnce (i : Nat) (s : Sched) (b : Body) (d : Option Nat)
    (hb : ∀ n, b ≠ .emit i n) : PwLe i s (s.scheduleOnce b d).1 := by
  intro k t' n hk he
  by_cases hlt : k < s.tasks.length
  · simp only [Sched.scheduleOnce, List.getElem?_append_left hlt] at hk
    exact ⟨t', hk, he⟩
  · simp only [Sched.scheduleOnce] at hk
    rw [List.getElem?_append_right (Nat.le_of_not_lt hlt)] at hk
    cases hk' : k - s.tasks.length with
    | zero =>
      rw [hk'] at hk
      simp only [List.getElem?_cons_zero, Option.some.injEq] at hk
      subst hk
      exact absurd (Elig_eq_some.mp he).1 (hb n)
    | succ m => rw [hk'] at hk; simp at hk

theorem pend_scheduleOnce_emit (j : Nat) (s : Sched) (n : Notif) (d : Option Nat) :
    pend j (s.scheduleOnce (.emit j n) d).1 = pend j s ++ [n] := by
  simp [pend, Sched.scheduleOnce, List.filterMap_append, Elig]

theorem pend_empty (j : Nat) : pend j {} = [] := rfl

/-- Task `k` is the first pending one of position `j`: finishing it removes the head. -/
theorem pend_finish_first (j : Nat) (s : Sched) (k : TaskId) (t : Task) (n : Notif)
    (hk : s.tasks[k]? = some t) (he : Elig j t = some n)
    (hfirst : ∀ (k' : Nat) t', k' < k → s.tasks[k']? = some t' → Elig j t' = none) :
    pend j s = n :: pend j (s.finishOnce k) := by
  have hlt : k < s.tasks.length := Sched.get_lt hk
  have hsplit : s.tasks = s.tasks.take k ++ t :: s.tasks.drop (k + 1) := by
    have h1 : s.tasks.drop k = t :: s.tasks.drop (k + 1) := by
      rw [List.drop_eq_getElem_cons hlt]
      congr 1
      rw [List.getElem?_eq_getElem hlt] at hk
      exact Option.some.inj hk
    conv => lhs; rw [← List.take_append_drop k s.tasks, h1]
  have hpre : (s.tasks.take k).filterMap (Elig j) = [] := by
    rw [List.filterMap_eq_nil_iff]
    intro a ha
    obtain ⟨i, hi, e⟩ := List.mem_iff_getElem.mp ha
    have hi' : i < k := by simp at hi; omega
    have : s.tasks[i]? = some a := by
      rw [← e, List.getElem_take]; exact List.getElem?_eq_getElem _
    exact hfirst i a hi' this
  have hfin : (s.finishOnce k).tasks =
      s.tasks.take k ++ { t with done := true, hasValue := true } :: s.tasks.drop (k + 1) := by
    unfold Sched.finishOnce
    rw [hk]
    simp only [Sched.setTask]
    rw [List.set_eq_take_append_cons_drop, if_pos hlt]
  have hnone : Elig j { t with done := true, hasValue := true } = none := by
    cases h : Elig j { t with done := true, hasValue := true } with
    | none => rfl
    | some m => have := (Elig_eq_some.mp h).2.1; simp at this
  unfold pend
  rw [hfin]
  conv => lhs; rw [hsplit]
  simp only [List.filterMap_append, hpre, List.nil_append, List.filterMap_cons_some he,
    List.filterMap_cons_none hnone]

/-- Bodies of the tasks of the stages considered here. -/
def Body.rate : Body → Bool
  | .emit _ _ => true
  | .debounce _ => true
  | .throttle _ => true
  | _ => false

/-- `t'` is `t` except for `hasValue`, and `keepRunning` may have been cleared. -/
def Task.Keeps (t t' : Task) : Prop :=
  t'.body = t.body ∧ t'.done = t.done ∧ t'.woken = t.woken ∧ t'.outerDelay = t.outerDelay ∧
    t'.outerTimer = t.outerTimer ∧ t'.rep = t.rep ∧ (t'.keepRunning = true → t.keepRunning = true)

theorem Task.Keeps.refl (t : Task) : Task.Keeps t t := ⟨rfl, rfl, rfl, rfl, rfl, rfl, fun h => h⟩

theorem Task.Keeps.trans {a b c : Task} (h1 : Task.Keeps a b) (h2 : Task.Keeps b c) : Task.Keeps a c := by
  obtain ⟨a1, a2, a3, a4, a5, a6, a7⟩ := h1
  obtain ⟨b1, b2, b3, b4, b5, b6, b7⟩ := h2
  exact ⟨b1.trans a1, b2.trans a2, b3.trans a3, b4.trans a4, b5.trans a5, b6.trans a6, fun h => a7 (b7 h)⟩

/-- A task as `scheduleOnce` creates it, possibly cancelled since. -/
def Task.New (kd : Nat → Option (Option Nat)) (j : Nat) (t : Task) : Prop :=
  t.done = false ∧ t.woken = true ∧ t.outerTimer = none ∧ t.rep = none ∧ t.body.rate = true ∧
    (∀ i n, t.body = .emit i n → j ≤ i ∧ kd i = some t.outerDelay)

theorem Task.New.keeps {kd : Nat → Option (Option Nat)} {j : Nat} {t t' : Task}
    (h : Task.New kd j t) (k : Task.Keeps t t') : Task.New kd j t' := by
  obtain ⟨a1, a2, a3, a4, a5, a6, _⟩ := k
  obtain ⟨b1, b2, b3, b4, b5, b6⟩ := h
  exact ⟨a2.trans b1, a3.trans b2, a5.trans b3, a6.trans b4, by rw [a1]; exact b5,
    fun i n e => by rw [a4]; exact b6 i n (a1 ▸ e)⟩

structure Frame (kd : Nat → Option (Option Nat)) (j : Nat) (s s' : Sched) : Prop where
  now : s'.now = s.now
  timers : s'.timers = s.timers
  len : s.tasks.length ≤ s'.tasks.length
  old : ∀ (k : Nat) t, s.tasks[k]? = some t → ∃ t', s'.tasks[k]? = some t' ∧ Task.Keeps t t'
  new : ∀ (k : Nat) t', s'.tasks[k]? = some t' → s.tasks.length ≤ k → Task.New kd j t'

variable {kd : Nat → Option (Option Nat)}

theorem Frame.refl (j : Nat) (s : Sched) : Frame kd j s s :=
  ⟨rfl, rfl, Nat.le_refl _, fun _ t h => ⟨t, h, Task.Keeps.refl t⟩,
    fun _ _ h hk => absurd (Sched.get_lt h) (Nat.not_lt.mpr hk)⟩

theorem Frame.trans {j : Nat} {a b c : Sched} (h1 : Frame kd j a b) (h2 : Frame kd j b c) :
    Frame kd j a c := by
  refine ⟨h2.now.trans h1.now, h2.timers.trans h1.timers, Nat.le_trans h1.len h2.len, ?_, ?_⟩
  · intro k t hk
    obtain ⟨t', hk', k1⟩ := h1.old k t hk
    obtain ⟨t'', hk'', k2⟩ := h2.old k t' hk'
    exact ⟨t'', hk'', k1.trans k2⟩
  · intro k t'' hk hge
    by_cases hlt : k < b.tasks.length
    · obtain ⟨t', ht'⟩ : ∃ t', b.tasks[k]? = some t' := ⟨_, List.getElem?_eq_getElem hlt⟩
      obtain ⟨t2, hk2, k2⟩ := h2.old k t' ht'
      rw [hk] at hk2; cases hk2
      exact (h1.new k t' ht' hge).keeps k2
    · exact h2.new k t'' hk (Nat.le_of_not_lt hlt)

theorem Frame.mono {j j' : Nat} {s s' : Sched} (h : Frame kd j' s s') (hj : j ≤ j') : Frame kd j s s' :=
  ⟨h.now, h.timers, h.len, h.old, fun k t' hk hge => by
    obtain ⟨b1, b2, b3, b4, b5, b6⟩ := h.new k t' hk hge
    exact ⟨b1, b2, b3, b4, b5, fun i n e => ⟨Nat.le_trans hj (b6 i n e).1, (b6 i n e).2⟩⟩⟩

theorem Frame.setTask (j : Nat) (s : Sched) (k : TaskId) (t0 t1 : Task) (h0 : s.tasks[k]? = some t0)
    (hk : Task.Keeps t0 t1) : Frame kd j s (s.setTask k t1) := by
  refine ⟨rfl, rfl, by simp, ?_, ?_⟩
  · intro k' t hk'
    by_cases e : k' = k
    · subst e
      rw [h0] at hk'; cases hk'
      exact ⟨t1, Sched.setTask_get_self _ _ _ _ h0, hk⟩
    · exact ⟨t, by rw [Sched.setTask_get_ne _ _ _ _ e]; exact hk', Task.Keeps.refl t⟩
  · intro k' t' hk' hge
    have := Sched.get_lt hk'
    simp at this
    omega

theorem Frame.cancel (j : Nat) (s : Sched) (k : TaskId) : Frame kd j s (s.cancel k) := by
  unfold Sched.cancel
  split
  · next t ht =>
    exact Frame.setTask j s k t _ ht ⟨rfl, rfl, rfl, rfl, rfl, rfl, fun h => by simp at h⟩
  · exact Frame.refl _ _

theorem Frame.cancelOpt (j : Nat) (s : Sched) (o : Option TaskId) :
    Frame kd j s (match o with | some h => s.cancel h | none => s) := by
  cases o
  · exact Frame.refl _ _
  · exact Frame.cancel _ _ _

theorem Frame.scheduleOnce (j : Nat) (s : Sched) (b : Body) (d : Option Nat) (hb : b.rate = true)
    (he : ∀ i n, b = .emit i n → j ≤ i ∧ kd i = some d) : Frame kd j s (s.scheduleOnce b d).1 := by
  refine ⟨rfl, rfl, by simp, ?_, ?_⟩
  · intro k t hk
    exact ⟨t, Sched.scheduleOnce_get_old s b d k t hk, Task.Keeps.refl t⟩
  · intro k t' hk hge
    simp only [Sched.scheduleOnce] at hk
    rw [List.getElem?_append_right hge] at hk
    cases hk' : k - s.tasks.length with
    | zero =>
      rw [hk'] at hk
      simp only [List.getElem?_cons_zero, Option.some.injEq] at hk
      subst hk
      exact ⟨rfl, rfl, rfl, rfl, hb, he⟩
    | succ m => rw [hk'] at hk; simp at hk

theorem Frame.classify {j0 : Nat} {s s' : Sched} (f : Frame kd j0 s s') {k : Nat} {t' : Task}
    (hk : s'.tasks[k]? = some t') :
    (∃ t0, s.tasks[k]? = some t0 ∧ Task.Keeps t0 t') ∨ (s.tasks.length ≤ k ∧ Task.New kd j0 t') := by
  by_cases hlt : k < s.tasks.length
  · obtain ⟨t0, ht0⟩ : ∃ t0, s.tasks[k]? = some t0 := ⟨_, List.getElem?_eq_getElem hlt⟩
    obtain ⟨t'', h2, hkeep⟩ := f.old k t0 ht0
    rw [hk] at h2; cases h2
    exact Or.inl ⟨t0, ht0, hkeep⟩
  · exact Or.inr ⟨by omega, f.new k t' hk (by omega)⟩

/-- A cascade starting at position `j` leaves the pending lists of the positions before `j` alone. -/
theorem Frame.pwLe {j : Nat} {s s' : Sched} (h : Frame kd j s s') (i : Nat) (hi : i < j) : PwLe i s s' := by
  intro k t' n hk he
  by_cases hlt : k < s.tasks.length
  · obtain ⟨t, ht⟩ : ∃ t, s.tasks[k]? = some t := ⟨_, List.getElem?_eq_getElem hlt⟩
    obtain ⟨t2, hk2, a1, a2, _, _, _, _, a7⟩ := h.old k t ht
    rw [hk] at hk2; cases hk2
    obtain ⟨e1, e2, e3⟩ := Elig_eq_some.mp he
    exact ⟨t, ht, Elig_eq_some.mpr ⟨a1 ▸ e1, a2 ▸ e2, a7 e3⟩⟩
  · obtain ⟨_, _, _, _, _, b6⟩ := h.new k t' hk (Nat.le_of_not_lt hlt)
    have := (b6 i n (Elig_eq_some.mp he).1).1
    omega

/-- Every task: a once-task of one of the stages. -/
def GoodS (s : Sched) : Prop := ∀ (k : Nat) t, s.tasks[k]? = some t → t.rep = none ∧ t.body.rate = true

theorem GoodS.of_pw {s s' : Sched} (h : GoodS s)
    (hp : ∀ (k : Nat) t', s'.tasks[k]? = some t' →
      (∃ t, s.tasks[k]? = some t ∧ t'.body = t.body ∧ t'.rep = t.rep) ∨ (t'.rep = none ∧ t'.body.rate = true)) :
    GoodS s' := by
  intro k t' hk
  rcases hp k t' hk with ⟨t, ht, e1, e2⟩ | h'
  · rw [e1, e2]; exact h k t ht
  · exact h'

theorem GoodS.frame {j : Nat} {s s' : Sched} (h : GoodS s) (f : Frame kd j s s') : GoodS s' := by
  refine h.of_pw (fun k t' hk => ?_)
  by_cases hlt : k < s.tasks.length
  · obtain ⟨t, ht⟩ : ∃ t, s.tasks[k]? = some t := ⟨_, List.getElem?_eq_getElem hlt⟩
    obtain ⟨t2, hk2, a1, _, _, _, _, a6, _⟩ := f.old k t ht
    rw [hk] at hk2; cases hk2
    exact Or.inl ⟨t, ht, a1, a6⟩
  · obtain ⟨_, _, _, b4, b5, _⟩ := f.new k t' hk (Nat.le_of_not_lt hlt)
    exact Or.inr ⟨b4, b5⟩

theorem GoodS.of_tasks {s s' : Sched} (h : GoodS s) (e : s'.tasks = s.tasks) : GoodS s' := by
  intro k t hk; rw [e] at hk; exact h k t hk

theorem GoodS.setTask {s : Sched} (h : GoodS s) (k : TaskId) (t0 t1 : Task) (h0 : s.tasks[k]? = some t0)
    (hb : t1.body = t0.body) (hr : t1.rep = t0.rep) : GoodS (s.setTask k t1) := by
  refine h.of_pw (fun k' t' hk' => ?_)
  by_cases e : k' = k
  · subst e
    rw [Sched.setTask_get_self _ _ _ _ h0] at hk'; cases hk'
    exact Or.inl ⟨t0, h0, hb, hr⟩
  · rw [Sched.setTask_get_ne _ _ _ _ e] at hk'
    exact Or.inl ⟨t', hk', rfl, rfl⟩

theorem GoodS.finishOnce {s : Sched} (h : GoodS s) (k : TaskId) : GoodS (s.finishOnce k) := by
  unfold Sched.finishOnce
  split
  · next t ht => exact h.setTask k t _ ht rfl rfl
  · exact h

/-- Consistency of a stage with its ghost input / output histories; `p`: the
    notifications the stage (if it is a mover) has pending in the scheduler. -/
def SubF (p : List Notif) : Stage → List Notif → List Notif → Prop
  | .op1 o, inp, out => o.filtering = true ∧ (items out ++ o.held).Sublist (items inp)
  | .debounce _ _ tr _, inp, out => (items out ++ tr.toList).Sublist (items inp)
  | .throttle _ _ _ tr _, inp, out => (items out ++ tr.toList).Sublist (items inp)
  | .throttleW _ _ _ tr, inp, out => (items out ++ tr.toList).Sublist (items inp)
  | .observeOn _ _, inp, out => (items out ++ items p).Sublist (items inp)
  | .delay _ _ _, inp, out => (items out ++ items p).Sublist (items inp)
  | _, _, _ => False

theorem SubF.items {p : List Notif} {st : Stage} {inp out : List Notif} (h : SubF p st inp out) :
    (items out).Sublist (items inp) := by
  cases st with
  | op1 o => exact sub_left h.2
  | debounce d a tr hd => exact sub_left h
  | throttle d e a tr hd => exact sub_left h
  | throttleW d e a tr => exact sub_left h
  | observeOn a m => exact sub_left h
  | delay d a m => exact sub_left h
  | _ => exact h.elim

theorem SubF.mono {p p' : List Notif} {st : Stage} {inp out : List Notif} (h : SubF p st inp out)
    (hp : p'.Sublist p) : SubF p' st inp out := by
  cases st with
  | observeOn a m =>
    exact (List.Sublist.append (List.Sublist.refl _) (items_sublist hp)).trans h
  | delay d a m =>
    exact (List.Sublist.append (List.Sublist.refl _) (items_sublist hp)).trans h
  | _ => exact h

/-- Off the movers `SubF` is the relation `Stage.Sub9` of the chains without them. -/
theorem SubF.sub9 {p : List Notif} {st : Stage} {inp out : List Notif} (h : SubF p st inp out)
    (hm : st.isMover = false) : st.Sub9 inp out := by
  cases st <;> first | exact h | exact h.elim | cases hm

theorem SubF.of_sub9 {p : List Notif} {st : Stage} {inp out : List Notif} (h : st.Sub9 inp out)
    (hb : st.isBuf = false) : SubF p st inp out := by
  cases st <;> first | exact h | exact h.elim | cases hb

theorem SubF.notBuf {p : List Notif} {st : Stage} {inp out : List Notif} (h : SubF p st inp out) :
    st.isBuf = false := by
  cases st <;> first | rfl | exact h.elim

/-- The outer delay of a mover. -/
def dlOf : Stage → Option (Option Nat)
  | .delay d _ _ => some (some d)
  | .observeOn _ _ => some none
  | _ => none

/-- `kd` describes the movers of `stages`, which start at position `j`. -/
def Kinds (kd : Nat → Option (Option Nat)) (j : Nat) (stages : List Stage) : Prop :=
  ∀ (i : Nat) st, stages[i]? = some st → dlOf st = kd (j + i)

theorem Kinds.of_map {j : Nat} {stages stages' : List Stage} (h : Kinds kd j stages)
    (e : stages'.map dlOf = stages.map dlOf) : Kinds kd j stages' := by
  intro i st' hi
  have h1 : (stages'.map dlOf)[i]? = some (dlOf st') := by simp [hi]
  rw [e] at h1
  simp only [List.getElem?_map, Option.map_eq_some_iff] at h1
  obtain ⟨st, hst, e2⟩ := h1
  rw [← e2]; exact h i st hst

theorem Kinds.tail {j : Nat} {st : Stage} {rest : List Stage} (h : Kinds kd j (st :: rest)) :
    Kinds kd (j + 1) rest := by
  intro i s hi
  have := h (i + 1) s (by simpa using hi)
  rw [this]; congr 1; omega

theorem Kinds.head {j : Nat} {st : Stage} {rest : List Stage} (h : Kinds kd j (st :: rest)) :
    dlOf st = kd j := h 0 st rfl

theorem Kinds.drop {stages : List Stage} (h : Kinds kd 0 stages) (j : Nat) : Kinds kd j (stages.drop j) := by
  intro i st hi
  rw [List.getElem?_drop] at hi
  simpa using h (j + i) st hi

/-- `up`: everything handed to the head of `stages` (position `j`) so far; `log`: what
    reached the probe; `P i`: the pending list of position `i`. -/
def ChainF (P : Nat → List Notif) : Nat → List Notif → List Stage → List Notif → Prop
  | _, up, [], log => log.Sublist up
  | j, up, st :: r, log => ∃ inp out, inp.Sublist up ∧ SubF (P j) st inp out ∧ ChainF P (j + 1) out r log

variable {P P' : Nat → List Notif}

theorem ChainF.mono {j : Nat} {up up' : List Notif} {stages : List Stage} {log : List Notif}
    (h : ChainF P j up stages log) (hs : up.Sublist up') : ChainF P j up' stages log := by
  cases stages with
  | nil => exact List.Sublist.trans h hs
  | cons st r =>
    obtain ⟨inp, out, h1, h2, h3⟩ := h
    exact ⟨inp, out, h1.trans hs, h2, h3⟩

/-- The pending lists may shrink. -/
theorem ChainF.anti {j : Nat} {up : List Notif} {stages : List Stage} {log : List Notif}
    (h : ChainF P j up stages log) (hp : ∀ i, j ≤ i → (P' i).Sublist (P i)) :
    ChainF P' j up stages log := by
  induction stages generalizing j up with
  | nil => exact h
  | cons st r ih =>
    obtain ⟨inp, out, h1, h2, h3⟩ := h
    exact ⟨inp, out, h1, h2.mono (hp j (Nat.le_refl _)),
      ih h3 (fun i hi => hp i (by omega))⟩

theorem ChainF.initial (P : Nat → List Notif) (hP : ∀ i, P i = []) (j : Nat) (stages : List Stage)
    (h : ∀ st ∈ stages, SubF [] st [] []) : ChainF P j [] stages [] := by
  induction stages generalizing j with
  | nil => exact List.Sublist.refl _
  | cons st r ih =>
    exact ⟨[], [], List.Sublist.refl _, by rw [hP j]; exact h st (by simp),
      ih (j + 1) (fun s hs => h s (by simp [hs]))⟩

theorem ChainF.append_iff (j : Nat) (up : List Notif) (pre post : List Stage) (log : List Notif) :
    ChainF P j up (pre ++ post) log ↔
      ∃ mid, ChainF P j up pre mid ∧ ChainF P (j + pre.length) mid post log := by
  induction pre generalizing j up with
  | nil =>
    constructor
    · intro h; exact ⟨up, List.Sublist.refl _, h⟩
    · rintro ⟨mid, h1, h2⟩; exact h2.mono h1
  | cons st r ih =>
    have e : j + (st :: r).length = j + 1 + r.length := by simp; omega
    constructor
    · rintro ⟨inp, out, h1, h2, h3⟩
      obtain ⟨mid, h4, h5⟩ := (ih (j + 1) out).mp h3
      exact ⟨mid, ⟨inp, out, h1, h2, h4⟩, by rw [e]; exact h5⟩
    · rintro ⟨mid, ⟨inp, out, h1, h2, h4⟩, h5⟩
      exact ⟨inp, out, h1, h2, (ih (j + 1) out).mpr ⟨mid, h4, by rw [← e]; exact h5⟩⟩

/-- Every stage of a chain is one of the kinds that have a relation. -/
theorem ChainF.get {up : List Notif} {stages : List Stage} {log : List Notif} {j : Nat} {st : Stage}
    (h : ChainF P 0 up stages log) (hj : stages[j]? = some st) : ∃ p inp out, SubF p st inp out := by
  rw [split_at hj] at h
  obtain ⟨mid, _, inp, out, _, h3, _⟩ := (ChainF.append_iff 0 up _ _ log).mp h
  exact ⟨_, inp, out, h3⟩

/-- Replace the stage at position `j` by one that has emitted `ns` more, let the stages
    behind it absorb that, and let the pending lists shrink. -/
theorem ChainF.modify {up : List Notif} {stages : List Stage} {log : List Notif} {j : Nat}
    {st st' : Stage} {ns : List Notif} {post' : List Stage} {log' : List Notif}
    (h : ChainF P 0 up stages log) (hj : stages[j]? = some st)
    (hpre : ∀ i, i < j → (P' i).Sublist (P i))
    (hok : ∀ inp out, SubF (P j) st inp out → SubF (P' j) st' inp (out ++ ns))
    (hpost : ∀ out, ChainF P (j + 1) out (stages.drop (j + 1)) log → ChainF P' (j + 1) (out ++ ns) post' log') :
    ChainF P' 0 up (stages.take j ++ st' :: post') log' := by
  have hlt : j < stages.length := Sched.get_lt hj
  rw [split_at hj] at h
  obtain ⟨mid, h1, inp, out, h2, h3, h4⟩ := (ChainF.append_iff 0 up _ _ log).mp h
  have hl : (stages.take j).length = j := by simp; omega
  rw [hl, Nat.zero_add] at h3 h4
  refine (ChainF.append_iff 0 up _ _ log').mpr ⟨mid, ?_, inp, out ++ ns, h2, ?_, ?_⟩
  · -- the stages before `j`: only their own pending lists matter
    have : ∀ (pre : List Stage) (k : Nat) (u m : List Notif), k + pre.length ≤ j →
        ChainF P k u pre m → ChainF P' k u pre m := by
      intro pre
      induction pre with
      | nil => intro k u m _ h; exact h
      | cons s r ih =>
        intro k u m hk h
        obtain ⟨i1, o1, a1, a2, a3⟩ := h
        simp only [List.length_cons] at hk
        exact ⟨i1, o1, a1, a2.mono (hpre k (by omega)), ih (k + 1) o1 m (by omega) a3⟩
    exact this _ 0 up mid (by omega) h1
  · rw [hl, Nat.zero_add]; exact hok inp out h3
  · rw [hl, Nat.zero_add]; exact hpost out h4

/-- The items at the probe are a sublist of the items handed to the head of the chain. -/
theorem ChainF.items_sublist {j : Nat} {up : List Notif} {stages : List Stage} {log : List Notif}
    (h : ChainF P j up stages log) : (items log).Sublist (items up) := by
  induction stages generalizing j up with
  | nil => exact Rx.T.items_sublist h
  | cons st r ih =>
    obtain ⟨inp, out, h1, h2, h3⟩ := h
    exact ((ih h3).trans h2.items).trans (Rx.T.items_sublist h1)

end Rx.T
