import RxModel.Lemmas.SubjectRefine
import RxModel.Spec.BehaviorSpec
/-
  The behaviour subject refines its spec: the inner subject's simulation (with the greeting as a
  parameter of `next_sim` / `subscribe_abs`) plus the value cell, per operation and per history.
-/
namespace Rx.Subj

def BState.babs (b : BState) : BAbs := ⟨b.subject.abs, b.value⟩

theorem bapply_sim (b : BState) (hI : Inv b.subject) (hp : b.subject.panicked = false) (op : BOp) :
    (b.apply op).2 = (b.babs.apply op).2 ∧ (b.apply op).1.babs = (b.babs.apply op).1 ∧
    Inv (b.apply op).1.subject := by
  cases op with
  | subscribe sc =>
    have h := subscribe_abs b.subject hI sc [.next b.value]
    refine ⟨?_, ?_, h.2⟩
    · simp [BState.apply, BState.subscribe, BAbs.apply, BState.babs, State.abs]
    · simp only [BState.apply, BState.subscribe, BAbs.apply, BState.babs, h.1]
  | unsubOne i =>
    have h := killSlot_abs b.subject hI i
    exact ⟨rfl, by simp only [BState.apply, BAbs.apply, BState.babs, h.1], h.2⟩
  | next v =>
    have h := next_sim b.subject hI hp (some v) v
    exact ⟨h.1, by simp only [BState.apply, BState.next, BAbs.apply, BAbs.next, BState.babs, h.2.1], h.2.2⟩
  | nextBy f =>
    have h := next_sim b.subject hI hp (some (f b.value)) (f b.value)
    exact ⟨h.1, by simp only [BState.apply, BState.next, BState.peek, BAbs.apply, BAbs.next, BState.babs, h.2.1],
      h.2.2⟩
  | error e =>
    have h := terminal_sim b.subject hI hp (.error e)
    exact ⟨h.1, by simp only [BState.apply, BAbs.apply, BState.babs, h.2.1], h.2.2⟩
  | complete =>
    have h := terminal_sim b.subject hI hp .complete
    exact ⟨h.1, by simp only [BState.apply, BAbs.apply, BState.babs, h.2.1], h.2.2⟩
  | unsubscribe =>
    have h := unsubscribe_abs b.subject
    exact ⟨rfl, by simp only [BState.apply, BAbs.apply, BState.babs, h.1], h.2⟩
  | clone => exact ⟨rfl, rfl, hI⟩
  | peek => exact ⟨rfl, rfl, hI⟩

theorem bstep_sim (b : BState) (hI : Inv b.subject) (hp : b.subject.panicked = false) (op : BOp) :
    (bstep b op).2.vis = (b.babs.step op).2 ∧ (bstep b op).1.babs = (b.babs.step op).1 ∧
    Inv (bstep b op).1.subject := by
  obtain ⟨h1, h2, h3⟩ := bapply_sim b hI hp op
  refine ⟨?_, h2, h3⟩
  simp only [bstep, BAbs.step, BOutput.vis, Output.vis, State.output, len?_some _ h3, Bool.or_false,
    BState.peek]
  rw [← h2, h1]
  rfl

theorem brunFrom_refines : ∀ (ops : List BOp) (b : BState), Inv b.subject → b.subject.panicked = false →
    (brunFrom b ops).map BOutput.vis = BAbs.runFrom b.babs ops
  | [], _, _, _ => rfl
  | op :: r, b, hI, hp => by
    obtain ⟨h1, h2, h3⟩ := bstep_sim b hI hp op
    have hpan : (bstep b op).2.out.panic = (b.babs.step op).2.out.panic := by rw [← h1]; rfl
    unfold brunFrom BAbs.runFrom
    simp only [hpan]
    by_cases hq : (b.babs.step op).2.out.panic = true
    · simp only [if_pos hq, List.map_cons, List.map_nil, h1]
    · simp only [if_neg hq, List.map_cons, h1]
      have hp' : (bstep b op).1.subject.panicked = false :=
        (output_panic _ h3 _).symm.trans (hpan.trans (Bool.eq_false_iff.mpr hq))
      rw [brunFrom_refines r (bstep b op).1 h3 hp', h2]

end Rx.Subj
