import RxModel.Lemmas.ChainFifoBase
import RxModel.Lemmas.ChainCompOps
/-
  C07C: the cascade of the chain model on the shape
  `pre (single-input observers) ++ T :: post (single-input observers)` where `T` is a
  scheduler-moving stage (`delay`, `observe_on`), in closed form — provided the fuel of
  `cascadeF` suffices (`St1.calm` stages: at most 501 notifications per notification).
-/
namespace Rx.T
open Rx Rx.Spec

theorem fin_op1_append (sts : List St1) (rest : List Stage) :
    fin (sts.map .op1 ++ rest) = (deadSt sts || fin rest) := by
  induction sts with
  | nil => simp [deadSt]
  | cons o os ih =>
    simp only [List.map_cons, List.cons_append, fin, ih, St1.finished_eq, deadSt, List.any_cons,
      Bool.or_assoc]

theorem fin_op1 (sts : List St1) : fin (sts.map .op1) = deadSt sts := by
  have := fin_op1_append sts []
  simpa [fin] using this

/-- One notification arriving at the mover: the stage afterwards, what it has passed on so
    far (only `delay` passes anything on at once: an error), the scheduler. -/
def feedT (j : Nat) (x : Stage × List Notif × Sched) (m : Notif) : Stage × List Notif × Sched :=
  ((x.1.onNotif j m x.2.2).1, x.2.1 ++ (x.1.onNotif j m x.2.2).2.1, (x.1.onNotif j m x.2.2).2.2)

theorem feedT_acc (j : Nat) (mid : List Notif) : ∀ (T : Stage) (acc : List Notif) (s : Sched),
    mid.foldl (feedT j) (T, acc, s) =
      ((mid.foldl (feedT j) (T, [], s)).1, acc ++ (mid.foldl (feedT j) (T, [], s)).2.1,
       (mid.foldl (feedT j) (T, [], s)).2.2) := by
  induction mid with
  | nil => intro T acc s; simp
  | cons m r ih =>
    intro T acc s
    simp only [List.foldl_cons, feedT, List.nil_append]
    rw [ih _ (acc ++ _), ih _ ((T.onNotif j m s).2.1)]
    simp [List.append_assoc]

theorem feedT_mover (j : Nat) (mid : List Notif) : ∀ (T : Stage) (acc : List Notif) (s : Sched),
    T.isMover = true → (mid.foldl (feedT j) (T, acc, s)).1.isMover = true := by
  induction mid with
  | nil => intro T acc s h; exact h
  | cons m r ih =>
    intro T acc s h
    simp only [List.foldl_cons, feedT]
    exact ih _ _ _ (T.onNotif_mover h j m s).1

/-- Single-input observers only: with enough fuel the cascade is `runChain`. -/
theorem cascadeF_op1 : ∀ (k : Nat) (sts : List St1), sts.length = k → calmSt sts →
    ∀ (ns : List Notif) (j : Nat) (s : Sched) (f : Nat), ns.length + k * 501 + 2 ≤ f →
    cascadeF f (sts.map .op1) j ns s = ((runChain sts ns).1.map .op1, (runChain sts ns).2, s) := by
  intro k
  induction k with
  | zero =>
    intro sts hk _ ns j s f hf
    have : sts = [] := List.eq_nil_of_length_eq_zero hk
    subst this
    obtain ⟨f', rfl⟩ : ∃ f', f = f' + 1 := ⟨f - 1, by omega⟩
    simp [cascadeF_nil, runChain]
  | succ k ihk =>
    intro sts hk hc ns
    induction ns generalizing sts with
    | nil => intro j s f _; rw [cascadeF_nil_ns, runChain_nil]
    | cons n ns ihn =>
      intro j s f hf
      obtain ⟨o, os, rfl⟩ : ∃ o os, sts = o :: os := by
        cases sts with
        | nil => simp at hk
        | cons o os => exact ⟨o, os, rfl⟩
      obtain ⟨hco, hcos⟩ := calmSt_cons.mp hc
      have hlen : os.length = k := by simpa using hk
      obtain ⟨f', rfl⟩ : ∃ f', f = f' + 1 := ⟨f - 1, by omega⟩
      have hb := (o.calm_step n hco)
      simp only [List.length_cons] at hf
      have h1 := ihk os hlen hcos (o.step n).2 (j + 1) s f' (by omega)
      have hlen' : ((o.step n).1 :: (runChain os (o.step n).2).1).length = k + 1 := by
        simp [runChain_length, hlen]
      have hc' : calmSt ((o.step n).1 :: (runChain os (o.step n).2).1) :=
        calmSt_cons.mpr ⟨hb.1, calmSt_runChain _ _ hcos⟩
      have h2 := ihn _ hlen' hc' j s f' (by omega)
      simp only [List.map_cons] at h2
      rw [List.map_cons, cascadeF_cons_cons]
      simp only [Stage.onNotif_op1, h1, Stage.afterEmit_op1, h2]
      rw [runChain_cons_cons]

/-- A mover followed by single-input observers. -/
theorem cascadeF_mover : ∀ (mid : List Notif) (T : Stage), T.isMover = true →
    ∀ (postS : List St1), calmSt postS → ∀ (j : Nat) (s : Sched) (f : Nat),
    mid.length + (postS.length + 1) * 501 + 2 ≤ f →
    cascadeF f (T :: postS.map .op1) j mid s =
      ((mid.foldl (feedT j) (T, [], s)).1 ::
          (runChain postS (mid.foldl (feedT j) (T, [], s)).2.1).1.map .op1,
       (runChain postS (mid.foldl (feedT j) (T, [], s)).2.1).2,
       (mid.foldl (feedT j) (T, [], s)).2.2) := by
  intro mid
  induction mid with
  | nil => intro T _ postS _ j s f _; rw [cascadeF_nil_ns]; simp [runChain_nil]
  | cons m mid ih =>
    intro T hT postS hc j s f hf
    obtain ⟨f', rfl⟩ : ∃ f', f = f' + 1 := ⟨f - 1, by omega⟩
    simp only [List.length_cons] at hf
    have hm := T.onNotif_mover hT j m s
    have h1 := cascadeF_op1 _ postS rfl hc (T.onNotif j m s).2.1 (j + 1) (T.onNotif j m s).2.2 f' (by omega)
    have h2 := ih (T.onNotif j m s).1 hm.1 (runChain postS (T.onNotif j m s).2.1).1
      (calmSt_runChain _ _ hc) j (T.onNotif j m s).2.2 f' (by rw [runChain_length]; omega)
    rw [cascadeF_cons_cons]
    simp only [h1, Stage.afterEmit_mover _ hm.1, h2]
    simp only [List.foldl_cons, feedT, List.nil_append]
    rw [feedT_acc j mid _ ((T.onNotif j m s).2.1), runChain_append]

theorem cascadeF_comp : ∀ (k : Nat) (preS : List St1), preS.length = k → calmSt preS →
    ∀ (ns : List Notif) (T : Stage), T.isMover = true → ∀ (postS : List St1), calmSt postS →
    ∀ (j : Nat) (s : Sched) (f : Nat), ns.length + (k + postS.length + 1) * 501 + 2 ≤ f →
    cascadeF f (preS.map .op1 ++ T :: postS.map .op1) j ns s =
      ((runChain preS ns).1.map .op1 ++
          ((runChain preS ns).2.foldl (feedT (j + k)) (T, [], s)).1 ::
          (runChain postS ((runChain preS ns).2.foldl (feedT (j + k)) (T, [], s)).2.1).1.map .op1,
       (runChain postS ((runChain preS ns).2.foldl (feedT (j + k)) (T, [], s)).2.1).2,
       ((runChain preS ns).2.foldl (feedT (j + k)) (T, [], s)).2.2) := by
  intro k
  induction k with
  | zero =>
    intro preS hk _ ns T hT postS hc j s f hf
    have : preS = [] := List.eq_nil_of_length_eq_zero hk
    subst this
    rw [Nat.zero_add] at hf
    have := cascadeF_mover ns T hT postS hc j s f hf
    simpa [runChain] using this
  | succ k ihk =>
    intro preS hk hcp ns
    induction ns generalizing preS with
    | nil =>
      intro T _ postS _ j s f _
      rw [cascadeF_nil_ns, runChain_nil]
      simp [runChain_nil]
    | cons n ns ihn =>
      intro T hT postS hc j s f hf
      obtain ⟨o, os, rfl⟩ : ∃ o os, preS = o :: os := by
        cases preS with
        | nil => simp at hk
        | cons o os => exact ⟨o, os, rfl⟩
      obtain ⟨hco, hcos⟩ := calmSt_cons.mp hcp
      have hlen : os.length = k := by simpa using hk
      obtain ⟨f', rfl⟩ : ∃ f', f = f' + 1 := ⟨f - 1, by omega⟩
      have hb := (o.calm_step n hco)
      simp only [List.length_cons] at hf
      -- the first notification, through the tail of `pre`, the mover and `post`
      have h1 := ihk os hlen hcos (o.step n).2 T hT postS hc (j + 1) s f' (by omega)
      -- abbreviations for the state after it
      generalize hx1 : (runChain os (o.step n).2).2.foldl (feedT (j + 1 + k)) (T, [], s) = x1 at h1
      have hT1 : x1.1.isMover = true := by rw [← hx1]; exact feedT_mover _ _ _ _ _ hT
      have hlen' : ((o.step n).1 :: (runChain os (o.step n).2).1).length = k + 1 := by
        simp [runChain_length, hlen]
      have hc' : calmSt ((o.step n).1 :: (runChain os (o.step n).2).1) :=
        calmSt_cons.mpr ⟨hb.1, calmSt_runChain _ _ hcos⟩
      have h2 := ihn _ hlen' hc' x1.1 hT1 (runChain postS x1.2.1).1 (calmSt_runChain _ _ hc) j x1.2.2 f'
        (by rw [runChain_length]; omega)
      simp only [List.map_cons, List.cons_append] at h2
      rw [List.map_cons, List.cons_append, cascadeF_cons_cons]
      simp only [Stage.onNotif_op1, h1, Stage.afterEmit_op1, h2]
      rw [runChain_cons_cons]
      simp only [List.foldl_append]
      have e : j + 1 + k = j + (k + 1) := by omega
      rw [e] at hx1
      rw [hx1, feedT_acc (j + (k + 1)) _ x1.1 x1.2.1 x1.2.2, runChain_append]

end Rx.T
