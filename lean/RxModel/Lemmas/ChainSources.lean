import RxModel.Lemmas.ChainTraverse
import RxModel.Lemmas.Sched
/-
  Worlds with NO stages (`stages = []`) whose
  source is a timed source (`interval`, `interval_at`, `timer`).

  * `TW.start`, `TW.run`, `TW.ticks`: vocabulary of Props/C08.lean;
  * `pollTask_src`: on such a world `TW.pollTask k` is `Sched.poll k c` (the
    scheduler-only poll of Sched/Exec.lean) plus the notifications of the body
    appended to the probe log;
  * `Bare`: the shape of such a world once `sub` has happened, and what every
    event does to it (`step_*`);
  * `run_induction`: an invariant of the four scheduler moves (advance, fire a
    due timer, poll a task, cancel the source task) holds after every event list;
  * `idle`: the world before `sub`.
-/
namespace Rx.T
open Rx

namespace TW

/-- The world of a case with source `src` and no operator: the probe is subscribed
    directly to the source. -/
def start (src : TSrc) : TW := { src := src, stages := [] }

/-- Run a list of events. -/
def run (w : TW) (evs : List Ev) : TW := evs.foldl step w

/-- The clock of a world. -/
def clock (w : TW) : Nat := w.sched.now

/-- `next 0, next 1, …, next (n-1)`. -/
def ticks (n : Nat) : List Notif := (List.range n).map fun (i : Nat) => Notif.next (Val.int i)

@[simp] theorem run_nil (w : TW) : run w [] = w := rfl
@[simp] theorem run_cons (w : TW) (e es) : run w (e :: es) = run (step w e) es := rfl
theorem run_append (w : TW) (as bs : List Ev) : run w (as ++ bs) = run (run w as) bs := by
  simp [run, List.foldl_append]

theorem ticks_succ (n : Nat) : ticks (n + 1) = ticks n ++ [Notif.next (Val.int n)] := by
  simp [ticks, List.range_succ]
@[simp] theorem ticks_length (n : Nat) : (ticks n).length = n := by simp [ticks]
@[simp] theorem ticks_zero : ticks 0 = [] := rfl

/-- What the body of the source task sends to the probe for one run of `Sched.poll`. -/
def emitOf (b : Body) (r : Run) : List Notif :=
  match b, r.seq with
  | .tick, some n => [.next (.int n)]
  | .timerSrc v, none => [.next v, .complete]
  | _, _ => []

/-- The answer of the tick body when nothing is downstream: `interval` always continues. -/
def contOf (b : Body) : Bool :=
  match b with
  | .tick => true
  | _ => false

/-- A source body. -/
def srcBody (b : Body) : Prop := b = .tick ∨ ∃ v, b = .timerSrc v

/-- The body that `pollPre` hands out is the body of the polled task. -/
theorem pollPre_body (s : Sched) (k : TaskId) (t : Task) (ht : s.tasks[k]? = some t) :
    (∀ b, (s.pollPre k).2 = .runOnce b → b = t.body) ∧
    (∀ b n, (s.pollPre k).2 = .runTick b n → b = t.body) := by
  have none : ∀ s1, (∀ b, ((s1, Sched.Poll.none) : Sched × Sched.Poll).2 = .runOnce b → b = t.body) ∧
      (∀ b n, ((s1, Sched.Poll.none) : Sched × Sched.Poll).2 = .runTick b n → b = t.body) :=
    fun _ => ⟨fun _ h => (nomatch h), fun _ _ h => (nomatch h)⟩
  apply Sched.pollPre_elim s k (motive := fun r =>
    (∀ b, r.2 = .runOnce b → b = t.body) ∧ (∀ b n, r.2 = .runTick b n → b = t.body))
  case absent => exact fun _ => none _
  case finished => exact fun _ _ _ => none _
  case cancelled => exact fun _ _ _ _ => none _
  case arm => exact fun _ _ _ _ _ _ => none _
  case waitOuter => exact fun _ _ _ _ _ _ _ _ => none _
  case waitPeriod => exact fun _ _ _ _ _ _ _ _ _ _ _ => none _
  case once =>
    intro t0 h0 _ _ _ _ _; rw [ht] at h0; cases h0
    exact ⟨fun _ h => (by cases h; rfl), fun _ _ h => (nomatch h)⟩
  case tick =>
    intro t0 fur iv seq h0 _ _ _ _ _ _; rw [ht] at h0; cases h0
    exact ⟨fun _ h => (nomatch h), fun _ _ h => (by cases h; rfl)⟩

/-- On a world without stages, polling a source task is the scheduler-only poll plus the
    body's notifications on the probe log. -/
theorem pollTask_src (w : TW) (h : w.stages = []) (k : TaskId) (t : Task)
    (ht : w.sched.tasks[k]? = some t) (hb : srcBody t.body) :
    w.pollTask k = { w with sched := (w.sched.poll k (contOf t.body)).1,
                            log := w.log ++ (w.sched.poll k (contOf t.body)).2.flatMap (emitOf t.body) } := by
  have hbody := pollPre_body w.sched k t ht
  cases w with
  | mk sched src stages sa ss st term sub unsub pulls log =>
  simp only at h ht hbody; subst h
  rw [pollTask_eq]; unfold pollPost Sched.poll
  cases hp : sched.pollPre k with
  | mk s1 p =>
    rw [hp] at hbody
    cases p with
    | none => simp
    | runOnce b =>
      have := hbody.1 b rfl; subst this
      rcases hb with hb | ⟨v, hb⟩
      · simp [hb, runBody_tick, emitOf, Body.isAsync]
      · simp [hb, runBody_timerSrc, push, cascade_nil, emitOf, Body.isAsync]
    | runTick b n =>
      have := hbody.2 b n rfl; subst this
      rcases hb with hb | ⟨v, hb⟩
      · simp [hb, runTick_tick, fin, contOf, push, cascade_nil, emitOf]
      · simp [hb, runTick_timerSrc, contOf, emitOf]

theorem pollTask_absent (w : TW) (k : TaskId) (ht : w.sched.tasks[k]? = none) : w.pollTask k = w := by
  rw [pollTask_eq, Sched.pollPre_absent ht]; rfl

/-- A subscribed world without stages whose source is not a subject and whose source task
    (if any) is task 0. -/
structure Bare (w : TW) : Prop where
  stages : w.stages = []
  notHot : ∀ i, w.src ≠ .hot i
  subscribed : w.subscribed = true
  srcTask : w.srcTask = some 0

theorem Bare.congr {w w' : TW} (h : Bare w) (h1 : w'.stages = w.stages) (h2 : w'.src = w.src)
    (h3 : w'.subscribed = w.subscribed) (h4 : w'.srcTask = w.srcTask) : Bare w' :=
  ⟨h1 ▸ h.stages, h2 ▸ h.notHot, h3 ▸ h.subscribed, h4 ▸ h.srcTask⟩

/-- Timer `tm` exists and its due time has come. -/
def Due (s : Sched) (tm : TimerId) : Prop := ∃ d, s.tdue tm = some d ∧ d ≤ s.now

/-- Firing one due timer leaves the others due. -/
theorem mem_dueTimers_fire (s : Sched) (tm tm' : TimerId) (h : tm' ∈ s.dueTimers) (hne : tm' ≠ tm) :
    tm' ∈ (s.fire tm).dueTimers := by
  obtain ⟨d, h1, h2, h3⟩ := (Sched.mem_dueTimers s tm').1 h
  refine (Sched.mem_dueTimers _ _).2 ⟨d, (Sched.fire_tdue s tm tm').trans h1, (Sched.fire_now s tm).symm ▸ h2, ?_⟩
  rw [Sched.fire_timerFired, h3, decide_eq_false (Ne.symm hne)]; rfl

theorem step_sub_bare (w : TW) (b : Bare w) : step w .sub = w := by
  show (if w.subscribed then w else _) = w
  rw [if_pos b.subscribed]

theorem step_emit_bare (w : TW) (b : Bare w) (i n) :
    ∃ term, step w (.emit i n) = { w with terminated := term } := by
  cases w with
  | mk sched src stages sa ss st term sub unsub pulls log =>
  have hs := b.stages; have hh := b.notHot
  simp only at hs hh; subst hs
  simp only [step]
  split
  · exact ⟨term, rfl⟩
  · cases src with
    | hot j => exact absurd rfl (hh j)
    | _ =>
      refine ⟨if n.isTerm then i :: term else term, ?_⟩
      cases n <;> rfl

theorem step_unsub_bare (w : TW) (b : Bare w) :
    step w .unsub = if w.unsubscribed then w
      else { w with srcAlive := false, sched := w.sched.cancel 0, unsubscribed := true } := by
  cases w with
  | mk sched src stages sa ss st term sub unsub pulls log =>
  have hs := b.stages; have h1 := b.subscribed; have h2 := b.srcTask
  simp only at hs h1 h2; subst hs h1 h2
  cases unsub <;> rfl

/-- An invariant of the scheduler moves holds after every event list. -/
theorem run_induction (P : TW → Prop)
    (bare : ∀ w, P w → Bare w)
    (hterm : ∀ w term, P w → P { w with terminated := term })
    (hadv : ∀ w d, P w → P { w with sched := { w.sched with now := w.sched.now + d } })
    (hfire : ∀ w tm, P w → tm ∈ w.sched.dueTimers → P { w with sched := w.sched.fire tm })
    (hpoll : ∀ w k, P w → P (w.pollTask k))
    (hunsub : ∀ w, P w → w.unsubscribed = false →
      P { w with srcAlive := false, sched := w.sched.cancel 0, unsubscribed := true }) :
    ∀ (evs : List Ev) (w : TW), P w → P (run w evs) := by
  have fires : ∀ (l : List TimerId) (w : TW), P w → l.Nodup → (∀ tm ∈ l, tm ∈ w.sched.dueTimers) →
      P { w with sched := l.foldl Sched.fire w.sched } := by
    intro l
    induction l with
    | nil => intro w hw _ _; exact hw
    | cons tm l ih =>
      intro w hw hn hd
      obtain ⟨hn1, hn2⟩ := List.nodup_cons.mp hn
      exact ih _ (hfire w tm hw (hd tm List.mem_cons_self)) hn2 fun tm' hm =>
        mem_dueTimers_fire _ _ _ (hd tm' (List.mem_cons_of_mem _ hm)) fun e => hn1 (e ▸ hm)
  have loop : ∀ (fuel : Nat) (w : TW), P w → P (runLoop fuel w) := by
    intro fuel
    induction fuel with
    | zero => intro w hw; exact hw
    | succ f ih =>
      intro w hw
      have h1 := fires w.sched.dueTimers w hw (List.filter_sublist.nodup List.nodup_range) fun _ hm => hm
      simp only [runLoop]
      split
      · exact h1
      · exact ih _ (pollAll_keeps hpoll _ _ h1)
  intro evs
  induction evs with
  | nil => intro w hw; exact hw
  | cons e es ih =>
    intro w hw
    rw [run_cons]
    apply ih
    have b := bare w hw
    cases e with
    | sub => rw [step_sub_bare w b]; exact hw
    | emit i n =>
      obtain ⟨term, h⟩ := step_emit_bare w b i n
      rw [h]; exact hterm w term hw
    | unsub =>
      rw [step_unsub_bare w b]
      split
      · exact hw
      · rename_i hu
        exact hunsub w hw (by simpa using hu)
    | adv d => exact hadv w d hw
    | fire i =>
      simp only [step]
      split
      · rename_i tm htm
        exact hfire w tm hw (List.mem_of_getElem? htm)
      · exact hw
    | poll i =>
      simp only [step]
      split
      · exact hpoll w _ hw
      · exact hw
    | run => exact loop _ w hw

/-- The world before `sub`: nothing but a clock value (and the subjects that terminated). -/
def idle (src : TSrc) (c : Nat) (term : List Nat) : TW :=
  { src := src, stages := [], sched := { now := c }, terminated := term }

theorem step_idle (src : TSrc) (hsrc : ∀ i, src ≠ .hot i) (c term) (e : Ev) (he : e ≠ .sub) :
    ∃ c' term', c ≤ c' ∧ step (idle src c term) e = idle src c' term' := by
  cases e with
  | sub => exact absurd rfl he
  | emit i n =>
    simp only [step, idle]
    split
    · exact ⟨c, term, Nat.le_refl _, rfl⟩
    · cases src with
      | hot j => exact absurd rfl (hsrc j)
      | _ => exact ⟨c, if n.isTerm then i :: term else term, Nat.le_refl _, by cases n <;> rfl⟩
  | unsub => exact ⟨c, term, Nat.le_refl _, rfl⟩
  | adv d => exact ⟨c + d, term, Nat.le_add_right _ _, rfl⟩
  | fire i => exact ⟨c, term, Nat.le_refl _, rfl⟩
  | poll i => exact ⟨c, term, Nat.le_refl _, rfl⟩
  | run =>
    refine ⟨c, term, Nat.le_refl _, ?_⟩
    rw [step_run, runLoop_succ]
    rfl

theorem run_idle (src : TSrc) (hsrc : ∀ i, src ≠ .hot i) (pre : List Ev) (hpre : ∀ e ∈ pre, e ≠ .sub) :
    ∀ c term, ∃ c' term', c ≤ c' ∧ run (idle src c term) pre = idle src c' term' := by
  induction pre with
  | nil => intro c term; exact ⟨c, term, Nat.le_refl _, rfl⟩
  | cons e es ih =>
    intro c term
    obtain ⟨c1, t1, hle, h1⟩ := step_idle src hsrc c term e (hpre e (by simp))
    obtain ⟨c2, t2, hle2, h2⟩ := ih (fun e' h => hpre e' (by simp [h])) c1 t1
    exact ⟨c2, t2, Nat.le_trans hle hle2, by rw [run_cons, h1, h2]⟩

/-- An event list has no `sub`, or splits at its first `sub`. -/
theorem split_sub (evs : List Ev) :
    (∀ e ∈ evs, e ≠ .sub) ∨ ∃ pre post, evs = pre ++ .sub :: post ∧ ∀ e ∈ pre, e ≠ .sub := by
  induction evs with
  | nil => left; simp
  | cons e es ih =>
    by_cases he : e = .sub
    · subst he; exact Or.inr ⟨[], es, rfl, by simp⟩
    · rcases ih with h | ⟨pre, post, h1, h2⟩
      · left; intro e' h'
        simp only [List.mem_cons] at h'
        rcases h' with h' | h'
        · rw [h']; exact he
        · exact h e' h'
      · right
        refine ⟨e :: pre, post, by rw [h1]; rfl, ?_⟩
        intro e' h'
        simp only [List.mem_cons] at h'
        rcases h' with h' | h'
        · rw [h']; exact he
        · exact h2 e' h'

/-- Any list `pre ++ sub :: mid` splits at its first `sub`. -/
theorem split_first_sub (pre mid : List Ev) :
    ∃ pre' mid', pre ++ .sub :: mid = pre' ++ .sub :: mid' ∧ ∀ e ∈ pre', e ≠ .sub := by
  rcases split_sub (pre ++ .sub :: mid) with h | h
  · exact absurd rfl (h .sub (by simp))
  · exact h

/-- Before `sub` the world is idle. -/
theorem run_presub (src : TSrc) (hsrc : ∀ i, src ≠ .hot i) (pre : List Ev) (hpre : ∀ e ∈ pre, e ≠ .sub) :
    ∃ c term, run (start src) pre = idle src c term := by
  obtain ⟨c, term, _, h⟩ := run_idle src hsrc pre hpre 0 []
  exact ⟨c, term, h⟩

/-- Before `sub` the clock only moves forward. -/
theorem presub_clock_mono (src : TSrc) (hsrc : ∀ i, src ≠ .hot i) (pre q : List Ev)
    (hpre : ∀ e ∈ pre, e ≠ .sub) (hq : ∀ e ∈ q, e ≠ .sub) :
    (run (start src) pre).clock ≤ (run (start src) (pre ++ q)).clock := by
  obtain ⟨c, term, h⟩ := run_presub src hsrc pre hpre
  obtain ⟨c', term', hle, h'⟩ := run_idle src hsrc q hq c term
  rw [run_append, h, h']; exact hle

/-- A prefix of `pre ++ sub :: post` is a prefix of `pre` or contains the `sub`. -/
theorem prefix_cases (pre post q : List Ev) (hq : q <+: pre ++ .sub :: post) :
    q <+: pre ∨ ∃ post', q = pre ++ .sub :: post' := by
  obtain ⟨r, hr⟩ := hq
  rcases List.append_eq_append_iff.mp hr with ⟨a, h1, _⟩ | ⟨c, h1, h2⟩
  · exact Or.inl ⟨a, h1.symm⟩
  · cases c with
    | nil => left; rw [h1]; simp
    | cons x c' =>
      simp only [List.cons_append, List.cons.injEq] at h2
      right; exact ⟨c', by rw [h1, ← h2.1]⟩

end TW
end Rx.T

