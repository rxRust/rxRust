import RxModel.Lemmas.SchedExec
/-
  The invariants of one task as instances of `TaskInv` (stable flags, the outer delay, the period
  timer), and the list of runs of one task in the log of a history: at most one for a OnceTask,
  consecutive sequence numbers and spacing for a RepeatTask, none once cancelled or finished.
-/

namespace Rx.T
namespace Sched

/-- Relative to the record `t0` the task had at some moment. -/
def flagsP (t0 : Task) (_ : Sched) (t : Task) : Prop :=
  t.body = t0.body ∧ (t0.done = true → t.done = true) ∧
    (t0.keepRunning = false → t.keepRunning = false) ∧ (t0.rep = none → t.rep = none)

/-- A run needs a task that was neither finished nor cancelled; a OnceTask's run is not a tick. -/
def flagsQ (t0 : Task) (r : Run) : Prop :=
  t0.done = false ∧ t0.keepRunning = true ∧ (t0.rep = none → r.seq = none)

theorem flags_inv (k : TaskId) (t0 : Task) : TaskInv k (flagsP t0) (flagsQ t0) := by
  constructor
  · rintro s s' t t' _ ⟨w, rfl⟩ h; exact h
  · intro s t h; exact ⟨h.1, h.2.1, fun _ => rfl, h.2.2.2⟩
  · intro s c t wf ht ⟨hb, hp⟩
    have live : t.done = false → t.keepRunning = true → t0.done = false ∧ t0.keepRunning = true := by
      intro hd hk
      constructor
      · cases h : t0.done with
        | false => rfl
        | true => rw [hp.1 h] at hd; cases hd
      · cases h : t0.keepRunning with
        | true => rfl
        | false => rw [hp.2.1 h] at hk; cases hk
    have ticks : ∀ {x}, t.rep = some x → t0.rep ≠ none := fun hr h => by rw [hp.2.2 h] at hr; cases hr
    apply poll_task_elim s k c t ht (motive := fun s' t' runs => flagsP t0 s' t' ∧ ∀ r ∈ runs, flagsQ t0 r)
    case finished => exact fun _ => ⟨⟨hb, hp⟩, nofun⟩
    case cancelled => exact fun _ _ => ⟨⟨hb, fun _ => rfl, hp.2⟩, nofun⟩
    case arm => exact fun _ _ _ _ => ⟨⟨hb, hp⟩, nofun⟩
    case waitOuter => exact fun _ _ _ _ _ _ => ⟨⟨hb, hp⟩, nofun⟩
    case waitPeriod => exact fun _ _ _ _ _ _ _ _ _ => ⟨⟨hb, hp⟩, nofun⟩
    case once =>
      intro hd hk _ _ _
      refine ⟨⟨hb, fun _ => rfl, hp.2⟩, fun r hr => ?_⟩
      rw [List.mem_singleton.mp hr]
      exact ⟨(live hd hk).1, (live hd hk).2, fun _ => rfl⟩
    case lastTick =>
      intro fur iv seq hd hk _ _ hrep _ _
      refine ⟨⟨hb, fun _ => rfl, hp.2⟩, fun r hr => ?_⟩
      rw [List.mem_singleton.mp hr]
      exact ⟨(live hd hk).1, (live hd hk).2, fun h => absurd h (ticks hrep)⟩
    case tick =>
      intro fur iv seq hd hk _ _ hrep _ _
      refine ⟨⟨hb, hp.1, hp.2.1, fun h => absurd h (ticks hrep)⟩, fun r hr => ?_⟩
      rw [List.mem_singleton.mp hr]
      exact ⟨(live hd hk).1, (live hd hk).2, fun h => absurd h (ticks hrep)⟩

/-- `lo` is a lower bound for the moment the outer delay of `t` is over. -/
def earlyP (lo : Nat) (s : Sched) (t : Task) : Prop :=
  t.done = true ∨
    match t.outerDelay with
    | some d => lo ≤ s.now + d
    | none =>
      match t.outerTimer with
      | some tm => ∃ due, s.tdue tm = some due ∧ lo ≤ due
      | none => lo ≤ s.now

theorem early_ready {lo : Nat} {s : Sched} {t : Task} (wf : WF s) (h : earlyP lo s t)
    (hd : t.done = false) (hod : t.outerDelay = none) (hr : s.outerReady t) : lo ≤ s.now := by
  rcases h with h | h
  · rw [hd] at h; cases h
  · rw [hod] at h; simp only at h
    cases hot : t.outerTimer with
    | none => rw [hot] at h; exact h
    | some tm =>
      rw [hot] at h; simp only at h
      obtain ⟨due, h1, h2⟩ := h
      obtain ⟨d, h3, h4⟩ := wf.fired_due tm (hr tm hot)
      rw [h1] at h3; cases h3; omega

/-- A task that has not been polled yet: its outer delay has not started. -/
theorem earlyP_fresh (s : Sched) (t : Task) (hot : t.outerTimer = none) :
    earlyP (s.now + t.outerDelay.getD 0) s t := by
  right
  cases hod : t.outerDelay with
  | some d => exact Nat.le_refl _
  | none => simp only [hot]; exact Nat.le_refl _

theorem early_inv (k : TaskId) (lo : Nat) : TaskInv k (earlyP lo) (fun r => lo ≤ r.time) := by
  constructor
  · rintro s s' t t' fr ⟨w, rfl⟩ h
    rcases h with h | h
    · exact Or.inl h
    · right; simp only
      cases hod : t.outerDelay with
      | some d => rw [hod] at h; simp only at h ⊢; have := fr.now_le; omega
      | none =>
        rw [hod] at h; simp only at h ⊢
        cases hot : t.outerTimer with
        | some tm =>
          rw [hot] at h; simp only at h ⊢
          obtain ⟨due, h1, h2⟩ := h
          exact ⟨due, fr.tdue tm due h1, h2⟩
        | none => rw [hot] at h; simp only at h ⊢; have := fr.now_le; omega
  · intro s t h; exact h
  · intro s c t wf ht hp
    apply poll_task_elim s k c t ht (motive := fun s' t' runs => earlyP lo s' t' ∧ ∀ r ∈ runs, lo ≤ r.time)
    case finished => intro _; exact ⟨hp, by simp⟩
    case cancelled => intro _ _; exact ⟨Or.inl rfl, by simp⟩
    case arm =>
      intro d hd hk hod
      refine ⟨Or.inr ?_, by simp⟩
      rcases hp with hp | hp
      · rw [hd] at hp; cases hp
      · rw [hod] at hp; simp only at hp
        simp only [setTask_tdue, registerTimer_tdue, newTimer_tdue_new]
        exact ⟨_, rfl, hp⟩
    case waitOuter =>
      intro tm hd hk hod hot hf
      refine ⟨?_, by simp⟩
      rcases hp with hp | hp
      · exact Or.inl hp
      · right; rw [hod, hot] at hp; simp only [hod, hot] at hp ⊢
        simpa using hp
    case once =>
      intro hd hk hod hr hrep
      have := early_ready wf hp hd hod hr
      exact ⟨Or.inl rfl, by simpa using this⟩
    case waitPeriod =>
      intro fur iv seq hd hk hod hr hrep hf
      have := early_ready wf hp hd hod hr
      refine ⟨Or.inr ?_, by simp⟩
      simp only [hod]; simpa using this
    case lastTick =>
      intro fur iv seq hd hk hod hr hrep hf hc
      have := early_ready wf hp hd hod hr
      exact ⟨Or.inl rfl, by simpa using this⟩
    case tick =>
      intro fur iv seq hd hk hod hr hrep hf hc
      have := early_ready wf hp hd hod hr
      refine ⟨Or.inr ?_, by simpa using this⟩
      simp only [hod]; simpa using this

/-- The lower bounds `L j` for tick `j` follow the re-arming of the period timer: the timer of tick `j+1`
    is created when tick `j` runs (not before `L j`, nor before `c`) and is due one period later. -/
def LStep (c : Nat) (L : Nat → Nat) (p : Nat) : Prop := ∀ j, L (j + 1) ≤ max (L j) c + p

theorem LStep.of_or {c p : Nat} {L : Nat → Nat} (h : ∀ j, L (j + 1) ≤ L j + p ∨ L (j + 1) ≤ c + p) :
    LStep c L p := fun j => by
  rcases h j with h | h
  · exact Nat.le_trans h (Nat.add_le_add_right (Nat.le_max_left _ _) p)
  · exact Nat.le_trans h (Nat.add_le_add_right (Nat.le_max_right _ _) p)

/-- The period is `p` and the period timer the task awaits is not due before `L seq`. -/
def repBoundP (L : Nat → Nat) (p : Nat) (s : Sched) (t : Task) : Prop :=
  t.done = true ∨ ∃ fur seq due, t.rep = some (fur, p, seq) ∧ s.tdue fur = some due ∧ L seq ≤ due

/-- `c` bounds the end of the outer delay, `L` the period timers. -/
def repP (c : Nat) (L : Nat → Nat) (p : Nat) (s : Sched) (t : Task) : Prop := earlyP c s t ∧ repBoundP L p s t

/-- The run is tick `n` for some `n`, and it happens neither before `c` nor before `L n`. -/
def repQ (c : Nat) (L : Nat → Nat) (r : Run) : Prop := ∃ n, r.seq = some n ∧ c ≤ r.time ∧ L n ≤ r.time

theorem rep_fired {c p : Nat} {L : Nat → Nat} {s : Sched} {t : Task} {fur iv seq} (wf : WF s)
    (h : repP c L p s t) (hd : t.done = false) (hod : t.outerDelay = none) (hr : s.outerReady t)
    (hrep : t.rep = some (fur, iv, seq)) (hf : s.timerFired fur = true) :
    iv = p ∧ c ≤ s.now ∧ L seq ≤ s.now := by
  rcases h.2 with h' | ⟨fur', seq', due, h1, h2, h3⟩
  · rw [hd] at h'; cases h'
  · rw [hrep] at h1; cases h1
    obtain ⟨d, h5, h6⟩ := wf.fired_due fur hf
    rw [h2] at h5; cases h5
    exact ⟨rfl, early_ready wf h.1 hd hod hr, Nat.le_trans h3 h6⟩

/-- For any bounds that follow the re-arming, tick `n` runs neither before `c` nor before `L n`. -/
theorem rep_inv (k : TaskId) (c : Nat) (L : Nat → Nat) (p : Nat) (hL : LStep c L p) :
    TaskInv k (repP c L p) (repQ c L) := by
  constructor
  · rintro s s' t t' fr hc ⟨h0, h⟩
    refine ⟨(early_inv k c).frame s s' t t' fr hc h0, ?_⟩
    obtain ⟨w, rfl⟩ := hc
    rcases h with h | ⟨fur, seq, due, h1, h2, h3⟩
    · exact Or.inl h
    · exact Or.inr ⟨fur, seq, due, h1, fr.tdue fur due h2, h3⟩
  · intro s t h; exact h
  · intro s c' t wf ht hp
    obtain ⟨t1, ht1, he1, _⟩ := (early_inv k c).poll s c' t wf ht hp.1
    -- the period timer: untouched unless a tick runs
    have keep : ∀ {s' : Sched}, t.done = false → (∀ tm d, s.tdue tm = some d → s'.tdue tm = some d) →
        ∃ fur seq due, t.rep = some (fur, p, seq) ∧ s'.tdue fur = some due ∧ L seq ≤ due := by
      intro s' hd hs
      rcases hp.2 with h | ⟨fur, seq, due, h1, h2, h3⟩
      · rw [hd] at h; cases h
      · exact ⟨fur, seq, due, h1, hs _ _ h2, h3⟩
    obtain ⟨t2, ht2, h2⟩ := poll_task_elim s k c' t ht
      (motive := fun s' t' runs => repBoundP L p s' t' ∧ ∀ r ∈ runs, repQ c L r)
      (finished := fun _ => ⟨hp.2, nofun⟩) (cancelled := fun _ _ => ⟨Or.inl rfl, nofun⟩)
      (arm := fun d hd _ _ => ⟨Or.inr (keep hd fun tm due h => by
        rw [setTask_tdue, registerTimer_tdue]; exact newTimer_tdue_old _ _ _ _ _ h), nofun⟩)
      (waitOuter := fun tm hd _ _ _ _ => ⟨Or.inr (keep hd fun tm due h => by
        rw [setTask_tdue, registerTimer_tdue]; exact h), nofun⟩)
      (once := fun hd _ _ _ hrep => by
        obtain ⟨_, _, _, h1, _⟩ := keep (s' := s) hd fun _ _ h => h
        rw [hrep] at h1; cases h1)
      (waitPeriod := fun fur iv seq hd _ _ _ _ _ => ⟨Or.inr (keep hd fun tm due h => by
        rw [setTask_tdue, registerTimer_tdue]; exact h), nofun⟩)
      (lastTick := fun fur iv seq hd _ hod hr hrep hf _ => by
        obtain ⟨_, hc, hl⟩ := rep_fired wf hp hd hod hr hrep hf
        refine ⟨Or.inl rfl, fun r hr => ?_⟩
        rw [List.mem_singleton.mp hr]
        exact ⟨seq, rfl, hc, hl⟩)
      (tick := fun fur iv seq hd _ hod hr hrep hf _ => by
        obtain ⟨e, hc, hl⟩ := rep_fired wf hp hd hod hr hrep hf
        subst e
        refine ⟨Or.inr ⟨s.timers.length, seq + 1, s.now + iv, rfl, ?_,
          Nat.le_trans (hL seq) (Nat.add_le_add_right (Nat.max_le.mpr ⟨hl, hc⟩) iv)⟩, fun r hr => ?_⟩
        · rw [setTask_tdue, registerTimer_tdue, newTimer_tdue_new]
        · rw [List.mem_singleton.mp hr]
          exact ⟨seq, rfl, hc, hl⟩)
    rw [ht1] at ht2; cases ht2
    exact ⟨t1, ht1, ⟨he1, h2.1⟩, h2.2⟩

/-- What one action does to task `k` (record `t` before, `t'` in `s'` after, runs `rs`): no run of `k`;
    or the one run of a OnceTask; or tick `n`, after which the task is finished or waits for a fresh period timer. -/
def TaskEffect (s : Sched) (k : TaskId) (t : Task) (s' : Sched) (t' : Task) (rs : List Run) : Prop :=
  ((∀ r ∈ rs, r.task ≠ k) ∧ t'.rep = t.rep ∧ (t.done = true → t'.done = true)) ∨
  (rs = [{ task := k, seq := none, time := s.now }] ∧ t.rep = none ∧ t.done = false ∧ t'.done = true) ∨
  (∃ fur iv n, rs = [{ task := k, seq := some n, time := s.now }] ∧ t.rep = some (fur, iv, n) ∧ t.done = false ∧
    (t'.done = true ∨
      (t'.rep = some (s.timers.length, iv, n + 1) ∧ s'.tdue s.timers.length = some (s.now + iv))))

theorem exec_task_effect (s : Sched) (a : SAct) (k : TaskId) (t : Task) (ht : s.tasks[k]? = some t) :
    ∃ t', (s.exec a).1.tasks[k]? = some t' ∧ TaskEffect s k t (s.exec a).1 t' (s.exec a).2 := by
  rcases exec_task_cases s a k t ht with ⟨t', h1, ⟨w, hw⟩, h3⟩ | hc | ⟨c, hc⟩
  · exact ⟨t', h1, Or.inl ⟨h3, by subst hw; rfl, by subst hw; exact id⟩⟩
  · subst hc
    exact ⟨{ t with keepRunning := false, hasValue := false },
      cancel_get_self s k t ht, Or.inl ⟨nofun, rfl, id⟩⟩
  · subst hc
    rw [exec_poll]
    apply poll_task_elim s k c t ht (motive := TaskEffect s k t)
    case finished => exact fun _ => Or.inl ⟨nofun, rfl, id⟩
    case cancelled => exact fun _ _ => Or.inl ⟨nofun, rfl, fun _ => rfl⟩
    case arm => exact fun d hd _ _ => Or.inl ⟨nofun, rfl, fun h => by rw [hd] at h; cases h⟩
    case waitOuter => exact fun tm hd _ _ _ _ => Or.inl ⟨nofun, rfl, fun h => by rw [hd] at h; cases h⟩
    case waitPeriod => exact fun fur iv seq hd _ _ _ _ _ => Or.inl ⟨nofun, rfl, fun h => by rw [hd] at h; cases h⟩
    case once => exact fun hd _ _ _ hrep => Or.inr (Or.inl ⟨rfl, hrep, hd, rfl⟩)
    case lastTick =>
      exact fun fur iv seq hd _ _ _ hrep _ _ => Or.inr (Or.inr ⟨fur, iv, seq, rfl, hrep, hd, Or.inl rfl⟩)
    case tick =>
      intro fur iv seq hd _ _ _ hrep _ _
      refine Or.inr (Or.inr ⟨fur, iv, seq, rfl, hrep, hd, Or.inr ⟨rfl, ?_⟩⟩)
      rw [setTask_tdue, registerTimer_tdue, newTimer_tdue_new]

theorem runsOf_append (k : TaskId) (l1 l2 : List Run) :
    runsOf k (l1 ++ l2) = runsOf k l1 ++ runsOf k l2 := by simp [runsOf]
theorem runsOf_eq_nil (k : TaskId) (l : List Run) (h : ∀ r ∈ l, r.task ≠ k) : runsOf k l = [] := by
  simp only [runsOf, List.filter_eq_nil_iff]
  intro r hr; simpa using h r hr
theorem mem_runsOf (k : TaskId) (l : List Run) (r : Run) : r ∈ runsOf k l ↔ r ∈ l ∧ r.task = k := by
  simp [runsOf]
theorem runsOf_single (k : TaskId) (sq tm) :
    runsOf k [{ task := k, seq := sq, time := tm }] = [{ task := k, seq := sq, time := tm }] := by
  simp [runsOf]

/-- A cancelled or finished task never runs again. -/
theorem dead_no_runs (k : TaskId) (as : List SAct) (s : Sched) (wf : WF s) (t : Task)
    (ht : s.tasks[k]? = some t) (hd : t.keepRunning = false ∨ t.done = true) :
    runsOf k (execFrom s as).2 = [] := by
  apply runsOf_eq_nil
  intro r hr e
  obtain ⟨h1, h2, _⟩ := ((flags_inv k t).execFrom as s wf ⟨t, ht, rfl, id, id, id⟩).2 r hr e
  rcases hd with hd | hd
  · rw [hd] at h2; cases h2
  · rw [hd] at h1; cases h1

/-- A OnceTask runs at most once. -/
theorem once_count (k : TaskId) (as : List SAct) (s : Sched) (wf : WF s) (t : Task)
    (ht : s.tasks[k]? = some t) (hp : t.rep = none) :
    (runsOf k (execFrom s as).2).length ≤ 1 := by
  induction as generalizing s t with
  | nil => simp [runsOf]
  | cons a as ih =>
    have wf' := wf_exec s a wf
    rw [execFrom_cons, runsOf_append]
    obtain ⟨t', ht', h⟩ := exec_task_effect s a k t ht
    rcases h with ⟨h1, h2, _⟩ | ⟨h1, _, _, h4⟩ | ⟨fur, iv, n, _, h2, _⟩
    · rw [runsOf_eq_nil k _ h1]
      exact ih _ wf' t' ht' (h2.trans hp)
    · rw [h1, runsOf_single, dead_no_runs k as _ wf' t' ht' (Or.inr h4)]; simp
    · rw [hp] at h2; cases h2

def repAtP (n : Nat) (_ : Sched) (t : Task) : Prop := t.done = true ∨ ∃ fur iv, t.rep = some (fur, iv, n)

/-- The sequence numbers a RepeatTask hands to its ticks are consecutive. -/
theorem rep_seq (k : TaskId) (as : List SAct) (s : Sched) (n : Nat) (wf : WF s)
    (h : Holds (repAtP n) s k) :
    (runsOf k (execFrom s as).2).map (·.seq) =
      (List.range' n (runsOf k (execFrom s as).2).length).map some := by
  induction as generalizing s n with
  | nil => simp [runsOf]
  | cons a as ih =>
    obtain ⟨t, ht, hp⟩ := h
    have wf' := wf_exec s a wf
    rw [execFrom_cons, runsOf_append]
    obtain ⟨t', ht', h⟩ := exec_task_effect s a k t ht
    rcases h with ⟨h1, h2, h3⟩ | ⟨h1, h2, h3, h4⟩ | ⟨fur, iv, m, h1, h2, h3, h4⟩
    · rw [runsOf_eq_nil k _ h1]
      simp only [List.nil_append]
      apply ih _ n wf' ⟨t', ht', ?_⟩
      rcases hp with hp | ⟨fur, iv, hp⟩
      · exact Or.inl (h3 hp)
      · exact Or.inr ⟨fur, iv, by rw [h2]; exact hp⟩
    · rcases hp with hp | ⟨fur, iv, hp⟩
      · rw [h3] at hp; cases hp
      · rw [h2] at hp; cases hp
    · have e : m = n := by
        rcases hp with hp | ⟨fur', iv', hp⟩
        · rw [h3] at hp; cases hp
        · rw [h2] at hp; cases hp; rfl
      subst e
      rw [h1, runsOf_single]
      have ih' := ih (s.exec a).1 (m + 1) wf' ⟨t', ht', by
        rcases h4 with h4 | ⟨h4, _⟩
        · exact Or.inl h4
        · exact Or.inr ⟨_, _, h4⟩⟩
      simp only [List.singleton_append, List.map_cons, List.length_cons, List.range'_succ, ih']

/-- Consecutive (indeed any two) ticks of a RepeatTask are at least one period apart: the timer a
    tick creates is a bound for every later tick. -/
theorem rep_spacing (k : TaskId) (p : Nat) (as : List SAct) (s : Sched) (wf : WF s) {c : Nat} {L : Nat → Nat}
    (hL : LStep c L p) (h : Holds (repP c L p) s k) :
    List.Pairwise (fun r1 r2 : Run => r1.time + p ≤ r2.time) (runsOf k (execFrom s as).2) := by
  have hconst : ∀ B, LStep c (fun _ => B) p := fun B => .of_or fun _ => Or.inl (Nat.le_add_right _ _)
  induction as generalizing s with
  | nil => simp [runsOf]
  | cons a as ih =>
    have wf' := wf_exec s a wf
    have h' := ((rep_inv k c L p hL).exec s a wf h).1
    obtain ⟨t, ht, hp⟩ := h
    rw [execFrom_cons, runsOf_append]
    obtain ⟨t', ht', he⟩ := exec_task_effect s a k t ht
    rcases he with ⟨h1, _, _⟩ | ⟨h1, h2, h3, h4⟩ | ⟨fur, iv, m, h1, h2, h3, h4⟩
    · rw [runsOf_eq_nil k _ h1]; exact ih _ wf' h'
    · rw [h1, runsOf_single, dead_no_runs k as _ wf' t' ht' (Or.inr h4)]; simp
    · rw [h1, runsOf_single]
      rcases h4 with h4 | ⟨h4, h5⟩
      · rw [dead_no_runs k as _ wf' t' ht' (Or.inr h4)]; simp
      · have e : iv = p := by
          rcases hp.2 with hp | ⟨fur', seq', due, hp, _⟩
          · rw [h3] at hp; cases hp
          · rw [h2] at hp; cases hp; rfl
        subst e
        simp only [List.singleton_append, List.pairwise_cons]
        refine ⟨?_, ih _ wf' h'⟩
        intro r2 hr2
        rw [mem_runsOf] at hr2
        obtain ⟨t'', ht'', he', _⟩ := h'
        rw [ht'] at ht''; cases ht''
        have hlo : Holds (repP c (fun _ => s.now + iv) iv) (s.exec a).1 k :=
          ⟨t', ht', he', Or.inr ⟨_, _, _, h4, h5, Nat.le_refl _⟩⟩
        obtain ⟨_, _, _, hb⟩ := ((rep_inv k c _ iv (hconst _)).execFrom as _ wf' hlo).2 r2 hr2.1 hr2.2
        exact hb

end Sched

open Sched

theorem wf_stateAfter (as : List SAct) : Sched.WF (stateAfter as) := wf_execFrom _ as (wf_init 0)

theorem execAll_append (pre post : List SAct) :
    execAll (pre ++ post) =
      ((execFrom (stateAfter pre) post).1, runLog pre ++ (execFrom (stateAfter pre) post).2) :=
  execFrom_append _ pre post

theorem stateAfter_append (pre post : List SAct) :
    stateAfter (pre ++ post) = (execFrom (stateAfter pre) post).1 := by
  simp only [stateAfter, execAll_append]
theorem runLog_append (pre post : List SAct) :
    runLog (pre ++ post) = runLog pre ++ (execFrom (stateAfter pre) post).2 := by
  simp only [runLog, execAll_append]
theorem runLog_split (pre : List SAct) (a : SAct) (post : List SAct) :
    runLog (pre ++ a :: post) =
      runLog pre ++ (((stateAfter pre).exec a).2 ++ (execFrom ((stateAfter pre).exec a).1 post).2) := by
  rw [runLog_append, execFrom_cons]

/-- No run of a task before it is scheduled. -/
theorem runsOf_before (pre : List SAct) (k : Nat) (h : nextTask pre ≤ k) : runsOf k (runLog pre) = [] := by
  apply runsOf_eq_nil
  intro r hr e
  exact absurd (e ▸ (execFrom_runs _ pre r hr).1) (Nat.not_lt.mpr h)

theorem runsOf_split_new (pre : List SAct) (a : SAct) (post : List SAct)
    (ha : ((stateAfter pre).exec a).2 = []) :
    runsOf (nextTask pre) (runLog (pre ++ a :: post)) =
      runsOf (nextTask pre) (execFrom ((stateAfter pre).exec a).1 post).2 := by
  rw [runLog_split, runsOf_append, runsOf_before pre _ (Nat.le_refl _), ha]; rfl

end Rx.T
