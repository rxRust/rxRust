import RxModel.Lemmas.SubjectSteps
/-
  Threads and schedules of the step model: what a thread still has to run, what a
  schedule that lets one thread run for a while does, the no-panic invariant of all
  interleavings, and the log of a schedule.
-/
namespace Rx.Conc.SS
open Rx

variable {steps : Op → List Step}

/-- The sections a thread still has to run, in order. -/
def Thread.todo (steps : Op → List Step) (t : Thread) : List Step := t.cur ++ t.rest.flatMap steps

theorem pickOps_none : ∀ {ops : List Op}, pickOps steps ops = none →
    ops.flatMap steps = []
  | [], _ => rfl
  | op :: rest, h => by
    unfold pickOps at h
    split at h
    · cases h
    · next e => rw [List.flatMap_cons, e, List.nil_append, pickOps_none h]

theorem pickOps_some {x : Step} {t' : Thread} : ∀ {ops : List Op},
    pickOps steps ops = some (x, t') →
      (∃ op, steps op = x :: t'.cur) ∧ ops.flatMap steps = x :: t'.todo steps
  | [], h => by cases h
  | op :: rest, h => by
    unfold pickOps at h
    split at h
    · next e =>
      cases h
      exact ⟨⟨op, e⟩, by rw [List.flatMap_cons, e]; rfl⟩
    · next e =>
      rw [List.flatMap_cons, e, List.nil_append]
      exact pickOps_some h

theorem Thread.pick_none {t : Thread} (h : t.pick steps = none) :
    t.todo steps = [] := by
  obtain ⟨cur, rest⟩ := t
  cases cur with
  | nil => exact pickOps_none h
  | cons y cur => cases h

theorem Thread.pick_some {t t' : Thread} {x : Step}
    (h : t.pick steps = some (x, t')) : t.todo steps = x :: t'.todo steps := by
  obtain ⟨cur, rest⟩ := t
  cases cur with
  | nil => exact (pickOps_some h).2
  | cons y cur => cases h; rfl

theorem sched1_none {c : Cfg} {i : Nat} (h : c.ths[i]? = none) :
    c.sched1 steps i = c := by
  simp only [Cfg.sched1, h]

theorem sched1_idle {c : Cfg} {i : Nat} {t : Thread} (h : c.ths[i]? = some t)
    (hp : t.pick steps = none) : c.sched1 steps i = c := by
  simp only [Cfg.sched1, h, hp]

theorem sched1_run {c : Cfg} {i : Nat} {t t' : Thread} {x : Step}
    (h : c.ths[i]? = some t) (hp : t.pick steps = some (x, t')) :
    c.sched1 steps i = ⟨c.st.step x, c.ths.set i t'⟩ := by
  simp only [Cfg.sched1, h, hp]

theorem sched1_todo {c : Cfg} {i : Nat} {t : Thread} {x : Step} {r : List Step}
    (h : c.ths[i]? = some t) (ht : t.todo steps = x :: r) :
    ∃ t', c.sched1 steps i = ⟨c.st.step x, c.ths.set i t'⟩ ∧ t'.todo steps = r := by
  cases hp : t.pick steps with
  | none => rw [Thread.pick_none hp] at ht; cases ht
  | some p =>
    obtain ⟨y, t'⟩ := p
    rw [Thread.pick_some hp] at ht
    cases ht
    exact ⟨t', sched1_run h hp, rfl⟩

theorem exec_append (c : Cfg) (l₁ l₂ : List Nat) :
    exec steps c (l₁ ++ l₂) = exec steps (exec steps c l₁) l₂ :=
  List.foldl_append ..

theorem exec_replicate (i : Nat) : ∀ (n : Nat) (c : Cfg) (t : Thread),
    c.ths[i]? = some t → n ≤ (t.todo steps).length →
    ∃ t', exec steps c (List.replicate n i) = ⟨c.st.runSteps ((t.todo steps).take n), c.ths.set i t'⟩ ∧
      t'.todo steps = (t.todo steps).drop n
  | 0, c, t, h, _ => by
    obtain ⟨hi, rfl⟩ := List.getElem?_eq_some_iff.mp h
    exact ⟨_, by rw [List.set_getElem_self]; rfl, rfl⟩
  | n + 1, c, t, h, hn => by
    obtain ⟨x, r, e⟩ : ∃ x r, t.todo steps = x :: r := by
      cases ht : t.todo steps with
      | nil => rw [ht] at hn; cases hn
      | cons x r => exact ⟨x, r, rfl⟩
    obtain ⟨t₁, e₁, ht₁⟩ := sched1_todo h e
    have hi : i < c.ths.length := (List.getElem?_eq_some_iff.mp h).1
    have h₁ : (c.sched1 steps i).ths[i]? = some t₁ := by
      rw [e₁]; exact List.getElem?_set_self hi
    rw [e] at hn
    obtain ⟨t', e', ht'⟩ := exec_replicate i n (c.sched1 steps i) t₁ h₁
      (by rw [ht₁]; exact Nat.le_of_succ_le_succ hn)
    refine ⟨t', ?_, by rw [ht', ht₁, e]; rfl⟩
    show exec steps (c.sched1 steps i) (List.replicate n i) = _
    rw [e', ht₁, e, e₁, List.set_set]
    rfl

theorem exec_single (s : St) (t : Thread) :
    (exec steps ⟨s, [t]⟩ (List.replicate (t.todo steps).length 0)).st = s.runSteps (t.todo steps) := by
  obtain ⟨t', e, -⟩ := exec_replicate (steps := steps) 0 _ ⟨s, [t]⟩ t rfl (Nat.le_refl _)
  rw [e, List.take_length]

theorem exec_preempt_once (s : St) (as bs : List Op) (k : Nat)
    (hk : k ≤ (as.flatMap steps).length) :
    (exec steps ⟨s, [⟨[], as⟩, ⟨[], bs⟩]⟩
        (List.replicate k 0 ++ List.replicate (bs.flatMap steps).length 1 ++
          List.replicate ((as.flatMap steps).length - k) 0)).st =
      ((s.runSteps ((as.flatMap steps).take k)).runSteps (bs.flatMap steps)).runSteps
        ((as.flatMap steps).drop k) := by
  -- the three stretches one after the other; `todo ⟨[], ops⟩` is `ops.flatMap steps` by computation
  obtain ⟨ta, (e₁ : exec steps _ _ = ⟨s.runSteps ((as.flatMap steps).take k), [ta, ⟨[], bs⟩]⟩),
      (ha : ta.todo steps = (as.flatMap steps).drop k)⟩ :=
    exec_replicate (steps := steps) 0 k ⟨s, [⟨[], as⟩, ⟨[], bs⟩]⟩ ⟨[], as⟩ rfl hk
  obtain ⟨tb, (e₂ : exec steps _ _ = ⟨(s.runSteps ((as.flatMap steps).take k)).runSteps
        ((bs.flatMap steps).take (bs.flatMap steps).length), [ta, tb]⟩), -⟩ :=
    exec_replicate (steps := steps) 1 (bs.flatMap steps).length
      ⟨s.runSteps ((as.flatMap steps).take k), [ta, ⟨[], bs⟩]⟩ ⟨[], bs⟩ rfl (Nat.le_refl _)
  obtain ⟨ta', e₃, -⟩ := exec_replicate (steps := steps) 0 ((as.flatMap steps).length - k)
    ⟨(s.runSteps ((as.flatMap steps).take k)).runSteps
      ((bs.flatMap steps).take (bs.flatMap steps).length), [ta, tb]⟩ ta rfl
    (by rw [ha, List.length_drop]; exact Nat.le_refl _)
  rw [exec_append, exec_append, e₁, e₂, e₃, ha, List.take_length, ← List.length_drop, List.take_length]

theorem exec_induct {P : Cfg → Prop}
    (hP : ∀ c i, P c → P (c.sched1 steps i)) (sched : List Nat) : ∀ {c : Cfg}, P c → P (exec steps c sched) := by
  induction sched with
  | nil => intro c h; exact h
  | cons i r ih => intro c h; exact ih (hP c i h)

theorem Op.steps_takeChamber {op : Op} {x : Step} {cur : List Step} (h : op.steps = x :: cur) :
    x ≠ .takeChamber ∧ (.takeChamber ∈ cur → x = .takeObs) := by
  cases op <;> cases h <;> exact ⟨nofun, by simp⟩

theorem pick_takeChamber {s : St} (np : s.panicked = false) {t t' : Thread} {x : Step}
    (ht : .takeChamber ∈ t.cur → s.obs = none) (hp : t.pick Op.steps = some (x, t')) :
    (x = .takeChamber → s.obs = none) ∧ (.takeChamber ∈ t'.cur → (s.step x).obs = none) := by
  obtain ⟨cur, rest⟩ := t
  cases cur with
  | nil =>
    obtain ⟨op, e⟩ := (pickOps_some hp).1
    obtain ⟨h₁, h₂⟩ := Op.steps_takeChamber e
    refine ⟨fun e => absurd e h₁, fun hm => ?_⟩
    rw [h₂ hm]
    exact step_takeObs_obs np
  | cons y cur =>
    cases hp
    exact ⟨fun e => ht (e ▸ List.mem_cons_self ..),
      fun hm => step_obs_none s x (ht (List.mem_cons_of_mem _ hm))⟩

/-- The invariant of all interleavings: no panic, `ChamberOutlives`, and a thread that still has `takeChamber` to run
    has already emptied `observers` with its own `takeObs` (so its `takeChamber` is guarded as `step_no_panic` asks). -/
structure Inv (c : Cfg) : Prop where
  np : c.st.panicked = false
  oc : ChamberOutlives c.st
  th : ∀ t ∈ c.ths, .takeChamber ∈ t.cur → c.st.obs = none

theorem Inv.init (progs : List (List Op)) : Inv (Cfg.init progs) := by
  refine ⟨rfl, Or.inr nofun, fun t ht hm => ?_⟩
  obtain ⟨_, _, rfl⟩ := List.mem_map.mp ht
  cases hm

theorem Inv.sched1 {c : Cfg} (h : Inv c) (i : Nat) : Inv (c.sched1 Op.steps i) := by
  cases hi : c.ths[i]? with
  | none => rw [sched1_none hi]; exact h
  | some t =>
    cases hp : t.pick Op.steps with
    | none => rw [sched1_idle hi hp]; exact h
    | some r =>
      obtain ⟨x, t'⟩ := r
      rw [sched1_run hi hp]
      obtain ⟨hx, ht'⟩ := pick_takeChamber h.np (h.th t (List.mem_of_getElem? hi)) hp
      obtain ⟨np, oc⟩ := step_no_panic c.st x h.np h.oc hx
      refine ⟨np, oc, fun u hu hm => ?_⟩
      rcases List.mem_or_eq_of_mem_set hu with hu | rfl
      · exact step_obs_none _ x (h.th u hu hm)
      · exact ht' hm

theorem Inv.exec (sched : List Nat) {c : Cfg} (h : Inv c) : Inv (exec Op.steps c sched) :=
  exec_induct (fun _ i h => h.sched1 i) sched h

theorem sched1_st (c : Cfg) (i : Nat) :
    (c.sched1 steps i).st = match c.next? steps i with
      | some x => c.st.step x
      | none => c.st := by
  unfold Cfg.sched1 Cfg.next?
  cases c.ths[i]? with
  | none => rfl
  | some t =>
    simp only
    cases t.pick steps with
    | none => rfl
    | some r => rfl

theorem Reach.sched1 {c : Cfg} (h : Reach c.st) (i : Nat) :
    Reach (c.sched1 steps i).st := by
  rw [sched1_st]
  split
  · exact h.step _
  · exact h

theorem Reach.exec (sched : List Nat) {c : Cfg} (h : Reach c.st) :
    Reach (exec steps c sched).st :=
  exec_induct (P := fun c => Reach c.st) (fun _ i h => h.sched1 i) sched h

theorem trace_cons (c : Cfg) (i : Nat) (r : List Nat) :
    trace steps c (i :: r) = match c.next? steps i with
      | some x => (c.st, x) :: trace steps (c.sched1 steps i) r
      | none => trace steps (c.sched1 steps i) r := rfl

theorem exec_log (sched : List Nat) : ∀ (c : Cfg),
    (exec steps c sched).st.log = c.st.log ++ (trace steps c sched).flatMap (fun p => p.1.emits p.2) := by
  induction sched with
  | nil => intro c; simp [exec, trace]
  | cons i r ih =>
    intro c
    show (exec steps (c.sched1 steps i) r).st.log = _
    rw [ih, sched1_st, trace_cons]
    cases c.next? steps i with
    | none => rfl
    | some x => simp [step_log, List.append_assoc]

theorem trace_reach (steps : Op → List Step) (sched : List Nat) : ∀ (c : Cfg), Reach c.st →
    ∀ p ∈ trace steps c sched, Reach p.1 := by
  induction sched with
  | nil => intro c _ p hp; cases hp
  | cons i r ih =>
    intro c hc p hp
    rw [trace_cons] at hp
    split at hp
    · rcases List.mem_cons.mp hp with rfl | hp
      · exact hc
      · exact ih _ (hc.sched1 i) p hp
    · exact ih _ (hc.sched1 i) p hp

end Rx.Conc.SS
