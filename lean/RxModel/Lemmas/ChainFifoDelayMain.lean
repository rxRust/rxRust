import RxModel.Lemmas.ChainFifoDelaySim
/-
  C07 (FIFO clause), `delay d`: the closed-form description (`Ghost`) of what the model
  delivers, the proof that the abstract machine `DA` (hence the chain model) follows it,
  and the theorems about the chain model.

  `Ghost` only stamps the gated script with clock values:
    te = clock at emission, ta = clock at the first `run` after the emission
    (the task's first poll: the delay timer is created THEN, due at ta + d),
    horizon = clock at the latest `run` (frozen once the source has failed).
  Delivered = the stamps with `ta + d ≤ horizon`, then the error if the source failed:
  `delay` forwards an error at once and closes its slot, which cuts off the items still pending.
-/
namespace Rx.T.Del
open Rx Rx.T

structure Ghost where
  clock : Nat := 0
  term : Bool := false          -- a terminal has been emitted on subject 0
  q : List Stamp := []          -- the gated script (without a final error), stamped
  err : Option Err := none      -- the error that ended the script
  horizon : Nat := 0            -- clock at the latest `run` (before the error, if any)

def Stamp.arm (c : Nat) (s : Stamp) : Stamp := { s with ta := some (s.ta.getD c) }

def Ghost.step (g : Ghost) : TW.Ev → Ghost
  | .emit i n =>
    if i ≠ 0 ∨ g.term then g
    else match n with
      | .error e => { g with term := true, err := some e }
      | n => { g with term := n.isTerm, q := g.q ++ [⟨n, g.clock, none⟩] }
  | .adv k => { g with clock := g.clock + k }
  | .run => if g.err.isSome then g else { g with q := g.q.map (Stamp.arm g.clock), horizon := g.clock }
  | _ => g

theorem Ghost.step_emit_item (g : Ghost) (n : Notif) (hT : g.term = false) (hn : ∀ e, n ≠ .error e) :
    g.step (.emit 0 n) = { g with term := n.isTerm, q := g.q ++ [⟨n, g.clock, none⟩] } := by
  cases n with
  | error e => exact absurd rfl (hn e)
  | _ => simp [Ghost.step, hT]

/-- The stamp's timer was armed and its delay was over at a `run` (clock `h`). -/
def Stamp.delivered (d h : Nat) (s : Stamp) : Bool :=
  match s.ta with
  | some a => decide (a + d ≤ h)
  | none => false

def Ghost.errPart (g : Ghost) : List Notif :=
  match g.err with
  | some e => [.error e]
  | none => []

/-- What the probe has received. -/
def Ghost.log (d : Nat) (g : Ghost) : List Notif :=
  (g.q.filter (Stamp.delivered d g.horizon)).map (·.n) ++ g.errPart

/-- The state between two events while the source has not failed. -/
structure Quiet (d : Nat) (g : Ghost) (a : DA) (D A : List DE) : Prop where
  core : Core d g.horizon stF g.q a D A
  nd : ∀ e ∈ A, g.horizon < e.ta + d
  hc : g.horizon ≤ g.clock
  term : g.term = terminated (g.q.map (·.n))

def GInv (d : Nat) (g : Ghost) (a : DA) : Prop :=
  a.now = g.clock ∧ a.term = g.term ∧
    ((g.err = none ∧ ∃ D A, Quiet d g a D A) ∨
     (∃ e pre, g.err = some e ∧ a.alive = false ∧ g.term = true ∧ a.log = g.log d ∧
        pre <+: g.q.map (·.n) ∧ a.log = pre ++ [.error e]))

theorem Core.congr {d c : Nat} {sf} {gq : List Stamp} {a : DA} {D A : List DE} (h : Core d c sf gq a D A)
    (a' : DA) (hq : a'.q = a.q) (hF : a'.F = a.F) (hal : a'.alive = a.alive) (hlog : a'.log = a.log) :
    Core d c sf gq a' D A :=
  { q := hq ▸ h.q, gqe := hF ▸ h.gqe, dD := h.dD, dA := h.dA, sorted := h.sorted,
    alive := hal ▸ h.alive, wf := h.wf, log := hlog ▸ h.log }

theorem filter_delivered_quiet (d : Nat) (g : Ghost) (a : DA) (D A : List DE) (h : Quiet d g a D A) :
    (g.q.filter (Stamp.delivered d g.horizon)).map (·.n) = D.map (·.n) := by
  rw [h.core.gqe, List.filter_append, List.filter_append]
  have h1 : (D.map stD).filter (Stamp.delivered d g.horizon) = D.map stD := by
    rw [List.filter_eq_self]
    intro s hs; simp only [List.mem_map] at hs; obtain ⟨e, he, rfl⟩ := hs
    have := h.core.dD e he
    simp [Stamp.delivered, stD, this]
  have h2 : (A.map stD).filter (Stamp.delivered d g.horizon) = [] := by
    rw [List.filter_eq_nil_iff]
    intro s hs; simp only [List.mem_map] at hs; obtain ⟨e, he, rfl⟩ := hs
    have := h.nd e he
    simp only [Stamp.delivered, stD, decide_eq_true_eq]; omega
  have h3 : (a.F.map stF).filter (Stamp.delivered d g.horizon) = [] := by
    rw [List.filter_eq_nil_iff]
    intro s hs; simp only [List.mem_map] at hs; obtain ⟨e, he, rfl⟩ := hs
    simp [Stamp.delivered, stF]
  rw [h1, h2, h3]
  simp [stD, Function.comp_def]

theorem log_of_GInv (d : Nat) (g : Ghost) (a : DA) (h : GInv d g a) : a.log = g.log d := by
  obtain ⟨_, _, h | h⟩ := h
  · obtain ⟨he, D, A, hq⟩ := h
    simp only [Ghost.log, Ghost.errPart, he, List.append_nil, filter_delivered_quiet d g a D A hq]
    exact hq.core.log
  · obtain ⟨e, pre, _, _, _, hl, _⟩ := h; exact hl

theorem aLoop_dead (d : Nat) : ∀ (f : Nat) (a : DA), a.alive = false →
    (aLoop d f a).alive = false ∧ (aLoop d f a).log = a.log := by
  intro f
  induction f with
  | zero => intro a h; exact ⟨h, rfl⟩
  | succ f ih =>
    intro a h
    simp only [aLoop]
    split
    · exact ⟨h, rfl⟩
    · have h1 : ((a.fire d).poll).alive = false := by
        simp [DA.poll, DA.fire, h, deliver_false]
      have h2 : ((a.fire d).poll).log = a.log := by
        simp [DA.poll, DA.fire, h, deliver_false]
      obtain ⟨h3, h4⟩ := ih _ h1
      exact ⟨h3, by rw [h4, h2]⟩

theorem map_arm_stamps (c : Nat) (D A : List DE) (F : List FE) :
    (D.map stD ++ A.map stD ++ F.map stF).map (Stamp.arm c) = D.map stD ++ A.map stD ++ F.map (stC c) := by
  simp only [List.map_append, List.map_map]
  congr 1

theorem map_arm_n (c : Nat) (q : List Stamp) : (q.map (Stamp.arm c)).map (·.n) = q.map (·.n) := by
  rw [List.map_map]; rfl

theorem Quiet.alive_open {d : Nat} {g : Ghost} {a : DA} {D A : List DE} (hq : Quiet d g a D A)
    (hT : g.term = false) : a.alive = true := by
  have hnt : terminated (g.q.map (·.n)) = false := by rw [← hq.term, hT]
  rw [hq.core.gqe] at hnt
  simp only [List.map_append, terminated_append, Bool.or_eq_false_iff] at hnt
  have hDn : terminated (D.map (·.n)) = false := by simpa [stD, Function.comp_def] using hnt.1.1
  rw [hq.core.alive, hDn]; rfl

theorem GInv_step (d : Nat) (g : Ghost) (a : DA) (ev : TW.Ev) (hev : FifoEv ev) (h : GInv d g a) :
    GInv d (g.step ev) (a.step d ev) := by
  obtain ⟨hnow, hterm, hcase⟩ := h
  cases hev with
  | adv k =>
    refine ⟨by simp [DA.step, Ghost.step, hnow], hterm, ?_⟩
    rcases hcase with ⟨he, D, A, hq⟩ | ⟨e, pre, h1, h2, h3, h4, h5, h6⟩
    · exact Or.inl ⟨he, D, A, ⟨hq.core.congr _ rfl rfl rfl rfl, hq.nd, Nat.le_trans hq.hc (Nat.le_add_right _ _), hq.term⟩⟩
    · exact Or.inr ⟨e, pre, h1, h2, h3, h4, h5, h6⟩
  | run =>
    rcases hcase with ⟨he, D, A, hq⟩ | ⟨e, pre, h1, h2, h3, h4, h5, h6⟩
    · -- the source has not failed: arm, fire, run in FIFO shape
      have hg : g.step .run = { g with q := g.q.map (Stamp.arm g.clock), horizon := g.clock } := by
        simp [Ghost.step, he]
      have hcore : Core d g.clock (stC g.clock) (g.q.map (Stamp.arm g.clock)) a D A :=
        { hq.core with
          gqe := by rw [hq.core.gqe]; exact map_arm_stamps _ _ _ _
          dD := fun e he' => Nat.le_trans (hq.core.dD e he') hq.hc
          dA := fun e he' => Nat.le_trans (hq.core.dA e he') hq.hc
          wf := by rw [map_arm_n]; exact hq.core.wf }
      obtain ⟨D', A', hc', hF', hnd'⟩ := loop_core d g.clock _ a D A hcore hnow 9997
      -- `DA.step .run` is `aLoop d 10000`, the fuel of `TW.step .run`; `loop_core` needs three passes
      have hstep : a.step d .run = aLoop d (9997 + 3) a := rfl
      rw [hg, hstep]
      refine ⟨by rw [aLoop_now]; exact hnow, by rw [aLoop_term]; exact hterm, Or.inl ⟨he, D', A', ?_⟩⟩
      exact
        { core :=
            { hc' with gqe := by have := hc'.gqe; rw [hF'] at this ⊢; simpa using this }
          nd := hnd'
          hc := Nat.le_refl _
          term := by show g.term = _; rw [map_arm_n]; exact hq.term }
    · -- the source has failed: the slot is closed, nothing is delivered any more
      have hg : g.step .run = g := by simp [Ghost.step, h1]
      obtain ⟨hd1, hd2⟩ := aLoop_dead d 10000 a h2
      rw [hg]
      refine ⟨by show (aLoop d 10000 a).now = _; rw [aLoop_now]; exact hnow,
        by show (aLoop d 10000 a).term = _; rw [aLoop_term]; exact hterm, Or.inr ⟨e, pre, h1, hd1, h3, ?_, h5, ?_⟩⟩
      · show (aLoop d 10000 a).log = _; rw [hd2]; exact h4
      · show (aLoop d 10000 a).log = _; rw [hd2]; exact h6
  | emit i n =>
    by_cases hi : i = 0
    · subst hi
      cases hT : g.term with
      | true =>
        have hT' : a.term = true := by rw [hterm, hT]
        have h1 : g.step (.emit 0 n) = g := by simp [Ghost.step, hT]
        have h2 : a.step d (.emit 0 n) = a := by simp [DA.step, hT']
        rw [h1, h2]; exact ⟨hnow, hterm, hcase⟩
      | false =>
        have hT' : a.term = false := by rw [hterm, hT]
        rcases hcase with ⟨he, D, A, hq⟩ | ⟨e, pre, h1, h2, h3, h4, h5, h6⟩
        · have hnt : terminated (g.q.map (·.n)) = false := by rw [← hq.term, hT]
          have hal : a.alive = true := hq.alive_open hT
          have hlog := log_of_GInv d g a ⟨hnow, hterm, Or.inl ⟨he, D, A, hq⟩⟩
          rcases error_or n with ⟨e, rfl⟩ | hn
          · have h1 : g.step (.emit 0 (.error e)) = { g with term := true, err := some e } := by
              simp [Ghost.step, hT]
            have h2 : a.step d (.emit 0 (.error e)) =
                { a with alive := false, log := a.log ++ [.error e], term := true } := by
              simp [DA.step, hT', hal]
            rw [h1, h2]
            refine ⟨hnow, rfl, Or.inr ⟨e, D.map (·.n), rfl, rfl, rfl, ?_, ?_, ?_⟩⟩
            · show a.log ++ [Notif.error e] = _
              rw [hlog]; simp [Ghost.log, Ghost.errPart, he]
            · show D.map (·.n) <+: g.q.map (·.n)
              rw [hq.core.gqe]
              simp only [List.map_append, List.append_assoc]
              have : (D.map stD).map (·.n) = D.map (·.n) := by simp [stD, Function.comp_def]
              rw [this]; exact List.prefix_append _ _
            · show a.log ++ [Notif.error e] = _
              rw [hq.core.log]
          · rw [g.step_emit_item n hT hn, a.step_emit_item d n hT' hn]
            refine ⟨hnow, rfl, Or.inl ⟨he, D, A, ?_⟩⟩
            exact
              { core :=
                  { hq.core with
                    gqe := by
                      show g.q ++ _ = _
                      rw [hq.core.gqe]; simp [stF, hnow]
                    wf := by
                      show WF ((g.q ++ _).map (·.n))
                      rw [List.map_append]
                      exact WF_append hq.core.wf hnt (WF_single _) }
                nd := hq.nd, hc := hq.hc
                term := by
                  show n.isTerm = terminated ((g.q ++ _).map (·.n))
                  simp [terminated_append, hnt, terminated_single] }
        · rw [hT] at h3; cases h3
    · have h1 : g.step (.emit i n) = g := by simp [Ghost.step, hi]
      have h2 : a.step d (.emit i n) = a := by simp [DA.step, hi]
      rw [h1, h2]; exact ⟨hnow, hterm, hcase⟩

theorem GInv_init (d : Nat) : GInv d {} {} :=
  ⟨rfl, rfl, Or.inl ⟨rfl, [], [],
    { core := { q := rfl, gqe := rfl, dD := by simp, dA := by simp, sorted := List.Pairwise.nil,
                alive := rfl, wf := trivial, log := rfl }
      nd := by simp, hc := Nat.le_refl _, term := rfl }⟩⟩

/-- The world of the statement: `delay d` over the hot subject 0. -/
def w₀ (d : Nat) : TW := { src := .hot 0, stages := [.delay d true (some [])] }

/-- The closed-form description after a list of events. -/
def ghost (evs : List TW.Ev) : Ghost := evs.foldl Ghost.step {}

theorem RD_init (d : Nat) : RD d {} ((w₀ d).step .sub) :=
  ⟨(w₀ d).step .sub, some [], rfl, rfl, rfl, fun _ => rfl, rfl⟩

theorem delay_main (d : Nat) (evs : List TW.Ev) (hall : ∀ e ∈ evs, FifoEv e) :
    ∃ a : DA, RD d a (evs.foldl TW.step ((w₀ d).step .sub)) ∧ GInv d (ghost evs) a :=
  fold_indexed Ghost.step TW.step (fun g w => ∃ a, RD d a w ∧ GInv d g a)
    (fun g w e he ⟨a, hr, hi⟩ => ⟨a.step d e, step_sim d a w e he hr, GInv_step d g a e he hi⟩)
    evs {} _ hall ⟨{}, RD_init d, GInv_init d⟩

theorem RD_log {d : Nat} {a : DA} {w : TW} (h : RD d a w) : w.log = a.log := by
  obtain ⟨base, m, rfl, _⟩ := h; rfl
theorem RD_now {d : Nat} {a : DA} {w : TW} (h : RD d a w) : w.sched.now = a.now := by
  obtain ⟨base, m, rfl, _⟩ := h; rfl

/-- The model delivers exactly what the closed form says, and its clock is the ghost clock. -/
theorem delay_log (d : Nat) (evs : List TW.Ev) (hall : ∀ e ∈ evs, FifoEv e) :
    (evs.foldl TW.step ((w₀ d).step .sub)).log = (ghost evs).log d ∧
    (evs.foldl TW.step ((w₀ d).step .sub)).sched.now = (ghost evs).clock := by
  obtain ⟨a, hr, hi⟩ := delay_main d evs hall
  exact ⟨by rw [RD_log hr]; exact log_of_GInv d _ a hi, by rw [RD_now hr]; exact hi.1⟩

structure GI (g : Ghost) (s : List Notif) : Prop where
  gate : g.q.map (·.n) ++ g.errPart = gate s
  term : g.term = terminated s
  errT : g.err.isSome = true → g.term = true
  times : ∀ st ∈ g.q, st.te ≤ g.clock ∧ ∀ a, st.ta = some a → st.te ≤ a ∧ a ≤ g.horizon
  hc : g.horizon ≤ g.clock

theorem GI_step (g : Ghost) (s : List Notif) (ev : TW.Ev) (hev : FifoEv ev) (h : GI g s) :
    GI (g.step ev) (s ++ scriptOf ev) := by
  cases hev with
  | adv k =>
    simp only [scriptOf, List.append_nil]
    exact ⟨h.gate, h.term, h.errT,
      fun st hst => ⟨Nat.le_trans (h.times st hst).1 (Nat.le_add_right _ _), (h.times st hst).2⟩,
      Nat.le_trans h.hc (Nat.le_add_right _ _)⟩
  | run =>
    simp only [scriptOf, List.append_nil, Ghost.step]
    split
    · exact h
    · refine ⟨?_, h.term, h.errT, ?_, Nat.le_refl _⟩
      · show (g.q.map (Stamp.arm g.clock)).map (·.n) ++ _ = _
        rw [map_arm_n]; exact h.gate
      · intro st hst
        simp only [List.mem_map] at hst
        obtain ⟨st0, hst0, rfl⟩ := hst
        obtain ⟨h1, h2⟩ := h.times st0 hst0
        refine ⟨h1, ?_⟩
        intro a ha
        simp only [Stamp.arm, Option.some.injEq] at ha
        cases hta : st0.ta with
        | none => rw [hta] at ha; simp at ha; subst ha; exact ⟨h1, Nat.le_refl _⟩
        | some b =>
          rw [hta] at ha; simp at ha; subst ha
          exact ⟨(h2 b hta).1, Nat.le_trans (h2 b hta).2 h.hc⟩
  | emit i n =>
    by_cases hi : i = 0
    · subst hi
      cases hT : g.term with
      | true =>
        have h1 : g.step (.emit 0 n) = g := by simp [Ghost.step, hT]
        have hts : terminated s = true := by rw [← h.term, hT]
        rw [h1]
        exact ⟨by simp [scriptOf, gate_append_of_terminated _ _ hts, h.gate],
          by simp [scriptOf, terminated_append, hts, hT], h.errT, h.times, h.hc⟩
      | false =>
        have hts : terminated s = false := by rw [← h.term, hT]
        have hgs : Rx.gate s = s := gate_eq_self_of_not_terminated s hts
        have herr : g.err = none := by
          cases he : g.err with
          | none => rfl
          | some e => have := h.errT (by simp [he]); rw [hT] at this; cases this
        have hq : g.q.map (·.n) = s := by
          have := h.gate; simpa [Ghost.errPart, herr, hgs] using this
        have hgate : ∀ n : Notif, Rx.gate (s ++ [n]) = s ++ [n] := by
          intro n; rw [gate_append_of_not_terminated _ _ hts]; cases n <;> rfl
        rcases error_or n with ⟨e, rfl⟩ | hn
        · have h1 : g.step (.emit 0 (.error e)) = { g with term := true, err := some e } := by
            simp [Ghost.step, hT]
          rw [h1]
          refine ⟨?_, ?_, fun _ => rfl, h.times, h.hc⟩
          · simp [scriptOf, hgate, Ghost.errPart, hq]
          · simp [scriptOf, terminated_append, hts, terminated]
        · rw [g.step_emit_item n hT hn]
          refine ⟨?_, ?_, ?_, ?_, h.hc⟩
          · simp [scriptOf, hgate, Ghost.errPart, herr, hq]
          · simp [scriptOf, terminated_append, hts, terminated_single]
          · intro he; simp [herr] at he
          · intro st hst
            rcases List.mem_append.mp hst with hst | hst
            · exact h.times st hst
            · simp only [List.mem_singleton] at hst; subst hst
              exact ⟨Nat.le_refl _, fun a ha => by cases ha⟩
    · have h1 : g.step (.emit i n) = g := by simp [Ghost.step, hi]
      rw [h1]; simpa [scriptOf, hi] using h

theorem GI_ghost (evs : List TW.Ev) (hall : ∀ e ∈ evs, FifoEv e) : GI (ghost evs) (script evs) := by
  have := fold_indexed (fun s e => s ++ scriptOf e) Ghost.step (fun s g => GI g s)
    (fun s g e he h => GI_step g s e he h) evs [] {} hall ⟨rfl, rfl, by simp, by simp, Nat.le_refl _⟩
  rwa [foldl_script, List.nil_append] at this

/-- Never early: a delivered notification was emitted at least `d` before the current clock. -/
theorem never_early (d : Nat) (evs : List TW.Ev) (hall : ∀ e ∈ evs, FifoEv e) :
    ∀ st ∈ (ghost evs).q, st.delivered d (ghost evs).horizon = true → st.te + d ≤ (ghost evs).clock := by
  intro st hst hd
  have hg := GI_ghost evs hall
  obtain ⟨_, h2⟩ := hg.times st hst
  cases hta : st.ta with
  | none => simp [Stamp.delivered, hta] at hd
  | some a =>
    simp only [Stamp.delivered, hta, decide_eq_true_eq] at hd
    have := h2 a hta
    have := hg.hc
    omega

/-- Order: the log is a prefix of the gated script, or (the source has failed) a prefix of it
    followed by the script's error. -/
theorem delay_order (d : Nat) (evs : List TW.Ev) (hall : ∀ e ∈ evs, FifoEv e) :
    ∃ pre, pre <+: Rx.gate (script evs) ∧
      ((evs.foldl TW.step ((w₀ d).step .sub)).log = pre ∨
       ∃ e, (Rx.gate (script evs)).getLast? = some (.error e) ∧
         (evs.foldl TW.step ((w₀ d).step .sub)).log = pre ++ [.error e]) := by
  obtain ⟨a, hr, hi⟩ := delay_main d evs hall
  have hg := GI_ghost evs hall
  rw [RD_log hr]
  obtain ⟨_, _, h | h⟩ := hi
  · obtain ⟨he, D, A, hq⟩ := h
    refine ⟨a.log, ?_, Or.inl rfl⟩
    rw [← hg.gate, hq.core.log, hq.core.gqe]
    simp only [List.map_append, List.append_assoc]
    have : (D.map stD).map (·.n) = D.map (·.n) := by simp [stD, Function.comp_def]
    rw [this]; exact List.prefix_append _ _
  · obtain ⟨e, pre, he, _, _, _, hp, hl⟩ := h
    refine ⟨pre, ?_, Or.inr ⟨e, ?_, hl⟩⟩
    · rw [← hg.gate]; exact List.IsPrefix.trans hp (List.prefix_append _ _)
    · rw [← hg.gate]; simp [Ghost.errPart, he]

/-- After a `run`, while the source has not failed: every stamp is armed and the horizon is the clock. -/
theorem after_run (evs : List TW.Ev) (he : (ghost (evs ++ [TW.Ev.run])).err = none) :
    (ghost (evs ++ [TW.Ev.run])).horizon = (ghost (evs ++ [TW.Ev.run])).clock ∧
    ∀ st ∈ (ghost (evs ++ [TW.Ev.run])).q, st.ta ≠ none := by
  have hstep : ghost (evs ++ [TW.Ev.run]) = (ghost evs).step .run := by
    simp [ghost, List.foldl_append]
  rw [hstep] at he ⊢
  cases hE : (ghost evs).err with
  | some e => simp [Ghost.step, hE] at he
  | none =>
    simp only [Ghost.step, hE, Option.isSome_none, Bool.false_eq_true, if_false]
    refine ⟨trivial, ?_⟩
    intro st hst
    simp only [List.mem_map] at hst
    obtain ⟨s0, _, rfl⟩ := hst
    simp [Stamp.arm]

/-- `delay 0` after a `run`, source not failed: everything emitted has been delivered. -/
theorem delay0_all (evs : List TW.Ev) (hall : ∀ e ∈ evs, FifoEv e)
    (he : (ghost (evs ++ [TW.Ev.run])).err = none) :
    ((evs ++ [TW.Ev.run]).foldl TW.step ((w₀ 0).step .sub)).log = Rx.gate (script (evs ++ [TW.Ev.run])) := by
  have hall' := fifo_append hall (fifo_single .run)
  have hg := GI_ghost _ hall'
  obtain ⟨_, harmed⟩ := after_run evs he
  rw [(delay_log 0 _ hall').1, ← hg.gate]
  simp only [Ghost.log]
  congr 2
  rw [List.filter_eq_self]
  intro st hst
  cases hta : st.ta with
  | none => exact absurd hta (harmed st hst)
  | some a =>
    have := ((hg.times st hst).2 a hta).2
    simp [Stamp.delivered, hta, this]

/-- A prompt executor: every emission is immediately followed by a `run` (so each task is
    polled, and its delay timer armed, at the clock value of its emission). -/
inductive Prompt : List TW.Ev → Prop
  | nil : Prompt []
  | adv (k r) : Prompt r → Prompt (.adv k :: r)
  | run (r) : Prompt r → Prompt (.run :: r)
  | emit (i n r) : Prompt r → Prompt (.emit i n :: .run :: r)

theorem Prompt.fifo : ∀ {evs : List TW.Ev}, Prompt evs → ∀ e ∈ evs, FifoEv e := by
  intro evs h
  induction h with
  | nil => intro e he; cases he
  | adv k r _ ih =>
    intro e he
    rcases List.mem_cons.mp he with rfl | he
    · exact .adv k
    · exact ih e he
  | run r _ ih =>
    intro e he
    rcases List.mem_cons.mp he with rfl | he
    · exact .run
    · exact ih e he
  | emit i n r _ ih =>
    intro e he
    rcases List.mem_cons.mp he with rfl | he
    · exact .emit i n
    · rcases List.mem_cons.mp he with rfl | he
      · exact .run
      · exact ih e he

def PI (g : Ghost) : Prop := (g.err.isSome = true → g.term = true) ∧ ∀ st ∈ g.q, st.ta = some st.te

theorem PI_run (g : Ghost) (h : PI g) : PI (g.step .run) := by
  simp only [Ghost.step]
  split
  · exact h
  · refine ⟨h.1, ?_⟩
    intro st hst
    simp only [List.mem_map] at hst
    obtain ⟨s0, hs0, rfl⟩ := hst
    simp [Stamp.arm, h.2 s0 hs0]

theorem PI_emit_run (g : Ghost) (i : Nat) (n : Notif) (h : PI g) : PI ((g.step (.emit i n)).step .run) := by
  by_cases hc : i ≠ 0 ∨ g.term = true
  · have : g.step (.emit i n) = g := by simp only [Ghost.step]; rw [if_pos hc]
    rw [this]; exact PI_run g h
  · have hT : g.term = false := by
      cases ht : g.term with
      | false => rfl
      | true => exact absurd (Or.inr ht) hc
    have herr : g.err = none := by
      cases he : g.err with
      | none => rfl
      | some e => have := h.1 (by simp [he]); rw [hT] at this; cases this
    have hi : i = 0 := Classical.byContradiction fun h => hc (Or.inl h)
    subst hi
    rcases error_or n with ⟨e, rfl⟩ | hn
    · have : g.step (.emit 0 (.error e)) = { g with term := true, err := some e } := by
        simp [Ghost.step, hT]
      rw [this]
      simp only [Ghost.step, Option.isSome_some, if_true]
      exact ⟨fun _ => rfl, h.2⟩
    · rw [g.step_emit_item n hT hn]
      simp only [Ghost.step, herr, Option.isSome_none, Bool.false_eq_true, if_false]
      refine ⟨by simp, ?_⟩
      intro st hst
      simp only [List.map_append, List.mem_append, List.mem_map, List.map_cons, List.map_nil,
        List.mem_singleton] at hst
      rcases hst with ⟨s0, hs0, rfl⟩ | rfl
      · simp [Stamp.arm, h.2 s0 hs0]
      · simp [Stamp.arm]

theorem PI_fold : ∀ {evs : List TW.Ev}, Prompt evs → ∀ g, PI g → PI (evs.foldl Ghost.step g) := by
  intro evs h
  induction h with
  | nil => intro g hg; exact hg
  | adv k r _ ih => intro g hg; exact ih _ ⟨hg.1, hg.2⟩
  | run r _ ih => intro g hg; exact ih _ (PI_run g hg)
  | emit i n r _ ih => intro g hg; exact ih _ (PI_emit_run g i n hg)

/-- Under a prompt executor every stamp is armed at its emission clock. -/
theorem prompt_stamps (evs : List TW.Ev) (hp : Prompt evs) : ∀ st ∈ (ghost evs).q, st.ta = some st.te :=
  (PI_fold hp {} ⟨by simp, by simp⟩).2

end Rx.T.Del
