import RxModel.Lemmas.ChainWorld
import RxModel.Lemmas.Sched
/-
  What the scheduler operations do to the set of tasks.

  A body is *benign* when running it can only make its own stage call its
  downstream (debounce_task, throttle_task, emit_buffer, the slot calls of
  delay / observe_on, the notifier tick): it never feeds stage 0 and never
  subscribes anything.

  * `Sched.Ext s s'`: every task of `s` is still there with the same body and the
    same `done` flag, every new task has a benign body;
  * `Sched.Le s s'`: the same, but tasks may have finished;
  * `Sched.Live s k b`: task `k` exists, is not finished, and runs body `b`;
  * `Sched.Benign s`: every body is benign — carried along `Le`, hence kept by
    arbitrary executor behaviour.
-/
namespace Rx.T

/-- Bodies that do not feed the head of the chain and do not subscribe. -/
def Body.benign : Body → Bool
  | .subscribe _ => false
  | .timerSrc _ => false
  | .tick => false
  | .futureSrc => false
  | .streamSrc => false
  | _ => true

namespace Sched

/-- Every task of the scheduler carries a benign body. -/
def Benign (s : Sched) : Prop := ∀ t ∈ s.tasks, t.body.benign = true

def Ext (s s' : Sched) : Prop :=
  (∀ (k : Nat) (t : Task), s.tasks[k]? = some t →
    ∃ t' : Task, s'.tasks[k]? = some t' ∧ t'.body = t.body ∧ t'.done = t.done) ∧
  (∀ (k : Nat) (t' : Task), s'.tasks[k]? = some t' → s.tasks[k]? = none → t'.body.benign = true)

def Le (s s' : Sched) : Prop :=
  ∀ (k : Nat) (t' : Task), s'.tasks[k]? = some t' →
    (∃ t : Task, s.tasks[k]? = some t ∧ t'.body = t.body ∧ (t.done = true → t'.done = true)) ∨
      t'.body.benign = true

def Live (s : Sched) (k : TaskId) (b : Body) : Prop :=
  ∃ t : Task, s.tasks[k]? = some t ∧ t.done = false ∧ t.body = b

theorem Ext.refl (s : Sched) : s.Ext s :=
  ⟨fun _ t h => ⟨t, h, rfl, rfl⟩, fun k t' h h' => by rw [h] at h'; cases h'⟩

theorem Ext.trans {a b c : Sched} (h1 : a.Ext b) (h2 : b.Ext c) : a.Ext c := by
  constructor
  · intro k t h
    obtain ⟨t', h', hb, hd⟩ := h1.1 k t h
    obtain ⟨t'', h'', hb', hd'⟩ := h2.1 k t' h'
    exact ⟨t'', h'', hb'.trans hb, hd'.trans hd⟩
  · intro k t'' h'' hn
    cases hb : b.tasks[k]? with
    | none => exact h2.2 k t'' h'' hb
    | some t' =>
      obtain ⟨t2, h2', hb2, _⟩ := h2.1 k t' hb
      rw [h''] at h2'; cases h2'
      rw [hb2]; exact h1.2 k t' hb hn

theorem Ext.le {s s' : Sched} (h : s.Ext s') : s.Le s' := by
  intro k t' h'
  cases hs : s.tasks[k]? with
  | none => exact Or.inr (h.2 k t' h' hs)
  | some t =>
    obtain ⟨t2, h2, hb, hd⟩ := h.1 k t hs
    rw [h'] at h2; cases h2
    exact Or.inl ⟨t, rfl, hb, fun x => by rw [hd]; exact x⟩

theorem Le.refl (s : Sched) : s.Le s := (Ext.refl s).le

theorem Le.trans {a b c : Sched} (h1 : a.Le b) (h2 : b.Le c) : a.Le c := by
  intro k t'' h''
  rcases h2 k t'' h'' with ⟨t', h', hb, hd⟩ | hb
  · rcases h1 k t' h' with ⟨t, h, hb', hd'⟩ | hb'
    · exact Or.inl ⟨t, h, hb.trans hb', fun x => hd (hd' x)⟩
    · exact Or.inr (by rw [hb]; exact hb')
  · exact Or.inr hb

/-- A live task with a non-benign body was already there, live, with that body. -/
theorem Le.live {s s' : Sched} (h : s.Le s') {k : TaskId} {b : Body} (hl : s'.Live k b)
    (hb : b.benign = false) : s.Live k b := by
  obtain ⟨t', h', hd, rfl⟩ := hl
  rcases h k t' h' with ⟨t, ht, hbt, hdt⟩ | hbt
  · refine ⟨t, ht, ?_, hbt.symm⟩
    cases hx : t.done with
    | false => rfl
    | true => rw [hdt hx] at hd; cases hd
  · rw [hbt] at hb; cases hb

theorem Ext.live {s s' : Sched} (h : s.Ext s') {k : TaskId} {b : Body} (hl : s.Live k b) :
    s'.Live k b := by
  obtain ⟨t, ht, hd, hb⟩ := hl
  obtain ⟨t', h', hb', hd'⟩ := h.1 k t ht
  exact ⟨t', h', hd'.trans hd, hb'.trans hb⟩

/-- Bodies are never changed, new bodies are benign. -/
theorem Le.body {s s' : Sched} (h : s.Le s') {P : Body → Prop} (hP : ∀ b, b.benign = true → P b)
    (hs : ∀ t ∈ s.tasks, P t.body) : ∀ t ∈ s'.tasks, P t.body := by
  intro t' ht'
  obtain ⟨k, hk, rfl⟩ := List.mem_iff_getElem.mp ht'
  rcases h k _ (List.getElem?_eq_getElem hk) with ⟨t, ht, hb, _⟩ | hb
  · rw [hb]; exact hs t (List.mem_of_getElem? ht)
  · exact hP _ hb

theorem Le.benign {s s' : Sched} (h : s.Le s') (hb : s.Benign) : s'.Benign :=
  h.body (P := fun b => b.benign = true) (fun _ h => h) hb

theorem Ext.benign {s s' : Sched} (h : s.Ext s') (hb : s.Benign) : s'.Benign := h.le.benign hb

theorem Ext.of_tasks {s s' : Sched} (e : s'.tasks = s.tasks) : s.Ext s' := by
  constructor
  · intro k t h; exact ⟨t, by rw [e]; exact h, rfl, rfl⟩
  · intro k t' h hn; rw [e, hn] at h; cases h

theorem Ext.setTask (s : Sched) (k : TaskId) (t0 t : Task) (h0 : s.tasks[k]? = some t0)
    (hb : t.body = t0.body) (hd : t.done = t0.done) : s.Ext (s.setTask k t) := by
  have hk := get_lt h0
  constructor
  · intro j tj hj
    by_cases hjk : j = k
    · subst hjk
      rw [h0] at hj; cases hj
      exact ⟨t, setTask_get_self s j t t0 h0, hb, hd⟩
    · exact ⟨tj, by rw [setTask_get_ne s k t j hjk]; exact hj, rfl, rfl⟩
  · intro j tj hj hn
    by_cases hjk : j = k
    · subst hjk; rw [h0] at hn; cases hn
    · rw [setTask_get_ne s k t j hjk, hn] at hj; cases hj

theorem Ext.cancel (s : Sched) (k : TaskId) : s.Ext (s.cancel k) := by
  unfold Sched.cancel
  split
  · next t ht => exact Ext.setTask s k t _ ht rfl rfl
  · exact Ext.refl s

theorem Ext.cancelOpt (s : Sched) (o : Option TaskId) :
    s.Ext (match o with | some k => s.cancel k | none => s) := by
  cases o
  · exact Ext.refl s
  · exact Ext.cancel s _

theorem Ext.cancelAll (l : List TaskId) (s : Sched) : s.Ext (l.foldl Sched.cancel s) := by
  induction l generalizing s with
  | nil => exact Ext.refl s
  | cons a r ih => exact (Ext.cancel s a).trans (ih _)

theorem Ext.append (s : Sched) (s' : Sched) (t : Task) (e : s'.tasks = s.tasks ++ [t])
    (hb : t.body.benign = true) : s.Ext s' := by
  constructor
  · intro k tk hk
    exact ⟨tk, by rw [e]; exact append_get_left _ _ hk, rfl, rfl⟩
  · intro k t' h' hn
    rw [e] at h'
    rcases snoc_get_cases _ _ h' with h1 | ⟨_, rfl⟩
    · rw [hn] at h1; cases h1
    · exact hb

theorem Ext.scheduleOnce (s : Sched) (b : Body) (d : Option Nat) (hb : b.benign = true) :
    s.Ext (s.scheduleOnce b d).1 :=
  Ext.append s _ _ rfl hb

theorem Ext.scheduleRepeat (s : Sched) (b : Body) (p : Nat) (d : Option Nat) (f : Nat)
    (hb : b.benign = true) : s.Ext (s.scheduleRepeat b p d f).1 :=
  Ext.append s _ _ rfl hb

theorem Ext.registerTimer (s : Sched) (tm : TimerId) : s.Ext (s.registerTimer tm) :=
  Ext.of_tasks (registerTimer_tasks s tm)

theorem Ext.fire (s : Sched) (tm : TimerId) : s.Ext (s.fire tm) := by
  unfold Sched.fire
  split
  · exact Ext.refl s
  · next t ht =>
    have h1 : s.Ext (s.setTimer tm { t with fired := true }) := Ext.of_tasks rfl
    dsimp only
    split
    · split
      · next tk htk => exact h1.trans (Ext.setTask _ _ tk _ htk rfl rfl)
      · exact h1
    · exact h1

theorem Ext.fireAll (l : List TimerId) (s : Sched) : s.Ext (l.foldl Sched.fire s) := by
  induction l generalizing s with
  | nil => exact Ext.refl s
  | cons a r ih => exact (Ext.fire s a).trans (ih _)

theorem Ext.stayPending (s : Sched) (k : TaskId) (wk : Bool) : s.Ext (s.stayPending k wk) := by
  unfold Sched.stayPending
  split
  · next t ht => exact Ext.setTask s k t _ ht rfl rfl
  · exact Ext.refl s

theorem Ext.continueRepeat (s : Sched) (k : TaskId) : s.Ext (s.continueRepeat k) := by
  unfold Sched.continueRepeat
  split
  · next t ht =>
    split
    · next fur iv seq hr =>
      have h1 : s.Ext ((s.newTimer iv k).1.registerTimer (s.newTimer iv k).2) :=
        (Ext.of_tasks (s := s) (s' := (s.newTimer iv k).1) rfl).trans (Ext.registerTimer _ _)
      refine h1.trans (Ext.setTask _ k t _ ?_ rfl rfl)
      rw [registerTimer_tasks]; exact ht
    · exact Ext.refl s
  · exact Ext.refl s

theorem Le.finishOnce (s : Sched) (k : TaskId) : s.Le (s.finishOnce k) := by
  intro j tj hj
  unfold Sched.finishOnce at hj
  split at hj
  · next t ht =>
    by_cases hjk : j = k
    · subst hjk
      rw [setTask_get_self s j _ t ht] at hj; cases hj
      exact Or.inl ⟨t, ht, rfl, fun _ => rfl⟩
    · rw [setTask_get_ne s k _ j hjk] at hj
      exact Or.inl ⟨tj, hj, rfl, id⟩
  · exact Or.inl ⟨tj, hj, rfl, id⟩

theorem finishOnce_not_live (s : Sched) (k : TaskId) (b : Body) : ¬ (s.finishOnce k).Live k b := by
  rintro ⟨t', h', hd, _⟩
  unfold Sched.finishOnce at h'
  split at h'
  · next t ht =>
    rw [setTask_get_self s k _ t ht] at h'; cases h'
    cases hd
  · next hn => rw [hn] at h'; cases h'

theorem Le.setDone (s : Sched) (k : TaskId) (t0 t : Task) (h0 : s.tasks[k]? = some t0)
    (hb : t.body = t0.body) (hd : t0.done = true → t.done = true) : s.Le (s.setTask k t) := by
  intro j tj hj
  by_cases hjk : j = k
  · subst hjk
    rw [setTask_get_self s j t t0 h0] at hj; cases hj
    exact Or.inl ⟨t0, h0, hb, hd⟩
  · rw [setTask_get_ne s k t j hjk] at hj
    exact Or.inl ⟨tj, hj, rfl, id⟩

/-- `pollPre` changes no body and starts no task. -/
theorem Le.pollPre (s : Sched) (k : TaskId) : s.Le (s.pollPre k).1 := by
  -- every answer sets task `k` (same body, `done` only raised) after at most registering a timer
  have reg : ∀ (s' : Sched) (t t' : Task), s.Ext s' → s'.tasks = s.tasks → s.tasks[k]? = some t →
      t'.body = t.body → (t.done = true → t'.done = true) → s.Le (s'.setTask k t') :=
    fun s' t t' he e ht hb hd => he.le.trans (Le.setDone s' k t t' (by rw [e]; exact ht) hb hd)
  exact pollPre_elim s k (motive := fun r => s.Le r.1)
    (absent := fun _ => Le.refl s)
    (finished := fun _ _ _ => Le.refl s)
    (cancelled := fun t ht _ _ => reg s t _ (Ext.refl s) rfl ht rfl (fun _ => rfl))
    (arm := fun t d ht _ _ _ =>
      reg _ t _ ((Ext.of_tasks (s' := (s.newTimer d k).1) rfl).trans (Ext.registerTimer _ _))
        (registerTimer_tasks _ _) ht rfl id)
    (waitOuter := fun t tm ht _ _ _ _ _ => reg _ t _ (Ext.registerTimer s tm) (registerTimer_tasks _ _) ht rfl id)
    (once := fun t ht _ _ _ _ _ => reg s t _ (Ext.refl s) rfl ht rfl id)
    (waitPeriod := fun t fur _ _ ht _ _ _ _ _ _ =>
      reg _ t _ (Ext.registerTimer s fur) (registerTimer_tasks _ _) ht rfl id)
    (tick := fun t _ _ _ ht _ _ _ _ _ _ => reg s t _ (Ext.refl s) rfl ht rfl id)

/-- When `pollPre` lets a body run, the task is live (before and after) with that body. -/
theorem pollPre_live (s : Sched) (k : TaskId) :
    (∀ b, (s.pollPre k).2 = .runOnce b → (s.pollPre k).1.Live k b) ∧
    (∀ b n, (s.pollPre k).2 = .runTick b n → (s.pollPre k).1.Live k b) := by
  -- the answers that run nothing
  have quiet : ∀ s' : Sched, (∀ b, Poll.none = .runOnce b → s'.Live k b) ∧
      (∀ b n, Poll.none = .runTick b n → s'.Live k b) := fun _ => ⟨nofun, nofun⟩
  exact pollPre_elim s k (motive := fun r =>
      (∀ b, r.2 = .runOnce b → r.1.Live k b) ∧ (∀ b n, r.2 = .runTick b n → r.1.Live k b))
    (absent := fun _ => quiet _) (finished := fun _ _ _ => quiet _) (cancelled := fun _ _ _ _ => quiet _)
    (arm := fun _ _ _ _ _ _ => quiet _) (waitOuter := fun _ _ _ _ _ _ _ _ => quiet _)
    (waitPeriod := fun _ _ _ _ _ _ _ _ _ _ _ => quiet _)
    (once := fun t ht hd _ _ _ _ =>
      ⟨fun b h => by cases h; exact ⟨_, setTask_get_self s k _ t ht, hd, rfl⟩, nofun⟩)
    (tick := fun t _ _ _ ht hd _ _ _ _ _ =>
      ⟨nofun, fun b n h => by cases h; exact ⟨_, setTask_get_self s k _ t ht, hd, rfl⟩⟩)

theorem Benign.cancel {s : Sched} (h : s.Benign) (k) : (s.cancel k).Benign := (Ext.cancel s k).benign h

theorem Benign.scheduleOnce {s : Sched} (h : s.Benign) (b : Body) (d) (hb : b.benign = true) :
    (s.scheduleOnce b d).1.Benign := (Ext.scheduleOnce s b d hb).benign h

theorem Benign.scheduleRepeat {s : Sched} (h : s.Benign) (b : Body) (p d f) (hb : b.benign = true) :
    (s.scheduleRepeat b p d f).1.Benign := (Ext.scheduleRepeat s b p d f hb).benign h

end Sched
end Rx.T
