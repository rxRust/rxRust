import RxModel.Conc.TimeSteps
/-
  Counting an item over a configuration, the counting functions for state and program counter as parameters.
-/
namespace Rx.Conc.TS
open Rx

/-- emissions of `v` a thread has still to start -/
def pend (v : Val) (ops : List Op) : Nat := ops.count (.emit (.next v))

theorem sum_map_set {α : Type} (g : α → Nat) (l : List α) (i : Nat) (x y : α) (h : l[i]? = some y) :
    ((l.set i x).map g).sum + g y = (l.map g).sum + g x := by
  induction l generalizing i with
  | nil => simp at h
  | cons a r ih =>
    cases i with
    | zero =>
      simp only [List.getElem?_cons_zero, Option.some.injEq] at h
      subst h
      simp only [List.set_cons_zero, List.map_cons, List.sum_cons]; omega
    | succ n =>
      simp only [List.getElem?_cons_succ] at h
      have := ih n h
      simp only [List.set_cons_succ, List.map_cons, List.sum_cons]; omega

section count
variable (S : St → Nat) (P : Pc → Nat) (v : Val)

/-- All the places the item `v` is in: `S` counts it in the shared state, `P` in the hands of a thread standing at a
    program counter; the rest are the emissions not yet started. -/
def Count (c : Cfg) : Nat := S c.st + (c.ths.map fun t => P t.pc + pend v t.rest).sum

variable {S P v} (hfin : P .fin = 0) (hentry : ∀ op : Op, P op.entry = if op = .emit (.next v) then 1 else 0)
include hfin hentry

theorem count_norm (p : Pc) (rest : List Op) :
    P (Thread.norm ⟨p, rest⟩).pc + pend v (Thread.norm ⟨p, rest⟩).rest = P p + pend v rest := by
  unfold Thread.norm
  cases rest with
  | nil => cases p <;> rfl
  | cons op r =>
    cases p
    case fin =>
      show P op.entry + pend v r = P Pc.fin + pend v (op :: r)
      rw [hentry, hfin]
      simp only [pend, List.count_cons]
      by_cases h : op = .emit (.next v)
      · subst h; simp only [if_true, BEq.rfl]; omega
      · have : (op == Op.emit (Notif.next v)) = false := by simpa using h
        simp only [h, this, if_false, Bool.false_eq_true]; omega
    all_goals rfl

/-- A scheduled step does not multiply the item if the step itself does not. -/
theorem count_sched1 (hheld : ∀ s i cells, S (St.setHeld s i cells) = S s) (K : Conf) (c : Cfg) (i : Nat)
    (hstep : S (step K c.st (c.pcOf i)).1 + P (step K c.st (c.pcOf i)).2 ≤ S c.st + P (c.pcOf i)) :
    Count S P v (c.sched1 K i) ≤ Count S P v c := by
  unfold Cfg.sched1
  cases hi : c.ths[i]? with
  | none => exact Nat.le_refl _
  | some t =>
    simp only []
    have hp : c.pcOf i = t.pc := by simp [Cfg.pcOf, hi]
    rw [hp] at hstep
    split
    · unfold Count
      simp only [hheld]
      have h1 := sum_map_set (fun t => P t.pc + pend v t.rest) c.ths i
        (Thread.norm ⟨(step K c.st t.pc).2, t.rest⟩) t hi
      simp only [count_norm hfin hentry] at h1
      omega
    · exact Nat.le_refl _

theorem count_init (s : St) (h0 : S s = 0) (progs : List (List Op)) :
    Count S P v (Cfg.init s progs) = (progs.map (pend v)).sum := by
  unfold Count Cfg.init
  simp only [h0, Nat.zero_add, List.map_map]
  congr 1
  apply List.map_congr_left
  intro ops _
  show P (Thread.mk' ops).pc + pend v (Thread.mk' ops).rest = pend v ops
  unfold Thread.mk'
  rw [count_norm hfin hentry, hfin]
  omega

end count

end Rx.Conc.TS
