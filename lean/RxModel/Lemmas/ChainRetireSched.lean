import RxModel.Lemmas.ChainRetireDefs
import RxModel.Lemmas.SchedStep
import RxModel.Lemmas.ChainWFWorld
/-
  C16 over the chain model: the scheduler side.

  * `Prim` / `BE`: what the BODY of a task (and `sub`, `emit`, `unsub`) may do
    to the scheduler: spawn a once-task, spawn a repeating task, cancel a
    handle — nothing else.  `BE` is the reflexive-transitive closure; every
    scheduler invariant only has to be checked against the three primitives.
    The flag `a` says whether source-level bodies (`tick`, `timerSrc`,
    `futureSrc`, `streamSrc`) may be spawned.
  * `SInvX src x s`: the invariant behind "a repeating task whose timer has
    expired gets polled": every RepeatTask `k` owns its period timer, and (unless
    it is the task `x` that is running right now) it is either marked ready or
    its unfired timer holds its waker; timers are never due later than
    `now + dur`; an unfired timer owned by a RepeatTask is its current one.
    Kept by the three primitives and by the executor's own moves (`fire`, the
    clock, `pollPre`, and what follows a body: `finishOnce`, `continueRepeat`,
    `stayPending`).
-/
namespace Rx.T
open Rx

/-- Bodies of the source's own tasks. -/
def Body.isSrc : Body → Bool
  | .tick => true
  | .timerSrc _ => true
  | .futureSrc => true
  | .streamSrc => true
  | _ => false

inductive Prim (src : TSrc) (a : Bool) : Sched → Sched → Prop
  | once (s : Sched) (b : Body) (d : Option Nat) (hb : b.okFor src)
      (hd : b.isAsync = true → d = none) (ha : b.isSrc = true → a = true) (ht : b ≠ .tick) :
      Prim src a s (s.scheduleOnce b d).1
  | rep (s : Sched) (b : Body) (p f : Nat) (hb : b.okFor src) (hn : b.isAsync = false)
      (hB : b = .tick → p ≤ src.bound ∧ f ≤ src.bound) (ha : b.isSrc = true → a = true) :
      Prim src a s (s.scheduleRepeat b p none f).1
  | cancel (s : Sched) (h : TaskId) : Prim src a s (s.cancel h)

inductive BE (src : TSrc) (a : Bool) : Sched → Sched → Prop
  | refl (s : Sched) : BE src a s s
  | step {s s1 s2 : Sched} : BE src a s s1 → Prim src a s1 s2 → BE src a s s2

theorem BE.trans {src a} {s1 s2 s3 : Sched} (h1 : BE src a s1 s2) (h2 : BE src a s2 s3) :
    BE src a s1 s3 := by
  induction h2 with
  | refl => exact h1
  | step _ p ih => exact BE.step ih p

theorem BE.of_prim {src a} {s s' : Sched} (p : Prim src a s s') : BE src a s s' :=
  BE.step (BE.refl s) p

theorem Prim.mono {src a} {s s' : Sched} (p : Prim src a s s') : Prim src true s s' := by
  cases p with
  | once b d hb hd _ ht => exact .once s b d hb hd (fun _ => rfl) ht
  | rep b p f hb hn hB _ => exact .rep s b p f hb hn hB (fun _ => rfl)
  | cancel h => exact .cancel s h

theorem BE.mono {src a} {s s' : Sched} (h : BE src a s s') : BE src true s s' := by
  induction h with
  | refl => exact BE.refl _
  | step _ p ih => exact BE.step ih p.mono

theorem BE.once {src a} (s : Sched) (b : Body) (d : Option Nat) (hb : b.okFor src)
    (hd : b.isAsync = true → d = none) (ha : b.isSrc = true → a = true)
    (ht : b ≠ .tick := by intro h; cases h) :
    BE src a s (s.scheduleOnce b d).1 := BE.of_prim (.once s b d hb hd ha ht)

theorem BE.cancel {src a} (s : Sched) (h : TaskId) : BE src a s (s.cancel h) :=
  BE.of_prim (.cancel s h)

theorem BE.cancelOpt {src a} (s : Sched) (o : Option TaskId) :
    BE src a s (match o with | some h => s.cancel h | none => s) := by
  cases o with
  | none => exact BE.refl _
  | some h => exact BE.cancel s h

theorem BE.cancelAll {src a} (l : List TaskId) : ∀ s : Sched, BE src a s (l.foldl Sched.cancel s) := by
  induction l with
  | nil => intro s; exact BE.refl _
  | cons h r ih => intro s; exact (BE.cancel s h).trans (ih _)

/-- Old tasks keep everything but `keepRunning` / `hasValue`; timers are only
    appended; the clock stands still; no source-level task is spawned unless allowed. -/
structure Frame (a : Bool) (s s' : Sched) : Prop where
  now : s'.now = s.now
  timers : ∃ new, s'.timers = s.timers ++ new
  tasks : ∀ (k : Nat) (t : Task), s.tasks[k]? = some t →
    ∃ t' : Task, s'.tasks[k]? = some t' ∧ t'.body = t.body ∧ t'.done = t.done ∧ t'.woken = t.woken ∧
      t'.rep = t.rep ∧ t'.outerDelay = t.outerDelay ∧ t'.outerTimer = t.outerTimer
  fresh : ∀ (k : Nat) (t' : Task), s'.tasks[k]? = some t' → s.tasks[k]? = none → t'.body.isSrc = true → a = true
  len : s.tasks.length ≤ s'.tasks.length
  newT : ∀ (i : Nat) (tm' : Timer), s'.timers[i]? = some tm' → s.timers.length ≤ i → s.tasks.length ≤ tm'.owner

theorem Frame.refl (a : Bool) (s : Sched) : Frame a s s :=
  ⟨rfl, ⟨[], by simp⟩, fun _ t h => ⟨t, h, rfl, rfl, rfl, rfl, rfl, rfl⟩,
    fun k t' h hn => (by rw [h] at hn; cases hn), Nat.le_refl _,
    fun i tm' h hi => absurd (Sched.get_lt h) (Nat.not_lt.mpr hi)⟩

theorem Frame.trans {a : Bool} {s1 s2 s3 : Sched} (h1 : Frame a s1 s2) (h2 : Frame a s2 s3) :
    Frame a s1 s3 := by
  refine ⟨h2.now.trans h1.now, ?timers, ?tasks, ?fresh, Nat.le_trans h1.len h2.len, ?newT⟩
  case timers =>
    obtain ⟨n1, e1⟩ := h1.timers
    obtain ⟨n2, e2⟩ := h2.timers
    exact ⟨n1 ++ n2, by rw [e2, e1, List.append_assoc]⟩
  case tasks =>
    intro k t h
    obtain ⟨t', h', b1, d1, w1, r1, o1, p1⟩ := h1.tasks k t h
    obtain ⟨t'', h'', b2, d2, w2, r2, o2, p2⟩ := h2.tasks k t' h'
    exact ⟨t'', h'', b2.trans b1, d2.trans d1, w2.trans w1, r2.trans r1, o2.trans o1, p2.trans p1⟩
  case fresh =>
    intro k t'' h'' hn hb
    cases h2k : s2.tasks[k]? with
    | none => exact h2.fresh k t'' h'' h2k hb
    | some t' =>
      obtain ⟨t2, ht2, b2, _⟩ := h2.tasks k t' h2k
      rw [h''] at ht2; cases ht2
      exact h1.fresh k t' h2k hn (by rw [← b2]; exact hb)
  case newT =>
    intro i tm' h3 hi
    obtain ⟨n2, e2⟩ := h2.timers
    by_cases hl : i < s2.timers.length
    · have : s2.timers[i]? = some tm' := by
        rw [e2, List.getElem?_append_left hl] at h3; exact h3
      exact h1.newT i tm' this hi
    · exact Nat.le_trans h1.len (h2.newT i tm' h3 (Nat.le_of_not_lt hl))

theorem get?_none_of_ge {α} (l : List α) (k : Nat) (h : l.length ≤ k) : l[k]? = none :=
  List.getElem?_eq_none h

theorem Prim.frame {src a} {s s' : Sched} (p : Prim src a s s') : Frame a s s' := by
  cases p with
  | once b d hb hd ha _ =>
    refine ⟨rfl, ⟨[], by simp [Sched.scheduleOnce]⟩, ?_, ?_, by simp [Sched.scheduleOnce],
      fun i tm' h hi => absurd (Sched.get_lt h) (Nat.not_lt.mpr hi)⟩
    · intro k t h
      exact ⟨t, append_get_left _ _ h, rfl, rfl, rfl, rfl, rfl, rfl⟩
    · intro k t' h' hn hsrc
      rcases snoc_get_cases _ _ h' with h1 | ⟨_, rfl⟩
      · rw [h1] at hn; cases hn
      · exact ha hsrc
  | rep b p f hb hn hB ha =>
    refine ⟨rfl, ⟨[_], rfl⟩, ?tasks, ?fresh, by simp [Sched.scheduleRepeat, Sched.newTimer], ?newT⟩
    case tasks =>
      intro k t h
      exact ⟨t, append_get_left _ _ h, rfl, rfl, rfl, rfl, rfl, rfl⟩
    case fresh =>
      intro k t' h' hnn hsrc
      rcases snoc_get_cases _ _ h' with h1 | ⟨_, rfl⟩
      · have h1' : s.tasks[k]? = some t' := h1
        rw [h1'] at hnn; cases hnn
      · exact ha hsrc
    case newT =>
      intro i tm' h hi
      rcases snoc_get_cases _ _ h with h1 | ⟨_, rfl⟩
      · exact absurd (Sched.get_lt h1) (Nat.not_lt.mpr hi)
      · exact Nat.le_refl _
  | cancel h =>
    have htm : (s.cancel h).timers = s.timers := by
      unfold Sched.cancel; split <;> simp [Sched.setTask]
    refine ⟨Sched.cancel_now s h, ⟨[], ?_⟩, ?_, ?_, by simp,
      fun i tm' h' hi => absurd (Sched.get_lt h') (by rw [htm]; exact Nat.not_lt.mpr hi)⟩
    · rw [htm]; simp
    · intro k t ht
      by_cases e : k = h
      · subst e
        exact ⟨_, Sched.cancel_get_self s k t ht, rfl, rfl, rfl, rfl, rfl, rfl⟩
      · exact ⟨t, by rw [Sched.cancel_get_ne s h k e]; exact ht, rfl, rfl, rfl, rfl, rfl, rfl⟩
    · intro k t' h' hn
      have : k < s.tasks.length := by
        have := Sched.get_lt h'; simpa using this
      exact absurd (List.getElem?_eq_none_iff.mp hn) (by omega)

theorem BE.frame {src a} {s s' : Sched} (h : BE src a s s') : Frame a s s' := by
  induction h with
  | refl => exact Frame.refl _ _
  | step _ p ih => exact ih.trans p.frame

theorem Frame.timer_old {a} {s s' : Sched} (f : Frame a s s') {i : Nat} {tm : Timer}
    (h : s.timers[i]? = some tm) : s'.timers[i]? = some tm := by
  obtain ⟨new, e⟩ := f.timers
  rw [e]; exact append_get_left _ _ h

theorem Frame.timerFired {a} {s s' : Sched} (f : Frame a s s') {i : Nat}
    (h : s.timerFired i = true) : s'.timerFired i = true := by
  unfold Sched.timerFired at h ⊢
  cases ht : s.timers[i]? with
  | none => rw [ht] at h; cases h
  | some tm => rw [f.timer_old ht]; rw [ht] at h; exact h

structure SInvX (src : TSrc) (x : Option TaskId) (s : Sched) : Prop where
  bodies : ∀ (k : Nat) (t : Task), s.tasks[k]? = some t → t.body.okFor src
  rep : ∀ (k : Nat) (t : Task) (fur iv seq : Nat), s.tasks[k]? = some t → t.rep = some (fur, iv, seq) →
    t.outerDelay = none ∧ t.outerTimer = none ∧ ∃ tm : Timer, s.timers[fur]? = some tm ∧ tm.owner = k ∧
      (t.done = false → x ≠ some k → t.woken = true ∨ (tm.registered = true ∧ tm.fired = false)) ∧
      (t.body = .tick → iv ≤ src.bound ∧ tm.dur ≤ src.bound)
  due : ∀ (i : Nat) (tm : Timer), s.timers[i]? = some tm → tm.due ≤ s.now + tm.dur
  cur : ∀ (i : Nat) (tm : Timer) (t : Task) (fur iv seq : Nat), s.timers[i]? = some tm → tm.fired = false →
    s.tasks[tm.owner]? = some t → t.rep = some (fur, iv, seq) → i = fur
  own : ∀ (i : Nat) (tm : Timer), s.timers[i]? = some tm → tm.owner < s.tasks.length
  async : ∀ (k : Nat) (t : Task), s.tasks[k]? = some t → t.body.isAsync = true →
    t.rep = none ∧ t.outerDelay = none ∧ t.outerTimer = none
  tickRep : ∀ (k : Nat) (t : Task), s.tasks[k]? = some t → t.body = .tick → t.rep ≠ none

theorem SInvX.weaken {src x s} (h : SInvX src none s) : SInvX src x s :=
  { h with
    rep := fun k t fur iv seq hk hr => by
      obtain ⟨a, b, tm, c, d, e, f⟩ := h.rep k t fur iv seq hk hr
      exact ⟨a, b, tm, c, d, fun hd _ => e hd (by simp), f⟩ }

theorem SInvX.init (src : TSrc) : SInvX src none {} := by
  have no : ∀ {α} {k : Nat} {x : α}, ([] : List α)[k]? = some x → False := fun h => by simp at h
  exact ⟨fun _ _ h => (no h).elim, fun _ _ _ _ _ h => (no h).elim, fun _ _ h => (no h).elim,
    fun _ _ _ _ _ _ h => (no h).elim, fun _ _ h => (no h).elim, fun _ _ h => (no h).elim,
    fun _ _ h => (no h).elim⟩

/-- Replace task `k` by a task with the same body and RepeatTask state. -/
theorem SInvX.setTask {src x x'} {s : Sched} (h : SInvX src x s) {k : TaskId} {t t' : Task}
    (hk : s.tasks[k]? = some t) (hb : t'.body = t.body) (hr : t'.rep = t.rep)
    (hod : (t.rep ≠ none ∨ t.body.isAsync = true) → t.outerDelay = none → t'.outerDelay = none)
    (hot : (t.rep ≠ none ∨ t.body.isAsync = true) → t.outerTimer = none → t'.outerTimer = none)
    (hx : ∀ j, j ≠ k → x' ≠ some j → x ≠ some j)
    (hw : ∀ fur iv seq tm, t.rep = some (fur, iv, seq) → s.timers[fur]? = some tm → t'.done = false →
      x' ≠ some k → t'.woken = true ∨ (tm.registered = true ∧ tm.fired = false)) :
    SInvX src x' (s.setTask k t') := by
  have get : ∀ j u, (s.setTask k t').tasks[j]? = some u →
      (j = k ∧ u = t') ∨ (j ≠ k ∧ s.tasks[j]? = some u) := by
    intro j u hu
    by_cases e : j = k
    · subst e; rw [Sched.setTask_get_self _ _ _ _ hk] at hu; cases hu; exact Or.inl ⟨rfl, rfl⟩
    · rw [Sched.setTask_get_ne _ _ _ _ e] at hu; exact Or.inr ⟨e, hu⟩
  refine ⟨?bodies, ?rep, ?due, ?cur, ?own, ?asyncs, ?tickRep⟩
  case bodies =>
    intro j u hu
    rcases get j u hu with ⟨rfl, rfl⟩ | ⟨_, h'⟩
    · rw [hb]; exact h.bodies _ t hk
    · exact h.bodies j u h'
  case rep =>
    intro j u fur iv seq hu hrep
    rcases get j u hu with ⟨rfl, rfl⟩ | ⟨hne, h'⟩
    · rw [hr] at hrep
      obtain ⟨a, b, tm, c, d, _, f⟩ := h.rep _ t fur iv seq hk hrep
      have hsp : t.rep ≠ none ∨ t.body.isAsync = true := Or.inl (by rw [hrep]; simp)
      refine ⟨hod hsp a, hot hsp b, tm, c, d, fun hd hxx => hw fur iv seq tm hrep c hd hxx, ?_⟩
      rw [hb]; exact f
    · obtain ⟨a, b, tm, c, d, e, f⟩ := h.rep j u fur iv seq h' hrep
      exact ⟨a, b, tm, c, d, fun hd hxx => e hd (hx j hne hxx), f⟩
  case due =>
    exact h.due
  case cur =>
    intro i tm u fur iv seq hi hf hu hrep
    rcases get _ u hu with ⟨e, rfl⟩ | ⟨_, h'⟩
    · rw [hr] at hrep; exact h.cur i tm t fur iv seq hi hf (by rw [e]; exact hk) hrep
    · exact h.cur i tm u fur iv seq hi hf h' hrep
  case own =>
    intro i tm hi; simpa using h.own i tm hi
  case asyncs =>
    intro j u hu ha
    rcases get j u hu with ⟨rfl, rfl⟩ | ⟨_, h'⟩
    · rw [hb] at ha
      obtain ⟨a, b, c⟩ := h.async _ t hk ha
      exact ⟨hr.trans a, hod (Or.inr ha) b, hot (Or.inr ha) c⟩
    · exact h.async j u h' ha
  case tickRep =>
    intro j u hu hbt
    rcases get j u hu with ⟨rfl, rfl⟩ | ⟨_, h'⟩
    · rw [hr]; exact h.tickRep _ t hk (hb ▸ hbt)
    · exact h.tickRep j u h' hbt

theorem SInvX.cancel {src x} {s : Sched} (h : SInvX src x s) (k : TaskId) : SInvX src x (s.cancel k) := by
  unfold Sched.cancel
  cases hk : s.tasks[k]? with
  | none => exact h
  | some t =>
    refine h.setTask hk rfl rfl (fun _ => id) (fun _ => id) (fun _ _ hh => hh) ?_
    intro fur iv seq tm hrep htm hd hxx
    obtain ⟨_, _, tm', c, _, e, _⟩ := h.rep k t fur iv seq hk hrep
    rw [htm] at c; cases c
    exact e hd hxx

theorem SInvX.scheduleOnce {src x} {s : Sched} (h : SInvX src x s) (b : Body) (d : Option Nat)
    (hb : b.okFor src) (hd : b.isAsync = true → d = none) (ht : b ≠ .tick) :
    SInvX src x (s.scheduleOnce b d).1 := by
  have get : ∀ j u, (s.scheduleOnce b d).1.tasks[j]? = some u →
      s.tasks[j]? = some u ∨ (j = s.tasks.length ∧ u = { body := b, outerDelay := d }) :=
    fun j u hu => snoc_get_cases _ _ hu
  refine ⟨?bodies, ?rep, ?due, ?cur, ?own, ?asyncs, ?tickRep⟩
  case bodies =>
    intro j u hu
    rcases get j u hu with h' | ⟨_, rfl⟩
    · exact h.bodies j u h'
    · exact hb
  case rep =>
    intro j u fur iv seq hu hrep
    rcases get j u hu with h' | ⟨_, rfl⟩
    · exact h.rep j u fur iv seq h' hrep
    · cases hrep
  case due =>
    exact h.due
  case cur =>
    intro i tm u fur iv seq hi hf hu hrep
    rcases get _ u hu with h' | ⟨e, rfl⟩
    · exact h.cur i tm u fur iv seq hi hf h' hrep
    · cases hrep
  case own =>
    intro i tm hi
    have := h.own i tm hi
    show tm.owner < (s.tasks ++ [_]).length
    simp only [List.length_append, List.length_cons, List.length_nil]
    exact Nat.lt_add_right _ this
  case asyncs =>
    intro j u hu ha
    rcases get j u hu with h' | ⟨_, rfl⟩
    · exact h.async j u h' ha
    · exact ⟨rfl, hd ha, rfl⟩
  case tickRep =>
    intro j u hu hbt
    rcases get j u hu with h' | ⟨_, rfl⟩
    · exact h.tickRep j u h' hbt
    · exact absurd hbt ht

theorem SInvX.scheduleRepeat {src x} {s : Sched} (h : SInvX src x s) (b : Body) (p f : Nat)
    (hb : b.okFor src) (hn : b.isAsync = false) (hB : b = .tick → p ≤ src.bound ∧ f ≤ src.bound) :
    SInvX src x (s.scheduleRepeat b p none f).1 := by
  let t0 : Task := { body := b, outerDelay := none, rep := some (s.timers.length, p, 0) }
  let tm0 : Timer := { dur := f, due := s.now + f, owner := s.tasks.length }
  have htasks : (s.scheduleRepeat b p none f).1.tasks = s.tasks ++ [t0] := rfl
  have htimers : (s.scheduleRepeat b p none f).1.timers = s.timers ++ [tm0] := rfl
  have hnow : (s.scheduleRepeat b p none f).1.now = s.now := rfl
  have get : ∀ j u, (s.scheduleRepeat b p none f).1.tasks[j]? = some u →
      s.tasks[j]? = some u ∨ (j = s.tasks.length ∧ u = t0) :=
    fun j u hu => snoc_get_cases _ _ (by rw [← htasks]; exact hu)
  have gett : ∀ i tm, (s.scheduleRepeat b p none f).1.timers[i]? = some tm →
      s.timers[i]? = some tm ∨ (i = s.timers.length ∧ tm = tm0) :=
    fun i tm hi => snoc_get_cases _ _ (by rw [← htimers]; exact hi)
  refine ⟨?bodies, ?rep, ?due, ?cur, ?own, ?asyncs, ?tickRep⟩
  case bodies =>
    intro j u hu
    rcases get j u hu with h' | ⟨_, rfl⟩
    · exact h.bodies j u h'
    · exact hb
  case rep =>
    intro j u fur iv seq hu hrep
    rcases get j u hu with h' | ⟨e, rfl⟩
    · obtain ⟨a, b', tm, c, d, e, g⟩ := h.rep j u fur iv seq h' hrep
      exact ⟨a, b', tm, by rw [htimers]; exact append_get_left _ _ c, d, e, g⟩
    · simp only [t0, Option.some.injEq, Prod.mk.injEq] at hrep
      obtain ⟨rfl, rfl, rfl⟩ := hrep
      refine ⟨rfl, rfl, tm0, by rw [htimers]; simp, e.symm, fun _ _ => Or.inl rfl, ?_⟩
      intro hbt; exact hB hbt
  case due =>
    intro i tm hi
    rw [hnow]
    rcases gett i tm hi with h' | ⟨_, rfl⟩
    · exact h.due i tm h'
    · exact Nat.le_refl _
  case cur =>
    intro i tm u fur iv seq hi hf hu hrep
    rcases gett i tm hi with h' | ⟨e, rfl⟩
    · have ho := h.own i tm h'
      rcases get _ u hu with h'' | ⟨e', _⟩
      · exact h.cur i tm u fur iv seq h' hf h'' hrep
      · exact absurd e' (Nat.ne_of_lt ho)
    · rcases get _ u hu with h'' | ⟨_, rfl⟩
      · have := Sched.get_lt h''
        simp only [tm0] at this; omega
      · simp only [t0, Option.some.injEq, Prod.mk.injEq] at hrep
        rw [e]; exact hrep.1
  case own =>
    intro i tm hi
    rw [htasks]
    simp only [List.length_append, List.length_cons, List.length_nil]
    rcases gett i tm hi with h' | ⟨_, rfl⟩
    · exact Nat.lt_add_right _ (h.own i tm h')
    · exact Nat.lt_succ_self _
  case asyncs =>
    intro j u hu ha
    rcases get j u hu with h' | ⟨_, rfl⟩
    · exact h.async j u h' ha
    · simp only [t0] at ha; rw [hn] at ha; cases ha
  case tickRep =>
    intro j u hu hbt
    rcases get j u hu with h' | ⟨_, rfl⟩
    · exact h.tickRep j u h' hbt
    · simp [t0]

theorem SInvX.prim {src a x} {s s' : Sched} (h : SInvX src x s) (p : Prim src a s s') : SInvX src x s' := by
  cases p with
  | once b d hb hd _ ht => exact h.scheduleOnce b d hb hd ht
  | rep b p f hb hn hB _ => exact h.scheduleRepeat b p f hb hn hB
  | cancel k => exact h.cancel k

theorem SInvX.be {src a x} {s s' : Sched} (h : SInvX src x s) (b : BE src a s s') : SInvX src x s' := by
  induction b with
  | refl => exact h
  | step _ p ih => exact ih.prim p

theorem setTimer_get (s : Sched) (i : TimerId) (t1 : Timer) (j : Nat) (t0 : Timer)
    (h : s.timers[i]? = some t0) :
    (s.setTimer i t1).timers[j]? = if i = j then some t1 else s.timers[j]? := by
  simp only [Sched.setTimer, List.getElem?_set]
  by_cases e : i = j
  · subst e; simp [Sched.get_lt h]
  · simp [e]

theorem SInvX.setTimer {src x} {s : Sched} (h : SInvX src x s) {i : TimerId} {t0 t1 : Timer}
    (hi : s.timers[i]? = some t0) (hdur : t1.dur = t0.dur) (hdue : t1.due = t0.due)
    (hown : t1.owner = t0.owner) (hf : t0.fired = true → t1.fired = true)
    (hc : ∀ (u : Task) (iv seq : Nat), s.tasks[t0.owner]? = some u → u.rep = some (i, iv, seq) →
      u.done = false → x ≠ some t0.owner →
      (u.woken = true ∨ (t0.registered = true ∧ t0.fired = false)) →
      u.woken = true ∨ (t1.registered = true ∧ t1.fired = false)) :
    SInvX src x (s.setTimer i t1) := by
  have get : ∀ j t', (s.setTimer i t1).timers[j]? = some t' →
      (j = i ∧ t' = t1) ∨ (j ≠ i ∧ s.timers[j]? = some t') := by
    intro j t' ht'
    rw [setTimer_get s i t1 j t0 hi] at ht'
    by_cases e : i = j
    · subst e; simp at ht'; exact Or.inl ⟨rfl, ht'.symm⟩
    · rw [if_neg e] at ht'; exact Or.inr ⟨fun e' => e e'.symm, ht'⟩
  refine ⟨h.bodies, ?_, ?_, ?_, ?_, h.async, h.tickRep⟩
  · intro k u fur iv seq hu hrep
    obtain ⟨a, b, tm, c, d, e, f⟩ := h.rep k u fur iv seq hu hrep
    by_cases efi : i = fur
    · subst efi
      rw [hi] at c; cases c
      refine ⟨a, b, t1, by rw [setTimer_get s i t1 i _ hi]; simp, hown.trans d, ?_, ?_⟩
      · intro hd hx
        subst d
        exact hc u iv seq hu hrep hd hx (e hd hx)
      · intro hb; rw [hdur]; exact f hb
    · exact ⟨a, b, tm, by rw [setTimer_get s i t1 fur t0 hi, if_neg efi]; exact c, d, e, f⟩
  · intro j t' ht'
    rcases get j t' ht' with ⟨_, rfl⟩ | ⟨_, h'⟩
    · rw [hdur, hdue]; exact h.due i t0 hi
    · exact h.due j t' h'
  · intro j t' u fur iv seq ht' hfired hu hrep
    rcases get j t' ht' with ⟨rfl, rfl⟩ | ⟨_, h'⟩
    · have hf0 : t0.fired = false := by
        cases e : t0.fired with
        | false => rfl
        | true => rw [hf e] at hfired; cases hfired
      rw [hown] at hu
      exact h.cur _ t0 u fur iv seq hi hf0 hu hrep
    · exact h.cur j t' u fur iv seq h' hfired hu hrep
  · intro j t' ht'
    rcases get j t' ht' with ⟨_, rfl⟩ | ⟨_, h'⟩
    · rw [hown]; exact h.own i t0 hi
    · exact h.own j t' h'

theorem SInvX.registerTimer {src x} {s : Sched} (h : SInvX src x s) (i : TimerId) :
    SInvX src x (s.registerTimer i) := by
  unfold Sched.registerTimer
  cases hi : s.timers[i]? with
  | none => exact h
  | some t0 =>
    refine h.setTimer hi rfl rfl rfl id ?_
    intro u iv seq _ _ _ _ hw
    rcases hw with hw | hw
    · exact Or.inl hw
    · exact Or.inr ⟨rfl, hw.2⟩

/-- Append a timer awaited by a task that is not a RepeatTask. -/
theorem SInvX.newTimer {src x} {s : Sched} (h : SInvX src x s) (d : Nat) {k : TaskId} {t : Task}
    (hk : s.tasks[k]? = some t) (hr : t.rep = none) : SInvX src x (s.newTimer d k).1 := by
  let tm0 : Timer := { dur := d, due := s.now + d, owner := k }
  have gett : ∀ i tm, (s.newTimer d k).1.timers[i]? = some tm →
      s.timers[i]? = some tm ∨ (i = s.timers.length ∧ tm = tm0) :=
    fun i tm hi => snoc_get_cases _ _ hi
  refine ⟨h.bodies, ?_, ?_, ?_, ?_, h.async, h.tickRep⟩
  · intro j u fur iv seq hu hrep
    obtain ⟨a, b, tm, c, d', e, f⟩ := h.rep j u fur iv seq hu hrep
    exact ⟨a, b, tm, append_get_left _ _ c, d', e, f⟩
  · intro i tm hi
    rcases gett i tm hi with h' | ⟨_, rfl⟩
    · exact h.due i tm h'
    · exact Nat.le_refl _
  · intro i tm u fur iv seq hi hf hu hrep
    rcases gett i tm hi with h' | ⟨_, rfl⟩
    · exact h.cur i tm u fur iv seq h' hf hu hrep
    · have hu' : s.tasks[k]? = some u := hu
      rw [hk] at hu'; cases hu'
      rw [hr] at hrep; cases hrep
  · intro i tm hi
    rcases gett i tm hi with h' | ⟨_, rfl⟩
    · exact h.own i tm h'
    · exact Sched.get_lt hk

theorem fire_eq (s : Sched) (tm : TimerId) (t : Timer) (ht : s.timers[tm]? = some t) :
    s.fire tm =
      (if t.registered then
        (match s.tasks[t.owner]? with
          | some tk => s.setTask t.owner { tk with woken := true }
          | none => s)
       else s).setTimer tm { t with fired := true } := by
  unfold Sched.fire
  rw [ht]
  simp only [Sched.setTimer_tasks]
  cases t.registered with
  | false => rfl
  | true =>
    simp only [if_true]
    cases s.tasks[t.owner]? with
    | none => rfl
    | some tk => rfl

theorem SInvX.wake {src x} {s : Sched} (h : SInvX src x s) (k : TaskId) :
    SInvX src x (match s.tasks[k]? with
      | some tk => s.setTask k { tk with woken := true }
      | none => s) := by
  cases hk : s.tasks[k]? with
  | none => exact h
  | some tk =>
    exact h.setTask hk rfl rfl (fun _ => id) (fun _ => id) (fun _ _ hh => hh) (fun _ _ _ _ _ _ _ _ => Or.inl rfl)

theorem SInvX.fire {src x} {s : Sched} (h : SInvX src x s) (tm : TimerId) : SInvX src x (s.fire tm) := by
  cases ht : s.timers[tm]? with
  | none => unfold Sched.fire; rw [ht]; exact h
  | some t =>
    rw [fire_eq s tm t ht]
    cases hreg : t.registered with
    | false =>
      simp only [Bool.false_eq_true, if_false]
      refine h.setTimer ht rfl rfl rfl (fun _ => rfl) ?_
      intro u iv seq _ _ _ _ hw
      rcases hw with hw | hw
      · exact Or.inl hw
      · rw [hreg] at hw; cases hw.1
    | true =>
      simp only [if_true]
      have h1 := h.wake t.owner
      have ht1 : (match s.tasks[t.owner]? with
          | some tk => s.setTask t.owner { tk with woken := true }
          | none => s).timers[tm]? = some t := by
        cases s.tasks[t.owner]? <;> exact ht
      refine h1.setTimer ht1 rfl rfl rfl (fun _ => rfl) ?_
      intro u iv seq hu _ _ _ _
      left
      cases hk : s.tasks[t.owner]? with
      | none => rw [hk] at hu; simp only at hu; rw [hk] at hu; cases hu
      | some tk =>
        rw [hk] at hu; simp only at hu
        rw [Sched.setTask_get_self _ _ _ _ hk] at hu
        cases hu; rfl

theorem SInvX.fireAll {src x} (l : List TimerId) : ∀ {s : Sched}, SInvX src x s →
    SInvX src x (l.foldl Sched.fire s) := by
  induction l with
  | nil => intro s h; exact h
  | cons a r ih => intro s h; exact ih (h.fire a)

theorem SInvX.adv {src x} {s : Sched} (h : SInvX src x s) (d : Nat) :
    SInvX src x { s with now := s.now + d } :=
  ⟨h.bodies, h.rep, fun i tm hi => Nat.le_trans (h.due i tm hi) (by simp only; omega), h.cur, h.own, h.async,
    h.tickRep⟩

theorem SInvX.finishOnce {src} {s : Sched} {k : TaskId} (h : SInvX src (some k) s) :
    SInvX src none (s.finishOnce k) := by
  unfold Sched.finishOnce
  cases hk : s.tasks[k]? with
  | none =>
    refine { h with rep := ?_ }
    intro j u fur iv seq hu hrep
    obtain ⟨a, b, tm, c, d, e, f⟩ := h.rep j u fur iv seq hu hrep
    refine ⟨a, b, tm, c, d, fun hd _ => e hd ?_, f⟩
    intro e'; cases e'; rw [hk] at hu; cases hu
  | some t =>
    refine h.setTask hk rfl rfl (fun _ => id) (fun _ => id) ?_ ?_
    · intro j hne _ e; cases e; exact hne rfl
    · intro _ _ _ _ _ _ hd; cases hd

theorem SInvX.stayPending {src} {s : Sched} {k : TaskId} (h : SInvX src none s) (wk : Bool)
    (hr : ∀ t, s.tasks[k]? = some t → t.rep = none) : SInvX src none (s.stayPending k wk) := by
  unfold Sched.stayPending
  cases hk : s.tasks[k]? with
  | none => exact h
  | some t =>
    refine h.setTask hk rfl rfl (fun _ => id) (fun _ => id) (fun _ _ hh => hh) ?_
    intro fur iv seq tm hrep
    rw [hr t hk] at hrep; cases hrep

/-- A tick that answered `true`: fresh period timer, polled at once. -/
theorem SInvX.continueRepeat {src} {s : Sched} {k : TaskId} {t : Task} {fur iv seq : Nat}
    (h : SInvX src (some k) s) (hk : s.tasks[k]? = some t) (hrep : t.rep = some (fur, iv, seq))
    (hfired : s.timerFired fur = true) : SInvX src none (s.continueRepeat k) := by
  obtain ⟨hod, hot, tmf, htmf, hown, _, hbound⟩ := h.rep k t fur iv seq hk hrep
  have hff : tmf.fired = true := by
    unfold Sched.timerFired at hfired; rw [htmf] at hfired; exact hfired
  let tm0 : Timer := { dur := iv, due := s.now + iv, owner := k, registered := true }
  let t1 : Task := { t with rep := some (s.timers.length, iv, seq + 1) }
  have hs : s.continueRepeat k =
      { now := s.now, timers := s.timers ++ [tm0], tasks := s.tasks.set k t1 } := by
    rw [Sched.continueRepeat, hk]
    simp [hrep, Sched.newTimer, Sched.registerTimer, Sched.setTask, Sched.setTimer, tm0, t1]
  rw [hs]
  have get : ∀ j u, (s.tasks.set k t1)[j]? = some u → (j = k ∧ u = t1) ∨ (j ≠ k ∧ s.tasks[j]? = some u) := by
    intro j u hu
    rw [List.getElem?_set] at hu
    by_cases e : k = j
    · subst e; rw [if_pos rfl, if_pos (Sched.get_lt hk)] at hu; cases hu; exact Or.inl ⟨rfl, rfl⟩
    · rw [if_neg e] at hu; exact Or.inr ⟨fun e' => e e'.symm, hu⟩
  have gett : ∀ i tm, (s.timers ++ [tm0])[i]? = some tm →
      s.timers[i]? = some tm ∨ (i = s.timers.length ∧ tm = tm0) :=
    fun i tm hi => snoc_get_cases _ _ hi
  refine ⟨?bodies, ?rep, ?due, ?cur, ?own, ?asyncs, ?tickRep⟩
  case bodies =>
    intro j u hu
    rcases get j u hu with ⟨_, rfl⟩ | ⟨_, h'⟩
    · exact h.bodies k t hk
    · exact h.bodies j u h'
  case rep =>
    intro j u fur' iv' seq' hu hrep'
    rcases get j u hu with ⟨rfl, rfl⟩ | ⟨hne, h'⟩
    · simp only [t1, Option.some.injEq, Prod.mk.injEq] at hrep'
      obtain ⟨rfl, rfl, rfl⟩ := hrep'
      refine ⟨hod, hot, tm0, by simp, rfl, fun _ _ => Or.inr ⟨rfl, rfl⟩, ?_⟩
      intro hb
      exact ⟨(hbound hb).1, (hbound hb).1⟩
    · obtain ⟨a, b, tm, c, d, e, f⟩ := h.rep j u fur' iv' seq' h' hrep'
      refine ⟨a, b, tm, append_get_left _ _ c, d, fun hd _ => e hd ?_, f⟩
      intro e'; cases e'; exact hne rfl
  case due =>
    intro i tm hi
    rcases gett i tm hi with h' | ⟨_, rfl⟩
    · exact h.due i tm h'
    · exact Nat.le_refl _
  case cur =>
    intro i tm u fur' iv' seq' hi hf hu hrep'
    rcases gett i tm hi with h' | ⟨e, rfl⟩
    · rcases get _ u hu with ⟨eo, rfl⟩ | ⟨_, h''⟩
      · -- an old unfired timer owned by `k` would be `fur`, which has fired
        have := h.cur i tm t fur iv seq h' hf (by rw [eo]; exact hk) hrep
        subst this
        rw [htmf] at h'; cases h'
        rw [hff] at hf; cases hf
      · exact h.cur i tm u fur' iv' seq' h' hf h'' hrep'
    · rcases get _ u hu with ⟨_, rfl⟩ | ⟨hne, _⟩
      · simp only [t1, Option.some.injEq, Prod.mk.injEq] at hrep'
        rw [e]; exact hrep'.1
      · exact absurd rfl hne
  case own =>
    intro i tm hi
    simp only [List.length_set]
    rcases gett i tm hi with h' | ⟨_, rfl⟩
    · exact h.own i tm h'
    · exact Sched.get_lt hk
  case asyncs =>
    intro j u hu ha
    rcases get j u hu with ⟨_, rfl⟩ | ⟨_, h'⟩
    · have := (h.async k t hk ha).1
      rw [hrep] at this; cases this
    · exact h.async j u h' ha
  case tickRep =>
    intro j u hu hbt
    rcases get j u hu with ⟨_, rfl⟩ | ⟨_, h'⟩
    · simp [t1]
    · exact h.tickRep j u h' hbt

/-- The scheduler part of a poll.  Only a RepeatTask whose tick is about to run
    is left outside the invariant. -/
theorem SInvX.pollPre {src} {s : Sched} (h : SInvX src none s) (k : TaskId) :
    SInvX src (match (s.pollPre k).2 with | .runTick _ _ => some k | _ => none) (s.pollPre k).1 := by
  -- a task still waiting for its outer delay is not a RepeatTask
  have norep : ∀ t : Task, s.tasks[k]? = some t → t.outerDelay ≠ none ∨ t.outerTimer ≠ none → t.rep = none := by
    intro t ht hw
    cases e : t.rep with
    | none => rfl
    | some r => exact (hw.elim (· (h.rep k t r.1 r.2.1 r.2.2 ht e).1) (· (h.rep k t r.1 r.2.1 r.2.2 ht e).2.1)).elim
  refine Sched.pollPre_elim s k (motive := fun r =>
    SInvX src (match r.2 with | .runTick _ _ => some k | _ => none) r.1)
    (absent := fun _ => h) (finished := fun _ _ _ => h) (cancelled := ?cancelled) (arm := ?arm)
    (waitOuter := ?waitOuter) (once := ?once) (waitPeriod := ?waitPeriod) (tick := ?tick)
  case cancelled =>
    intro t ht _ _
    exact h.setTask ht rfl rfl (fun _ => id) (fun _ => id) (fun _ _ hh => hh) (fun _ _ _ _ _ _ hd => by cases hd)
  case arm =>
    intro t d ht _ _ hod
    have hr := norep t ht (Or.inl (by rw [hod]; nofun))
    have h1 := (h.newTimer d ht hr).registerTimer s.timers.length
    have ht1 : ((s.newTimer d k).1.registerTimer s.timers.length).tasks[k]? = some t := by
      simpa using ht
    refine h1.setTask ht1 rfl rfl (fun _ _ => rfl) ?_ (fun _ _ hh => hh) ?_
    · intro hsp _
      exfalso
      rcases hsp with hsp | hsp
      · exact hsp hr
      · have := (h.async k t ht hsp).2.1
        rw [hod] at this; cases this
    · intro fur iv seq tm hrep; rw [hr] at hrep; cases hrep
  case waitOuter =>
    intro t tm ht _ _ _ hot _
    have hr := norep t ht (Or.inr (by rw [hot]; nofun))
    have ht1 : (s.registerTimer tm).tasks[k]? = some t := by simpa using ht
    exact (h.registerTimer tm).setTask ht1 rfl rfl (fun _ => id) (fun _ => id) (fun _ _ hh => hh)
      (fun fur iv seq _ hrep => by rw [hr] at hrep; cases hrep)
  case once =>
    intro t ht _ _ _ _ hr
    exact h.setTask ht rfl rfl (fun _ => id) (fun _ _ => rfl) (fun _ _ hh => hh)
      (fun fur iv seq _ hrep => by rw [hr] at hrep; cases hrep)
  case waitPeriod =>
    intro t fur iv seq ht _ _ _ _ hrep hnf
    have ht1 : (s.registerTimer fur).tasks[k]? = some t := by simpa using ht
    refine (h.registerTimer fur).setTask ht1 rfl rfl (fun _ => id) (fun _ _ => rfl) (fun _ _ hh => hh) ?_
    -- its period timer now holds the waker and has not expired
    intro fur' iv' seq' tm' hrep' htm' _ _
    rw [hrep] at hrep'; cases hrep'
    right
    rw [Sched.registerTimer_get] at htm'
    cases hf : s.timers[fur]? with
    | none => rw [hf] at htm'; cases htm'
    | some tf =>
      rw [hf] at htm'; simp only [Option.map_some, if_true, Option.some.injEq] at htm'
      subst htm'
      refine ⟨rfl, ?_⟩
      unfold Sched.timerFired at hnf; rw [hf] at hnf; exact hnf
  case tick =>
    intro t fur iv seq ht _ _ _ _ hrep _
    refine h.setTask ht rfl rfl (fun _ => id) (fun _ _ => rfl) ?_ ?_
    · intro j _ _ e; cases e
    · intro _ _ _ _ _ _ _ hx; exact absurd rfl hx

end Rx.T
