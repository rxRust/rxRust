import RxModel.Lemmas.MergeAllLog
/-
  The equations of the merge_all model and of its log, stated once: case and
  induction principles for `drain`, `startTop`, `completeAll`, `stepG`, `runG`
  (each yields the result AND the log of the piece of work), what no piece of
  work changes, and stuck-freedom.
-/
namespace Rx.MergeAll

/-- The result of `drain` does not depend on the `queue` field: every exit overwrites it. -/
theorem drain_queue (f : Bool) (q q' : List Inst) : ∀ s : St,
    drain f { s with queue := q' } q = drain f s q := by
  induction q with
  | nil => intro s; rfl
  | cons i rest ih =>
    intro s
    unfold drain
    show (match s.inner i.k with | .hot j => _ | .cold xs fin => _) = _
    cases s.inner i.k with
    | hot j => rfl
    | cold xs fin =>
      simp only
      split
      · rfl
      · cases fin with
        | open_ => rfl
        | error e => rfl
        | complete =>
          exact congrArg (fun r => (r.1, _ ++ r.2))
            (ih { s with completed := s.completed + 1, started := s.started + 1 })

theorem drainL_queue (f : Bool) (q q' : List Inst) : ∀ s : St,
    drainL f { s with queue := q' } q = drainL f s q := by
  induction q with
  | nil => intro s; rfl
  | cons i rest ih =>
    intro s
    unfold drainL
    show _ :: (match s.inner i.k with | .hot j => _ | .cold xs fin => _) = _
    cases s.inner i.k with
    | hot j => rfl
    | cold xs fin =>
      simp only
      split
      · rfl
      · cases fin with
        | open_ => rfl
        | error e => rfl
        | complete =>
          exact congrArg (fun r => _ :: (_ ++ r))
            (ih { s with completed := s.completed + 1, started := s.started + 1 })

/-- The deferred subscription of `i` finds the cell borrowed (code as it is only). -/
def blocked (f : Bool) (s : St) (i : Inst) : Bool := !f && (s.inner i.k).touches

theorem drain_cons_blocked {f : Bool} {s : St} {i : Inst} (rest : List Inst)
    (h : blocked f s i = true) :
    drain f s (i :: rest) =
      ({ s with queue := rest, completed := s.completed + 1, started := s.started + 1,
                borrowed := true, stuck := true }, []) ∧
    drainL f s (i :: rest) = [.start i] := by
  unfold blocked at h
  unfold drain drainL
  cases hin : s.inner i.k with
  | hot j => simp [hin, Inner.touches] at h
  | cold xs fin => rw [hin] at h; simp [h]

/-- Popping `i` and subscribing it is `startTop` in the state that has counted the completion. -/
theorem drain_cons {f : Bool} {s : St} {i : Inst} (rest : List Inst) (h : blocked f s i = false) :
    drain f s (i :: rest) = startTop f { s with completed := s.completed + 1, queue := rest } i ∧
    drainL f s (i :: rest) =
      startTopL f { s with completed := s.completed + 1, queue := rest } i := by
  unfold blocked at h
  unfold drain drainL startTop startTopL
  show (match s.inner i.k with | .hot j => _ | .cold xs fin => _) =
      (match s.inner i.k with | .hot j => _ | .cold xs fin => _) ∧
    _ :: (match s.inner i.k with | .hot j => _ | .cold xs fin => _) =
      _ :: (match s.inner i.k with | .hot j => _ | .cold xs fin => _)
  cases hin : s.inner i.k with
  | hot j => exact ⟨rfl, rfl⟩
  | cold xs fin =>
    rw [hin] at h
    simp only [h, Bool.false_eq_true, if_false]
    cases fin with
    | open_ => exact ⟨rfl, rfl⟩
    | error e => exact ⟨rfl, rfl⟩
    | complete =>
      exact ⟨congrArg (fun r => (r.1, _ ++ r.2)) (drain_queue f rest rest _).symm,
        congrArg (fun r => _ :: (_ ++ r)) (drainL_queue f rest rest _).symm⟩

theorem startTop_cases (f : Bool) (s : St) (i : Inst) {P : St × List Out → List Lab → Prop}
    (hot : ∀ j, s.inner i.k = .hot j →
      P ({ s with started := s.started + 1, subs := s.subs ++ [(j, i.tag)] }, []) [.start i])
    (open_ : ∀ xs, s.inner i.k = .cold xs .open_ →
      P ({ s with started := s.started + 1 }, xs.map (Out.item i.tag)) (.start i :: itemsL i.tag xs))
    (error : ∀ xs e, s.inner i.k = .cold xs (.error e) →
      P ({ s with started := s.started + 1, alive := false }, xs.map (Out.item i.tag) ++ [.error e])
        (.start i :: (itemsL i.tag xs ++ [.out (.error e)])))
    (complete : ∀ xs, s.inner i.k = .cold xs .complete →
      P ((drain f { s with started := s.started + 1 } s.queue).1,
          xs.map (Out.item i.tag) ++ (drain f { s with started := s.started + 1 } s.queue).2)
        (.start i :: (itemsL i.tag xs ++ drainL f { s with started := s.started + 1 } s.queue))) :
    P (startTop f s i) (startTopL f s i) := by
  unfold startTop startTopL
  show P (match s.inner i.k with | .hot j => _ | .cold xs fin => _)
    (_ :: (match s.inner i.k with | .hot j => _ | .cold xs fin => _))
  cases hin : s.inner i.k with
  | hot j => exact hot j hin
  | cold xs fin =>
    cases fin with
    | open_ => simpa using open_ xs hin
    | error e => exact error xs e hin
    | complete => exact complete xs hin

/-- Induction over the queue `drain` works off.  `start` hands the fact about the rest of the
    queue to the lemma about `startTop`. -/
theorem drain_induct (f : Bool) {P : St → List Inst → St × List Out → List Lab → Prop}
    (last : ∀ s, s.subscribed - 1 = 0 → s.outsideCompleted = true →
      P s [] ({ s with subscribed := s.subscribed - 1, queue := [], completed := s.completed + 1,
                       alive := false }, [.complete]) [.out .complete])
    (more : ∀ s, ¬ (s.subscribed - 1 = 0 ∧ s.outsideCompleted = true) →
      P s [] ({ s with subscribed := s.subscribed - 1, queue := [],
                       completed := s.completed + 1 }, []) [])
    (stuck : ∀ s i rest, blocked f s i = true →
      P s (i :: rest) ({ s with queue := rest, completed := s.completed + 1,
                                started := s.started + 1, borrowed := true, stuck := true }, [])
        [.start i])
    (start : ∀ s i rest, blocked f s i = false →
      (∀ s', P s' rest (drain f s' rest) (drainL f s' rest)) →
      P s (i :: rest) (startTop f { s with completed := s.completed + 1, queue := rest } i)
        (startTopL f { s with completed := s.completed + 1, queue := rest } i)) :
    ∀ q s, P s q (drain f s q) (drainL f s q) := by
  intro q
  induction q with
  | nil =>
    intro s
    unfold drain drainL
    dsimp only
    split
    · rename_i h; exact last s h.1 h.2
    · rename_i h; exact more s h
  | cons i rest ih =>
    intro s
    cases hb : blocked f s i with
    | true => rw [(drain_cons_blocked rest hb).1, (drain_cons_blocked rest hb).2]; exact stuck s i rest hb
    | false => rw [(drain_cons rest hb).1, (drain_cons rest hb).2]; exact start s i rest hb ih

theorem innerComplete_cases (f : Bool) (s : St) {P : St × List Out → List Lab → Prop}
    (alive : s.alive = true → P (drain f s s.queue) (drainL f s s.queue))
    (dead : s.alive = false → P (s, []) []) :
    P (innerComplete f s) (innerCompleteL f s) := by
  unfold innerComplete innerCompleteL
  cases h : s.alive with
  | true => exact alive h
  | false => exact dead h

theorem completeAll_cons (f : Bool) (s : St) (t : Nat × Nat) (r : List (Nat × Nat)) :
    completeAll f s (t :: r) =
      if (innerComplete f s).1.stuck then innerComplete f s
      else ((completeAll f (innerComplete f s).1 r).1,
        (innerComplete f s).2 ++ (completeAll f (innerComplete f s).1 r).2) := rfl

theorem completeAllL_cons (f : Bool) (s : St) (t : Nat × Nat) (r : List (Nat × Nat)) :
    completeAllL f s (t :: r) =
      if (innerComplete f s).1.stuck then innerCompleteL f s
      else innerCompleteL f s ++ completeAllL f (innerComplete f s).1 r := rfl

/-- `completeAll` is `innerComplete` iterated until the operator is stuck. -/
theorem completeAll_chain (f : Bool) {R : St → St × List Out → List Lab → Prop}
    (refl : ∀ s, R s (s, []) [])
    (trans : ∀ {s r1 l1 r2 l2}, R s r1 l1 → r1.1.stuck = false → R r1.1 r2 l2 →
      R s (r2.1, r1.2 ++ r2.2) (l1 ++ l2))
    (one : ∀ s, R s (innerComplete f s) (innerCompleteL f s)) :
    ∀ ts s, R s (completeAll f s ts) (completeAllL f s ts) := by
  intro ts
  induction ts with
  | nil => exact refl
  | cons t r ih =>
    intro s
    rw [completeAll_cons, completeAllL_cons]
    cases h : (innerComplete f s).1.stuck with
    | true => exact one s
    | false => exact trans (one s) h (ih _)

theorem runG_chain (f : Bool) {R : St → St × List Out → List Lab → Prop}
    (refl : ∀ s, R s (s, []) [])
    (trans : ∀ {s r1 l1 r2 l2}, R s r1 l1 → R r1.1 r2 l2 → R s (r2.1, r1.2 ++ r2.2) (l1 ++ l2))
    (step : ∀ s ev, R s (stepG f s ev) (stepL f s ev)) :
    ∀ evs s, R s (runG f s evs) (runL f s evs) := by
  intro evs
  induction evs with
  | nil => exact refl
  | cons ev r ih => intro s; exact trans (step s ev) (ih _)

/-- What a piece of work that can only END the merged stream, with the terminal `x`, does to
    `alive` (`a0` before, last-but-one index after) and emits: exactly `x` if the stream was
    alive and `w` holds, otherwise nothing. -/
inductive EndOut (a0 : Bool) (x : Out) (w : Prop) : Bool → List Out → Prop
  | none : ¬ (a0 = true ∧ w) → EndOut a0 x w a0 []
  | term : a0 = true → w → EndOut a0 x w false [x]

/-- `errorAll` in closed form: the first `InnerObserver::error` takes the data, the others find
    the cell empty. -/
theorem errorAll_eq (e : Err) (ts : List (Nat × Nat)) : ∀ s : St,
    errorAll s e ts = ({ s with alive := s.alive && ts.isEmpty },
      if s.alive = true ∧ ts ≠ [] then [.error e] else []) := by
  induction ts with
  | nil => intro s; simp [errorAll]
  | cons p r ih =>
    intro s
    simp only [errorAll, ih, innerError]
    cases ha : s.alive <;> simp [ha]

/-- Subject `j` hands over its observer list (`Subject::complete` / `error`). -/
def St.take (s : St) (j : Nat) : St :=
  { s with dead := j :: s.dead, subs := s.subs.filter (fun p => !(p.1 == j)) }

/-- The event finds nobody to call: the operator is stuck, the outer slot is empty, or the
    subject has handed over its observers before. -/
def Ignored (s : St) : Ev → Prop
  | .innerNext j _ | .innerError j _ | .innerComplete j =>
      s.stuck = true ∨ s.dead.contains j = true
  | .unsub => s.stuck = true
  | _ => s.stuck = true ∨ s.outerOpen = false

/-- Case analysis of one external event, result and log together.  `outer`: the terminals of the
    outer stream; `ierr`: `hotError` through `errorAll_eq`. -/
theorem stepG_cases (f : Bool) (s : St) (ev : Ev) {P : St × List Out → List Lab → Prop}
    (idle : Ignored s ev → P (s, []) [])
    (lost : ∀ k, ev = .outerNext k → s.stuck = false → s.outerOpen = true → s.alive = false →
      P ({ s with arrivals := s.arrivals + 1 }, []) [])
    (room : ∀ k, ev = .outerNext k → s.stuck = false → s.outerOpen = true → s.alive = true →
      s.subscribed < s.concurrent →
      P (startTop f { s with arrivals := s.arrivals + 1, subscribed := s.subscribed + 1 }
          ⟨s.arrivals, k⟩)
        (.arrive ⟨s.arrivals, k⟩ ::
          startTopL f { s with arrivals := s.arrivals + 1, subscribed := s.subscribed + 1 }
            ⟨s.arrivals, k⟩))
    (full : ∀ k, ev = .outerNext k → s.stuck = false → s.outerOpen = true → s.alive = true →
      ¬ s.subscribed < s.concurrent →
      P ({ s with arrivals := s.arrivals + 1, queue := s.queue ++ [⟨s.arrivals, k⟩] }, [])
        [.arrive ⟨s.arrivals, k⟩])
    (outer : ∀ x w a c o,
      (ev = .outerComplete ∧ x = .complete ∧ w = (s.subscribed = 0 ∧ s.queue = []) ∧
          c = (s.alive || s.outsideCompleted) ∨
        ∃ e, ev = .outerError e ∧ x = .error e ∧ w = True ∧ c = s.outsideCompleted) →
      s.stuck = false → s.outerOpen = true → EndOut s.alive x w a o →
      P ({ s with alive := a, outerOpen := false, outsideCompleted := c }, o) (o.map .out))
    (inext : ∀ j v, ev = .innerNext j v → s.stuck = false → s.dead.contains j = false →
      P (s, if s.alive then (targets s j).map (fun p => Out.item p.2 v) else [])
        ((if s.alive then (targets s j).map (fun p => Out.item p.2 v) else []).map .out))
    (ierr : ∀ j e a o, ev = .innerError j e → s.stuck = false → s.dead.contains j = false →
      EndOut s.alive (.error e) (targets s j ≠ []) a o →
      P ({ s.take j with alive := a }, o) (o.map .out))
    (icomp : ∀ j, ev = .innerComplete j → s.stuck = false → s.dead.contains j = false →
      P (completeAll f (s.take j) (targets s j)) (completeAllL f (s.take j) (targets s j)))
    (unsub : ev = .unsub → s.stuck = false →
      P ({ s with outerOpen := false, subs := [] }, []) []) :
    P (stepG f s ev) (stepL f s ev) := by
  unfold stepG stepL
  by_cases hst' : s.stuck = true
  · rw [if_pos hst', if_pos hst']; exact idle (by cases ev <;> simp [Ignored, hst'])
  rw [if_neg hst', if_neg hst']
  have hst : s.stuck = false := by simpa using hst'
  cases ev with
  | outerNext k =>
    dsimp only
    unfold outerNext outerNextL
    by_cases ho' : (!s.outerOpen) = true
    · rw [if_pos ho', if_pos ho']; exact idle (Or.inr (by simpa using ho'))
    rw [if_neg ho', if_neg ho']
    dsimp only
    have ho : s.outerOpen = true := by simpa using ho'
    by_cases ha' : (!s.alive) = true
    · rw [if_pos ha', if_pos ha']; exact lost k rfl hst ho (by simpa using ha')
    rw [if_neg ha', if_neg ha']
    have ha : s.alive = true := by simpa using ha'
    by_cases h : s.subscribed < s.concurrent
    · rw [if_pos h, if_pos h]; exact room k rfl hst ho ha h
    · rw [if_neg h, if_neg h]; exact full k rfl hst ho ha h
  | outerError e =>
    dsimp only
    unfold outerError
    by_cases ho' : (!s.outerOpen) = true
    · rw [if_pos ho']; exact idle (Or.inr (by simpa using ho'))
    rw [if_neg ho']
    have ho : s.outerOpen = true := by simpa using ho'
    by_cases ha : s.alive = true
    · rw [if_pos ha]
      exact outer _ _ false _ _ (Or.inr ⟨e, rfl, rfl, rfl, rfl⟩) hst ho (.term ha trivial)
    · rw [if_neg ha]
      exact outer _ _ s.alive _ [] (Or.inr ⟨e, rfl, rfl, rfl, rfl⟩) hst ho (.none fun h => ha h.1)
  | outerComplete =>
    dsimp only
    unfold outerComplete
    by_cases ho' : (!s.outerOpen) = true
    · rw [if_pos ho']; exact idle (Or.inr (by simpa using ho'))
    rw [if_neg ho']
    have ho : s.outerOpen = true := by simpa using ho'
    by_cases ha : s.alive = true
    · rw [if_pos ha]
      dsimp only
      split
      · rename_i hz
        exact outer _ _ false true _ (Or.inl ⟨rfl, rfl, rfl, by rw [ha]; rfl⟩) hst ho (.term ha hz)
      · rename_i hz
        exact outer _ _ s.alive true [] (Or.inl ⟨rfl, rfl, rfl, by rw [ha]; rfl⟩) hst ho
          (.none fun h => hz h.2)
    · rw [if_neg ha]
      exact outer _ _ s.alive s.outsideCompleted [] (Or.inl ⟨rfl, rfl, rfl,
        by rw [Bool.eq_false_iff.mpr ha]; rfl⟩) hst ho (.none fun h => ha h.1)
  | innerNext j v =>
    dsimp only
    unfold hotNext
    by_cases hd : s.dead.contains j = true
    · rw [if_pos hd]; exact idle (Or.inr hd)
    · rw [if_neg hd]; exact inext j v rfl hst (by simpa using hd)
  | innerError j e =>
    dsimp only
    unfold hotError
    by_cases hd : s.dead.contains j = true
    · rw [if_pos hd]; exact idle (Or.inr hd)
    rw [if_neg hd, errorAll_eq]
    have hd' : s.dead.contains j = false := by simpa using hd
    by_cases h : s.alive = true ∧ targets s j ≠ []
    · rw [if_pos h]
      have : (s.alive && (targets s j).isEmpty) = false := by
        cases ht : targets s j with
        | nil => exact absurd ht h.2
        | cons a b => simp
      rw [this]; exact ierr j e false [.error e] rfl hst hd' (.term h.1 h.2)
    · rw [if_neg h]
      have : (s.alive && (targets s j).isEmpty) = s.alive := by
        cases ha : s.alive with
        | false => rfl
        | true =>
          cases ht : targets s j with
          | nil => rfl
          | cons a b => exact absurd ⟨ha, by simp [ht]⟩ h
      rw [this]; exact ierr j e s.alive [] rfl hst hd' (.none h)
  | innerComplete j =>
    dsimp only
    unfold hotComplete hotCompleteL
    by_cases hd : s.dead.contains j = true
    · rw [if_pos hd, if_pos hd]; exact idle (Or.inr hd)
    · rw [if_neg hd, if_neg hd]; exact icomp j rfl hst (by simpa using hd)
  | unsub => exact unsub rfl hst

theorem stepG_of_stuck {f : Bool} {s : St} (h : s.stuck = true) (ev : Ev) :
    stepG f s ev = (s, []) := by
  unfold stepG; rw [if_pos h]

theorem stepG_of_not_stuck {f : Bool} {s : St} (h : s.stuck = false) (ev : Ev) :
    stepG f s ev =
      match ev with
      | .outerNext k => outerNext f s k
      | .outerError e => outerError s e
      | .outerComplete => outerComplete s
      | .innerNext j v => hotNext s j v
      | .innerError j e => hotError s j e
      | .innerComplete j => hotComplete f s j
      | .unsub => unsub s := by
  unfold stepG; rw [if_neg (by rw [h]; exact Bool.false_ne_true)]; cases ev <;> rfl

/-- Fields the queue-driven pieces of work (`drain`, `startTop`, `completeAll`) never touch. -/
structure Same (s s' : St) : Prop where
  inners : s'.inners = s.inners
  conc : s'.concurrent = s.concurrent
  arr : s'.arrivals = s.arrivals
  dead : s'.dead = s.dead
  oo : s'.outerOpen = s.outerOpen
  oc : s'.outsideCompleted = s.outsideCompleted

theorem Same.trans {s s1 s2 : St} (a : Same s s1) (b : Same s1 s2) : Same s s2 :=
  ⟨b.inners.trans a.inners, b.conc.trans a.conc, b.arr.trans a.arr, b.dead.trans a.dead,
    b.oo.trans a.oo, b.oc.trans a.oc⟩

theorem startTop_same (f : Bool) (s : St) (i : Inst)
    (hd : ∀ s', Same s' (drain f s' s.queue).1) : Same s (startTop f s i).1 :=
  startTop_cases f s i (P := fun r _ => Same s r.1) (hot := fun _ _ => ⟨rfl, rfl, rfl, rfl, rfl, rfl⟩)
    (open_ := fun _ _ => ⟨rfl, rfl, rfl, rfl, rfl, rfl⟩) (error := fun _ _ _ => ⟨rfl, rfl, rfl, rfl, rfl, rfl⟩)
    (complete := fun _ _ => Same.trans (s1 := { s with started := s.started + 1 })
      ⟨rfl, rfl, rfl, rfl, rfl, rfl⟩ (hd _))

theorem drain_same (f : Bool) : ∀ q s, Same s (drain f s q).1 :=
  drain_induct f (P := fun s _ r _ => Same s r.1) (last := fun _ _ _ => ⟨rfl, rfl, rfl, rfl, rfl, rfl⟩)
    (more := fun _ _ => ⟨rfl, rfl, rfl, rfl, rfl, rfl⟩) (stuck := fun _ _ _ _ => ⟨rfl, rfl, rfl, rfl, rfl, rfl⟩)
    (start := fun s i rest _ ih => Same.trans (s1 := { s with completed := s.completed + 1, queue := rest })
      ⟨rfl, rfl, rfl, rfl, rfl, rfl⟩ (startTop_same f _ i ih))

theorem completeAll_same (f : Bool) : ∀ ts s, Same s (completeAll f s ts).1 :=
  completeAll_chain f (R := fun s r _ => Same s r.1) (fun _ => ⟨rfl, rfl, rfl, rfl, rfl, rfl⟩)
    (fun a _ b => a.trans b)
    (fun s => innerComplete_cases f s (P := fun r _ => Same s r.1)
      (alive := fun _ => drain_same f _ s) (dead := fun _ => ⟨rfl, rfl, rfl, rfl, rfl, rfl⟩))

/-- The table and the limit never change, arrival numbers only grow. -/
structure Frame (s s' : St) : Prop where
  inners : s'.inners = s.inners
  conc : s'.concurrent = s.concurrent
  arr : s.arrivals ≤ s'.arrivals

theorem Same.frame {s s' : St} (h : Same s s') : Frame s s' :=
  ⟨h.inners, h.conc, Nat.le_of_eq h.arr.symm⟩

theorem Frame.trans {s s1 s2 : St} (a : Frame s s1) (b : Frame s1 s2) : Frame s s2 :=
  ⟨b.inners.trans a.inners, b.conc.trans a.conc, Nat.le_trans a.arr b.arr⟩

theorem stepG_frame (f : Bool) (s : St) (ev : Ev) : Frame s (stepG f s ev).1 :=
  stepG_cases f s ev (P := fun r _ => Frame s r.1) (idle := fun _ => ⟨rfl, rfl, Nat.le_refl _⟩)
    (lost := fun _ _ _ _ _ => ⟨rfl, rfl, Nat.le_succ _⟩)
    (room := fun k _ _ _ _ _ =>
      Frame.trans (s1 := { s with arrivals := s.arrivals + 1, subscribed := s.subscribed + 1 })
        ⟨rfl, rfl, Nat.le_succ _⟩
        (startTop_same f _ ⟨s.arrivals, k⟩ (fun s' => drain_same f _ s')).frame)
    (full := fun _ _ _ _ _ _ => ⟨rfl, rfl, Nat.le_succ _⟩) (outer := fun _ _ _ _ _ _ _ _ _ => ⟨rfl, rfl, Nat.le_refl _⟩)
    (inext := fun _ _ _ _ _ => ⟨rfl, rfl, Nat.le_refl _⟩) (ierr := fun _ _ _ _ _ _ _ _ => ⟨rfl, rfl, Nat.le_refl _⟩)
    (icomp := fun j _ _ _ => Frame.trans (s1 := s.take j) ⟨rfl, rfl, Nat.le_refl _⟩
      (completeAll_same f _ _).frame)
    (unsub := fun _ _ => ⟨rfl, rfl, Nat.le_refl _⟩)

theorem runG_frame (f : Bool) : ∀ evs s, Frame s (runG f s evs).1 :=
  runG_chain f (R := fun s r _ => Frame s r.1) (fun _ => ⟨rfl, rfl, Nat.le_refl _⟩)
    Frame.trans (stepG_frame f)

theorem inner_of_inners {s s' : St} (h : s'.inners = s.inners) : s'.inner = s.inner := by
  funext k; unfold St.inner; rw [h]

theorem outs_startTopL (f : Bool) (s : St) (i : Inst)
    (hd : ∀ s', outs (drainL f s' s.queue) = (drain f s' s.queue).2) :
    outs (startTopL f s i) = (startTop f s i).2 :=
  startTop_cases f s i (P := fun r l => outs l = r.2) (hot := fun _ _ => rfl)
    (open_ := fun _ _ => by simp [outs]) (error := fun _ _ _ => by simp [outs]) (complete := fun _ _ => by simp [outs, hd])

theorem outs_drainL (f : Bool) : ∀ q s, outs (drainL f s q) = (drain f s q).2 :=
  drain_induct f (P := fun _ _ r l => outs l = r.2) (last := fun _ _ _ => rfl) (more := fun _ _ => rfl)
    (stuck := fun _ _ _ _ => rfl) (start := fun _ i _ _ ih => outs_startTopL f _ i ih)

theorem outs_stepL (f : Bool) (s : St) (ev : Ev) : outs (stepL f s ev) = (stepG f s ev).2 :=
  stepG_cases f s ev (P := fun r l => outs l = r.2) (idle := fun _ => rfl) (lost := fun _ _ _ _ _ => rfl)
    (room := fun _ _ _ _ _ _ => outs_startTopL f _ _ (fun s' => outs_drainL f _ s'))
    (full := fun _ _ _ _ _ _ => rfl) (outer := fun _ _ _ _ _ _ _ _ _ => outs_map_out _) (inext := fun _ _ _ _ _ => outs_map_out _)
    (ierr := fun _ _ _ _ _ _ _ _ => outs_map_out _)
    (icomp := fun j _ _ _ => completeAll_chain f (R := fun _ r l => outs l = r.2) (fun _ => rfl)
      (fun a _ b => by rw [outs_append, a, b])
      (fun s => innerComplete_cases f s (P := fun r l => outs l = r.2)
        (alive := fun _ => outs_drainL f _ s) (dead := fun _ => rfl)) _ _)
    (unsub := fun _ _ => rfl)

/-- Erasing the ghost labels of the log gives exactly the model's output. -/
theorem outs_runL (f : Bool) : ∀ evs s, outs (runL f s evs) = (runG f s evs).2 :=
  runG_chain f (R := fun _ r l => outs l = r.2) (fun _ => rfl)
    (fun a b => by rw [outs_append, a, b]) (outs_stepL f)

theorem arrivalsOf_startTopL (f : Bool) (s : St) (i : Inst)
    (hd : ∀ s', arrivalsOf (drainL f s' s.queue) = []) : arrivalsOf (startTopL f s i) = [] :=
  startTop_cases f s i (P := fun _ l => arrivalsOf l = []) (hot := fun _ _ => rfl)
    (open_ := fun _ _ => by simp [arrivalsOf]) (error := fun _ _ _ => by simp [arrivalsOf])
    (complete := fun _ _ => by simp [arrivalsOf, hd])

theorem arrivalsOf_drainL (f : Bool) : ∀ q s, arrivalsOf (drainL f s q) = [] :=
  drain_induct f (P := fun _ _ _ l => arrivalsOf l = []) (last := fun _ _ _ => rfl) (more := fun _ _ => rfl)
    (stuck := fun _ _ _ _ => rfl) (start := fun _ i _ _ ih => arrivalsOf_startTopL f _ i ih)

theorem arrivalsOf_completeAllL (f : Bool) : ∀ ts s, arrivalsOf (completeAllL f s ts) = [] :=
  completeAll_chain f (R := fun _ _ l => arrivalsOf l = []) (fun _ => rfl)
    (fun a _ b => by rw [arrivalsOf_append, a, b]; rfl)
    (fun s => innerComplete_cases f s (P := fun _ l => arrivalsOf l = [])
      (alive := fun _ => arrivalsOf_drainL f _ s) (dead := fun _ => rfl))

/-- The accepted arrivals of one event: the outer `next` that finds the slot open and the data
    alive gets the arrival counter as its tag; nothing else is accepted. -/
theorem arrivalsOf_stepL (f : Bool) (s : St) (ev : Ev) :
    arrivalsOf (stepL f s ev) =
      match ev with
      | .outerNext k =>
          if s.stuck = false ∧ s.outerOpen = true ∧ s.alive = true then [⟨s.arrivals, k⟩] else []
      | _ => [] :=
  stepG_cases f s ev (P := fun _ l => arrivalsOf l = match ev with
      | .outerNext k =>
          if s.stuck = false ∧ s.outerOpen = true ∧ s.alive = true then [⟨s.arrivals, k⟩] else []
      | _ => [])
    (idle := fun h => by
      cases ev <;> try rfl
      rcases h with h | h <;> simp [arrivalsOf, h])
    (lost := fun k he _ _ ha => by subst he; simp [arrivalsOf, ha])
    (room := fun k he hs ho ha _ => by
      subst he
      simp [arrivalsOf, hs, ho, ha, arrivalsOf_startTopL f _ _ (fun s' => arrivalsOf_drainL f _ s')])
    (full := fun k he hs ho ha _ => by subst he; simp [arrivalsOf, hs, ho, ha])
    (outer := fun _ _ _ _ _ he _ _ _ => by rcases he with ⟨rfl, _⟩ | ⟨_, rfl, _⟩ <;> exact arrivalsOf_map_out _)
    (inext := fun _ _ he _ _ => by subst he; exact arrivalsOf_map_out _)
    (ierr := fun _ _ _ _ he _ _ _ => by subst he; exact arrivalsOf_map_out _)
    (icomp := fun _ he _ _ => by subst he; exact arrivalsOf_completeAllL f _ _)
    (unsub := fun he _ => by subst he; rfl)

/-- An outer `next` that finds the slot open takes the next arrival number, accepted or not. -/
theorem stepG_arrivals_succ (f : Bool) (s : St) (k : Nat) (hs : s.stuck = false)
    (ho : s.outerOpen = true) : (stepG f s (.outerNext k)).1.arrivals = s.arrivals + 1 :=
  stepG_cases f s (.outerNext k) (P := fun r _ => r.1.arrivals = s.arrivals + 1)
    (idle := fun h => by rcases h with h | h <;> simp_all)
    (lost := fun _ _ _ _ _ => rfl)
    (room := fun _ _ _ _ _ _ => (startTop_same f _ _ (fun s' => drain_same f _ s')).arr)
    (full := fun _ _ _ _ _ _ => rfl) (outer := fun _ _ _ _ _ he => by rcases he with ⟨he, _⟩ | ⟨_, he, _⟩ <;> cases he)
    (inext := fun _ _ he => by cases he) (ierr := fun _ _ _ _ he => by cases he) (icomp := fun _ he => by cases he)
    (unsub := fun he => by cases he)

/-- No queued inner observable emits or terminates inside `actual_subscribe`. -/
def QueueQuiet (s : St) : Prop := ∀ i ∈ s.queue, (s.inner i.k).touches = false

theorem touches_cold_complete (xs : List Val) : (Inner.cold xs .complete).touches = true := by
  cases xs <;> rfl

/-- Once stuck, always stuck (the case stops there). -/
theorem runG_of_stuck (f : Bool) (evs : List Ev) : ∀ s : St, s.stuck = true →
    runG f s evs = (s, []) := by
  induction evs with
  | nil => intro s _; rfl
  | cons ev r ih =>
    intro s h
    simp only [runG, stepG_of_stuck h, ih s h, List.append_nil]

theorem not_stuck_head (f : Bool) (s : St) (ev : Ev) (r : List Ev)
    (h : (runG f s (ev :: r)).1.stuck = false) :
    s.stuck = false ∧ (stepG f s ev).1.stuck = false := by
  constructor
  · cases hst : s.stuck with
    | false => rfl
    | true => rw [runG_of_stuck f _ s hst] at h; rw [h] at hst; cases hst
  · cases hst : (stepG f s ev).1.stuck with
    | false => rfl
    | true =>
      simp only [runG, runG_of_stuck f r _ hst] at h
      rw [h] at hst; cases hst

theorem not_stuck_prefix (f : Bool) (a b : List Ev) (s : St)
    (h : (runG f s (a ++ b)).1.stuck = false) : (runG f s a).1.stuck = false := by
  cases hst : (runG f s a).1.stuck with
  | false => rfl
  | true =>
    rw [runG_append] at h
    simp only [runG_of_stuck f b _ hst] at h
    rw [h] at hst; cases hst

theorem blocked_congr {f : Bool} {s s' : St} (h : s'.inners = s.inners) (i : Inst) :
    blocked f s' i = blocked f s i := by
  unfold blocked; rw [inner_of_inners h]

theorem startTop_not_stuck (f : Bool) (s : St) (i : Inst)
    (hd : ∀ s', s'.inners = s.inners → s'.stuck = s.stuck →
      (drain f s' s.queue).1.stuck = s.stuck ∧ ∀ a ∈ (drain f s' s.queue).1.queue, a ∈ s.queue) :
    (startTop f s i).1.stuck = s.stuck ∧ ∀ a ∈ (startTop f s i).1.queue, a ∈ s.queue :=
  startTop_cases f s i (P := fun r _ => r.1.stuck = s.stuck ∧ ∀ a ∈ r.1.queue, a ∈ s.queue)
    (hot := fun _ _ => ⟨rfl, fun _ h => h⟩) (open_ := fun _ _ => ⟨rfl, fun _ h => h⟩)
    (error := fun _ _ _ => ⟨rfl, fun _ h => h⟩) (complete := fun _ _ => hd _ rfl rfl)

/-- `drain` gets stuck only at a blocked instance of the queue it works off, and leaves a
    sub-queue. -/
theorem drain_not_stuck (f : Bool) : ∀ q s, (∀ i ∈ q, blocked f s i = false) →
    (drain f s q).1.stuck = s.stuck ∧ ∀ i ∈ (drain f s q).1.queue, i ∈ q :=
  drain_induct f (P := fun s q r _ => (∀ i ∈ q, blocked f s i = false) →
      r.1.stuck = s.stuck ∧ ∀ i ∈ r.1.queue, i ∈ q)
    (last := fun _ _ _ _ => ⟨rfl, fun _ h => h⟩) (more := fun _ _ _ => ⟨rfl, fun _ h => h⟩)
    (stuck := fun s i rest hb hq => by rw [hq i List.mem_cons_self] at hb; cases hb)
    (start := fun s i rest _ ih hq => by
      have := startTop_not_stuck f { s with completed := s.completed + 1, queue := rest } i
        (fun s' hi hs => hs ▸ ih s' (fun a ha =>
          (blocked_congr hi a).trans (hq a (List.mem_cons_of_mem _ ha))))
      exact ⟨this.1, fun a ha => List.mem_cons_of_mem _ (this.2 a ha)⟩)

theorem blocked_of_quiet {f : Bool} {s : St} (hq : f = true ∨ QueueQuiet s) :
    ∀ i ∈ s.queue, blocked f s i = false := by
  intro i hi
  rcases hq with rfl | hq
  · rfl
  · simp [blocked, hq i hi]

/-- One event does not get stuck if the repair is in, or if the queue is quiet. -/
theorem stepG_not_stuck (f : Bool) (s : St) (ev : Ev) (h : s.stuck = false)
    (hq : f = true ∨ QueueQuiet s) : (stepG f s ev).1.stuck = false := by
  have hb := blocked_of_quiet hq
  refine stepG_cases f s ev (P := fun r _ => r.1.stuck = false) (idle := fun _ => h) (lost := fun _ _ _ _ _ => h)
    (room := fun k _ _ _ _ _ => ?_) (full := fun _ _ _ _ _ _ => h) (outer := fun _ _ _ _ _ _ _ _ _ => h) (inext := fun _ _ _ _ _ => h)
    (ierr := fun _ _ _ _ _ _ _ _ => h) (icomp := fun j _ _ _ => ?_) (unsub := fun _ _ => h)
  · exact (startTop_not_stuck f _ _ fun s' hi hs =>
      hs ▸ drain_not_stuck f _ s' fun a ha => (blocked_congr hi a).trans (hb a ha)).1.trans h
  · -- every `innerComplete` of the taken list sees a sub-queue of the quiet queue
    exact (completeAll_chain f
      (R := fun s' r _ => (s'.stuck = false ∧ s'.inners = s.inners ∧ ∀ i ∈ s'.queue, i ∈ s.queue) →
        r.1.stuck = false ∧ r.1.inners = s.inners ∧ ∀ i ∈ r.1.queue, i ∈ s.queue)
      (fun _ h' => h') (fun a _ b h' => b (a h'))
      (fun s' => innerComplete_cases f s' (P := fun r _ =>
          (s'.stuck = false ∧ s'.inners = s.inners ∧ ∀ i ∈ s'.queue, i ∈ s.queue) →
          r.1.stuck = false ∧ r.1.inners = s.inners ∧ ∀ i ∈ r.1.queue, i ∈ s.queue)
        (alive := fun _ h' => by
          have := drain_not_stuck f _ s' fun i hi =>
            (blocked_congr h'.2.1 i).trans (hb i (h'.2.2 i hi))
          exact ⟨this.1.trans h'.1, (drain_same f _ s').inners.trans h'.2.1,
            fun i hi => h'.2.2 i (this.2 i hi)⟩)
        (dead := fun _ h' => h')) _ (s.take j) ⟨h, rfl, fun _ hi => hi⟩).1

theorem runG_not_stuck_fixed (evs : List Ev) : ∀ s : St, s.stuck = false →
    (runG true s evs).1.stuck = false := by
  induction evs with
  | nil => intro s h; exact h
  | cons ev r ih => intro s h; exact ih _ (stepG_not_stuck true s ev h (Or.inl rfl))

theorem runG_not_stuck_quiet (evs : List Ev) : ∀ s : St, s.stuck = false →
    (∀ pre ev post, evs = pre ++ ev :: post → QueueQuiet (runG false s pre).1) →
    (runG false s evs).1.stuck = false := by
  induction evs with
  | nil => intro s h _; exact h
  | cons ev r ih =>
    intro s h hq
    apply ih _ (stepG_not_stuck false s ev h (Or.inr (hq [] ev r rfl)))
    intro pre ev' post he
    have := hq (ev :: pre) ev' post (by simp [he])
    simpa [runG] using this

end Rx.MergeAll
