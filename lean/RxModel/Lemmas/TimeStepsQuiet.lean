import RxModel.Lemmas.TimeStepsEv
/-
  debounce and throttle (the handler-cell operators) with the ORIGINAL order of their subscription: the invariant of
  all schedules behind Props/C02S.lean, and from it: nothing is delivered after the marker `R`.
-/
namespace Rx.Conc.TS
open Rx

/-- past `SubscriberThreads::unsubscribe` of the source half -/
def Pc.uLate : Pc → Bool
  | .u_hcell _ | .u_cancel _ _ | .u_end => true
  | _ => false

theorem uLate_inUnsub {q : Pc} (h : q.uLate = true) : q.inUnsub = true := by
  cases q <;> first | rfl | cases h

theorem ev_uLate (K : Conf) (hK : K.order = .original) (s : St) (p : Pc) (ok : p.okH = true)
    (h : (step K s p).2.uLate = true) : p.uLate = true ∨ ∃ b, p = .u_slot b := by
  rcases ev_inUnsub K s p (uLate_inUnsub h) with hp | ⟨rfl, _⟩
  · cases p <;> simp [Pc.inUnsub] at hp
    case u_slot b => exact .inr ⟨b, rfl⟩
    case u_hcell b => exact .inl rfl
    case u_cancel k b => exact .inl rfl
    case u_end => exact .inl rfl
    all_goals cases ok
  · rcases step_u_begin hK s with e | e <;> rw [e] at h <;> cases h

/-- who can call the probe -/
theorem down_cases (p : Pc) (h : p.cell = some .down) (ok : p.okH = true) :
    Cell.slot ∈ p.holds ∨ ∃ k v ret, p = .p_down k v ret := by
  cases p <;> simp [Pc.cell] at h <;> simp [Pc.holds, Pc.okH] at ok ⊢

/-- what a thread standing at a program counter knows -/
def Assert (s : St) : Pc → Prop
  | .hc_store k => k < s.tasks.length ∧ ∀ h, s.hcell = some h → s.armed h = false
  | .th_ltrail _ => ∀ h, s.hcell = some h → s.armed h = false
  | .th_ldown _ => ∀ h, s.hcell = some h → s.armed h = false
  | .th_closed h _ => s.hcell = some h
  | .db_cancel _ => s.hcell = none
  | .p_trail k _ => s.armed k = true
  | .p_down k _ _ => s.armed k = true
  | .u_hcell _ => s.slotOpen = false
  | .u_cancel _ _ => s.slotOpen = false ∧ s.hcell = none
  | .u_end => s.slotOpen = false ∧ s.hcell = none ∧ ∀ k, s.armed k = false
  | _ => True

/-- after `unsubscribe()` has returned -/
structure Quiet (s : St) (f : Nat → Pc) : Prop where
  slot : s.slotOpen = false
  hcell : s.hcell = none
  dead : ∀ k, s.armed k = false
  out : ∀ j, Cell.slot ∉ (f j).holds

/-- the clauses that do not talk about `locks` -/
structure DData (s : St) (f : Nat → Pc) : Prop where
  ok : ∀ j, (f j).okH = true
  body : ∀ t ∈ s.tasks, t.body = .trailing
  as : ∀ j, Assert s (f j)
  poll : PollInv s f
  /-- the handler cell holds the handle of an existing task -/
  t4 : ∀ h, s.hcell = some h → h < s.tasks.length
  /-- an armed task is the one in the handler cell, or about to be stored / cancelled -/
  t1 : ∀ k, s.armed k = true →
    s.hcell = some k ∨ ∃ j, f j = .hc_store k ∨ f j = .db_cancel k ∨ f j = .tc_cancel k ∨ f j = .te_cancel k ∨
      f j = .u_cancel k false
  /-- once the source half is closed nobody is inside the slot section -/
  u1 : ∀ j j', (f j).uLate = true → Cell.slot ∉ (f j').holds
  q : Item.R ∈ s.log → Quiet s f
  ql : quietAfterR s.log = true

structure DInv (s : St) (f : Nat → Pc) : Prop where
  ld : LD s f
  dd : DData s f

/-- debounce or throttle, the order of the code -/
structure HConf (K : Conf) : Prop where
  kind : K.kind.isH = true
  order : K.order = .original

theorem task_body (s : St) (hb : ∀ t ∈ s.tasks, t.body = .trailing) (k : Nat) : (s.task k).body = .trailing := by
  rw [task_eq]
  cases h : s.tasks[k]? with
  | none => rfl
  | some t => exact hb t (List.mem_of_getElem? h)

theorem okH_entries {K : Conf} (h1 : K.kind.isH = true) :
    (∀ v, (nextEntry K v).okH = true) ∧ (∀ t, (termEntry K t).okH = true) ∧ ∀ b, (uSecond K b).okH = !b := by
  obtain ⟨kind, order⟩ := K
  cases kind <;> first | cases h1 | skip
  all_goals
    refine ⟨fun v => ?_, fun t => ?_, fun b => rfl⟩
    · first | rfl | (rename_i e; cases e <;> rfl)
    · cases t <;> rfl
theorem step_okH {K : Conf} (hK : HConf K) (s : St) (p : Pc) (hb : ∀ t ∈ s.tasks, t.body = .trailing)
    (hp : p.okH = true) : (step K s p).2.okH = true := by
  have tb := task_body s hb
  obtain ⟨hn, ht, hu⟩ := okH_entries hK.kind
  revert hp
  induction p using step_elim K s <;> intro hp
  case u_begin_held => simp only [hK.order]; rfl
  case sj_slot => split <;> first | rfl | exact hn _
  case sj_tslot_open => exact ht _
  case p_handle_body => simp only [tb]; rfl
  case u_slot b => cases b <;> first | (cases hp; done) | exact hu false
  case u_hcell_some => exact hp
  case u_hcell_none b _ => cases b <;> first | rfl | cases hp
  case u_cancel _ b => cases b <;> first | rfl | cases hp
  all_goals
    first
    | rfl
    | (cases hp; done)
    | ((repeat' split) <;> rfl)
    | (simp only [afterTrail, thOver, retPc]; (repeat' split) <;> rfl)
theorem entry_okH {q : Pc} (h : q.isEntry = true) : q.okH = true := by
  cases q <;> first | rfl | cases h

theorem entry_assert (s : St) {q : Pc} (h : q.isEntry = true) : Assert s q := by
  cases q <;> first | trivial | cases h

theorem uLate_assert {s : St} {p : Pc} (hl : p.uLate = true) (a : Assert s p) : s.slotOpen = false := by
  cases p <;> simp [Pc.uLate] at hl <;> first | exact a | exact a.1

/-! ### non-interference: what thread j ≠ i knows survives a step of thread i -/

section frame
variable {K : Conf} {s : St} {f : Nat → Pc} {i : Nat}

theorem assert_frame (h : DInv s f) (he : s.enabled (f i) = true) {j : Nat} (hj : j ≠ i) :
    Assert (step K s (f i)).1 (f j) := by
  have a := h.dd.as j
  have hstore : ∀ k', f i = .hc_store k' → Cell.slot ∈ (f j).holds ∨ (f j).uLate = true → False := by
    intro k' e hsl
    have hi : Cell.slot ∈ (f i).holds := by rw [e]; simp [Pc.holds]
    rcases hsl with hsl | hsl
    · exact hj (h.ld.excl _ _ _ hsl hi)
    · exact h.dd.u1 j i hsl hi
  have hcell : s.hcell = none → Cell.slot ∈ (f j).holds ∨ (f j).uLate = true →
      (step K s (f i)).1.hcell = none := by
    intro hn hsl
    cases hx : (step K s (f i)).1.hcell with
    | none => rfl
    | some k' =>
      rcases ev_hcell_some _ _ _ _ hx with e | e
      · rw [hn] at e; cases e
      · exact (hstore k' e hsl).elim
  have hun : (∀ h', s.hcell = some h' → s.armed h' = false) → Cell.slot ∈ (f j).holds →
      ∀ h', (step K s (f i)).1.hcell = some h' → (step K s (f i)).1.armed h' = false := by
    intro hu hsl h' hx
    rcases ev_hcell_some _ _ _ _ hx with e | e
    · exact unarmed_keep _ (h.dd.t4 h' e) (hu h' e)
    · exact (hstore h' e (Or.inl hsl)).elim
  have hdead : (f j).uLate = true → (∀ k, s.armed k = false) → ∀ k, (step K s (f i)).1.armed k = false := by
    intro hl hd k
    cases hx : (step K s (f i)).1.armed k with
    | false => rfl
    | true =>
      rcases ev_armed _ _ _ _ hx with e | ⟨_, e⟩
      · rw [hd k] at e; cases e
      · exact absurd e (h.dd.u1 j i hl)
  generalize hfj : f j = q at a ⊢
  cases q <;> first | trivial | skip
  case hc_store k =>
    exact ⟨Nat.lt_of_lt_of_le a.1 (len_mono _ _ _), hun a.2 (by rw [hfj]; simp [Pc.holds])⟩
  case th_ltrail v => exact hun a (by rw [hfj]; simp [Pc.holds])
  case th_ldown v => exact hun a (by rw [hfj]; simp [Pc.holds])
  case th_closed h0 v =>
    refine ((step_framed K s (f i)).hcell fun e => ?_).trans a
    rw [blocked_of_held h.ld (j := j) (c := .hcell) (by rw [hfj]; simp [Pc.holds]) e] at he; cases he
  case db_cancel k => exact hcell a (Or.inl (by rw [hfj]; simp [Pc.holds]))
  case p_trail k ret => exact armed_kept h.ld he hj (by rw [hfj]; simp [Pc.holds]) a
  case p_down k v ret => exact armed_kept h.ld he hj (by rw [hfj]; simp [Pc.holds]) a
  case u_hcell b => exact slot_closed _ a
  case u_cancel k b => exact ⟨slot_closed _ a.1, hcell a.2 (Or.inr (by rw [hfj]; rfl))⟩
  case u_end =>
    exact ⟨slot_closed _ a.1, hcell a.2.1 (Or.inr (by rw [hfj]; rfl)), hdead (by rw [hfj]; rfl) a.2.2⟩

/-- while a thread is past the source half of `unsubscribe()`, an armed task is the one in the handler cell or the one
    this thread is about to cancel: the threads that could store or cancel one are inside the slot section -/
theorem armed_late (h : DInv s f) (late : (f i).uLate = true) {k : Nat} (hx : s.armed k = true) :
    s.hcell = some k ∨ ∃ j, f j = .u_cancel k false := by
  rcases h.dd.t1 k hx with e | ⟨j, e | e | e | e | e⟩
  · exact .inl e
  · exact absurd (by rw [e]; simp [Pc.holds]) (h.dd.u1 i j late)
  · exact absurd (by rw [e]; simp [Pc.holds]) (h.dd.u1 i j late)
  · exact absurd (by rw [e]; simp [Pc.holds]) (h.dd.u1 i j late)
  · exact absurd (by rw [e]; simp [Pc.holds]) (h.dd.u1 i j late)
  · exact .inr ⟨j, e⟩

/-- when the unsubscribing thread finds the handler cell empty, no task is armed -/
theorem unarmed_of_empty (h : DInv s f) (he : s.enabled (f i) = true) {b : Bool} (hp : f i = .u_hcell b)
    (hn : s.hcell = none) : ∀ k, s.armed k = false := by
  intro k
  cases hx : s.armed k with
  | false => rfl
  | true =>
    rcases armed_late h (by rw [hp]; rfl) hx with e | ⟨j, e⟩
    · rw [hn] at e; cases e
    · rw [blocked_of_held h.ld (j := j) (c := .hcell) (by rw [e]; simp [Pc.holds]) (by rw [hp]; rfl)] at he
      cases he

/-- … and after it has cancelled the one it found, none is -/
theorem unarmed_after_cancel (h : DInv s f) {h0 : Nat} {b : Bool} (hp : f i = .u_cancel h0 b) :
    ∀ k, (s.upd h0 cancel).armed k = false := by
  intro k
  have a := h.dd.as i
  rw [hp] at a
  by_cases e : h0 = k
  · exact e ▸ cancel_unarmed s h0
  · have ek : (s.upd h0 cancel).armed k = s.armed k := by
      unfold St.armed St.upd; simp only [getElem?_updT, if_neg e]
    rw [ek]
    cases hx : s.armed k with
    | false => rfl
    | true =>
      rcases armed_late h (by rw [hp]; rfl) hx with e1 | ⟨j, e1⟩
      · rw [a.2] at e1; cases e1
      · cases h.ld.excl .hcell j i (by rw [e1]; simp [Pc.holds]) (by rw [hp]; simp [Pc.holds])
        rw [hp] at e1; cases e1; exact absurd rfl e

theorem spawn_armed_old (s : St) (dur : Option Nat) (b : Body) (k : Nat) (hk : k < s.tasks.length) :
    (s.spawn dur b).1.armed k = s.armed k := by
  unfold St.armed St.spawn
  simp only []
  rw [List.getElem?_append_left hk]

theorem armed_congr {s s' : St} (e : s'.tasks = s.tasks) (k : Nat) : s'.armed k = s.armed k := by
  unfold St.armed; rw [e]

theorem unarmed_of_value (s : St) (k : Nat) (hv : (s.task k).value = true) : s.armed k = false := by
  unfold St.armed
  rw [task_eq] at hv
  cases h : s.tasks[k]? with
  | none => rfl
  | some t => rw [h] at hv; simp at hv; simp [hv]

/-- a fresh task may be stored over a handler cell whose task cannot run any more -/
theorem spawn_assert (s : St) (d : Option Nat) (b : Body) (t4 : ∀ h, s.hcell = some h → h < s.tasks.length)
    (hu : ∀ h, s.hcell = some h → s.armed h = false) : Assert (s.spawn d b).1 (.hc_store (s.spawn d b).2) :=
  ⟨by simp [St.spawn], fun h' e => (spawn_armed_old _ _ _ _ (t4 h' e)).trans (hu h' e)⟩

/-- What a thread knows after its own step, from what it knew before (`a`) and three facts that need the other
    threads (`hbody`, `hempty`, `hcancel`). -/
theorem assert_step (hK : HConf K) (p : Pc) (a : Assert s p) (ok : p.okH = true)
    (tb : ∀ k, (s.task k).body = .trailing) (t4 : ∀ h, s.hcell = some h → h < s.tasks.length)
    (hbody : ∀ k ret, p = .p_handle k ret → (s.task k).keep = true → s.armed k = true)
    (hempty : ∀ b, p = .u_hcell b → s.hcell = none → ∀ k, s.armed k = false)
    (hcancel : ∀ h0 b, p = .u_cancel h0 b → ∀ k, (s.upd h0 cancel).armed k = false) :
    Assert (step K s p).1 (step K s p).2 := by
  have h1 := hK.kind
  revert a ok hbody hempty hcancel
  induction p using step_elim K s <;> intro a ok hbody hempty hcancel
  case db_hcell_some => exact rfl
  case db_hcell_none hn => exact spawn_assert s _ _ t4 fun h e => nomatch hn.symm.trans e
  case db_cancel => exact spawn_assert (s.upd _ cancel) _ _ (by simpa [St.upd] using t4) fun h e => nomatch a.symm.trans e
  -- throttle: the window is over if there is no handle or its task's body has returned
  case th_hcell_some => assumption
  case th_hcell_none v hn =>
    unfold thOver; (repeat' split)
    · exact fun h e => nomatch hn.symm.trans e
    · exact spawn_assert s _ _ t4 fun h e => nomatch hn.symm.trans e
    · trivial
  case th_closed_over h0 v hv =>
    have hu : ∀ h, s.hcell = some h → s.armed h = false := fun h e => by
      cases a.symm.trans e; exact unarmed_of_value s _ hv
    unfold thOver; (repeat' split)
    · exact hu
    · exact spawn_assert s _ _ t4 hu
    · trivial
  case th_ltrail_emit => exact a
  case th_ltrail_skip => exact spawn_assert { s with trailing := none } _ _ t4 a
  case th_ldown v =>
    have e := deliver_hcell s (.next v)
    exact spawn_assert (s.deliver (.next v)) _ _ (by rw [deliver_tasks]; exact e ▸ t4)
      fun h eh => (armed_congr (deliver_tasks _ _) h).trans (a h (e ▸ eh))
  case p_handle_body k ret hk _ =>
    simp only [tb]
    exact hbody k ret rfl hk
  case p_trail_some => exact a
  case u_begin_held => simp only [hK.order]; trivial
  case u_slot b =>
    cases b
    · cases ok
    · rw [if_pos rfl, uSecond_H h1]; rfl
  case u_hcell_some => exact ⟨a, rfl⟩
  case u_hcell_none b hn =>
    cases b
    · exact ⟨a, hn, hempty _ rfl hn⟩
    · cases ok
  case u_cancel h0 b =>
    cases b
    · exact ⟨a.1, a.2, hcancel _ _ rfl⟩
    · cases ok
  all_goals
    first
    | trivial
    | (cases ok; done)
    | ((repeat' split) <;> trivial)
    | (simp only [nextEntry, termEntry, afterTrail, retPc]; (repeat' split) <;> trivial)

theorem assert_self (hK : HConf K) (h : DInv s f) (he : s.enabled (f i) = true) :
    Assert (step K s (f i)).1 (step K s (f i)).2 :=
  assert_step hK (f i) (h.dd.as i) (h.dd.ok i) (task_body s h.dd.body) h.dd.t4
    (fun _ _ hp => armed_at_body h.dd.poll hp) (fun _ hp => unarmed_of_empty h he hp)
    (fun _ _ hp => unarmed_after_cancel h hp)

theorem quiet_preserved (hq : Quiet s f) {q : Pc} (ha : After (step K s (f i)).2 q) :
    Quiet (step K s (f i)).1 (fun j => if j = i then q else f j) := by
  have hm := QuietM.preserved ⟨hq.slot, hq.dead, hq.out⟩ ha
  refine ⟨hm.slot, ?_, hm.dead, hm.out⟩
  cases hx : (step K s (f i)).1.hcell with
  | none => rfl
  | some k' =>
    rcases ev_hcell_some _ _ _ _ hx with e | e
    · rw [hq.hcell] at e; cases e
    · exact absurd (by rw [e]; simp [Pc.holds]) (hq.out i)

theorem ddata_preserved (hK : HConf K) (h : DInv s f) (he : s.enabled (f i) = true) {q : Pc}
    (ha : After (step K s (f i)).2 q) :
    DData (step K s (f i)).1 (fun j => if j = i then q else f j) := by
  have hb' : ∀ t ∈ (step K s (f i)).1.tasks, t.body = .trailing := by
    intro t' hm
    obtain ⟨k, ht'⟩ := List.getElem?_of_mem hm
    cases ht : s.tasks[k]? with
    | some t =>
      obtain ⟨t'', ht'', hkept⟩ := ev_old K s (f i) k t ht
      cases ht'.symm.trans ht''
      rw [hkept.body]; exact h.dd.body t (List.mem_of_getElem? ht)
    | none =>
      obtain ⟨_, b, rfl, _, ⟨_, e, _⟩ | ⟨e, _⟩⟩ := ev_new K s (f i) k t' ht' ht
      · exact e
      · rw [h.dd.ok i] at e; cases e
  refine ⟨fun j => ?_, hb', fun j => ?_, h.dd.poll.preserved ha, ?_, ?_, ?_, ?_, ?_⟩
  · -- program counters of debounce / throttle
    by_cases hj : j = i
    · simp only [hj, if_true]
      rcases ha with rfl | ⟨_, hent⟩
      · exact step_okH hK s (f i) h.dd.body (h.dd.ok i)
      · exact entry_okH hent
    · simp only [hj, if_false]; exact h.dd.ok j
  · -- what each thread knows
    by_cases hj : j = i
    · simp only [hj, if_true]
      rcases ha with rfl | ⟨_, hent⟩
      · exact assert_self hK h he
      · exact entry_assert _ hent
    · simp only [hj, if_false]; exact assert_frame h he hj
  · -- the handler cell holds the handle of an existing task
    intro h' hx
    rcases ev_hcell_some _ _ _ _ hx with e | e
    · exact Nat.lt_of_lt_of_le (h.dd.t4 h' e) (len_mono _ _ _)
    · have a := h.dd.as i
      rw [e] at a
      exact Nat.lt_of_lt_of_le a.1 (len_mono _ _ _)
  · -- an armed task stays tracked
    intro k hx
    rcases ev_armed _ _ _ _ hx with e | ⟨h0, _⟩
    · have hlt : k < s.tasks.length := by
        obtain ⟨t, ht, _⟩ := (armed_iff _ _).mp e
        exact (List.getElem?_eq_some_iff.mp ht).1
      rcases h.dd.t1 k e with hc | ⟨j, hj⟩
      · by_cases hcell : (f i).cell = some .hcell
        · rcases step_hcell K s (f i) hcell with ⟨k', e2⟩ | e2 | ⟨h', eh, _, e2⟩
          · -- a store over an armed handle: excluded by what the storing thread knows
            have a := h.dd.as i
            rw [e2] at a
            rw [a.2 k hc] at e; cases e
          · exact .inl (e2.trans hc)
          · -- `k` is taken out of the cell by the thread that goes on to cancel it
            cases hc.symm.trans eh
            refine .inr ⟨i, ?_⟩
            simp only [if_true]
            rcases e2 with e2 | e2 | e2 | ⟨b, ep, e2⟩
            · exact .inr (.inl (after_eq ha e2 nofun))
            · exact .inr (.inr (.inl (after_eq ha e2 nofun)))
            · exact .inr (.inr (.inr (.inl (after_eq ha e2 nofun))))
            · have ok := h.dd.ok i
              rw [ep] at ok
              cases b
              · exact .inr (.inr (.inr (.inr (after_eq ha e2 nofun))))
              · cases ok
        · exact .inl (((step_framed K s (f i)).hcell hcell).trans hc)
      · by_cases hji : j = i
        · subst hji
          have hc := cancel_unarmed s k
          rcases hj with e1 | e1 | e1 | e1 | e1 <;> rw [e1] at hx
          · left; rw [e1]; rfl
          · rw [show (step K s (.db_cancel k)).1 = ((s.upd k cancel).spawn K.dur .trailing).1 from rfl,
              spawn_armed_old _ _ _ _ ((length_updT s.tasks k cancel).symm ▸ hlt), hc] at hx
            cases hx
          · cases hc.symm.trans hx
          · cases hc.symm.trans hx
          · cases hc.symm.trans hx
        · exact .inr ⟨j, by simp only [hji, if_false]; exact hj⟩
    · obtain ⟨t', ht', _⟩ := (armed_iff _ _).mp hx
      obtain ⟨_, b, _, _, ⟨_, _, e⟩ | ⟨e, _⟩⟩ := ev_new K s (f i) k t' ht' h0
      · exact .inr ⟨i, .inl (by simp only [if_true]; exact after_eq ha e nofun)⟩
      · rw [h.dd.ok i] at e; cases e
  · -- behind the source half nobody is inside the slot section
    refine late_preserved Pc.uLate (fun _ => uLate_inUnsub) h.ld he ha (fun hl => ?_)
      (fun j hl => uLate_assert hl (h.dd.as j)) h.dd.u1
    exact ev_uLate K hK.order s (f i) (h.dd.ok i) hl
  · -- behind the marker: `u_end` knows the pipeline is dead, every later step keeps it so
    intro hR
    refine quiet_preserved ?_ ha
    rcases R_mem _ hR with hR | e
    · exact h.dd.q hR
    · have a := h.dd.as i
      rw [e] at a
      exact ⟨a.1, a.2.1, a.2.2, fun j => h.dd.u1 i j (by rw [e]; rfl)⟩
  · -- ql: whoever delivers is inside the slot section or runs an armed task, which `Quiet` excludes
    refine quiet_log _ h.dd.ql fun hc hR => ?_
    have hq := h.dd.q hR
    rcases down_cases (f i) hc (h.dd.ok i) with e | ⟨k, v, ret, e⟩
    · exact hq.out i e
    · have a := h.dd.as i
      rw [e] at a
      cases (hq.dead k).symm.trans a

end frame

theorem DData.setHeld {s : St} {f : Nat → Pc} (h : DData s f) (i : Tid) (c : List Cell) :
    DData (s.setHeld i c) f :=
  ⟨h.ok, h.body, h.as, ⟨h.poll.p1, h.poll.p2, h.poll.v⟩, h.t4, h.t1, h.u1,
    fun hR => ⟨(h.q hR).slot, (h.q hR).hcell, (h.q hR).dead, (h.q hR).out⟩, h.ql⟩

theorem DInv.preserved {K : Conf} (hK : HConf K) {s : St} {f : Nat → Pc} (h : DInv s f) (i : Nat) (q : Pc)
    (he : s.enabled (f i) = true) (ha : After (step K s (f i)).2 q) :
    DInv ((step K s (f i)).1.setHeld i q.holds) (fun j => if j = i then q else f j) :=
  ⟨h.ld.preserved K i q he ha, (ddata_preserved hK h he ha).setHeld i q.holds⟩

theorem DInv.init (live : Bool) (progs : List (List Op)) :
    DInv (St.subscribed live) (Cfg.init (St.subscribed live) progs).pcOf := by
  have hpc := init_pcOf (St.subscribed live) progs
  have hno : ∀ k, (St.subscribed live).armed k = false := by intro k; rfl
  refine ⟨LD.init _ rfl progs, ⟨?_, ?_, ?_, PollInv.init live progs, ?_, ?_, ?_, ?_, rfl⟩⟩
  · intro j; rcases hpc j with e | e
    · rw [e]; rfl
    · exact entry_okH e
  · intro t ht; cases ht
  · intro j; rcases hpc j with e | e
    · rw [e]; trivial
    · exact entry_assert _ e
  · intro h' e; cases e
  · intro k hk; rw [hno k] at hk; cases hk
  · intro j j' h1; rcases hpc j with e | e
    · rw [e] at h1; cases h1
    · cases (entry_inUnsub e).symm.trans (uLate_inUnsub h1)
  · intro hR; cases hR

/-- The invariant holds along every schedule of every set of threads. -/
theorem DInv.exec {K : Conf} (hK : HConf K) (live : Bool) (progs : List (List Op)) (sched : List Nat) :
    DInv (exec K (Cfg.init (St.subscribed live) progs) sched).st
      (exec K (Cfg.init (St.subscribed live) progs) sched).pcOf :=
  view_induction K DInv (fun _ _ i q h he ha => h.preserved hK i q he ha) sched _ (DInv.init live progs)

theorem hconf_debounce (d : Nat) : HConf ⟨.debounce d, .original⟩ := ⟨rfl, rfl⟩
theorem hconf_throttle (d : Nat) (e : Edge) : HConf ⟨.throttle d e, .original⟩ := ⟨rfl, rfl⟩

end Rx.Conc.TS
