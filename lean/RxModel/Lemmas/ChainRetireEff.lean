import RxModel.Lemmas.ChainRetireSched
import RxModel.Lemmas.Multi
/-
  C16 over the chain model: the effect relation.

  `Eff a w w'` — what a move of the model (anything but the executor's own bookkeeping) does, seen from the
  producer's side:
    * same source, stages moved towards finished only (`SLe`), scheduler by `BE` moves (`a`: source-level
      tasks may be spawned — only a subscribing body does);
    * if the chain is sealed the probe log is unchanged;
    * if the source's observer is finished and every iterator in second-input position has a finished
      observer, nothing was pulled;
    * if the source's observer is finished and the source is one that polls it, the synchronous head of the
      chain was not touched.
  One notification at one stage, a whole cascade (every fuel value), `push`, second inputs, subscription,
  task bodies, `sub` / `emit` / `unsub` are `Eff` moves.
-/
namespace Rx.T
open Rx

theorem St1.step_fin (o : St1) (n : Notif) (h : o.finished false = true) :
    (o.step n).1.finished false = true := by
  cases o <;> simp [St1.finished] at h <;> subst h <;> cases n <;>
    simp [St1.step, St1.onNext, St1.onError', St1.onComplete', St1.finished] <;>
    (try split) <;> simp [St1.finished]

theorem St1.step_blocked (o : St1) (n : Notif) (h : o.finished false = true) :
    (o.step n).2 = [] := by
  cases o <;> simp [St1.finished] at h <;> subst h <;> cases n <;>
    simp [St1.step, St1.onNext, St1.onError', St1.onComplete'] <;>
    (try split) <;> simp

/-- What feeding a two-input cell does to its flags: the slot is never refilled, the answer to the second
    input never goes back to "not finished", a cell with an empty slot emits nothing. -/
structure St2.Lower (st st' : St2) (out : List Notif) : Prop where
  alive : st'.alive = true → st.alive = true
  bfin : ∀ d, st.finished .b d = true → st'.finished .b d = true
  blocked : st.alive = false → out = []

theorem St2.step_lower (st : St2) (sd : Side) (n : Notif) : St2.Lower st (st.step sd n).1 (st.step sd n).2 := by
  refine ⟨fun h => ?_, fun d h => ?_, fun h => (step_dead st sd n h).2⟩
  · have hs := step_slotted st sd n
    rw [h] at hs
    generalize st.alive = al, (st.step sd n).2 = o at hs ⊢
    cases hs <;> rfl
  · -- the step keeps the operator, and skip_until never starts skipping again
    revert h
    unfold St2.step
    split <;> (repeat' split) <;> simp_all [St2.finished, St2.alive]

theorem St2.run_lower (sd : Side) : ∀ (ns : List Notif) (st : St2), St2.Lower st (st.run sd ns).1 (st.run sd ns).2
  | [], _ => ⟨id, fun _ => id, fun _ => rfl⟩
  | n :: r, st => by
    have h1 := St2.step_lower st sd n
    have h2 := St2.run_lower sd r (st.step sd n).1
    refine ⟨fun h => h1.alive (h2.alive h), fun d h => h2.bfin d (h1.bfin d h), fun h => ?_⟩
    have h' : (st.step sd n).1.alive = false := by
      cases e : (st.step sd n).1.alive with
      | false => rfl
      | true => rw [h1.alive e] at h; cases h
    show (st.step sd n).2 ++ ((st.step sd n).1.run sd r).2 = []
    rw [h1.blocked h, h2.blocked h']; rfl

theorem Stage.le_op2n {st st' : St2} {out : List Notif} (ns : TSrc) (na na' : Bool) (nt nt' : Option TaskId)
    (h : St2.Lower st st' out) : Stage.le (.op2n st ns na nt) (.op2n st' ns na' nt') := by
  refine ⟨rfl, rfl, fun hs => ?_, h.bfin⟩
  simp only [Stage.sf, Bool.not_eq_true'] at hs ⊢
  cases e : st'.alive with
  | false => rfl
  | true => rw [h.alive e] at hs; cases hs

theorem Stage.le_op2n_same (st : St2) (ns : TSrc) (na na' : Bool) (nt nt' : Option TaskId) :
    Stage.le (.op2n st ns na nt) (.op2n st ns na' nt') :=
  ⟨rfl, rfl, id, fun _ => id⟩

theorem onNotif_le (st : Stage) (j : Nat) (n : Notif) (s : Sched) : Stage.le st (st.onNotif j n s).1 := by
  -- same operator, same parameters, and the slot is either kept or emptied
  have kept : ∀ {a b : Stage}, a.kind = b.kind → a.nsrc = b.nsrc → (∀ d, b.bfin d = a.bfin d) →
      (a.sf = true → b.sf = true) → Stage.le a b :=
    fun hk hn hb hs => ⟨hk, hn, hs, fun d h => (hb d).symm ▸ h⟩
  cases st with
  | op1 o => exact ⟨rfl, rfl, fun h => St1.step_fin o n h, fun _ => id⟩
  | op2n o ns na nt => exact Stage.le_op2n ns na na nt nt (St2.step_lower o .a n)
  | delay d al m => cases n <;> exact kept rfl rfl (fun _ => rfl) (fun h => by first | exact h | rfl)
  | observeOn al m => exact kept rfl rfl (fun _ => rfl) id
  | subscribeOn d t => exact Stage.le.refl _
  | debounce d al tr hd => cases n <;> exact kept rfl rfl (fun _ => rfl) (fun h => by first | exact h | rfl)
  | throttle d e al tr hd =>
    cases n with
    | next v =>
      rw [Stage.onNotif_throttle_next]
      generalize hd.all s.handleClosed = c
      cases c <;> exact kept rfl rfl (fun _ => rfl) id
    | error e => exact kept rfl rfl (fun _ => rfl) (fun _ => rfl)
    | complete => exact kept rfl rfl (fun _ => rfl) (fun _ => rfl)
  | throttleW d e al tr => exact Stage.le.refl _
  | bufTime d c al data t =>
    cases n with
    | next v =>
      rw [Stage.onNotif_bufTime_next]
      (repeat' split) <;> exact kept rfl rfl (fun _ => rfl) id
    | error e => exact kept rfl rfl (fun _ => rfl) (fun _ => rfl)
    | complete => exact kept rfl rfl (fun _ => rfl) (fun _ => rfl)

theorem onNotif_blocked (st : Stage) (j : Nat) (n : Notif) (s : Sched) (h : st.sf = true) :
    (st.onNotif j n s).2.1 = [] := by
  cases st with
  | op1 o => exact St1.step_blocked o n h
  | op2n o ns na nt =>
    simp only [Stage.sf, Bool.not_eq_true'] at h
    exact (St2.step_lower o .a n).blocked h
  | delay d al m =>
    simp only [Stage.sf, Bool.not_eq_true'] at h; subst h
    cases n <;> rfl
  | observeOn al m => rfl
  | subscribeOn d t => cases h
  | debounce d al tr hd =>
    simp only [Stage.sf, Bool.not_eq_true'] at h; subst h
    cases n <;> rfl
  | throttle d e al tr hd =>
    simp only [Stage.sf, Bool.not_eq_true'] at h; subst h
    cases n with
    | next v =>
      rw [Stage.onNotif_throttle_next, Bool.and_false]
      generalize hd.all s.handleClosed = c
      cases c <;> rfl
    | error e => rfl
    | complete => rfl
  | throttleW d e al tr => rfl
  | bufTime d c al data t =>
    simp only [Stage.sf, Bool.not_eq_true'] at h; subst h
    cases n <;> rfl

theorem okFor_emit (src : TSrc) (j : Nat) (n : Notif) : (Body.emit j n).okFor src := trivial
theorem okFor_debounce (src : TSrc) (j : Nat) : (Body.debounce j).okFor src := trivial
theorem okFor_throttle (src : TSrc) (j : Nat) : (Body.throttle j).okFor src := trivial

theorem onNotif_be (src : TSrc) (a : Bool) (st : Stage) (j : Nat) (n : Notif) (s : Sched) :
    BE src a s (st.onNotif j n s).2.2 := by
  fun_cases Stage.onNotif st j n s
  all_goals first
    | exact BE.refl _
    | exact BE.cancelOpt s _
    | ((repeat' split) <;> exact BE.refl _)
    | (rename_i heq; cases heq; exact BE.once s _ _ trivial nofun nofun)
    | (rename_i heq; cases heq
       exact (BE.cancelOpt s _).trans (BE.once _ (.debounce j) _ trivial nofun nofun))

theorem afterEmit_le (st : Stage) (j : Nat) (s : Sched) : Stage.le st (st.afterEmit j s).1 := by
  cases st <;> first
    | exact Stage.le.refl _
    | exact ⟨rfl, rfl, by simp [Stage.afterEmit, Stage.sf], fun _ => id⟩

theorem afterEmit_be (src : TSrc) (a : Bool) (st : Stage) (j : Nat) (s : Sched) :
    BE src a s (st.afterEmit j s).2 := by
  cases st <;> first
    | exact BE.refl _
    | exact BE.once s _ _ trivial (by simp [Body.isAsync]) (by simp [Body.isSrc])

/-- A cascade: the stages only move towards finished, the scheduler only sees `BE` moves, and nothing
    reaches the probe if the head observer is finished (or nothing was put in). -/
structure CEff (src : TSrc) (a : Bool) (stages : List Stage) (ns : List Notif) (s : Sched)
    (r : List Stage × List Notif × Sched) : Prop where
  stg : SLe stages r.1
  sch : BE src a s r.2.2
  out : fin stages = true ∨ ns = [] → r.2.1 = []

theorem cascadeF_eff (src : TSrc) (a : Bool) (f : Nat) (stages : List Stage) (j : Nat) (ns : List Notif)
    (s : Sched) : CEff src a stages ns s (cascadeF f stages j ns s) := by
  refine cascadeF_rec (M := fun stages _ ns s r => CEff src a stages ns s r) ?_ ?_ ?_ f stages j ns s
  · intro stages j ns s; exact ⟨SLe.refl _, BE.refl _, fun _ => rfl⟩
  · intro j ns s; exact ⟨trivial, BE.refl _, fun h => h.elim nofun id⟩
  · intro st rest j n ns s c d e2 e4
    have hmid : SLe (st :: rest) (((st.onNotif j n s).1.afterEmit j c.2.2).1 :: c.1) :=
      ⟨(onNotif_le st j n s).trans (afterEmit_le _ j _), e2.stg⟩
    refine ⟨hmid.trans e4.stg, (((onNotif_be src a st j n s).trans e2.sch).trans
      (afterEmit_be src a _ j _)).trans e4.sch, fun hf => ?_⟩
    have hf := hf.resolve_right nofun
    -- a closed head passes nothing on; an open head over a finished tail delivers into it
    have h2 : c.2.1 = [] := by
      rw [fin_cons] at hf
      cases hsf : st.sf with
      | true => exact e2.out (Or.inr (onNotif_blocked st j n s hsf))
      | false => rw [hsf] at hf; exact e2.out (Or.inl hf)
    show c.2.1 ++ _ = []
    rw [h2, e4.out (Or.inl (hmid.fin hf))]; rfl

theorem cascade_eff (src : TSrc) (a : Bool) (stages : List Stage) (j : Nat) (ns : List Notif) (s : Sched) :
    CEff src a stages ns s (cascade stages j ns s) := cascadeF_eff src a _ stages j ns s

theorem cascade_nil_ns (stages : List Stage) (j : Nat) (s : Sched) :
    cascade stages j [] s = (stages, [], s) := cascadeF_nil_ns _ stages j s

structure Eff (a : Bool) (w w' : TW) : Prop where
  src : w'.src = w.src
  stg : SLe w.stages w'.stages
  sch : BE w.src a w.sched w'.sched
  log : sealed w.stages = true → w'.log = w.log
  pulls : fin w.stages = true → nq w.stages = true → w'.pulls = w.pulls
  head : fin w.stages = true → w.src.polls = true →
    w'.stages.take (syncLen w.stages) = w.stages.take (syncLen w.stages)
  sub : w.srcSubscribed = true → w'.srcSubscribed = true

theorem Eff.refl (a : Bool) (w : TW) : Eff a w w :=
  ⟨rfl, SLe.refl _, BE.refl _, fun _ => rfl, fun _ _ => rfl, fun _ _ => rfl, id⟩

theorem Eff.trans {a : Bool} {w1 w2 w3 : TW} (h1 : Eff a w1 w2) (h2 : Eff a w2 w3) : Eff a w1 w3 := by
  refine ⟨h2.src.trans h1.src, h1.stg.trans h2.stg, ?_, ?_, ?_, ?_, fun h => h2.sub (h1.sub h)⟩
  · have := h2.sch; rw [h1.src] at this; exact h1.sch.trans this
  · intro hs; rw [h2.log (h1.stg.sealed hs), h1.log hs]
  · intro hf hq; rw [h2.pulls (h1.stg.fin hf) (h1.stg.nq hq), h1.pulls hf hq]
  · intro hf hp
    have := h2.head (h1.stg.fin hf) (by rw [h1.src]; exact hp)
    rw [h1.stg.syncLen] at this
    rw [this, h1.head hf hp]

theorem Eff.mono {a : Bool} {w w' : TW} (h : Eff a w w') : Eff true w w' :=
  { h with sch := h.sch.mono }

/-- Only fields nobody looks at changed. -/
theorem Eff.of_eq {a : Bool} {w w' : TW} (h1 : w'.src = w.src) (h2 : w'.stages = w.stages)
    (h3 : w'.sched = w.sched) (h4 : w'.log = w.log) (h5 : w'.pulls = w.pulls)
    (h6 : w.srcSubscribed = true → w'.srcSubscribed = true := by intro h; first | exact h | rfl) :
    Eff a w w' :=
  ⟨h1, by rw [h2]; exact SLe.refl _, by rw [h3]; exact BE.refl _, fun _ => h4, fun _ _ => h5,
    fun _ _ => by rw [h2], h6⟩

theorem Eff.sched {a : Bool} (w : TW) (s' : Sched) (h : BE w.src a w.sched s') :
    Eff a w { w with sched := s' } :=
  ⟨rfl, SLe.refl _, h, fun _ => rfl, fun _ _ => rfl, fun _ _ => rfl, id⟩

/-- One more pull — only when somebody still listens. -/
theorem Eff.pull {a : Bool} (w : TW) (h : fin w.stages = true → nq w.stages = true → False) :
    Eff a w { w with pulls := w.pulls + 1 } :=
  ⟨rfl, SLe.refl _, BE.refl _, fun _ => rfl, fun hf hq => (h hf hq).elim, fun _ _ => rfl, id⟩

theorem take_set_of_le {α} (l : List α) (j n : Nat) (x : α) (h : n ≤ j) : (l.set j x).take n = l.take n := by
  rw [List.take_set]
  exact List.set_eq_of_length_le (by simp; omega)

theorem drop_set_of_lt {α} (l : List α) (j n : Nat) (x : α) (h : j < n) : (l.set j x).drop n = l.drop n := by
  rw [List.drop_set]; simp [h]

theorem Eff.setStage {a : Bool} (w : TW) (j : Nat) (st st' : Stage) (hj : w.stages[j]? = some st)
    (hle : Stage.le st st') (hn : st.isOp1 = false) : Eff a w (w.setStage j st') :=
  ⟨rfl, SLe.set _ _ _ _ hj hle, BE.refl _, fun _ => rfl, fun _ _ => rfl,
    fun _ _ => take_set_of_le _ _ _ _ (syncLen_le_of_not_op1 hj hn), id⟩

theorem push_nil (w : TW) (j : Nat) : w.push j [] = w := TW.push_empty w j

theorem take_splice {α} (l post : List α) (j n : Nat) (h : n ≤ j)
    (hp : post.length = (l.drop j).length) : (l.take j ++ post).take n = l.take n := by
  by_cases hl : j ≤ l.length
  · rw [List.take_append_of_le_length (by simp; omega), List.take_take]
    congr 1; omega
  · have h1 : l.take j = l := List.take_of_length_le (by omega)
    have h2 : post = [] := by
      apply List.eq_nil_of_length_eq_zero
      rw [hp]; simp; omega
    rw [h1, h2, List.append_nil]

/-- Push after some effect: the conditions are stated for the world the effect started from. -/
theorem Eff.then_push {a : Bool} {w w1 : TW} (e : Eff a w w1) (j : Nat) (ns : List Notif)
    (hlog : sealed w.stages = true → fin (w1.stages.drop j) = true ∨ ns = [])
    (hhead : fin w.stages = true → w.src.polls = true → syncLen w.stages ≤ j ∨ ns = []) :
    Eff a w (w1.push j ns) := by
  have c := cascade_eff w.src a (w1.stages.drop j) j ns w1.sched
  refine ⟨e.src, e.stg.trans (SLe.splice _ _ j c.stg), e.sch.trans c.sch, ?_, ?_, ?_, e.sub⟩
  · intro hs
    rw [TW.push_eq]; simp only
    rw [c.out (hlog hs), List.append_nil]; exact e.log hs
  · intro hf hq; exact e.pulls hf hq
  · intro hf hp
    rw [TW.push_eq]; simp only
    rcases hhead hf hp with h | h
    · rw [take_splice _ _ _ _ h c.stg.length]; exact e.head hf hp
    · subst h; rw [cascade_nil_ns]; simp only [List.take_append_drop]; exact e.head hf hp

theorem Eff.push {a : Bool} (w : TW) (j : Nat) (ns : List Notif)
    (hlog : sealed w.stages = true → fin (w.stages.drop j) = true ∨ ns = [])
    (hhead : fin w.stages = true → w.src.polls = true → syncLen w.stages ≤ j ∨ ns = []) :
    Eff a w (w.push j ns) := (Eff.refl a w).then_push j ns hlog hhead

/-- A push into the stage below a stage that is not a single-input observer,
    guarded by that stage's own slot. -/
theorem Eff.then_push_below {a : Bool} {w w1 : TW} (e : Eff a w w1) (j : Nat) (ns : List Notif)
    (st : Stage) (hj : w.stages[j]? = some st) (hn : st.isOp1 = false)
    (hsf : st.sf = true → ns = []) : Eff a w (w1.push (j + 1) ns) := by
  refine e.then_push (j + 1) ns ?_ ?_
  · intro hs
    rcases sealed_at hs hj hn with h | h
    · exact Or.inr (hsf h)
    · exact Or.inl ((SLe.drop (j + 1) e.stg).fin h)
  · intro _ _
    exact Or.inl (Nat.le_succ_of_le (syncLen_le_of_not_op1 hj hn))

theorem pushB_op2n (w : TW) (j : Nat) (ns : List Notif) (st : St2) (nsrc : TSrc) (na : Bool)
    (nt : Option TaskId) (hj : w.stages[j]? = some (.op2n st nsrc na nt)) :
    w.pushB j ns = (w.setStage j (.op2n (st.run .b ns).1 nsrc na nt)).push (j + 1) (st.run .b ns).2 := by
  simp [TW.pushB, hj]

theorem pushB_eff {a : Bool} (w : TW) (j : Nat) (ns : List Notif) : Eff a w (w.pushB j ns) := by
  cases hj : w.stages[j]? with
  | none => simp only [TW.pushB, hj]; exact Eff.refl _ _
  | some st =>
    cases st with
    | op2n st nsrc na nt =>
      rw [pushB_op2n w j ns st nsrc na nt hj]
      have e1 : Eff a w (w.setStage j (.op2n (st.run .b ns).1 nsrc na nt)) :=
        Eff.setStage w j _ _ hj
          (Stage.le_op2n nsrc na na nt nt (St2.run_lower .b ns st)) rfl
      refine e1.then_push_below j _ _ hj rfl ?_
      intro hsf
      exact (St2.run_lower .b ns st).blocked (by simpa [Stage.sf] using hsf)
    | _ => simp only [TW.pushB, hj]; exact Eff.refl _ _

theorem Eff.get_iterN {a : Bool} {w w' : TW} (e : Eff a w w') {j : Nat}
    (h : ∃ st, w.stages[j]? = some st ∧ st.iterN = true) :
    ∃ st, w'.stages[j]? = some st ∧ st.iterN = true := by
  obtain ⟨st, hj, hi⟩ := h
  obtain ⟨st', hj', hle⟩ := e.stg.get hj
  exact ⟨st', hj', by rw [hle.iterN]; exact hi⟩

theorem loopB_eff {a : Bool} (j n : Nat) : ∀ (fuel k : Nat) (w : TW),
    (∃ st, w.stages[j]? = some st ∧ st.iterN = true) →
    Eff a w (TW.subscribeNotifier.loopB j n fuel k w) := by
  intro fuel
  induction fuel with
  | zero => intro k w _; exact Eff.refl _ _
  | succ fuel ih =>
    intro k w hit
    obtain ⟨st0, hj, hiter⟩ := hit
    cases st0 with
    | op2n st' nsrc na nt =>
      simp only [TW.subscribeNotifier.loopB, hj]
      split
      · exact Eff.refl _ _
      · rename_i hnf
        split
        · have e1 : Eff a w { w with pulls := w.pulls + 1 } := by
            refine Eff.pull w ?_
            intro _ hq
            have := nq_at hq hj hiter
            exact hnf this
          have e2 := pushB_eff (a := a) { w with pulls := w.pulls + 1 } j [.next (.int k)]
          have e12 := e1.trans e2
          exact e12.trans (ih (k + 1) _ (e12.get_iterN ⟨_, hj, hiter⟩))
        · exact pushB_eff w j _
    | _ => simp [Stage.iterN, Stage.nsrc] at hiter

theorem subscribeNotifier_eff {a : Bool} (w : TW) (j : Nat) : Eff a w (w.subscribeNotifier j) := by
  cases hj : w.stages[j]? with
  | none => simp only [TW.subscribeNotifier, hj]; exact Eff.refl _ _
  | some st0 =>
    cases st0 with
    | op2n st nsrc na nt =>
      cases nsrc with
      | hot i =>
        simp only [TW.subscribeNotifier, hj]
        exact Eff.setStage w j _ _ hj (Stage.le_op2n_same _ _ _ _ _ _) rfl
      | cold s =>
        simp only [TW.subscribeNotifier, hj]
        exact pushB_eff w j _
      | interval delay period =>
        simp only [TW.subscribeNotifier, hj]
        have e1 : Eff a w { w with sched := (w.sched.scheduleRepeat (.tickN j) period none (delay.getD period)).1 } :=
          Eff.sched w _ (BE.of_prim (.rep _ _ _ _ trivial rfl (fun h => by cases h) (fun h => by cases h)))
        exact e1.trans (Eff.setStage _ j _ _ hj (Stage.le_op2n_same _ _ _ _ _ _) rfl)
      | timer v dur =>
        simp only [TW.subscribeNotifier, hj]
        have e1 : Eff a w { w with sched := (w.sched.scheduleOnce (.emit j (.next v)) (some dur)).1 } :=
          Eff.sched w _ (BE.once _ _ _ trivial (fun h => by cases h) (fun h => by cases h))
        exact e1.trans (Eff.setStage _ j _ _ hj (Stage.le_op2n_same _ _ _ _ _ _) rfl)
      | iterc n =>
        simp only [TW.subscribeNotifier, hj]
        exact loopB_eff j n _ 0 w ⟨_, hj, rfl⟩
      | future r sc => simp only [TW.subscribeNotifier, hj]; exact Eff.refl _ _
      | stream r sc c => simp only [TW.subscribeNotifier, hj]; exact Eff.refl _ _
    | _ => simp only [TW.subscribeNotifier, hj]; exact Eff.refl _ _

theorem loop_eff {a : Bool} (n : Nat) : ∀ (fuel k : Nat) (w : TW),
    Eff a w (TW.subscribeSource.loop n fuel k w) := by
  intro fuel
  induction fuel with
  | zero => intro k w; exact Eff.refl _ _
  | succ fuel ih =>
    intro k w
    simp only [TW.subscribeSource.loop]
    split
    · exact Eff.refl _ _
    · rename_i hnf
      have hlog : ∀ ns : List Notif, sealed w.stages = true → fin (w.stages.drop 0) = true ∨ ns = [] :=
        fun _ hs => absurd (sealed_fin hs) hnf
      have hhead : ∀ ns : List Notif, fin w.stages = true → w.src.polls = true →
          syncLen w.stages ≤ 0 ∨ ns = [] := fun _ hf _ => absurd hf hnf
      split
      · have e1 : Eff a w { w with pulls := w.pulls + 1 } := Eff.pull w (fun hf _ => hnf hf)
        have e2 := e1.then_push 0 [.next (.int k)] (hlog _) (hhead _)
        exact e2.trans (ih (k + 1) _)
      · exact Eff.push w 0 _ (hlog _) (hhead _)

theorem subscribeSource_eff (w : TW) : Eff true w w.subscribeSource := by
  obtain ⟨sched, src, stages, srcAlive, srcSubscribed, srcTask, terminated, subscribed, unsubscribed,
    pulls, srcRest, log⟩ := w
  have e0 : Eff true (TW.mk sched src stages srcAlive srcSubscribed srcTask terminated subscribed
      unsubscribed pulls srcRest log) (TW.mk sched src stages srcAlive true srcTask terminated subscribed
      unsubscribed pulls srcRest log) := Eff.of_eq rfl rfl rfl rfl rfl
  cases src with
  | hot i =>
    simp only [TW.subscribeSource]
    exact Eff.of_eq rfl rfl rfl rfl rfl
  | cold s =>
    have e1 := e0.then_push 0 s.emit (fun hs => Or.inl (sealed_fin hs)) (fun _ hp => by cases hp)
    cases s <;> simp only [TW.subscribeSource] <;> first
      | exact e1
      | exact e1.trans (Eff.of_eq rfl rfl rfl rfl rfl)
  | interval delay period =>
    simp only [TW.subscribeSource]
    refine e0.trans (Eff.trans (Eff.sched _ _ (BE.of_prim (.rep _ .tick period (delay.getD period) ?_ rfl ?_ (fun _ => rfl))))
      (Eff.of_eq rfl rfl rfl rfl rfl))
    · exact ⟨delay, period, rfl⟩
    · intro _
      simp only [TSrc.bound]; omega
  | timer v dur =>
    simp only [TW.subscribeSource]
    refine e0.trans (Eff.trans (Eff.sched _ _ (BE.once _ (.timerSrc v) (some dur) ?_ (fun h => by cases h) (fun _ => rfl)))
      (Eff.of_eq rfl rfl rfl rfl rfl))
    exact ⟨v, dur, rfl⟩
  | iterc n =>
    simp only [TW.subscribeSource]
    exact e0.trans (loop_eff n _ 0 _)
  | future r sc =>
    simp only [TW.subscribeSource]
    refine e0.trans (Eff.trans (Eff.sched _ _ (BE.once _ .futureSrc none ?_ (fun _ => rfl) (fun _ => rfl)))
      (Eff.of_eq rfl rfl rfl rfl rfl))
    exact ⟨r, sc, rfl⟩
  | stream r sc c =>
    simp only [TW.subscribeSource]
    refine e0.trans (Eff.trans (Eff.sched _ _ (BE.once _ .streamSrc none ?_ (fun _ => rfl) (fun _ => rfl)))
      (Eff.of_eq rfl rfl rfl rfl rfl))
    exact ⟨r, sc, c, rfl⟩

theorem subscribeFrom_eff : ∀ (j : Nat) (w : TW), Eff true w (w.subscribeFrom j) := by
  intro j
  induction j with
  | zero => intro w; exact subscribeSource_eff w
  | succ j ih =>
    intro w
    cases hj : w.stages[j]? with
    | none => simp only [TW.subscribeFrom, hj]; exact ih w
    | some st0 =>
      cases st0 with
      | bufTime d cnt alive data t =>
        simp only [TW.subscribeFrom, hj]
        have e1 : Eff true w { w with sched := (w.sched.scheduleRepeat (.bufTick j) d none).1 } :=
          Eff.sched w _ (BE.of_prim (.rep _ _ _ _ trivial rfl (fun h => by cases h) (fun h => by cases h)))
        have e2 := e1.trans (Eff.setStage _ j _ (.bufTime d cnt alive data (some (w.sched.scheduleRepeat (.bufTick j) d none).2)) hj
          ⟨rfl, rfl, id, fun _ => id⟩ rfl)
        exact e2.trans (ih _)
      | subscribeOn delay t =>
        simp only [TW.subscribeFrom, hj]
        have e1 : Eff true w { w with sched := (w.sched.scheduleOnce (.subscribe j) delay).1 } :=
          Eff.sched w _ (BE.once _ _ _ trivial (fun h => by cases h) (fun h => by cases h))
        exact e1.trans (Eff.setStage _ j _ _ hj ⟨rfl, rfl, id, fun _ => id⟩ rfl)
      | op2n st nsrc na nt =>
        simp only [TW.subscribeFrom, hj]
        split
        · exact (ih w).trans (subscribeNotifier_eff _ j)
        · exact (subscribeNotifier_eff w j).trans (ih _)
      | _ => simp only [TW.subscribeFrom, hj]; exact ih w

theorem Eff.of_false {w w' : TW} (a : Bool) (h : Eff false w w') : Eff a w w' := by
  cases a with
  | false => exact h
  | true => exact h.mono

/-- delay / observe_on hand an item on: the slot (full: `alive`) is emptied by a terminal. -/
theorem Eff.relay (w : TW) (j : Nat) (n : Notif) (st st' : Stage) (alive : Bool) (hj : w.stages[j]? = some st)
    (hle : Stage.le st st') (hn : st.isOp1 = false) (hsf : alive = true → st.sf = false) :
    Eff false w (if alive then (if n.isTerm then w.setStage j st' else w).push (j + 1) [n] else w) := by
  cases alive with
  | false => exact Eff.refl _ _
  | true =>
    have e1 : Eff false w (if n.isTerm = true then w.setStage j st' else w) := by
      split
      · exact Eff.setStage w j _ _ hj hle hn
      · exact Eff.refl _ _
    exact e1.then_push_below j _ _ hj hn (fun h => by rw [hsf rfl] at h; cases h)

/-- debounce / throttle deliver their trailing value: the cell is cleared, the slot untouched. -/
theorem Eff.trailing (w : TW) (j : Nat) (v : Val) (st st' : Stage) (alive : Bool) (hj : w.stages[j]? = some st)
    (hle : Stage.le st st') (hn : st.isOp1 = false) (hsf : alive = true → st.sf = false) :
    Eff false w (if alive then (w.setStage j st').push (j + 1) [.next v] else w.setStage j st') := by
  have e1 : Eff false w (w.setStage j st') := Eff.setStage w j _ _ hj hle hn
  cases alive with
  | false => exact e1
  | true => exact e1.then_push_below j _ _ hj hn (fun h => by rw [hsf rfl] at h; cases h)

theorem runBody_emit_eff (w : TW) (j : Nat) (n : Notif) : Eff false w (w.runBody (.emit j n)) := by
  rw [TW.runBody_emit]
  split
  · rename_i d alive multi hj
    exact Eff.relay w j n _ _ alive hj ⟨rfl, rfl, fun _ => rfl, fun _ => id⟩ rfl (fun h => by subst h; rfl)
  · rename_i alive multi hj
    exact Eff.relay w j n _ _ alive hj ⟨rfl, rfl, fun _ => rfl, fun _ => id⟩ rfl (fun h => by subst h; rfl)
  · exact Eff.refl _ _

theorem runBody_debounce_eff (w : TW) (j : Nat) : Eff false w (w.runBody (.debounce j)) := by
  rw [TW.runBody_debounce]
  split
  · rename_i d alive v h hj
    exact Eff.trailing w j v _ _ alive hj ⟨rfl, rfl, id, fun _ => id⟩ rfl (fun h => by subst h; rfl)
  · exact Eff.refl _ _

theorem runBody_throttle_eff (w : TW) (j : Nat) : Eff false w (w.runBody (.throttle j)) := by
  rw [TW.runBody_throttle]
  split
  · rename_i d e alive v h hj
    exact Eff.trailing w j v _ _ alive hj ⟨rfl, rfl, id, fun _ => id⟩ rfl (fun h => by subst h; rfl)
  · exact Eff.refl _ _

theorem runBody_eff (w : TW) (b : Body) (hb : b.okFor w.src) : Eff b.isSub w (w.runBody b) := by
  cases b with
  | emit j n => exact runBody_emit_eff w j n
  | debounce j => exact runBody_debounce_eff w j
  | throttle j => exact runBody_throttle_eff w j
  | subscribe j => exact subscribeFrom_eff j w
  | timerSrc v =>
    refine Eff.push w 0 _ (fun hs => Or.inl (sealed_fin hs)) ?_
    intro _ hp
    obtain ⟨v', d, hsrc⟩ := hb
    rw [hsrc] at hp; cases hp
  | tick => exact Eff.refl _ _
  | bufTick j => exact Eff.refl _ _
  | tickN j => exact Eff.refl _ _
  | futureSrc => exact Eff.refl _ _
  | streamSrc => exact Eff.refl _ _

theorem runTick_eff (w : TW) (b : Body) (seq : Nat) : Eff false w (w.runTick b seq).1 := by
  cases b with
  | tick =>
    rw [TW.runTick_tick]
    split
    · exact Eff.refl _ _
    · rename_i hnf
      dsimp only
      exact Eff.push w 0 _ (fun hs => absurd (sealed_fin hs) hnf) (fun hf _ => absurd hf hnf)
  | tickN j =>
    rw [TW.runTick_tickN]
    split
    · split
      · exact Eff.refl _ _
      · dsimp only; exact pushB_eff w j _
    · exact Eff.refl _ _
  | bufTick j =>
    rw [TW.runTick_bufTick]
    split
    · rename_i d cnt alive data t hj
      split
      · exact Eff.refl _ _
      · rename_i hc
        simp only [Bool.or_eq_true, Bool.not_eq_true', not_or, Bool.not_eq_false,
          Bool.not_eq_true] at hc
        have e1 : Eff false w (w.setStage j (.bufTime d cnt alive [] t)) :=
          Eff.setStage w j _ _ hj ⟨rfl, rfl, id, fun _ => id⟩ rfl
        dsimp only
        refine e1.then_push (j + 1) _ ?_ ?_
        · intro hs
          rcases sealed_at hs hj rfl with h | h
          · simp only [Stage.sf, Bool.not_eq_true'] at h; rw [h] at hc; cases hc.1
          · rw [hc.2] at h; cases h
        · intro _ _
          exact Or.inl (Nat.le_succ_of_le (syncLen_le_of_not_op1 hj rfl))
    · exact Eff.refl _ _
  | _ => exact Eff.refl _ _

theorem pollFuture_eff (w : TW) (res : Bool) (hp : w.src.polls = false) :
    Eff false w (w.pollFuture res).1 := by
  have push0 : ∀ (r : List AStep) (ns : List Notif),
      Eff false w (({ w with srcRest := r } : TW).push 0 ns) := by
    intro r ns
    have e0 : Eff false w ({ w with srcRest := r } : TW) := Eff.of_eq rfl rfl rfl rfl rfl
    exact e0.then_push 0 ns (fun hs => Or.inl (sealed_fin hs)) (fun _ h => by rw [hp] at h; cases h)
  cases hr : w.srcRest with
  | nil => simp only [TW.pollFuture, hr]; exact Eff.refl _ _
  | cons st r =>
    cases st with
    | hang => simp only [TW.pollFuture, hr]; exact Eff.refl _ _
    | pending => simp only [TW.pollFuture, hr]; exact Eff.of_eq rfl rfl rfl rfl rfl
    | ready v => simp only [TW.pollFuture, hr]; exact push0 r _
    | err e =>
      simp only [TW.pollFuture, hr]
      split
      · exact push0 r _
      · exact push0 r _

theorem streamLap_eff (res : Bool) : ∀ (l : List AStep) (w : TW), Eff false w (TW.streamLap res l w).1 := by
  intro l
  induction l with
  | nil => intro w; simp only [TW.streamLap]; exact Eff.of_eq rfl rfl rfl rfl rfl
  | cons st r ih =>
    intro w
    simp only [TW.streamLap]
    split
    · exact Eff.of_eq rfl rfl rfl rfl rfl
    · rename_i hnf
      have hlog : ∀ ns : List Notif, sealed w.stages = true → fin (w.stages.drop 0) = true ∨ ns = [] :=
        fun _ hs => absurd (sealed_fin hs) hnf
      have hhead : ∀ ns : List Notif, fin w.stages = true → w.src.polls = true →
          syncLen w.stages ≤ 0 ∨ ns = [] := fun _ hf _ => absurd hf hnf
      have e1 : Eff false w { w with pulls := w.pulls + 1 } := Eff.pull w (fun hf _ => hnf hf)
      cases st with
      | ready v =>
        simp only
        exact (e1.then_push 0 _ (hlog _) (hhead _)).trans (ih _)
      | err e =>
        simp only
        split
        · have e1' : Eff false w { w with pulls := w.pulls + 1, srcRest := r } :=
            e1.trans (Eff.of_eq rfl rfl rfl rfl rfl)
          exact e1'.then_push 0 _ (hlog _) (hhead _)
        · exact (e1.then_push 0 _ (hlog _) (hhead _)).trans (ih _)
      | pending => simp only; exact Eff.of_eq rfl rfl rfl rfl rfl
      | hang => simp only; exact Eff.of_eq rfl rfl rfl rfl rfl

theorem streamLap_exhausted (res : Bool) : ∀ (l : List AStep) (w : TW),
    (TW.streamLap res l w).2 = .exhausted → fin (TW.streamLap res l w).1.stages = false := by
  intro l
  induction l with
  | nil =>
    intro w h
    simp only [TW.streamLap] at h ⊢
    cases hf : fin w.stages with
    | false => rfl
    | true => rw [hf] at h; simp at h
  | cons st r ih =>
    intro w h
    simp only [TW.streamLap] at h ⊢
    split at h
    · cases h
    · rename_i hnf
      rw [if_neg hnf]
      cases st with
      | ready v => exact ih _ h
      | err e =>
        simp only at h ⊢
        split at h
        · cases h
        · rename_i hr; rw [if_neg hr]; exact ih _ h
      | pending => cases h
      | hang => cases h

theorem pollStream_eff (res : Bool) (script : List AStep) (cyc : Bool) : ∀ (f : Nat) (w : TW),
    Eff false w (TW.pollStream res script cyc f w).1 := by
  intro f
  induction f with
  | zero => intro w; exact Eff.refl _ _
  | succ f ih =>
    intro w
    simp only [TW.pollStream]
    have e1 := streamLap_eff res w.srcRest w
    have hex := streamLap_exhausted res w.srcRest w
    generalize TW.streamLap res w.srcRest w = r at e1 hex
    obtain ⟨w1, o⟩ := r
    cases o with
    | exhausted =>
      simp only
      have hnf : ¬ fin w1.stages = true := by rw [hex rfl]; simp
      dsimp only at e1
      split
      · exact (e1.trans (Eff.of_eq rfl rfl rfl rfl rfl : Eff false w1 { w1 with srcRest := script })).trans (ih _)
      · dsimp only
        exact e1.trans (Eff.push w1 0 _ (fun hs => absurd (sealed_fin hs) hnf) (fun hf _ => absurd hf hnf))
    | done => exact e1
    | pending wk => exact e1

theorem runAsync_eff (w : TW) (b : Body) : Eff false w (w.runAsync b).1 := by
  cases b with
  | futureSrc =>
    cases hsrc : w.src with
    | future res sc => simp only [TW.runAsync, hsrc]; exact pollFuture_eff w res (by rw [hsrc]; rfl)
    | _ => simp only [TW.runAsync, hsrc]; exact Eff.refl _ _
  | streamSrc =>
    cases hsrc : w.src with
    | stream res sc cyc => simp only [TW.runAsync, hsrc]; exact pollStream_eff res sc cyc _ w
    | _ => simp only [TW.runAsync, hsrc]; exact Eff.refl _ _
  | _ => simp only [TW.runAsync]; exact Eff.refl _ _

theorem deliverNotifiers_eff (i : Nat) (n : Notif) : ∀ (k : Nat) (w : TW),
    Eff false w (w.deliverNotifiers i n k) := by
  intro k
  induction k with
  | zero => intro w; exact Eff.refl _ _
  | succ k ih =>
    intro w
    simp only [TW.deliverNotifiers]
    have e1 := ih w
    generalize w.deliverNotifiers i n k = w1 at e1
    cases hk : w1.stages[k]? with
    | none => simp only; exact e1
    | some st0 =>
      cases st0 with
      | op2n st nsrc na nt =>
        cases nsrc with
        | hot j =>
          simp only
          split
          · cases n with
            | next v => simp only; exact e1.trans (pushB_eff w1 k _)
            | error e =>
              simp only
              exact e1.trans ((Eff.setStage w1 k _ _ hk (Stage.le_op2n_same _ _ _ _ _ _) rfl).trans
                (pushB_eff _ k _))
            | complete =>
              simp only
              exact e1.trans ((Eff.setStage w1 k _ _ hk (Stage.le_op2n_same _ _ _ _ _ _) rfl).trans
                (pushB_eff _ k _))
          · exact e1
        | _ => simp only; exact e1
      | _ => simp only; exact e1

theorem emitSrc_eff (w w1 : TW) (i : Nat) (n : Notif) (e1 : Eff false w w1) (hst : w1.stages = w.stages) :
    Eff false w (TW.emitSrc w w1 i n) := by
  unfold TW.emitSrc
  cases hsrc : w.src with
  | hot j =>
    simp only
    have hp : w.src.polls = false := by rw [hsrc]; rfl
    have hl : ∀ ns : List Notif, sealed w.stages = true → fin (w1.stages.drop 0) = true ∨ ns = [] :=
      fun _ hs => Or.inl (by simp only [List.drop_zero]; rw [hst]; exact sealed_fin hs)
    have hh : ∀ ns : List Notif, fin w.stages = true → w.src.polls = true →
        syncLen w.stages ≤ 0 ∨ ns = [] := fun _ _ h => by rw [hp] at h; cases h
    split
    · cases n with
      | next v => simp only; exact e1.then_push 0 _ (hl _) (hh _)
      | error e =>
        simp only
        exact (e1.trans (Eff.of_eq rfl rfl rfl rfl rfl : Eff false w1 { w1 with srcAlive := false })).then_push 0 _ (hl _) (hh _)
      | complete =>
        simp only
        exact (e1.trans (Eff.of_eq rfl rfl rfl rfl rfl : Eff false w1 { w1 with srcAlive := false })).then_push 0 _ (hl _) (hh _)
    · exact e1
  | _ => simp only; exact e1

theorem step_emit_eff (w : TW) (i : Nat) (n : Notif) : Eff false w (w.step (.emit i n)) := by
  rw [TW.step_emit]
  split
  · exact Eff.refl _ _
  · have e1 : Eff false w (if n.isTerm = true then { w with terminated := i :: w.terminated } else w) := by
      split
      · exact Eff.of_eq rfl rfl rfl rfl rfl
      · exact Eff.refl _ _
    have hst : (if n.isTerm = true then { w with terminated := i :: w.terminated } else w).stages = w.stages := by
      split <;> rfl
    exact (emitSrc_eff w _ i n e1 hst).trans (deliverNotifiers_eff i n _ _)

theorem step_sub_eff (w : TW) : Eff true w (w.step .sub) := by
  rw [TW.step_sub]
  split
  · exact Eff.refl _ _
  · exact (Eff.of_eq rfl rfl rfl rfl rfl : Eff true w { w with subscribed := true }).trans
      (subscribeFrom_eff _ _)

/-- The last move of `unsubFrom (j + 1)`, after the stages below `j`: cancel the stage's handles, clear
    its cell. -/
theorem unsub_last {w : TW} {j : Nat} {st st' : Stage} (e1 : Eff false w (w.unsubFrom j))
    (hj : w.stages[j]? = some st) (hle : Stage.le st st') (hn : st.isOp1 = false) (s' : Sched)
    (hbe : BE (w.unsubFrom j).src false (w.unsubFrom j).sched s') :
    Eff false w (({ w.unsubFrom j with sched := s' } : TW).setStage j st') := by
  have hj1 : (w.unsubFrom j).stages[j]? = some st := by
    rw [TW.unsubFrom_stages_ge j w j (Nat.le_refl _)]; exact hj
  exact e1.trans ((Eff.sched _ s' hbe).trans (Eff.setStage _ j st st' hj1 hle hn))

theorem unsubFrom_eff : ∀ (j : Nat) (w : TW), Eff false w (w.unsubFrom j) := by
  intro j
  induction j with
  | zero =>
    intro w
    simp only [TW.unsubFrom]
    split
    · rename_i h _
      exact (Eff.of_eq rfl rfl rfl rfl rfl : Eff false w { w with srcAlive := false }).trans
        (Eff.sched { w with srcAlive := false } _ (BE.cancel _ h))
    · exact Eff.of_eq rfl rfl rfl rfl rfl
  | succ j ih =>
    intro w
    cases hj : w.stages[j]? with
    | none => simp only [TW.unsubFrom, hj]; exact ih w
    | some st0 =>
      cases st0 with
      | delay d alive multi =>
        simp only [TW.unsubFrom, hj]
        exact unsub_last (st' := .delay d alive none) (ih w) hj ⟨rfl, rfl, id, fun _ => id⟩ rfl _
          (BE.cancelAll (multi.getD []) _)
      | observeOn alive multi =>
        simp only [TW.unsubFrom, hj]
        exact unsub_last (st' := .observeOn alive none) (ih w) hj ⟨rfl, rfl, id, fun _ => id⟩ rfl _
          (BE.cancelAll (multi.getD []) _)
      | subscribeOn delay t =>
        cases t with
        | none => simp only [TW.unsubFrom, hj]; exact ih w
        | some h =>
          simp only [TW.unsubFrom, hj]
          have e1 : Eff false w { w with sched := w.sched.cancel h } := Eff.sched w _ (BE.cancel _ h)
          split
          · exact e1.trans (ih _)
          · exact e1
      | debounce d alive tr handler =>
        simp only [TW.unsubFrom, hj]
        exact unsub_last (st' := .debounce d alive tr none) (ih w) hj ⟨rfl, rfl, id, fun _ => id⟩ rfl _
          (BE.cancelOpt _ handler)
      | throttle d e alive tr handler =>
        simp only [TW.unsubFrom, hj]
        exact unsub_last (st' := .throttle d e alive tr none) (ih w) hj ⟨rfl, rfl, id, fun _ => id⟩ rfl _
          (BE.cancelOpt _ handler)
      | bufTime d cnt alive data t =>
        cases t with
        | none => simp only [TW.unsubFrom, hj]; exact ih w
        | some h =>
          simp only [TW.unsubFrom, hj]
          exact (Eff.sched w _ (BE.cancel _ h)).trans (ih _)
      | op2n st nsrc na nt =>
        simp only [TW.unsubFrom, hj]
        exact unsub_last (st' := .op2n st nsrc false nt) (ih w) hj (Stage.le_op2n_same _ _ _ _ _ _) rfl _
          (BE.cancelOpt _ nt)
      | op1 o => simp only [TW.unsubFrom, hj]; exact ih w
      | throttleW d e alive tr => simp only [TW.unsubFrom, hj]; exact ih w

theorem step_unsub_eff (w : TW) : Eff false w (w.step .unsub) := by
  rw [TW.step_unsub]
  split
  · exact (unsubFrom_eff _ w).trans (Eff.of_eq rfl rfl rfl rfl rfl)
  · exact Eff.refl _ _

end Rx.T
