import RxModel.Lemmas.SubjectStepsSched
import RxModel.Lemmas.SubjectBasic
/-
  Without preemption the step model IS the sequential subject model `Rx.Subj`
  (Subject/Subject.lean) restricted to plain probes (no action inside callbacks): same
  lists, same slots, same deliveries in the same order, same `len` / `is_empty`;
  operation by operation and for whole histories.
-/
namespace Rx.Conc.SS
open Rx
open Rx.Subj (State Slot SubjOp modSlot aliveAt aliveAt_eq modSlot_map_of_fix modSlot_map_dead modSlot_plain)

/-- The sequential operation an operation of the step model stands for (`size` only asks). -/
def Op.toSubj : Op → SubjOp
  | .next v => .next v
  | .error e => .error e
  | .complete => .complete
  | .unsubAll => .unsubscribe
  | .subscribe => .subscribe []
  | .unsub u => .unsubOne u
  | .retain => .retain
  | .size => .clone

/-- Operations back to back. -/
def St.runOps (s : St) (ops : List Op) : St := ops.foldl St.runOp s

/-- All deliveries of a sequential history, in order. -/
def delivs : State → List SubjOp → List Subj.Delivery
  | _, [] => []
  | j, op :: r => (j.apply op).2 ++ delivs (j.apply op).1 r

def Plain (j : State) : Prop := ∀ sl ∈ j.slots, sl.script = []

structure Rel (s : St) (j : State) : Prop where
  obs : s.obs = j.observers
  ch : s.chamber = j.chamber
  slots : s.slots = j.slots.map (·.alive)
  plain : Plain j
  oc : j.observers = none ∨ j.chamber ≠ none
  np : s.panicked = false
  jnp : j.panicked = false

theorem callNext_plain (j : State) (hp : Plain j) (i : Nat) (v : Val) :
    j.callNext none i v =
      if aliveAt j.slots i then
        ({ j with slots := modSlot (Slot.recv v) j.slots i }, [(i, Notif.next v)])
      else (j, []) := by
  unfold State.callNext aliveAt
  cases hi : j.slots[i]? with
  | none => simp
  | some sl =>
    have hm : sl ∈ j.slots := List.mem_of_getElem? hi
    simp only
    by_cases ha : sl.alive = true
    · simp [ha, hp sl hm, State.act]
    · simp [ha]

theorem bcast_plain (v : Val) : ∀ (l : List Nat) (j : State), Plain j → j.panicked = false →
    (Subj.bcast none v j l).2 = (l.filter (aliveAt j.slots)).map (·, Notif.next v) ∧
      (Subj.bcast none v j l).1.observers = j.observers ∧
      (Subj.bcast none v j l).1.chamber = j.chamber ∧
      (Subj.bcast none v j l).1.slots.map (·.alive) = j.slots.map (·.alive) ∧
      Plain (Subj.bcast none v j l).1 ∧ (Subj.bcast none v j l).1.panicked = false := by
  intro l
  induction l with
  | nil => intro j hp hn; exact ⟨rfl, rfl, rfl, rfl, hp, hn⟩
  | cons i r ih =>
    intro j hp hn
    obtain ⟨jo, jc, js, jp⟩ := j
    simp only at hn
    subst hn
    unfold Subj.bcast
    rw [callNext_plain _ hp]
    cases ha : aliveAt js i
    · simp only [Bool.false_eq_true, if_false, List.nil_append]
      have := ih _ hp rfl
      rw [List.filter_cons_of_neg (by simp [ha])]
      exact this
    · simp only [if_true, Bool.false_eq_true, if_false]
      have hal : (modSlot (Slot.recv v) js i).map (·.alive) = js.map (·.alive) :=
        modSlot_map_of_fix _ (Slot.recv v) (fun _ => rfl) _ _
      have hp' : Plain ⟨jo, jc, modSlot (Slot.recv v) js i, false⟩ :=
        modSlot_plain (Slot.recv v) (fun x hx => by simp [Slot.recv, hx]) _ _ hp
      obtain ⟨hdel, hobs, hch, hslots, hplain, hpan⟩ := ih _ hp' rfl
      simp only at hdel
      rw [aliveAt_eq, hal, ← aliveAt_eq] at hdel
      rw [List.filter_cons_of_pos ha]
      exact ⟨by simp [hdel], hobs, hch, hslots.trans hal, hplain, hpan⟩

/-- the terminal broadcast of the sequential model is `termLoop` on the alive flags -/
theorem term_plain (n : Notif) : ∀ (l : List Nat) (j : State),
    (Subj.term n j l).2 = (termLoop n (j.slots.map (·.alive)) l).2 ∧
      (Subj.term n j l).1.slots.map (·.alive) = (termLoop n (j.slots.map (·.alive)) l).1 ∧
      (Subj.term n j l).1.observers = j.observers ∧ (Subj.term n j l).1.chamber = j.chamber ∧
      (Subj.term n j l).1.panicked = j.panicked ∧ (Plain j → Plain (Subj.term n j l).1) := by
  intro l
  induction l with
  | nil => intro j; exact ⟨rfl, rfl, rfl, rfl, rfl, id⟩
  | cons i r ih =>
    intro j
    unfold Subj.term termLoop
    rw [← aliveAt_eq]
    cases ha : aliveAt j.slots i
    · simp only [Bool.false_eq_true, if_false]
      exact ih j
    · simp only [if_true]
      have hd : (modSlot (Slot.finish n) j.slots i).map (·.alive) = (j.slots.map (·.alive)).set i false :=
        modSlot_map_dead (Slot.finish n) (fun _ => rfl) _ _
      obtain ⟨hdel, hslots, hobs, hch, hpan, hplain⟩ := ih { j with slots := modSlot (Slot.finish n) j.slots i }
      simp only [hd] at hdel hslots
      exact ⟨by rw [hdel], hslots, hobs, hch, hpan, fun hp =>
        hplain (modSlot_plain (Slot.finish n) (fun x hx => by simp [Slot.finish, hx]) _ _ hp)⟩

theorem runOps_eq_runSteps (ops : List Op) : ∀ (s : St), s.runOps ops = s.runSteps (ops.flatMap Op.steps) := by
  induction ops with
  | nil => intro s; rfl
  | cons op r ih =>
    intro s
    show St.runOps (s.runOp op) r = _
    rw [ih, List.flatMap_cons]
    simp [St.runSteps, St.runOp, List.foldl_append]

/-- the answers `size` must give in sequential state `j` -/
def sizeAns (j : State) : Op → List SizeOut
  | .size => [.len j.len, .empty j.isEmpty]
  | _ => []

theorem Rel.init : Rel St.init State.init :=
  ⟨rfl, rfl, rfl, (by intro sl h; cases h), Or.inr (by simp [State.init]), rfl, rfl⟩

theorem Plain.push {j : State} (h : Plain j) (b : Bool) (log0 : List Notif) :
    ∀ sl ∈ j.slots ++ [⟨b, [], log0⟩], sl.script = [] := by
  intro sl hsl
  rcases List.mem_append.mp hsl with hsl | hsl
  · exact h sl hsl
  · cases List.mem_singleton.mp hsl; rfl

theorem runOp_sim {s : St} {j : State} (h : Rel s j) (op : Op) :
    Rel (s.runOp op) (j.apply op.toSubj).1 ∧
      (s.runOp op).log = s.log ++ (j.apply op.toSubj).2 ∧
      (s.runOp op).sizes = s.sizes ++ sizeAns j op := by
  obtain ⟨obs, ch, slots, log, sizes, p⟩ := s
  obtain ⟨jo, jc, js, jp⟩ := j
  obtain ⟨h1, h2, h3, h4, h5, h6, h7⟩ := h
  simp only at h1 h2 h3 h5 h6 h7
  subst h1 h2 h3 h6 h7
  have hopen : isOpenIn (js.map (·.alive)) = aliveAt js := (aliveAt_eq js).symm
  -- `error e` and `complete` are the same two sections, `load` and the terminal broadcast
  have hterm : ∀ t : Term,
      Rel ((St.step ⟨obs, ch, js.map (·.alive), log, sizes, false⟩ .load).step (.bcastTerm t))
          (State.terminal ⟨obs, ch, js, false⟩ t.toNotif).1 ∧
        ((St.step ⟨obs, ch, js.map (·.alive), log, sizes, false⟩ .load).step (.bcastTerm t)).log =
          log ++ (State.terminal ⟨obs, ch, js, false⟩ t.toNotif).2 ∧
        ((St.step ⟨obs, ch, js.map (·.alive), log, sizes, false⟩ .load).step (.bcastTerm t)).sizes =
          sizes ++ [] := by
    intro t
    rcases obs with _ | o
    · simp only [step_load_none, step_bcastTerm_none]
      exact ⟨⟨rfl, rfl, rfl, h4, Or.inl rfl, rfl, rfl⟩, (List.append_nil _).symm, (List.append_nil _).symm⟩
    · rcases ch with _ | c
      · exact absurd rfl (h5.resolve_left nofun)
      · obtain ⟨b1, b2, b3, b4, b5, b6⟩ := term_plain t.toNotif (o ++ c) ⟨none, some [], js, false⟩
        simp only [step_load, step_bcastTerm]
        show Rel _ (Subj.term t.toNotif ⟨none, some [], js, false⟩ (o ++ c)).1 ∧
          _ = log ++ (Subj.term t.toNotif ⟨none, some [], js, false⟩ (o ++ c)).2 ∧ _
        exact ⟨⟨b3.symm, b4.symm, b2.symm, b6 h4, Or.inl b3, rfl, b5⟩, by rw [b1],
          (List.append_nil _).symm⟩
  cases op with
  | next v =>
    rcases obs with _ | o
    · simp only [runOp_next, step_load_none, step_bcastNext]
      exact ⟨⟨rfl, rfl, rfl, h4, Or.inl rfl, rfl, rfl⟩, rfl, (List.append_nil _).symm⟩
    · rcases ch with _ | c
      · exact absurd rfl (h5.resolve_left nofun)
      · obtain ⟨b1, b2, b3, b4, b5, b6⟩ :=
          bcast_plain v (o ++ c) ⟨some (o ++ c), some [], js, false⟩ h4 rfl
        simp only [runOp_next, step_load, step_bcastNext]
        show Rel _ (Subj.bcast none v ⟨some (o ++ c), some [], js, false⟩ (o ++ c)).1 ∧
          _ = log ++ (Subj.bcast none v ⟨some (o ++ c), some [], js, false⟩ (o ++ c)).2 ∧ _
        exact ⟨⟨b2.symm, b3.symm, b4.symm, b5, Or.inr (fun h => nomatch b3.symm.trans h), rfl, b6⟩,
          by rw [b1, hopen]; rfl, (List.append_nil _).symm⟩
  | error e => rw [runOp_error]; exact hterm _
  | complete => rw [runOp_complete]; exact hterm _
  | unsubAll =>
    simp only [runOp_unsubAll, step_takeObs, step_takeChamber]
    exact ⟨⟨rfl, rfl, rfl, h4, Or.inl rfl, rfl, rfl⟩, (List.append_nil _).symm, (List.append_nil _).symm⟩
  | subscribe =>
    rcases ch with _ | c
    · simp only [runOp_subscribe, step_push_none]
      exact ⟨⟨rfl, rfl, (List.map_append (l₁ := js) (l₂ := [⟨false, [], []⟩])).symm, Plain.push h4 _ _, h5, rfl, rfl⟩,
        (List.append_nil _).symm, (List.append_nil _).symm⟩
    · simp only [runOp_subscribe, step_push, List.length_map]
      exact ⟨⟨rfl, rfl, (List.map_append (l₁ := js) (l₂ := [⟨true, [], []⟩])).symm, Plain.push h4 _ _,
        Or.inr nofun, rfl, rfl⟩,
        (List.append_nil _).symm, (List.append_nil _).symm⟩
  | unsub u =>
    simp only [runOp_unsub, step_closeSlot]
    exact ⟨⟨rfl, rfl, (modSlot_map_dead Slot.kill (fun _ => rfl) js u).symm,
      modSlot_plain Slot.kill (fun _ hx => hx) _ _ h4, h5, rfl, rfl⟩,
      (List.append_nil _).symm, (List.append_nil _).symm⟩
  | retain =>
    rcases obs with _ | o
    · simp only [runOp_retain, step_retain_none]
      exact ⟨⟨rfl, rfl, rfl, h4, Or.inl rfl, rfl, rfl⟩, (List.append_nil _).symm, (List.append_nil _).symm⟩
    · simp only [runOp_retain, step_retain, hopen]
      exact ⟨⟨rfl, rfl, rfl, h4, Or.inr (h5.resolve_left nofun), rfl, rfl⟩,
        (List.append_nil _).symm, (List.append_nil _).symm⟩
  | size =>
    rcases obs with _ | o
    · simp only [runOp_size, step_len_none, step_isEmpty_none]
      exact ⟨⟨rfl, rfl, rfl, h4, Or.inl rfl, rfl, rfl⟩, (List.append_nil _).symm, List.append_assoc ..⟩
    · rcases ch with _ | c
      · exact absurd rfl (h5.resolve_left nofun)
      · simp only [runOp_size, step_len, step_isEmpty]
        exact ⟨⟨rfl, rfl, rfl, h4, Or.inr nofun, rfl, rfl⟩, (List.append_nil _).symm, List.append_assoc ..⟩

/-- the answers of the `size` operations of a history -/
def sizeAnss : State → List Op → List SizeOut
  | _, [] => []
  | j, op :: r => sizeAns j op ++ sizeAnss (j.apply op.toSubj).1 r

theorem runOps_sim : ∀ (ops : List Op) {s : St} {j : State}, Rel s j →
    Rel (s.runOps ops) (Subj.exec j (ops.map Op.toSubj)) ∧
      (s.runOps ops).log = s.log ++ delivs j (ops.map Op.toSubj) ∧
      (s.runOps ops).sizes = s.sizes ++ sizeAnss j ops := by
  intro ops
  induction ops with
  | nil => intro s j h; exact ⟨h, by simp [St.runOps, delivs], by simp [St.runOps, sizeAnss]⟩
  | cons op r ih =>
    intro s j h
    obtain ⟨h1, h2, h3⟩ := runOp_sim h op
    obtain ⟨i1, i2, i3⟩ := ih h1
    refine ⟨i1, ?_, ?_⟩
    · show (St.runOps (s.runOp op) r).log = _
      rw [i2, h2]
      simp [delivs, List.append_assoc]
    · show (St.runOps (s.runOp op) r).sizes = _
      rw [i3, h3]
      simp [sizeAnss, List.append_assoc]

end Rx.Conc.SS
