import RxModel.Lemmas.ChainWorld
/-!
  How the executor's part of a world step is composed.  `pollAll`, `runLoop` and the events `fire`, `poll`,
  `run` do nothing but poll one task or fire one timer, again and again; so a property of worlds that those
  two moves keep is kept by all of them, and one that the four external events (`sub`, `emit`, `unsub`, `adv`)
  keep as well is an invariant of every history.  A relation `R w₀ w` to a fixed start, or an invariant paired
  with such a relation, is a property of `w`: the relational forms are instances.
-/
namespace Rx.T

/-- Induction along the calls of the cascade: `M stages j ns s r` for the result `r` of pushing
    `ns` into `stages`.  `dry`: nothing is delivered (no fuel, or nothing to deliver); `step` is the
    defining equation of `cascadeF` at `f + 1`, `st :: rest`, `n :: ns`, with `c`, `d` its two calls. -/
theorem cascadeF_rec {M : List Stage → Nat → List Notif → Sched → List Stage × List Notif × Sched → Prop}
    (dry : ∀ stages j ns s, M stages j ns s (stages, [], s))
    (probe : ∀ j ns s, M [] j ns s ([], ns, s))
    (step : ∀ st rest j n ns s c d,
      M rest (j + 1) (st.onNotif j n s).2.1 (st.onNotif j n s).2.2 c →
      M (((st.onNotif j n s).1.afterEmit j c.2.2).1 :: c.1) j ns
        ((st.onNotif j n s).1.afterEmit j c.2.2).2 d →
      M (st :: rest) j (n :: ns) s (d.1, c.2.1 ++ d.2.1, d.2.2)) :
    ∀ f stages j ns s, M stages j ns s (cascadeF f stages j ns s)
  | 0, stages, j, ns, s => dry stages j ns s
  | _ + 1, [], j, ns, s => probe j ns s
  | _ + 1, st :: rest, j, [], s => dry (st :: rest) j [] s
  | f + 1, st :: rest, j, n :: ns, s =>
    step st rest j n ns s _ _
      (cascadeF_rec dry probe step f rest (j + 1) (st.onNotif j n s).2.1 (st.onNotif j n s).2.2)
      (cascadeF_rec dry probe step f _ j ns _)

namespace TW

variable {P : TW → Prop}

theorem pollAll_keeps (hpoll : ∀ w k, P w → P (w.pollTask k)) :
    ∀ (l : List TaskId) (w : TW), P w → P (w.pollAll l)
  | [], _, h => h
  | k :: r, w, h => by
    unfold pollAll
    refine pollAll_keeps hpoll r _ ?_
    split
    · split
      · exact hpoll w k h
      · exact h
    · exact h

theorem fireAll_keeps (hfire : ∀ (w : TW) tm, P w → P { w with sched := w.sched.fire tm }) :
    ∀ (l : List TimerId) (w : TW), P w → P { w with sched := l.foldl Sched.fire w.sched }
  | [], _, h => h
  | tm :: r, w, h => fireAll_keeps hfire r { w with sched := w.sched.fire tm } (hfire w tm h)

theorem runLoop_keeps (hpoll : ∀ w k, P w → P (w.pollTask k))
    (hfire : ∀ (w : TW) tm, P w → P { w with sched := w.sched.fire tm }) :
    ∀ (fuel : Nat) (w : TW), P w → P (runLoop fuel w)
  | 0, _, h => h
  | f + 1, w, h => by
    have h1 := fireAll_keeps hfire w.sched.dueTimers w h
    rw [runLoop_succ]
    dsimp only
    split
    · exact h1
    · exact runLoop_keeps hpoll hfire f _ (pollAll_keeps hpoll _ _ h1)

/-- The executor's events keep what polling a task and firing a timer keep; `sub`, `unsub` and `adv` have
    their own hypotheses.  Emissions apart (a ghost state moves with them). -/
theorem step_keeps' (hpoll : ∀ w k, P w → P (w.pollTask k))
    (hfire : ∀ (w : TW) tm, P w → P { w with sched := w.sched.fire tm })
    (hsub : ∀ w, P w → P (w.step .sub)) (hunsub : ∀ w, P w → P (w.step .unsub))
    (hadv : ∀ w d, P w → P (w.step (.adv d)))
    (w : TW) (e : Ev) (he : ∀ i n, e ≠ .emit i n) (h : P w) : P (w.step e) := by
  cases e with
  | sub => exact hsub w h
  | emit i n => exact absurd rfl (he i n)
  | unsub => exact hunsub w h
  | adv d => exact hadv w d h
  | fire i =>
    rw [step_fire]
    split
    · exact hfire w _ h
    · exact h
  | poll i =>
    rw [step_poll]
    split
    · exact hpoll w _ h
    · exact h
  | run => exact runLoop_keeps hpoll hfire _ w h

theorem step_keeps (hpoll : ∀ w k, P w → P (w.pollTask k))
    (hfire : ∀ (w : TW) tm, P w → P { w with sched := w.sched.fire tm })
    (hsub : ∀ w, P w → P (w.step .sub)) (hemit : ∀ w i n, P w → P (w.step (.emit i n)))
    (hunsub : ∀ w, P w → P (w.step .unsub)) (hadv : ∀ w d, P w → P (w.step (.adv d)))
    (w : TW) (e : Ev) (h : P w) : P (w.step e) := by
  cases e with
  | emit i n => exact hemit w i n h
  | _ => exact step_keeps' hpoll hfire hsub hunsub hadv w _ nofun h

theorem steps_keep (hstep : ∀ w e, P w → P (w.step e)) :
    ∀ (es : List Ev) (w : TW), P w → P (es.foldl step w)
  | [], _, h => h
  | e :: r, w, h => steps_keep hstep r _ (hstep w e h)

end TW

/-- The one-move lemmas for an invariant `I` and a reflexive-transitive relation `R` between the world
    before and after: one poll, one `fire`, and the four events that are not the executor's. -/
structure Moves (I : TW → Prop) (R : TW → TW → Prop) : Prop where
  refl : ∀ w, R w w
  trans : ∀ {a b c}, R a b → R b c → R a c
  poll : ∀ w k, I w → I (w.pollTask k) ∧ R w (w.pollTask k)
  fire : ∀ w tm, I w → I { w with sched := w.sched.fire tm } ∧ R w { w with sched := w.sched.fire tm }
  adv : ∀ w d, I w → I (w.step (.adv d)) ∧ R w (w.step (.adv d))
  sub : ∀ w, I w → I (w.step .sub) ∧ R w (w.step .sub)
  emit : ∀ w i n, I w → I (w.step (.emit i n)) ∧ R w (w.step (.emit i n))
  unsub : ∀ w, I w → I (w.step .unsub) ∧ R w (w.step .unsub)

namespace Moves
variable {I : TW → Prop} {R : TW → TW → Prop}

/-- `I` together with `R` to a fixed start `w0` is a property of worlds (the form the lemmas above ask for)
    that a move with a one-move lemma keeps. -/
theorem lift (m : Moves I R) {f : TW → TW} (hf : ∀ w, I w → I (f w) ∧ R w (f w)) (w0 w : TW)
    (h : I w ∧ R w0 w) : I (f w) ∧ R w0 (f w) :=
  ⟨(hf w h.1).1, m.trans h.2 (hf w h.1).2⟩

theorem pollAll (m : Moves I R) (l : List TaskId) {w : TW} (h : I w) : I (w.pollAll l) ∧ R w (w.pollAll l) :=
  TW.pollAll_keeps (P := fun w' => I w' ∧ R w w') (fun _ k => m.lift (m.poll · k) w _) l w ⟨h, m.refl w⟩

theorem fireAll (m : Moves I R) (l : List TimerId) {w : TW} (h : I w) :
    I { w with sched := l.foldl Sched.fire w.sched } ∧ R w { w with sched := l.foldl Sched.fire w.sched } :=
  TW.fireAll_keeps (P := fun w' => I w' ∧ R w w') (fun _ tm => m.lift (m.fire · tm) w _) l w ⟨h, m.refl w⟩

theorem runLoop (m : Moves I R) (fuel : Nat) {w : TW} (h : I w) :
    I (TW.runLoop fuel w) ∧ R w (TW.runLoop fuel w) :=
  TW.runLoop_keeps (P := fun w' => I w' ∧ R w w') (fun _ k => m.lift (m.poll · k) w _)
    (fun _ tm => m.lift (m.fire · tm) w _) fuel w ⟨h, m.refl w⟩

theorem step (m : Moves I R) {w : TW} (h : I w) (e : TW.Ev) : I (w.step e) ∧ R w (w.step e) :=
  TW.step_keeps (P := fun w' => I w' ∧ R w w') (fun _ k => m.lift (m.poll · k) w _)
    (fun _ tm => m.lift (m.fire · tm) w _) (m.lift m.sub w) (fun _ i n => m.lift (m.emit · i n) w _)
    (m.lift m.unsub w) (fun _ d => m.lift (m.adv · d) w _) w e ⟨h, m.refl w⟩

theorem steps (m : Moves I R) (evs : List TW.Ev) {w : TW} (h : I w) :
    I (evs.foldl TW.step w) ∧ R w (evs.foldl TW.step w) :=
  TW.steps_keep (P := fun w' => I w' ∧ R w w') (fun _ e => m.lift (fun _ h' => m.step h' e) w _) evs w
    ⟨h, m.refl w⟩

end Moves

end Rx.T
