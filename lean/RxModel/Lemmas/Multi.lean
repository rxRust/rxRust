import RxModel.Spec.MultiSem
/-
  Two-input cells: the discipline of the downstream slot they own, and each cell against its
  timeline specification.
-/
namespace Rx
open St2

@[simp] theorem runT_nil (s : St2) : s.runT [] = (s, []) := rfl
@[simp] theorem runT_cons (s : St2) (sd : Side) (n : Notif) (r : Timeline) :
    s.runT ((sd, n) :: r) =
      (((s.step sd n).1.runT r).1, (s.step sd n).2 ++ ((s.step sd n).1.runT r).2) := rfl

theorem runT_append (s : St2) (a b : Timeline) :
    s.runT (a ++ b) = (((s.runT a).1.runT b).1, (s.runT a).2 ++ ((s.runT a).1.runT b).2) := by
  induction a generalizing s with
  | nil => rfl
  | cons p r ih => obtain ⟨sd, n⟩ := p; simp only [List.cons_append, runT_cons, ih, List.append_assoc]

theorem run_eq_runT (s : St2) (sd : Side) (o : List Notif) :
    s.run sd o = s.runT (o.map fun n => (sd, n)) := by
  induction o generalizing s with
  | nil => rfl
  | cons n r ih => simp only [St2.run, List.map_cons, runT_cons, ih]

/-- What one step of a cell does to the downstream slot it owns (`al` before, `al'` after) and
    what it hands on: nothing; an item through the guard; a last notification through the guard,
    which empties the slot; `buffer`'s flush, without and with the completion. -/
inductive Slotted : Bool → Bool → List Notif → Prop
  | idle (al) : Slotted al al []
  | item (al x) : Slotted al al (St2.guard al [.next x])
  | last (al t) : Slotted al false (St2.guard al [t])
  | flush (al d) : Slotted al al (St2.guard al (St2.flush d))
  | flushLast (al d) : Slotted al false (St2.guard al (St2.flush d ++ [.complete]))

theorem step_slotted (s : St2) (sd : Side) (n : Notif) :
    Slotted s.alive (s.step sd n).1.alive (s.step sd n).2 := by
  cases s with
  | merge al c => cases n <;> cases c <;> constructor
  | zip al qa qb c =>
    cases n with
    | next v =>
      cases sd
      · cases qb <;> constructor
      · cases qa <;> constructor
    | error e => cases sd <;> constructor
    | complete => cases sd <;> cases c <;> constructor
  | combine al a b c =>
    cases n with
    | next v =>
      cases sd
      · cases b <;> constructor
      · cases a <;> constructor
    | error e => cases sd <;> constructor
    | complete => cases sd <;> cases c <;> constructor
  | withLatest al l => cases sd <;> cases n <;> (try cases l) <;> constructor
  | takeUntil al => cases sd <;> cases n <;> constructor
  | skipUntil al sk => cases sd <;> cases n <;> (try cases sk) <;> constructor
  | sample al l => cases sd <;> cases n <;> (try cases l) <;> constructor
  | buffer al d => cases al <;> cases sd <;> cases n <;> constructor

theorem flush_eq (d : List Val) : St2.flush d = [] ∨ St2.flush d = [.next (Val.ofList d)] := by
  unfold St2.flush; split
  · exact .inl rfl
  · exact .inr rfl

namespace Slotted
variable {al al' : Bool} {o : List Notif}

theorem dead (h : Slotted false al' o) : al' = false ∧ o = [] := by
  cases h <;> exact ⟨rfl, rfl⟩

theorem wf (h : Slotted al al' o) : WF o := by
  cases h <;> cases al <;> try exact True.intro
  · exact WF_single _
  · rcases flush_eq ‹_› with e | e <;> rw [St2.guard, if_pos rfl, e] <;> exact True.intro
  · rcases flush_eq ‹_› with e | e <;> rw [St2.guard, if_pos rfl, e] <;> exact rfl

theorem closes (h : Slotted al al' o) (ht : terminated o = true) : al' = false := by
  cases h <;> try rfl
  · cases ht
  · cases al <;> cases ht
  · cases al
    · cases ht
    · rcases flush_eq ‹_› with e | e <;> rw [St2.guard, if_pos rfl, e] at ht <;> cases ht

end Slotted

theorem step_dead (s : St2) (sd : Side) (n : Notif) (h : s.alive = false) :
    (s.step sd n).1.alive = false ∧ (s.step sd n).2 = [] :=
  (h ▸ step_slotted s sd n).dead

theorem runT_dead (s : St2) (tl : Timeline) (h : s.alive = false) :
    (s.runT tl).1.alive = false ∧ (s.runT tl).2 = [] := by
  induction tl generalizing s with
  | nil => exact ⟨h, rfl⟩
  | cons p r ih =>
    obtain ⟨sd, n⟩ := p
    have hs := step_dead s sd n h
    exact ⟨(ih _ hs.1).1, by rw [runT_cons, hs.2, (ih _ hs.1).2]; rfl⟩

theorem step_disciplined (s : St2) (sd : Side) (n : Notif) :
    WF (s.step sd n).2 ∧ (terminated (s.step sd n).2 = true → (s.step sd n).1.alive = false) :=
  ⟨(step_slotted s sd n).wf, (step_slotted s sd n).closes⟩

/-- For ANY tagged input (malformed inputs included) the cumulative output of a
    two-input cell is well formed. -/
theorem runT_wf (s : St2) (tl : Timeline) : WF (s.runT tl).2 := by
  induction tl generalizing s with
  | nil => exact True.intro
  | cons p r ih =>
    obtain ⟨sd, n⟩ := p
    have hd := step_disciplined s sd n
    exact (WF_append_iff _ _).2 ⟨hd.1, fun ht => (runT_dead _ r (hd.2 ht)).2, ih _⟩

end Rx

namespace Rx
open St2 Spec

/-! ### each cell against its specification

  Induction on the timeline.  In every case both sides unfold (definitionally) to the same head
  followed by the rest: the induction hypothesis while the slot is full, `runT_dead` once a
  terminal has emptied it. -/

theorem merge_runT_cut (c : Bool) (tl : Timeline) :
    ((St2.merge true c).runT tl).2 = mk ((cut2 c tl).1.map (·.2)) (cut2 c tl).2 := by
  induction tl generalizing c with
  | nil => rfl
  | cons p r ih =>
    obtain ⟨sd, n⟩ := p
    have hd := fun c => (runT_dead (St2.merge false c) r rfl).2
    cases n with
    | next v => exact congrArg (_ :: ·) (ih c)
    | error e => exact congrArg (_ :: ·) (hd c)
    | complete =>
      cases c
      · exact ih true
      · exact congrArg (_ :: ·) (hd true)

/-- The two descriptions of merge agree: swallowing the first completion and stopping at the first
    terminal that remains is cutting at the first error or the second completion. -/
theorem gate_eraseFirstComplete (c : Bool) (tl : Timeline) :
    gate (if c then tl.map (·.2) else eraseFirstComplete (tl.map (·.2))) =
      mk ((cut2 c tl).1.map (·.2)) (cut2 c tl).2 := by
  induction tl generalizing c with
  | nil => cases c <;> rfl
  | cons p r ih =>
    obtain ⟨sd, n⟩ := p
    cases n with
    | next v =>
      cases c
      · exact congrArg (_ :: ·) (ih false)
      · exact congrArg (_ :: ·) (ih true)
    | error e => cases c <;> rfl
    | complete =>
      cases c
      · exact ih true
      · rfl

theorem merge_runT (c : Bool) (tl : Timeline) :
    ((St2.merge true c).runT tl).2 =
      gate (if c then tl.map (·.2) else eraseFirstComplete (tl.map (·.2))) :=
  (merge_runT_cut c tl).trans (gate_eraseFirstComplete c tl).symm

theorem takeUntil_runT (tl : Timeline) :
    ((St2.takeUntil true).runT tl).2 = Spec.takeUntil tl := by
  unfold Spec.takeUntil
  induction tl with
  | nil => rfl
  | cons p r ih =>
    obtain ⟨sd, n⟩ := p
    have hd := (runT_dead (St2.takeUntil false) r rfl).2
    cases sd <;> cases n
    case a.next => exact congrArg (_ :: ·) ih
    case a.error | a.complete | b.next => exact congrArg (_ :: ·) hd
    case b.error | b.complete => exact ih

theorem skipUntil_runT (sk : Bool) (tl : Timeline) :
    ((St2.skipUntil true sk).runT tl).2 = gate (skipUntilFrom (!sk) tl) := by
  induction tl generalizing sk with
  | nil => rfl
  | cons p r ih =>
    obtain ⟨sd, n⟩ := p
    have hd := (runT_dead (St2.skipUntil false sk) r rfl).2
    cases sd <;> cases n
    case a.next =>
      cases sk
      · exact congrArg (_ :: ·) (ih false)
      · exact ih true
    case a.error | a.complete => exact congrArg (_ :: ·) hd
    case b.next => exact ih false
    case b.error | b.complete => exact ih sk

theorem combine_runT (a b : Option Val) (c : Bool) (tl : Timeline) :
    ((St2.combine true a b c).runT tl).2 =
      mk (combineFrom a b (cut2 c tl).1) (cut2 c tl).2 := by
  induction tl generalizing a b c with
  | nil => rfl
  | cons p r ih =>
    obtain ⟨sd, n⟩ := p
    have hd := fun c => (runT_dead (St2.combine false a b c) r rfl).2
    cases n with
    | next v =>
      cases sd
      · cases b
        · exact ih _ _ _
        · exact congrArg (_ :: ·) (ih _ _ _)
      · cases a
        · exact ih _ _ _
        · exact congrArg (_ :: ·) (ih _ _ _)
    | error e => cases sd <;> exact congrArg (_ :: ·) (hd c)
    | complete =>
      cases c
      · cases sd <;> exact ih a b true
      · cases sd <;> exact congrArg (_ :: ·) (hd true)

theorem withLatest_runT (l : Option Val) (tl : Timeline) :
    ((St2.withLatest true l).runT tl).2 = mk (withLatestFrom l (cutW tl).1) (cutW tl).2 := by
  induction tl generalizing l with
  | nil => rfl
  | cons p r ih =>
    obtain ⟨sd, n⟩ := p
    have hd := (runT_dead (St2.withLatest false l) r rfl).2
    cases sd <;> cases n
    case a.next =>
      cases l
      · exact ih none
      · exact congrArg (_ :: ·) (ih _)
    case a.error | a.complete | b.error => exact congrArg (_ :: ·) hd
    case b.next => exact ih _
    case b.complete => exact ih l

theorem pairUp_nil_right (as : List Val) : pairUp as [] = [] := by
  cases as <;> rfl

theorem pairUp_cut {qa qb : List Val} (hq : qa = [] ∨ qb = []) (t : Option Notif) :
    mk (pairUp (qa ++ tagged .a []) (qb ++ tagged .b [])) t = mk [] t := by
  rcases hq with rfl | rfl
  · rfl
  · exact congrArg (mk · t) (pairUp_nil_right _)

theorem zip_runT (qa qb : List Val) (c : Bool) (tl : Timeline)
    (hq : qa = [] ∨ qb = []) :
    ((St2.zip true qa qb c).runT tl).2 =
      mk (pairUp (qa ++ tagged .a (cut2 c tl).1) (qb ++ tagged .b (cut2 c tl).1)) (cut2 c tl).2 := by
  induction tl generalizing qa qb c with
  | nil => exact (pairUp_cut hq none).symm
  | cons p r ih =>
    obtain ⟨sd, n⟩ := p
    have hd := fun c => (runT_dead (St2.zip false qa qb c) r rfl).2
    cases n with
    | next v =>
      cases sd
      · cases qb with
        | nil =>
          refine (ih (qa ++ [v]) [] c (.inr rfl)).trans ?_
          show mk (pairUp (qa ++ [v] ++ _) _) _ = mk (pairUp (qa ++ v :: _) _) _
          rw [List.append_assoc]; rfl
        | cons w qb' =>
          have hqa : qa = [] := hq.resolve_right (List.cons_ne_nil _ _)
          subst hqa
          exact congrArg (_ :: ·) (ih [] qb' c (.inl rfl))
      · cases qa with
        | nil =>
          refine (ih [] (qb ++ [v]) c (.inl rfl)).trans ?_
          show mk (pairUp _ (qb ++ [v] ++ _)) _ = mk (pairUp _ (qb ++ v :: _)) _
          rw [List.append_assoc]; rfl
        | cons w qa' =>
          have hqb : qb = [] := hq.resolve_left (List.cons_ne_nil _ _)
          subst hqb
          exact congrArg (_ :: ·) (ih qa' [] c (.inr rfl))
    | error e => cases sd <;> exact (congrArg (_ :: ·) (hd c)).trans (pairUp_cut hq (some (.error e))).symm
    | complete =>
      cases c
      · cases sd <;> exact ih qa qb true hq
      · cases sd <;> exact (congrArg (_ :: ·) (hd true)).trans (pairUp_cut hq (some .complete)).symm

theorem sample_runT (l : Option Val) (tl : Timeline) :
    ((St2.sample true l).runT tl).2 = mk (sampleFrom l (cutS tl).1) (cutS tl).2 := by
  induction tl generalizing l with
  | nil => rfl
  | cons p r ih =>
    obtain ⟨sd, n⟩ := p
    have hd := (runT_dead (St2.sample false l) r rfl).2
    cases sd <;> cases n
    case a.next => exact ih _
    case a.error | a.complete | b.error => exact congrArg (_ :: ·) hd
    case b.next | b.complete =>
      cases l
      · exact ih none
      · exact congrArg (_ :: ·) (ih none)

theorem buffer_runT (d : List Val) (tl : Timeline) :
    ((St2.buffer true d).runT tl).2 = bufferFrom d tl := by
  induction tl generalizing d with
  | nil => rfl
  | cons p r ih =>
    obtain ⟨sd, n⟩ := p
    have hd := (runT_dead (St2.buffer false d) r rfl).2
    have hc : (St2.flush d ++ [.complete]) ++ ((St2.buffer false d).runT r).2
        = St2.flush d ++ [.complete] := by rw [hd, List.append_nil]
    cases sd <;> cases n
    case a.next => exact ih _
    case b.next => exact congrArg (St2.flush d ++ ·) (ih [])
    case a.error | b.error => exact congrArg (_ :: ·) hd
    case a.complete | b.complete => exact hc

@[simp] theorem valToList_ofList (l : List Val) : valToList (Val.ofList l) = l := by
  induction l with
  | nil => rfl
  | cons x xs ih => simp [Val.ofList, valToList, ih]

/-- All released buffers, concatenated. -/
def released (out : List Notif) : List Val := (items out).flatMap valToList

theorem released_append (a b : List Notif) : released (a ++ b) = released a ++ released b := by
  simp [released, items_append]

theorem released_release (d : List Val) :
    released (St2.flush d) = d := by
  unfold St2.flush; split
  · next h => exact (List.isEmpty_iff.1 h).symm
  · simp [released, items]

theorem released_release_complete (d : List Val) :
    released (St2.flush d ++ [.complete]) = d := by
  rw [released_append, released_release]; exact List.append_nil d

/-- No loss, no duplication, no reordering, nothing invented: what has been
    released so far is a prefix of what was gathered … -/
theorem buffer_released_prefix (d : List Val) (tl : Timeline) :
    ∃ rest, d ++ gathered tl = released (bufferFrom d tl) ++ rest := by
  induction tl generalizing d with
  | nil => exact ⟨d, List.append_nil d⟩
  | cons p r ih =>
    obtain ⟨sd, n⟩ := p
    cases sd <;> cases n
    case a.next v =>
      obtain ⟨rest, h⟩ := ih (d ++ [v])
      exact ⟨rest, (List.append_assoc d [v] _).symm.trans h⟩
    case b.next v =>
      obtain ⟨rest, h⟩ := ih []
      refine ⟨rest, ?_⟩
      show d ++ gathered r = released (St2.flush d ++ bufferFrom [] r) ++ rest
      rw [released_append, released_release, List.append_assoc, ← h]; rfl
    case a.error | b.error => exact ⟨d, List.append_nil d⟩
    case a.complete | b.complete =>
      exact ⟨[], (List.append_nil d).trans
        ((released_release_complete d).symm.trans (List.append_nil _).symm)⟩

/-- … and when the stream ends by completion everything gathered has been released. -/
theorem buffer_released_all (d : List Val) (tl : Timeline)
    (hc : firstTerminal tl = some .complete) :
    released (bufferFrom d tl) = d ++ gathered tl := by
  induction tl generalizing d with
  | nil => cases hc
  | cons p r ih =>
    obtain ⟨sd, n⟩ := p
    cases sd <;> cases n
    case a.next v => exact (ih (d ++ [v]) hc).trans (List.append_assoc ..)
    case b.next v =>
      show released (St2.flush d ++ bufferFrom [] r) = d ++ gathered r
      rw [released_append, released_release, ih [] hc]; rfl
    case a.error | b.error => cases hc
    case a.complete | b.complete =>
      exact (released_release_complete d).trans (List.append_nil d).symm

theorem release_no_empty (d : List Val) :
    ∀ b ∈ items (St2.flush d), valToList b ≠ [] := by
  unfold St2.flush; split
  · exact fun _ h => nomatch h
  · next hd =>
    intro b hb
    cases List.mem_singleton.1 hb
    rw [valToList_ofList]; exact fun h => hd (List.isEmpty_iff.2 h)

/-- Never an empty buffer. -/
theorem buffer_no_empty (d : List Val) (tl : Timeline) :
    ∀ b ∈ items (bufferFrom d tl), valToList b ≠ [] := by
  induction tl generalizing d with
  | nil => exact fun _ h => nomatch h
  | cons p r ih =>
    obtain ⟨sd, n⟩ := p
    cases sd <;> cases n
    case a.next v => exact ih (d ++ [v])
    case b.next v =>
      show ∀ b ∈ items (St2.flush d ++ bufferFrom [] r), _
      rw [items_append]
      exact fun b hb => (List.mem_append.1 hb).elim (release_no_empty d b) (ih [] b)
    case a.error | b.error => exact fun _ h => nomatch h
    case a.complete | b.complete =>
      show ∀ b ∈ items (St2.flush d ++ [.complete]), _
      rw [items_append]
      exact fun b hb => release_no_empty d b (by simpa [items] using hb)

end Rx
