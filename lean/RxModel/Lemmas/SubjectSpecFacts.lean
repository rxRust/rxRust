import RxModel.Spec.SubjectSpec
import RxModel.Lemmas.SubjectBasic
/-
  What the abstract subject spec says, made explicit: its subscriber list is
  duplicate-free, an emission serves a sub-list of the snapshot (each subscriber at
  most once, in subscription order, nobody who joined during the emission), exactly
  the snapshot when no callback interferes, and nothing once done.
-/
namespace Rx.Subj

theorem modTail_length : ∀ (l : List (List Act)) (i : Nat), (modTail l i).length = l.length
  | [], _ => rfl
  | _ :: _, 0 => rfl
  | x :: r, n + 1 => by simp [modTail, modTail_length r n]

/-- one abstract callback: `live` only loses members or gains fresh ids; ids never shrink -/
theorem Abs.act_live (a : Abs) (greet : Option Val) (i : SlotId) (x : Act) :
    (∀ j ∈ (a.act greet i x).1.live, j ∈ a.live ∨ a.scripts.length ≤ j) ∧
    a.scripts.length ≤ (a.act greet i x).1.scripts.length := by
  cases x with
  | nop => exact ⟨fun j hj => Or.inl hj, Nat.le_refl _⟩
  | sub =>
    have key : (∀ j ∈ (a.subscribe []).live, j ∈ a.live ∨ a.scripts.length ≤ j) ∧
        a.scripts.length ≤ (a.subscribe []).scripts.length := by
      refine ⟨?_, by simp [Abs.subscribe]⟩
      intro j hj
      simp only [Abs.subscribe] at hj
      split at hj
      · exact Or.inl hj
      · rcases List.mem_append.mp hj with h | h
        · exact Or.inl h
        · simp at h; subst h; exact Or.inr (Nat.le_refl _)
    cases greet <;> exact key
  | unsub t =>
    by_cases h : t = i
    · simp only [Abs.act, if_pos h]
      exact ⟨fun j hj => Or.inl hj, Nat.le_refl _⟩
    · simp only [Abs.act, if_neg h, Abs.unsubOne]
      exact ⟨fun j hj => Or.inl (List.mem_filter.mp hj).1, Nat.le_refl _⟩

theorem Abs.callNext_live (a : Abs) (greet : Option Val) (i : SlotId) (v : Val) :
    (∀ j ∈ (a.callNext greet i v).1.live, j ∈ a.live ∨ a.scripts.length ≤ j) ∧
    a.scripts.length ≤ (a.callNext greet i v).1.scripts.length := by
  unfold Abs.callNext
  by_cases h : i ∈ a.live
  · simp only [if_pos h]
    have := Abs.act_live { a with scripts := modTail a.scripts i } greet i
      (match a.scripts[i]? with | some sc => sc.headD .nop | none => .nop)
    simp only [modTail_length] at this
    exact this
  · simp only [if_neg h]
    exact ⟨fun j hj => Or.inl hj, Nat.le_refl _⟩

theorem Abs.callNext_skip (a : Abs) (greet : Option Val) (i : SlotId) (v : Val) (h : i ∉ a.live) :
    a.callNext greet i v = (a, []) := by simp [Abs.callNext, h]

/-- serving a superset of the snapshot that adds only non-subscribers changes nothing -/
theorem abcast_filter (greet : Option Val) (v : Val) (p : SlotId → Bool) : ∀ (xs : List SlotId) (a : Abs),
    a.panicked = false →
    (∀ i ∈ xs, p i = false → i ∉ a.live) → (∀ i ∈ xs, i < a.scripts.length) →
    abcast greet v a (xs.filter p) = abcast greet v a xs
  | [], _, _, _, _ => rfl
  | i :: r, a, hp, h1, h2 => by
    have hl := Abs.callNext_live a greet i v
    cases hpi : p i with
    | true =>
      simp only [List.filter_cons, hpi, if_true]
      unfold abcast
      by_cases hpp : (a.callNext greet i v).1.panicked = true
      · simp only [if_pos hpp]
      · simp only [if_neg hpp]
        have ih := abcast_filter greet v p r (a.callNext greet i v).1 (by simpa using hpp)
          (fun j hj hpj hm => by
            rcases hl.1 j hm with h | h
            · exact h1 j (by simp [hj]) hpj h
            · exact absurd (h2 j (by simp [hj])) (Nat.not_lt.mpr h))
          (fun j hj => Nat.lt_of_lt_of_le (h2 j (by simp [hj])) hl.2)
        rw [ih]
    | false =>
      have hskip := Abs.callNext_skip a greet i v (h1 i (by simp) hpi)
      have ih := abcast_filter greet v p r a hp (fun j hj => h1 j (by simp [hj]))
        (fun j hj => h2 j (by simp [hj]))
      simp only [List.filter_cons, hpi]
      rw [show (if false = true then i :: List.filter p r else List.filter p r) = List.filter p r from rfl, ih]
      conv => rhs; unfold abcast
      simp only [hskip, hp, List.nil_append]
      rfl

structure AInv (a : Abs) : Prop where
  bound : ∀ j ∈ a.live, j < a.scripts.length
  nodup : a.live.Nodup
  doneEmpty : a.done = true → a.live = []

theorem AInv.init : AInv Abs.init := ⟨by simp [Abs.init], by simp [Abs.init], fun _ => rfl⟩

theorem AInv.subscribe {a : Abs} (h : AInv a) (sc : List Act) : AInv (a.subscribe sc) := by
  obtain ⟨hb, hn, hd⟩ := h
  have hlen : (a.scripts ++ [sc]).length = a.scripts.length + 1 := List.length_append
  unfold Abs.subscribe
  cases hdone : a.done with
  | true => exact ⟨fun j hj => hlen ▸ Nat.lt_succ_of_lt (hb j hj), hn, fun _ => hd hdone⟩
  | false =>
    obtain ⟨hn', hb'⟩ := fresh_append hb hn
    exact ⟨fun j hj => hlen ▸ hb' j hj, hn', nofun⟩

theorem AInv.unsubOne {a : Abs} (h : AInv a) (t : SlotId) : AInv (a.unsubOne t) := by
  obtain ⟨hb, hn, hd⟩ := h
  refine ⟨fun j hj => hb j (List.mem_filter.mp hj).1, hn.filter _, ?_⟩
  intro hdone
  simp [Abs.unsubOne, hd hdone]

theorem AInv.act {a : Abs} (h : AInv a) (greet : Option Val) (i : SlotId) (x : Act) : AInv (a.act greet i x).1 := by
  cases x with
  | nop => exact h
  | sub => cases greet <;> exact h.subscribe []
  | unsub t =>
    by_cases e : t = i
    · simp only [Abs.act, if_pos e]; exact ⟨h.bound, h.nodup, h.doneEmpty⟩
    · simp only [Abs.act, if_neg e]; exact h.unsubOne t

theorem AInv.callNext {a : Abs} (h : AInv a) (greet : Option Val) (i : SlotId) (v : Val) :
    AInv (a.callNext greet i v).1 := by
  unfold Abs.callNext
  by_cases hi : i ∈ a.live
  · simp only [if_pos hi]
    apply AInv.act
    exact ⟨by simpa [modTail_length] using h.bound, h.nodup, h.doneEmpty⟩
  · simp only [if_neg hi]; exact h

theorem AInv.abcast (greet : Option Val) (v : Val) : ∀ (xs : List SlotId) (a : Abs), AInv a →
    AInv (Rx.Subj.abcast greet v a xs).1
  | [], _, h => h
  | i :: r, a, h => by
    unfold Rx.Subj.abcast
    by_cases hp : (a.callNext greet i v).1.panicked = true
    · simp only [if_pos hp]; exact h.callNext greet i v
    · simp only [if_neg hp]; exact AInv.abcast greet v r _ (h.callNext greet i v)

theorem AInv.terminal {a : Abs} (h : AInv a) (n : Notif) : AInv (a.terminal n).1 := by
  unfold Abs.terminal
  by_cases hd : a.done = true
  · rw [if_pos hd]; exact h
  · rw [if_neg hd]; exact ⟨nofun, List.nodup_nil, fun _ => rfl⟩

theorem AInv.apply {a : Abs} (h : AInv a) (op : SubjOp) : AInv (a.apply op).1 := by
  cases op with
  | subscribe sc => exact h.subscribe sc
  | unsubOne i => exact h.unsubOne i
  | next v =>
    show AInv (a.next none v).1
    unfold Abs.next
    by_cases hd : a.done = true
    · rw [if_pos hd]; exact h
    · rw [if_neg hd]; exact AInv.abcast none v _ _ h
  | error e => exact h.terminal _
  | complete => exact h.terminal _
  | retain => exact h
  | unsubscribe => exact ⟨nofun, List.nodup_nil, fun _ => rfl⟩
  | clone => exact h

/-- final abstract state of a history (ignoring the stop at a panic) -/
def Abs.exec : Abs → List SubjOp → Abs
  | a, [] => a
  | a, op :: r => Abs.exec (a.apply op).1 r

theorem AInv.exec : ∀ (ops : List SubjOp) (a : Abs), AInv a → AInv (a.exec ops)
  | [], _, h => h
  | op :: r, a, h => AInv.exec r _ (h.apply op)

theorem Abs.act_none_deliv (a : Abs) (i : SlotId) (x : Act) : (a.act none i x).2 = [] := by
  cases x with
  | nop => rfl
  | sub => rfl
  | unsub t => by_cases e : t = i <;> simp [Abs.act, e]

theorem Abs.callNext_none_deliv (a : Abs) (i : SlotId) (v : Val) :
    (a.callNext none i v).2 = if i ∈ a.live then [(i, Notif.next v)] else [] := by
  unfold Abs.callNext
  by_cases hi : i ∈ a.live
  · simp only [if_pos hi, Abs.act_none_deliv]
  · simp only [if_neg hi]

/-- an emission serves a sub-list of the snapshot: nobody twice, nobody else, in order -/
theorem abcast_sublist (v : Val) : ∀ (xs : List SlotId) (a : Abs),
    List.Sublist (abcast none v a xs).2 (xs.map (·, Notif.next v))
  | [], _ => by simp [abcast]
  | i :: r, a => by
    unfold abcast
    have hd := Abs.callNext_none_deliv a i v
    by_cases hp : (a.callNext none i v).1.panicked = true
    · simp only [if_pos hp, hd, List.map_cons]
      by_cases hi : i ∈ a.live
      · simp only [if_pos hi]; exact List.Sublist.cons_cons _ (List.nil_sublist _)
      · simp only [if_neg hi]; exact List.nil_sublist _
    · simp only [if_neg hp, hd, List.map_cons]
      have ih := abcast_sublist v r (a.callNext none i v).1
      by_cases hi : i ∈ a.live
      · simp only [if_pos hi, List.singleton_append]; exact List.Sublist.cons_cons _ ih
      · simp only [if_neg hi, List.nil_append]; exact List.Sublist.cons _ ih

/-- subscribers whose callbacks do nothing -/
def Abs.Quiet (a : Abs) : Prop := ∀ sc ∈ a.scripts, ∀ x ∈ sc, x = Act.nop

theorem modTail_mem : ∀ (l : List (List Act)) (i : Nat) (sc : List Act), sc ∈ modTail l i →
    ∃ sc' ∈ l, ∀ x ∈ sc, x ∈ sc'
  | [], _, sc, h => by simp [modTail] at h
  | y :: r, 0, sc, h => by
    simp only [modTail, List.mem_cons] at h
    rcases h with h | h
    · subst h; exact ⟨y, by simp, fun x hx => List.mem_of_mem_tail hx⟩
    · exact ⟨sc, by simp [h], fun _ hx => hx⟩
  | y :: r, n + 1, sc, h => by
    simp only [modTail, List.mem_cons] at h
    rcases h with h | h
    · subst h; exact ⟨sc, by simp, fun _ hx => hx⟩
    · obtain ⟨sc', h1, h2⟩ := modTail_mem r n sc h
      exact ⟨sc', by simp [h1], h2⟩

theorem Abs.callNext_quiet (a : Abs) (hq : a.Quiet) (greet : Option Val) (i : SlotId) (v : Val) (hi : i ∈ a.live) :
    a.callNext greet i v = ({ a with scripts := modTail a.scripts i }, [(i, Notif.next v)]) := by
  unfold Abs.callNext
  rw [if_pos hi]
  cases h : a.scripts[i]? with
  | none => rfl
  | some sc =>
    have hm : sc ∈ a.scripts := List.mem_of_getElem? h
    have hh : sc.headD Act.nop = Act.nop := by
      cases sc with
      | nil => rfl
      | cons x t => exact hq _ hm x (by simp)
    simp only [hh, Abs.act]

/-- when no callback interferes, an emission serves exactly the snapshot and changes nobody's membership -/
theorem abcast_quiet (greet : Option Val) (v : Val) : ∀ (xs : List SlotId) (a : Abs), a.Quiet → a.panicked = false →
    (∀ i ∈ xs, i ∈ a.live) →
    (abcast greet v a xs).2 = xs.map (·, Notif.next v) ∧ (abcast greet v a xs).1.live = a.live ∧
    (abcast greet v a xs).1.Quiet ∧ (abcast greet v a xs).1.panicked = false ∧
    (abcast greet v a xs).1.done = a.done ∧ (abcast greet v a xs).1.scripts.length = a.scripts.length
  | [], a, hq, hp, _ => ⟨rfl, rfl, hq, hp, rfl, rfl⟩
  | i :: r, a, hq, hp, hx => by
    have hc := Abs.callNext_quiet a hq greet i v (hx i (by simp))
    have hq' : ({ a with scripts := modTail a.scripts i } : Abs).Quiet := by
      intro sc hsc x hxs
      obtain ⟨sc', h1, h2⟩ := modTail_mem a.scripts i sc hsc
      exact hq sc' h1 x (h2 x hxs)
    obtain ⟨hdel, hlive, hquiet, hcalm, hdone, hlen⟩ :=
      abcast_quiet greet v r { a with scripts := modTail a.scripts i } hq' hp (fun j hj => hx j (by simp [hj]))
    have e : abcast greet v a (i :: r) =
        ((abcast greet v { a with scripts := modTail a.scripts i } r).1,
         (i, Notif.next v) :: (abcast greet v { a with scripts := modTail a.scripts i } r).2) := by
      conv => lhs; unfold abcast
      rw [hc]
      have hne : ¬ (a.panicked = true) := by rw [hp]; simp
      simp only [List.singleton_append]
      rw [if_neg hne]
    rw [e]
    exact ⟨by simp only [List.map_cons, hdel], hlive, hquiet, hcalm, hdone, hlen.trans (modTail_length _ _)⟩

theorem Abs.apply_done (a : Abs) (hd : a.done = true) (op : SubjOp) :
    (a.apply op).2 = [] ∧ (a.apply op).1.done = true := by
  cases op <;> unfold Abs.apply <;> simp [Abs.next, Abs.terminal, Abs.subscribe, Abs.unsubOne, Abs.unsubscribe, hd]

/-- relation between the script-aware spec and the simple one on callback-free histories -/
structure SimRel (a : Abs) (s : Simple) : Prop where
  live : a.live = s.live
  done : a.done = s.done
  n : a.scripts.length = s.n
  quiet : a.Quiet
  calm : a.panicked = false
  inv : AInv a

theorem SimRel.terminal {a : Abs} {s : Simple} (h : SimRel a s) (n : Notif) :
    (a.terminal n).2 = (if s.done then [] else s.live.map (·, n)) ∧
      SimRel (a.terminal n).1 ⟨[], true, s.n⟩ := by
  obtain ⟨hl, hd, hn, hq, hc, hA⟩ := h
  have hA' := hA.terminal n
  cases hdn : a.done with
  | true =>
    have hs : s.done = true := by rw [← hd, hdn]
    simp only [Abs.terminal, hdn, if_true, hs] at hA' ⊢
    exact ⟨trivial, ⟨by rw [hA.doneEmpty hdn], hdn, hn, hq, hc, hA'⟩⟩
  | false =>
    have hs : s.done = false := by rw [← hd, hdn]
    simp only [Abs.terminal, hdn, Bool.false_eq_true, if_false, hs] at hA' ⊢
    exact ⟨by rw [hl], ⟨rfl, rfl, hn, hq, hc, hA'⟩⟩

theorem SimRel.apply {a : Abs} {s : Simple} (h : SimRel a s) (op : SubjOp) (hop : op.Plain) :
    (a.apply op).2 = (s.apply op).2 ∧ SimRel (a.apply op).1 (s.apply op).1 := by
  obtain ⟨hl, hd, hn, hq, hc, hA⟩ := h
  cases op with
  | subscribe sc =>
    refine ⟨rfl, ⟨?_, hd, ?_, ?_, hc, hA.subscribe sc⟩⟩
    · show (if a.done then a.live else a.live ++ [a.scripts.length]) =
        (if s.done then s.live else s.live ++ [s.n])
      rw [hl, hd, hn]
    · show (a.scripts ++ [sc]).length = s.n + 1
      rw [List.length_append, hn]; rfl
    · intro x hx y hy
      rcases List.mem_append.mp hx with hx | hx
      · exact hq x hx y hy
      · cases List.mem_singleton.mp hx; exact hop y hy
  | unsubOne i => exact ⟨rfl, ⟨congrArg (List.filter _) hl, hd, hn, hq, hc, hA.unsubOne i⟩⟩
  | next v =>
    show (a.next none v).2 = (if s.done then [] else s.live.map (·, Notif.next v)) ∧
      SimRel (a.next none v).1 s
    have hA' : AInv (a.next none v).1 := hA.apply (.next v)
    cases hdn : a.done with
    | true =>
      have hs : s.done = true := by rw [← hd, hdn]
      simp only [Abs.next, hdn, if_true, hs]
      exact ⟨trivial, ⟨hl, by rw [hdn, hs], hn, hq, hc, hA⟩⟩
    | false =>
      have hs : s.done = false := by rw [← hd, hdn]
      obtain ⟨b1, b2, b3, b4, b5, b6⟩ := abcast_quiet none v a.live a hq hc (fun _ h => h)
      simp only [Abs.next, hdn, Bool.false_eq_true, if_false, hs] at hA' ⊢
      exact ⟨by rw [b1, hl], ⟨by rw [b2, hl], by rw [b5, hdn, hs], b6.trans hn, b3, b4, hA'⟩⟩
  | error e => exact SimRel.terminal ⟨hl, hd, hn, hq, hc, hA⟩ _
  | complete => exact SimRel.terminal ⟨hl, hd, hn, hq, hc, hA⟩ _
  | retain => exact ⟨rfl, ⟨hl, hd, hn, hq, hc, hA⟩⟩
  | unsubscribe => exact ⟨rfl, ⟨rfl, rfl, hn, hq, hc, hA.apply .unsubscribe⟩⟩
  | clone => exact ⟨rfl, ⟨hl, hd, hn, hq, hc, hA⟩⟩

theorem SimRel.runFrom : ∀ (ops : List SubjOp) (a : Abs) (s : Simple), SimRel a s → (∀ op ∈ ops, op.Plain) →
    Abs.runFrom a ops = Simple.runFrom s ops
  | [], _, _, _, _ => rfl
  | op :: r, a, s, h, hp => by
    obtain ⟨h1, h2⟩ := h.apply op (hp op (by simp))
    have ih := SimRel.runFrom r _ _ h2 (fun o ho => hp o (by simp [ho]))
    unfold Abs.runFrom Simple.runFrom
    simp only [Abs.step, h2.calm, Bool.false_eq_true, if_false, h1, h2.done, ih]

end Rx.Subj
