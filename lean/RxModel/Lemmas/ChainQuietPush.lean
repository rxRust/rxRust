import RxModel.Lemmas.ChainQuietDefs
import RxModel.Lemmas.ChainTraverse
/-
  `Good` survives one notification at one stage (`Stage.onNotif`, `Stage.afterEmit`), a whole
  cascade (`cascadeF`, for every fuel value), `TW.push` and `TW.pushB`.  Each operation comes
  with its frame `Fr`: the subscribe_on handles, the notifier parts, the subscribe tasks, the
  source part and the flags stay.
-/
namespace Rx.T
open Rx

theorem set_mid' {α} (a c : List α) (b x : α) : (a ++ b :: c).set a.length x = a ++ x :: c := by
  simp

theorem Reached.frame {r : Option TaskId} {a : Info} {stages stages' : List Stage} {s s' : Sched}
    {l : Nat} (hr : Reached r stages s l) (g : Good r a stages s)
    (hm : stages'.map Stage.subH = stages.map Stage.subH) (hk : SubKeep s s') :
    Reached r stages' s' l := by
  intro i st' h hi hs e
  have h1 : (stages'.map Stage.subH)[i]? = some (some h) := by
    rw [List.getElem?_map, hs]; simp [e]
  rw [hm, List.getElem?_map] at h1
  cases hst : stages[i]? with
  | none => rw [hst] at h1; simp at h1
  | some st =>
    rw [hst] at h1; simp at h1
    exact g.ran_keep hk hst h1 (hr i st h hi hst h1)

section
variable {r : Option TaskId} {a : Info} {stages : List Stage} {s : Sched} {j : Nat}

/-- What `onNotif` / `afterEmit` / a whole cascade promise about the stage. -/
structure StFr (st st1 : Stage) (s s1 : Sched) : Prop where
  subH : st1.subH = st.subH
  n2 : st1.n2 = st.n2
  keep : SubKeep s s1

/-- The result triple of a step at stage `j`. -/
def OnOk (r : Option TaskId) (a : Info) (stages : List Stage) (s : Sched) (j : Nat) (st : Stage)
    (res : Stage × List Notif × Sched) : Prop :=
  Good r a (stages.set j res.1) res.2.2 ∧ StFr st res.1 s res.2.2

theorem Stage.naOn_eq (st : Stage) :
    st.naOn = match st.n2 with | some (_, na, _) => na | none => false := by
  cases st <;> rfl

theorem OnOk.same {st st1 : Stage} {outs : List Notif} (g : Good r a stages s)
    (hj : stages[j]? = some st) (hh : st1.handles = st.handles) (hs : st1.subH = st.subH)
    (hi : st1.isSubOn = st.isSubOn) (hn : st1.n2 = st.n2) (hwf : st.wf → st1.wf) :
    OnOk r a stages s j st (st1, outs, s) :=
  ⟨g.restage hj hh hs hi (by rw [Stage.naOn_eq, Stage.naOn_eq, hn]; exact id) hwf, hs, hn, SubKeep.refl _⟩

theorem OnOk.spawn {st st1 : Stage} {b : Body} {d : Option Nat} (g : Good r a stages s)
    (hj : stages[j]? = some st) (hr : Reached r stages s j) (hl : b.level = j + 1)
    (hb : b.isSub = st1.isSubOn) (hh : st1.handles = st.handles ++ [s.tasks.length])
    (hs : st1.subH = st.subH) (hi : st1.isSubOn = st.isSubOn) (hn : st1.n2 = st.n2) (hwf : st1.wf) :
    OnOk r a stages s j st (st1, [], (s.scheduleOnce b d).1) :=
  ⟨g.stage_adopt hj (scheduleOnce_tasks _ _ _) rfl rfl hl hb hh hi hwf (hr.mono (Nat.le_succ _)) (Or.inl hs),
    hs, hn, SubKeep.of_append (scheduleOnce_tasks _ _ _)⟩

theorem cancel_not_live (s : Sched) (h : Nat) (t : Task) (ht : (s.cancel h).tasks[h]? = some t) :
    t.live = false := by
  have hlt : h < s.tasks.length := by simpa using Sched.get_lt ht
  rw [Sched.cancel_get_self _ _ _ (List.getElem?_eq_getElem hlt)] at ht; cases ht
  simp [Task.live]

/-- Cancel the one handle `h0` of a stage that is not a subscribe_on: subscribe tasks are left
    alone, and whatever the stage becomes it need not keep `h0`. -/
theorem Good.cancel_only {st : Stage} {h0 : Nat} (g : Good r a stages s)
    (hj : stages[j]? = some st) (hh : st.handles = [h0]) (hns : st.isSubOn = false) :
    Good r a stages (s.cancel h0) ∧ SubKeep s (s.cancel h0) ∧
      ∀ (l : List TaskId) (h : Nat), h ∈ st.handles → ∀ t : Task, (s.cancel h0).tasks[h]? = some t →
        t.live = true → h ∈ l := by
  obtain ⟨t, ht, _, hb⟩ := g.handleTask j st h0 hj (by rw [hh]; exact List.mem_singleton_self _)
  rw [hns] at hb
  have hk : SubKeep s (s.cancel h0) := by
    intro k u hu hsu
    by_cases e : k = h0
    · subst e; rw [ht] at hu; cases hu; rw [hb] at hsu; cases hsu
    · rw [Sched.cancel_get_ne _ _ _ e]; exact hu
  have hc : s.cancel h0 = s.setTask h0 { t with keepRunning := false, hasValue := false } := by
    unfold Sched.cancel; rw [ht]
  refine ⟨g.sched (r' := r) ?_ fun i sti hh hsi e hr => g.ran_keep hk hsi e hr, hk, ?_⟩
  · rw [hc]
    exact SRel.setTask ht ⟨rfl, by simp [Task.live], by simp⟩ g.valueDone
  · intro l h hm t ht hl
    rw [hh, List.mem_singleton] at hm; subst hm
    rw [cancel_not_live _ _ _ ht] at hl; cases hl

theorem onNotif_good (st : Stage) (n : Notif) (g : Good r a stages s) (hj : stages[j]? = some st)
    (hr : Reached r stages s j) : OnOk r a stages s j st (st.onNotif j n s) := by
  cases st with
  | op1 o | subscribeOn d t | throttleW d e al tr | op2n o ns na nt =>
    exact OnOk.same g hj rfl rfl rfl rfl id
  | delay d al m =>
    obtain ⟨l, rfl⟩ : ∃ l, m = some l := Option.isSome_iff_exists.1 (g.wf j _ hj)
    cases n with
    | error e => exact OnOk.same g hj rfl rfl rfl rfl id
    | next v | complete => exact OnOk.spawn g hj hr rfl rfl rfl rfl rfl rfl rfl
  | observeOn al m =>
    obtain ⟨l, rfl⟩ : ∃ l, m = some l := Option.isSome_iff_exists.1 (g.wf j _ hj)
    exact OnOk.spawn g hj hr rfl rfl rfl rfl rfl rfl rfl
  | bufTime d c al data t =>
    cases n with
    | next v =>
      rw [Stage.onNotif_bufTime_next]
      split
      · split
        · split <;> exact OnOk.same g hj rfl rfl rfl rfl id
        · exact OnOk.same g hj rfl rfl rfl rfl id
      · exact OnOk.same g hj rfl rfl rfl rfl id
    | error e | complete => exact OnOk.same g hj rfl rfl rfl rfl id
  | debounce d al tr hd =>
    cases n with
    | error e | complete => exact OnOk.same g hj rfl rfl rfl rfl id
    | next v =>
      cases hd with
      | none => exact OnOk.spawn g hj hr rfl rfl rfl rfl rfl rfl trivial
      | some h0 =>
        -- the pending task is cancelled, its successor takes the handler cell
        obtain ⟨g1, k1, dead⟩ := g.cancel_only hj rfl rfl
        refine ⟨?_, rfl, rfl, k1.trans (SubKeep.of_append (scheduleOnce_tasks _ _ _))⟩
        exact g1.stage_spawn hj (scheduleOnce_tasks _ _ _) rfl rfl rfl rfl
          (List.mem_singleton_self _) (fun h hm => Or.inr (List.mem_singleton.1 hm)) (dead _) rfl trivial
          ((hr.frame g rfl k1).mono (Nat.le_succ _)) (Or.inl rfl)
  | throttle d e al tr hd =>
    cases hd with
    | none => cases n <;> exact OnOk.same g hj rfl rfl rfl rfl id
    | some h0 =>
      cases n with
      | next v =>
        rw [Stage.onNotif_throttle_next, Option.all_some]
        by_cases hc : s.handleClosed h0 = true
        · -- the window task has produced its value: it is finished, the handle is dropped
          rw [if_pos hc]
          refine ⟨?_, rfl, rfl, SubKeep.refl _⟩
          refine g.stage_same hj (fun _ hm => nomatch hm) ?_ rfl trivial (Or.inl fun _ => ⟨rfl, rfl⟩) rfl
          intro h hm t ht hl
          rw [List.mem_singleton.1 hm] at ht
          exact absurd hc (g.live_open ht hl)
        · rw [if_neg hc]; exact OnOk.same g hj rfl rfl rfl rfl id
      | error er | complete =>
        -- the window task is cancelled, the handler cell emptied
        obtain ⟨g1, k1, dead⟩ := g.cancel_only hj rfl rfl
        exact ⟨g1.stage_same hj (fun _ hm => nomatch hm) (dead _) rfl trivial (Or.inl fun _ => ⟨rfl, rfl⟩)
          rfl, rfl, rfl, k1⟩

theorem afterEmit_good (st : Stage) (g : Good r a stages s) (hj : stages[j]? = some st)
    (hr : Reached r stages s j) :
    Good r a (stages.set j (st.afterEmit j s).1) (st.afterEmit j s).2 ∧
      StFr st (st.afterEmit j s).1 s (st.afterEmit j s).2 := by
  cases st with
  | throttleW d e al tr =>
    exact OnOk.spawn (st1 := .throttle d e al tr (some s.tasks.length)) g hj hr rfl rfl rfl rfl rfl rfl trivial
  | _ => exact OnOk.same (outs := []) g hj rfl rfl rfl rfl id

end

theorem map_mid {α β} (f : α → β) (pre : List α) {x y : α} {r r' : List α} (hx : f y = f x)
    (hr : r'.map f = r.map f) : (pre ++ y :: r').map f = (pre ++ x :: r).map f := by
  rw [List.map_append, List.map_append, List.map_cons, List.map_cons, hx, hr]

/-- What a cascade promises about the stages it ran through. -/
structure CFr (suf suf' : List Stage) (s s' : Sched) : Prop where
  subH : suf'.map Stage.subH = suf.map Stage.subH
  n2 : suf'.map Stage.n2 = suf.map Stage.n2
  keep : SubKeep s s'

theorem CFr.refl (suf : List Stage) (s : Sched) : CFr suf suf s s := ⟨rfl, rfl, SubKeep.refl _⟩

/-- One round of the cascade (`cascadeF_rec`): the notification at the head stage, what it
    emits through the stages behind it, the stage's `afterEmit`, then the other notifications. -/
theorem cascadeF_good {r : Option TaskId} {a : Info} (f : Nat) (pre suf : List Stage) (ns : List Notif)
    (s : Sched) (g : Good r a (pre ++ suf) s) (hr : Reached r (pre ++ suf) s pre.length) :
    Good r a (pre ++ (cascadeF f suf pre.length ns s).1) (cascadeF f suf pre.length ns s).2.2 ∧
      CFr suf (cascadeF f suf pre.length ns s).1 s (cascadeF f suf pre.length ns s).2.2 := by
  refine cascadeF_rec (M := fun stages j ns s res => ∀ pre : List Stage, pre.length = j →
      Good r a (pre ++ stages) s → Reached r (pre ++ stages) s j →
      Good r a (pre ++ res.1) res.2.2 ∧ CFr stages res.1 s res.2.2)
    (dry := fun _ _ _ _ _ _ g _ => ⟨g, CFr.refl _ _⟩) (probe := fun _ _ _ _ _ g _ => ⟨g, CFr.refl _ _⟩)
    (step := ?_) f suf pre.length ns s pre rfl g hr
  intro st rest j n ns s c d ihc ihd pre hp g hr
  subst hp
  obtain ⟨g1, fr1⟩ := onNotif_good st n g (by simp) hr
  rw [set_mid'] at g1
  have hr1 := hr.frame g (map_mid _ pre fr1.subH rfl) fr1.keep
  obtain ⟨g2, fr2⟩ := ihc (pre ++ [(st.onNotif pre.length n s).1]) (by simp)
    (by rw [List.append_assoc]; exact g1) (by rw [List.append_assoc]; exact hr1.mono (Nat.le_succ _))
  rw [List.append_assoc, List.singleton_append] at g2
  have hr2 := hr1.frame g1 (map_mid _ pre rfl fr2.subH) fr2.keep
  obtain ⟨g3, fr3⟩ := afterEmit_good (st.onNotif pre.length n s).1 g2 (by simp) hr2
  rw [set_mid'] at g3
  obtain ⟨g4, fr4⟩ := ihd pre rfl g3 (hr2.frame g2 (map_mid _ pre fr3.subH rfl) fr3.keep)
  refine ⟨g4, ?_, ?_, ((fr1.keep.trans fr2.keep).trans fr3.keep).trans fr4.keep⟩
  · rw [fr4.subH, List.map_cons, List.map_cons, fr3.subH, fr1.subH, fr2.subH]
  · rw [fr4.n2, List.map_cons, List.map_cons, fr3.n2, fr1.n2, fr2.n2]

def GoodW (r : Option TaskId) (w : TW) : Prop := Good r w.info w.stages w.sched
def ReachedW (r : Option TaskId) (w : TW) (l : Nat) : Prop := Reached r w.stages w.sched l

/-- Flags and source kind stay. -/
structure Fl (w w' : TW) : Prop where
  subscribed : w'.subscribed = w.subscribed
  unsubscribed : w'.unsubscribed = w.unsubscribed
  src : w'.src = w.src

theorem Fl.refl (w : TW) : Fl w w := ⟨rfl, rfl, rfl⟩
theorem Fl.trans {a b c : TW} (h1 : Fl a b) (h2 : Fl b c) : Fl a c :=
  ⟨h2.1.trans h1.1, h2.2.trans h1.2, h2.3.trans h1.3⟩

/-- What an operation that only pushes notifications keeps. -/
structure Fr (w w' : TW) : Prop where
  subH : w'.stages.map Stage.subH = w.stages.map Stage.subH
  n2 : w'.stages.map Stage.n2 = w.stages.map Stage.n2
  keep : SubKeep w.sched w'.sched
  info : w'.info = w.info
  fl : Fl w w'

theorem Fr.refl (w : TW) : Fr w w := ⟨rfl, rfl, SubKeep.refl _, rfl, Fl.refl _⟩
theorem Fr.trans {a b c : TW} (h1 : Fr a b) (h2 : Fr b c) : Fr a c :=
  ⟨h2.subH.trans h1.subH, h2.n2.trans h1.n2, h1.keep.trans h2.keep, h2.info.trans h1.info,
    h1.fl.trans h2.fl⟩

theorem Fr.len {w w' : TW} (h : Fr w w') : w'.stages.length = w.stages.length := by
  have := congrArg List.length h.subH
  simpa using this

theorem ReachedW.frame {r : Option TaskId} {w w' : TW} {l : Nat} (hr : ReachedW r w l)
    (g : GoodW r w) (f : Fr w w') : ReachedW r w' l :=
  Reached.frame hr g f.subH f.keep

theorem map_get {α β} (f : α → β) {l l' : List α} (h : l'.map f = l.map f) (i : Nat) :
    (l'[i]?).map f = (l[i]?).map f := by
  rw [← List.getElem?_map, ← List.getElem?_map, h]

theorem Fr.n2_get {w w' : TW} (f : Fr w w') {i : Nat} {st : Stage} (h : w.stages[i]? = some st) :
    ∃ st', w'.stages[i]? = some st' ∧ st'.n2 = st.n2 := by
  have := map_get Stage.n2 f.n2 i
  rw [h] at this
  cases h' : w'.stages[i]? with
  | none => rw [h'] at this; simp at this
  | some st' => rw [h'] at this; simp at this; exact ⟨st', rfl, this⟩

theorem push_low (w : TW) (j : Nat) (ns : List Notif) (i : Nat) (hi : i < j) :
    (w.push j ns).stages[i]? = w.stages[i]? := by
  rw [TW.push_eq]; dsimp only
  rcases Nat.lt_or_ge i w.stages.length with hl | hl
  · rw [List.getElem?_append_left (by rw [List.length_take]; exact Nat.lt_min.2 ⟨hi, hl⟩),
      List.getElem?_take_of_lt hi]
  · -- `j` lies beyond the stages: nothing is cascaded through
    have hj : w.stages.length ≤ j := Nat.le_trans hl (Nat.le_of_lt hi)
    rw [List.drop_eq_nil_of_le hj, List.take_of_length_le hj, cascade_nil, List.append_nil]

theorem push_good {r : Option TaskId} {w : TW} (j : Nat) (ns : List Notif) (g : GoodW r w)
    (hr : ReachedW r w j) : GoodW r (w.push j ns) ∧ Fr w (w.push j ns) := by
  by_cases hjl : j ≤ w.stages.length
  · have hlen : (w.stages.take j).length = j := by rw [List.length_take]; exact Nat.min_eq_left hjl
    have hsplit : w.stages.take j ++ w.stages.drop j = w.stages := List.take_append_drop _ _
    have h := cascadeF_good (r := r) (a := w.info)
      ((w.stages.drop j).length.succ * (ns.length + 8) * 64 + 1000)
      (w.stages.take j) (w.stages.drop j) ns w.sched
      (by rw [hsplit]; exact g) (by rw [hsplit, hlen]; exact hr)
    rw [hlen] at h
    obtain ⟨g1, f1⟩ := h
    rw [TW.push_eq]
    refine ⟨g1, ?_, ?_, f1.keep, rfl, ⟨rfl, rfl, rfl⟩⟩
    · show (w.stages.take j ++ _).map Stage.subH = _
      rw [List.map_append]
      show _ ++ (cascadeF _ _ _ _ _).1.map Stage.subH = _
      rw [f1.subH, ← List.map_append, hsplit]
    · show (w.stages.take j ++ _).map Stage.n2 = _
      rw [List.map_append]
      show _ ++ (cascadeF _ _ _ _ _).1.map Stage.n2 = _
      rw [f1.n2, ← List.map_append, hsplit]
  · have hj : w.stages.length ≤ j := Nat.le_of_lt (Nat.lt_of_not_le hjl)
    rw [TW.push_eq, List.drop_eq_nil_of_le hj, List.take_of_length_le hj, cascade_nil, List.append_nil]
    exact ⟨g, rfl, rfl, SubKeep.refl _, rfl, ⟨rfl, rfl, rfl⟩⟩

/-- Two operations in a row: the second finds the invariant and the reach the first kept. -/
theorem good_then {r : Option TaskId} {w w1 w2 : TW} {l : Nat} (g : GoodW r w) (hr : ReachedW r w l)
    (h1 : GoodW r w1 ∧ Fr w w1) (h2 : GoodW r w1 → ReachedW r w1 l → GoodW r w2 ∧ Fr w1 w2) :
    GoodW r w2 ∧ Fr w w2 :=
  ⟨(h2 h1.1 (hr.frame g h1.2)).1, h1.2.trans (h2 h1.1 (hr.frame g h1.2)).2⟩

theorem map_set_same {α β} (f : α → β) (l : List α) (j : Nat) (x y : α) (h : l[j]? = some x)
    (e : f y = f x) : (l.set j y).map f = l.map f := by
  rw [List.map_set]
  apply set_get_same
  rw [List.getElem?_map, h, e]; rfl

@[simp] theorem setStage_info (w : TW) (j : Nat) (st : Stage) : (w.setStage j st).info = w.info := rfl
@[simp] theorem setStage_stages (w : TW) (j : Nat) (st : Stage) :
    (w.setStage j st).stages = w.stages.set j st := rfl
@[simp] theorem setStage_sched (w : TW) (j : Nat) (st : Stage) : (w.setStage j st).sched = w.sched := rfl

theorem setStage_fr (w : TW) (j : Nat) (st st1 : Stage) (h : w.stages[j]? = some st)
    (e1 : st1.subH = st.subH) (e2 : st1.n2 = st.n2) : Fr w (w.setStage j st1) :=
  ⟨map_set_same _ _ _ _ _ h e1, map_set_same _ _ _ _ _ h e2, SubKeep.refl _, rfl, ⟨rfl, rfl, rfl⟩⟩

theorem setStage_low (w : TW) (j : Nat) (st : Stage) (i : Nat) (hi : i ≠ j) :
    (w.setStage j st).stages[i]? = w.stages[i]? := set_get_of_ne _ _ _ _ (Ne.symm hi)

theorem Reached.step_down {r : Option TaskId} {stages : List Stage} {s : Sched} {j : Nat}
    (h : Reached r stages s (j + 1)) (hn : ∀ st, stages[j]? = some st → st.subH = none) :
    Reached r stages s j := by
  intro i st hh hi hs e
  by_cases e' : i = j
  · subst e'; rw [hn st hs] at e; cases e
  · exact h i st hh (Nat.lt_of_le_of_ne hi (Ne.symm e')) hs e

theorem pushB_low (w : TW) (j : Nat) (ns : List Notif) (i : Nat) (hi : i < j) :
    (w.pushB j ns).stages[i]? = w.stages[i]? := by
  rw [TW.pushB_eq]
  split
  · rw [push_low _ _ _ _ (Nat.lt_succ_of_lt hi), setStage_low _ _ _ _ (Nat.ne_of_lt hi)]
  · rfl

theorem setStage_good {r : Option TaskId} {w : TW} {j : Nat} {st st1 : Stage} (g : GoodW r w)
    (hj : w.stages[j]? = some st) (hh : st1.handles = st.handles) (hs : st1.subH = st.subH)
    (hi : st1.isSubOn = st.isSubOn) (hn : st1.n2 = st.n2) (hwf : st.wf → st1.wf) :
    GoodW r (w.setStage j st1) ∧ Fr w (w.setStage j st1) :=
  ⟨(OnOk.same (outs := []) g hj hh hs hi hn hwf).1, setStage_fr w j st st1 hj hs hn⟩

theorem setStage_push_good {r : Option TaskId} {w : TW} {j : Nat} {st st1 : Stage} (g : GoodW r w)
    (hr : ReachedW r w (j + 1)) (hj : w.stages[j]? = some st) (hh : st1.handles = st.handles)
    (hs : st1.subH = st.subH) (hi : st1.isSubOn = st.isSubOn) (hn : st1.n2 = st.n2)
    (hwf : st.wf → st1.wf) (ns : List Notif) :
    GoodW r ((w.setStage j st1).push (j + 1) ns) ∧ Fr w ((w.setStage j st1).push (j + 1) ns) := by
  exact good_then g hr (setStage_good g hj hh hs hi hn hwf) (push_good (j + 1) ns)

theorem pushB_good {r : Option TaskId} {w : TW} (j : Nat) (ns : List Notif) (g : GoodW r w)
    (hr : ReachedW r w (j + 1)) : GoodW r (w.pushB j ns) ∧ Fr w (w.pushB j ns) := by
  rw [TW.pushB_eq]
  split
  next st nsrc na nt hj =>
    exact setStage_push_good (st1 := .op2n (st.run .b ns).1 nsrc na nt) g hr hj rfl rfl rfl rfl id
      (st.run .b ns).2
  · exact ⟨g, Fr.refl _⟩

theorem pulls_good {r : Option TaskId} {w : TW} (p : Nat) (g : GoodW r w) :
    GoodW r { w with pulls := p } ∧ Fr w { w with pulls := p } :=
  ⟨g, rfl, rfl, SubKeep.refl _, rfl, ⟨rfl, rfl, rfl⟩⟩

theorem loopB_good {r : Option TaskId} (j n : Nat) (fuel : Nat) :
    ∀ (k : Nat) (w : TW), GoodW r w → ReachedW r w (j + 1) →
      GoodW r (TW.subscribeNotifier.loopB j n fuel k w) ∧
      Fr w (TW.subscribeNotifier.loopB j n fuel k w) ∧
      ∀ i, i < j → (TW.subscribeNotifier.loopB j n fuel k w).stages[i]? = w.stages[i]? := by
  induction fuel with
  | zero => intro k w g _; exact ⟨g, Fr.refl _, fun _ _ => rfl⟩
  | succ fuel ih =>
    intro k w g hr
    rw [TW.loopB_succ]
    split
    · split
      · exact ⟨g, Fr.refl _, fun _ _ => rfl⟩
      · split
        · obtain ⟨g0, f0⟩ := pulls_good (w.pulls + 1) g
          obtain ⟨g1, f1⟩ := pushB_good j [.next (.int k)] g0 (hr.frame g f0)
          obtain ⟨g2, f2, l2⟩ := ih (k + 1) _ g1 (hr.frame g (f0.trans f1))
          refine ⟨g2, (f0.trans f1).trans f2, ?_⟩
          intro i hi
          rw [l2 i hi, pushB_low _ _ _ _ hi]
        · obtain ⟨g1, f1⟩ := pushB_good j [.complete] g hr
          exact ⟨g1, f1, fun i hi => pushB_low _ _ _ _ hi⟩
    · exact ⟨g, Fr.refl _, fun _ _ => rfl⟩

end Rx.T
