import RxModel.Lemmas.ShareGrammar
/-
  C02M (share), per subscription.  What steps do to the cells: the emission phase only empties
  them (`Shrink`, handles untouched), a whole step also appends (`Mono`), and a delivery goes to a
  cell that is full at that moment (`R`); handles stay in bounds (`HB`).  So a subscription whose
  cell has been emptied never receives anything again (`unsub_cell_silent`).
-/
namespace Rx.Share
namespace W

/-- The emission phase of a step: handles untouched, no cell appended, full cells may be emptied. -/
def Shrink (w w' : W) : Prop :=
  w'.handles = w.handles ∧
    ∀ id l : Nat, (w'.cells[id]?).join = some l → (w.cells[id]?).join = some l

theorem Shrink.refl (w : W) : Shrink w w := ⟨rfl, fun _ _ h => h⟩
theorem Shrink.trans {a b c : W} (h1 : Shrink a b) (h2 : Shrink b c) : Shrink a c :=
  ⟨h2.1.trans h1.1, fun id l h => h1.2 id l (h2.2 id l h)⟩

theorem length_foldl_none (obs : List Nat) : ∀ cs : List (Option Nat),
    (obs.foldl (fun cs id => cs.set id none) cs).length = cs.length := by
  induction obs with
  | nil => intro cs; rfl
  | cons o r ih => intro cs; simp [ih]

/-- A call of the inner subject empties cells (terminal) or leaves them. -/
theorem tapCall_shrink (w : W) (n : Notif) :
    Shrink w (w.tapCall n).1 ∧ (w.tapCall n).1.cells.length = w.cells.length := by
  have hterm : ∀ t : Notif, Shrink w (w.subjTerminal t).1 ∧
      (w.subjTerminal t).1.cells.length = w.cells.length := by
    intro t
    simp only [subjTerminal]
    split
    · exact ⟨⟨rfl, fun id l h => cell_foldl_none _ _ _ _ h⟩, length_foldl_none _ _⟩
    · exact ⟨Shrink.refl w, rfl⟩
  cases n with
  | next v => rw [tapCall_next_fst]; exact ⟨⟨rfl, fun _ _ h => h⟩, rfl⟩
  | error e => exact hterm _
  | complete => exact hterm _

/-- After the event has acted on the slots, the rest of a step only empties cells. -/
theorem step_shrink (w : W) (e : Ev) : Shrink (pre w e) (w.step e).1 :=
  step_emits (T := fun w w' _ _ => Shrink w w') (fun h1 h2 => h1.trans h2)
    (fun w w' _ hc hh => ⟨hh, fun id l h => by rwa [hc] at h⟩) (fun w n => (tapCall_shrink w n).1) w e

theorem attach_cells_handles (w : W) (k : Nat) :
    (w.attach k).handles = w.handles.set k (some w.cells.length) ∧
    ∃ x, (w.attach k).cells = w.cells ++ [x] ∧ (x = none ∨ x = some k) := by
  simp only [attach, subjSubscribe]
  split
  · exact ⟨rfl, some k, rfl, Or.inr rfl⟩
  · exact ⟨rfl, none, rfl, Or.inl rfl⟩

theorem unsubscribe_cells_handles (w : W) (k id : Nat) (hk : (w.handles[k]?).join = some id) :
    (w.unsubscribe k).cells = w.cells.set id none ∧
      (w.unsubscribe k).handles = w.handles.set k none := by
  obtain ⟨s, cc, ch, he, _, _⟩ := unsubscribe_some w k id hk
  rw [he]
  exact ⟨rfl, rfl⟩

theorem cell_set_self (cs : List (Option Nat)) (i : Nat) : ((cs.set i none)[i]?).join = none := by
  rw [List.getElem?_set]
  simp only [if_true]
  split <;> rfl

theorem unsubscribe_cells_sub (w : W) (k : Nat) : ∀ id l : Nat,
    ((w.unsubscribe k).cells[id]?).join = some l → (w.cells[id]?).join = some l := by
  intro id l hl
  cases hk : (w.handles[k]?).join with
  | none => rw [unsubscribe_none w k hk] at hl; exact hl
  | some id0 =>
    rw [(unsubscribe_cells_handles w k id0 hk).1] at hl
    exact cell_set_none hl

/-! ### deliveries go to full cells -/

theorem bcast_mem {cells : List (Option Nat)} {obs : List Nat} {n : Notif} {x : IDlv}
    (h : x ∈ bcastI cells obs n) : (cells[x.1]?).join = some x.2.1 := by
  simp only [bcastI, List.mem_filterMap] at h
  obtain ⟨id, _, hid⟩ := h
  cases hc : (cells[id]?).join with
  | none => simp [hc] at hid
  | some l =>
    simp only [hc, Option.map_some, Option.some.injEq] at hid
    subst hid
    exact hc

theorem subjCallI_mem {w : W} {n : Notif} {x : IDlv} (h : x ∈ subjCallI w n) :
    (w.cells[x.1]?).join = some x.2.1 := by
  simp only [subjCallI] at h
  split at h
  · exact bcast_mem h
  · cases h

/-- A whole step (it may `attach`): cells are appended, and the old ones stay or are emptied. -/
def Mono (w w' : W) : Prop :=
  w.cells.length ≤ w'.cells.length ∧
    ∀ id l : Nat, id < w.cells.length → (w'.cells[id]?).join = some l → (w.cells[id]?).join = some l

/-- Deliveries go to cells that are live (or did not exist yet) at `w`. -/
def DlvLive (w : W) (d : List IDlv) : Prop :=
  ∀ x ∈ d, x.1 < w.cells.length → (w.cells[x.1]?).join = some x.2.1

/-- The relation kept along a run: `Mono`, and the deliveries went to full cells. -/
def R (w w' : W) (d : List IDlv) : Prop := Mono w w' ∧ DlvLive w d

theorem R.comp {w w1 w2 : W} {d1 d2 : List IDlv} (h1 : R w w1 d1) (h2 : R w1 w2 d2) :
    R w w2 (d1 ++ d2) := by
  refine ⟨⟨Nat.le_trans h1.1.1 h2.1.1, ?_⟩, ?_⟩
  · intro id l hlt hc
    exact h1.1.2 id l hlt (h2.1.2 id l (Nat.lt_of_lt_of_le hlt h1.1.1) hc)
  · intro x hx hlt
    rcases List.mem_append.1 hx with hx | hx
    · exact h1.2 x hx hlt
    · exact h1.1.2 _ _ hlt (h2.2 x hx (Nat.lt_of_lt_of_le hlt h1.1.1))

theorem R.silent {w w' : W} (h : Mono w w') : R w w' [] := ⟨h, fun _ hx => by cases hx⟩

theorem Mono.refl (w : W) : Mono w w := ⟨Nat.le_refl _, fun _ _ _ h => h⟩

theorem pre_mono (w : W) (e : Ev) : Mono w (pre w e) := by
  cases e with
  | sub k =>
    obtain ⟨_, x, hc, _⟩ := attach_cells_handles w k
    rw [pre, Mono, hc]
    refine ⟨by simp, fun id l hlt h => ?_⟩
    rwa [List.getElem?_append_left hlt] at h
  | unsub k =>
    cases hk : (w.handles[k]?).join with
    | none => rw [pre, unsubscribe_none w k hk]; exact Mono.refl w
    | some id =>
      rw [pre, Mono, (unsubscribe_cells_handles w k id hk).1]
      exact ⟨by simp, fun _ _ _ h => cell_set_none h⟩
  | emit n => exact Mono.refl w
  | connect => exact Mono.refl w
  | q => exact Mono.refl w

theorem step_emits_R (w : W) (e : Ev) : R (pre w e) (w.step e).1 (stepI w e) :=
  step_emits (T := fun w w' d _ => R w w' d) R.comp
    (fun w w' _ hc _ => R.silent ⟨by rw [hc]; exact Nat.le_refl _, fun id l _ h => by rwa [hc] at h⟩)
    (fun w n => ⟨⟨Nat.le_of_eq (tapCall_shrink w n).2.symm, fun id l _ h => (tapCall_shrink w n).1.2 id l h⟩,
      fun _ hx _ => subjCallI_mem hx⟩) w e

theorem step_R (w : W) (e : Ev) : R w (w.step e).1 (stepI w e) :=
  R.comp (R.silent (pre_mono w e)) (step_emits_R w e)

theorem run_R (es : List Ev) (w : W) : R w (w.run es).1 (runI w es) :=
  run_rel (fun w => R.silent (Mono.refl w)) R.comp es (fun w e _ => step_R w e) w

/-- An allocated, emptied cell. -/
def DeadCell (id : Nat) (w : W) : Prop := id < w.cells.length ∧ (w.cells[id]?).join = none

theorem run_deadCell (es : List Ev) (w : W) (id : Nat) (h : DeadCell id w) :
    ∀ x ∈ runI w es, x.1 ≠ id := by
  intro x hx e
  subst e
  have := (run_R es w).2 x hx h.1
  rw [h.2] at this
  cases this

/-- Handles in bounds: every slot's handle points to an allocated cell. -/
def HB (w : W) : Prop := ∀ k id : Nat, (w.handles[k]?).join = some id → id < w.cells.length

theorem HB.shrink {w w' : W} (h : HB w) (hs : Shrink w w') (hm : Mono w w') : HB w' := by
  intro k id hk
  rw [hs.1] at hk
  exact Nat.lt_of_lt_of_le (h k id hk) hm.1

theorem pre_HB (w : W) (e : Ev) (h : HB w) : HB (pre w e) := by
  cases e with
  | sub k =>
    obtain ⟨hh, x, hc, _⟩ := attach_cells_handles w k
    intro k' id hk
    rw [pre, hh, List.getElem?_set] at hk
    rw [pre, hc]
    simp only [List.length_append, List.length_singleton]
    split at hk
    · split at hk
      · simp only [Option.join_some, Option.some.injEq] at hk; omega
      · cases hk
    · have := h k' id hk; omega
  | unsub k =>
    cases hk : (w.handles[k]?).join with
    | none => rw [pre, unsubscribe_none w k hk]; exact h
    | some id =>
      obtain ⟨hc, hh⟩ := unsubscribe_cells_handles w k id hk
      intro k' id' hk'
      rw [pre, hh, List.getElem?_set] at hk'
      rw [pre, hc, List.length_set]
      split at hk'
      · split at hk' <;> cases hk'
      · exact h k' id' hk'
  | emit n => exact h
  | connect => exact h
  | q => exact h

theorem step_HB (w : W) (e : Ev) (h : HB w) : HB (w.step e).1 :=
  (pre_HB w e h).shrink (step_shrink w e) (step_emits_R w e).1

theorem run_HB (es : List Ev) (w : W) (h : HB w) : HB (w.run es).1 :=
  (run_invariant (fun _ => True) HB (fun _ => True) (fun w e _ h => ⟨step_HB w e h, trivial⟩) es w
    (fun _ _ => trivial) h).1

theorem init_handles (m : Model) (k : Kind) (cold : Option (List Val)) (l : Nat) :
    ((init m k cold).handles[l]?).join = none :=
  match l with
  | 0 => rfl
  | 1 => rfl
  | 2 => rfl
  | _ + 3 => rfl

theorem init_HB (m : Model) (k : Kind) (cold : Option (List Val)) : HB (init m k cold) := by
  intro l id h
  rw [init_handles] at h
  cases h

theorem unsubscribe_deadCell (w : W) (k id : Nat) (hb : HB w)
    (hk : (w.handles[k]?).join = some id) : DeadCell id (w.unsubscribe k) := by
  obtain ⟨hc, _⟩ := unsubscribe_cells_handles w k id hk
  rw [DeadCell, hc]
  exact ⟨by simpa using hb k id hk, cell_set_self _ _⟩

/-- After `unsub k` the cell the slot held never receives anything again. -/
theorem unsub_cell_silent (m : Model) (kind : Kind) (cold : Option (List Val)) (pre post : List Ev)
    (k id : Nat) (hk : (((init m kind cold).run pre).1.handles[k]?).join = some id) :
    ∀ x ∈ runI ((init m kind cold).run pre).1 (.unsub k :: post), x.1 ≠ id := by
  have hb := run_HB pre _ (init_HB m kind cold)
  have hd := unsubscribe_deadCell _ k id hb hk
  intro x hx
  simp only [runI, stepI, List.nil_append] at hx
  exact run_deadCell post _ id hd x hx

end W
end Rx.Share
