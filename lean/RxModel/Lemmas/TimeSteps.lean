import RxModel.Conc.TimeSteps
/-
  Every operator kind, every order: the view of a configuration as (state, program counter of every thread), the
  cases of `step` by name (`step_elim`), the frame of a step (`step_frame`), and the lock discipline: a cell is in
  `locks` for thread j iff j's program counter says so (`Pc.holds`), no cell is held twice, a step gains only the
  cell it acquires.
-/
namespace Rx.Conc.TS
open Rx

def Pc.isEntry : Pc → Bool
  | .sj_load _ | .u_begin | .p_begin _ | .run_round | .adv _ | .fire _ => true
  | _ => false

theorem entry_isEntry (op : Op) : op.entry.isEntry = true := by cases op <;> rfl

theorem isEntry_holds {q : Pc} (h : q.isEntry = true) : q.holds = [] := by
  cases q <;> first | rfl | cases h

/-- the program counter a thread stands at after a step that returned `p` -/
def After (p q : Pc) : Prop := q = p ∨ (p = .fin ∧ q.isEntry = true)

theorem norm_after (p : Pc) (rest : List Op) : After p (Thread.norm ⟨p, rest⟩).pc := by
  cases rest with
  | nil => cases p <;> exact .inl rfl
  | cons op r =>
    cases p
    case fin => exact .inr ⟨rfl, entry_isEntry op⟩
    all_goals exact .inl rfl

theorem pcOf_set (s' : St) (ths : List Thread) (i j : Nat) (t' : Thread) (hi : i < ths.length) :
    (⟨s', ths.set i t'⟩ : Cfg).pcOf j = if j = i then t'.pc else (⟨s', ths⟩ : Cfg).pcOf j := by
  unfold Cfg.pcOf
  by_cases h : j = i
  · subst h; simp [hi]
  · have h' : i ≠ j := fun e => h e.symm
    simp [h, List.getElem?_set_ne h']

/-- One scheduled step, seen through (state, program counters): nothing happens, or thread `i` runs the
    step at its program counter (whose cell is free), stands at `q` afterwards and holds `q.holds`. -/
theorem sched1_view (K : Conf) (c : Cfg) (i : Nat) :
    c.sched1 K i = c ∨
    ∃ q : Pc, c.st.enabled (c.pcOf i) = true ∧ After (step K c.st (c.pcOf i)).2 q ∧
      (c.sched1 K i).st = (step K c.st (c.pcOf i)).1.setHeld i q.holds ∧
      (∀ j, (c.sched1 K i).pcOf j = if j = i then q else c.pcOf j) := by
  unfold Cfg.sched1
  cases hi : c.ths[i]? with
  | none => exact Or.inl rfl
  | some t =>
    simp only []
    by_cases he : c.st.enabled t.pc = true
    · rw [if_pos he]
      right
      have hp : c.pcOf i = t.pc := by simp [Cfg.pcOf, hi]
      have hlen : i < c.ths.length := by
        rcases List.getElem?_eq_some_iff.mp hi with ⟨h, _⟩; exact h
      refine ⟨(Thread.norm ⟨(step K c.st t.pc).2, t.rest⟩).pc, ?_, ?_, ?_, ?_⟩
      · rw [hp]; exact he
      · rw [hp]; exact norm_after _ _
      · rw [hp]
      · intro j
        rw [pcOf_set _ _ _ _ _ hlen]
        rfl
    · rw [if_neg he]; exact Or.inl rfl

/-- Induction over a schedule. -/
theorem exec_induction (K : Conf) (P : Cfg → Prop) (hstep : ∀ c i, P c → P (c.sched1 K i)) :
    ∀ (sched : List Nat) (c : Cfg), P c → P (exec K c sched) := by
  intro sched
  induction sched with
  | nil => intro c h; exact h
  | cons i r ih => intro c h; exact ih _ (hstep c i h)

theorem view_step (K : Conf) (I : St → (Nat → Pc) → Prop)
    (hstep : ∀ (s : St) (f : Nat → Pc) (i : Nat) (q : Pc), I s f → s.enabled (f i) = true →
      After (step K s (f i)).2 q →
      I ((step K s (f i)).1.setHeld i q.holds) (fun j => if j = i then q else f j))
    (c : Cfg) (i : Nat) (h : I c.st c.pcOf) : I (c.sched1 K i).st (c.sched1 K i).pcOf := by
  rcases sched1_view K c i with e | ⟨q, he, ha, hs, hp⟩
  · rw [e]; exact h
  · rw [hs, funext hp]
    exact hstep c.st c.pcOf i q h he ha

theorem view_induction (K : Conf) (I : St → (Nat → Pc) → Prop)
    (hstep : ∀ (s : St) (f : Nat → Pc) (i : Nat) (q : Pc), I s f → s.enabled (f i) = true →
      After (step K s (f i)).2 q →
      I ((step K s (f i)).1.setHeld i q.holds) (fun j => if j = i then q else f j)) :
    ∀ (sched : List Nat) (c : Cfg), I c.st c.pcOf → I (exec K c sched).st (exec K c sched).pcOf :=
  exec_induction K (fun c => I c.st c.pcOf) (view_step K I hstep)

/-- One case per branch of `step`, named after the program counter and what it finds. -/
theorem step_elim (K : Conf) (s : St) {motive : Pc → St × Pc → Prop}
    (fin : motive .fin (s, .fin))
    (adv : ∀ d, motive (.adv d) ({ s with now := s.now + d }, .fin))
    (fire_due : ∀ i j, s.dueTimers[i]? = some j → motive (.fire i) (s.fireTimer j, .fin))
    (fire_none : ∀ i, s.dueTimers[i]? = none → motive (.fire i) (s, .fin))
    (p_begin_live : ∀ j k, s.live[j]? = some k → motive (.p_begin j) (s.beginPoll k, .p_handle k .op))
    (p_begin_none : ∀ j, s.live[j]? = none → motive (.p_begin j) (s, .fin))
    (run_round : motive .run_round
      (s.dueTimers.foldl St.fireTimer s,
        .run_polls ((s.dueTimers.foldl St.fireTimer s).live.filter (s.dueTimers.foldl St.fireTimer s).woken)
          (!s.dueTimers.isEmpty)))
    (run_polls_nil : ∀ pr, motive (.run_polls [] pr) (s, if pr then .run_round else .fin))
    (run_polls_live : ∀ pr k r, s.isLive k = true →
      motive (.run_polls (k :: r) pr) (s.beginPoll k, .p_handle k (.run r)))
    (run_polls_skip : ∀ pr k r, ¬s.isLive k = true → motive (.run_polls (k :: r) pr) (s, .run_polls r pr))
    (p_fin : ∀ k ready ret,
      motive (.p_fin k ready ret) (s.upd k fun x => { x with running := false, done := ready }, retPc ret))
    (u_begin_held : s.subHeld = true → motive .u_begin
      ({ s with subHeld := false },
        match K.order with | .original | .leadAlways => .u_slot true | .swapped => uSecond K true))
    (u_begin_gone : ¬s.subHeld = true → motive .u_begin (s, .fin))
    (u_end : motive .u_end ({ s with log := s.log ++ [.R] }, .fin))
    (sj_load : ∀ n, motive (.sj_load n) (s, if s.subjLive then .sj_chamber n else .sj_obs n))
    (sj_chamber : ∀ n,
      motive (.sj_chamber n) ({ s with inObs := s.inObs || s.inChamber, inChamber := false }, .sj_obs n))
    (sj_obs_next : ∀ v, motive (.sj_obs (.next v)) (s, if s.subjLive && s.inObs then .sj_slot v else .fin))
    (sj_obs_term : ∀ t, (∀ v, t = .next v → False) → s.subjLive = true →
      motive (.sj_obs t) ({ s with subjLive := false, inObs := false }, if s.inObs then .sj_tslot t else .fin))
    (sj_obs_dead : ∀ t, (∀ v, t = .next v → False) → ¬s.subjLive = true → motive (.sj_obs t) (s, .fin))
    (sj_slot : ∀ v, motive (.sj_slot v) (s, if s.slotOpen then nextEntry K v else .fin))
    (sj_tslot_open : ∀ t, s.slotOpen = true → motive (.sj_tslot t) ({ s with slotOpen := false }, termEntry K t))
    (sj_tslot_closed : ∀ t, ¬s.slotOpen = true → motive (.sj_tslot t) (s, .fin))
    (db_trail : ∀ v, motive (.db_trail v) ({ s with trailing := some v }, .db_hcell))
    (db_hcell_some : ∀ h, s.hcell = some h → motive .db_hcell ({ s with hcell := none }, .db_cancel h))
    (db_hcell_none : s.hcell = none →
      motive .db_hcell ((s.spawn K.dur .trailing).1, .hc_store (s.spawn K.dur .trailing).2))
    (db_cancel : ∀ h, motive (.db_cancel h)
      (((s.upd h cancel).spawn K.dur .trailing).1, .hc_store ((s.upd h cancel).spawn K.dur .trailing).2))
    (hc_store : ∀ k, motive (.hc_store k) ({ s with hcell := some k }, .fin))
    (th_trail : ∀ v, motive (.th_trail v) ({ s with trailing := some v }, .th_hcell v))
    (th_hcell_some : ∀ v h, s.hcell = some h → motive (.th_hcell v) (s, .th_closed h v))
    (th_hcell_none : ∀ v, s.hcell = none → motive (.th_hcell v) (thOver K s v))
    (th_closed_over : ∀ h v, (s.task h).value = true → motive (.th_closed h v) (thOver K s v))
    (th_closed_in : ∀ h v, ¬(s.task h).value = true → motive (.th_closed h v) (s, .fin))
    (th_ltrail_emit : ∀ v, (s.trailing.isSome || !K.tail || K.order == .leadAlways) = true →
      motive (.th_ltrail v) ({ s with trailing := none }, .th_ldown v))
    (th_ltrail_skip : ∀ v, ¬(s.trailing.isSome || !K.tail || K.order == .leadAlways) = true →
      motive (.th_ltrail v)
        ((({ s with trailing := none } : St).spawn K.dur .trailing).1,
          .hc_store (({ s with trailing := none } : St).spawn K.dur .trailing).2))
    (th_ldown : ∀ v, motive (.th_ldown v)
      (((s.deliver (.next v)).spawn K.dur .trailing).1, .hc_store ((s.deliver (.next v)).spawn K.dur .trailing).2))
    (tc_trail_some : ∀ v, s.trailing = some v → motive .tc_trail ({ s with trailing := none }, .tc_dnext v))
    (tc_trail_none : s.trailing = none → motive .tc_trail (s, afterTrail K))
    (tc_dnext : ∀ v, motive (.tc_dnext v) (s.deliver (.next v), afterTrail K))
    (tc_hcell_some : ∀ h, s.hcell = some h → motive .tc_hcell ({ s with hcell := none }, .tc_cancel h))
    (tc_hcell_none : s.hcell = none → motive .tc_hcell (s, .tc_down))
    (tc_cancel : ∀ h, motive (.tc_cancel h) (s.upd h cancel, .tc_down))
    (tc_down : motive .tc_down (s.deliver .complete, .fin))
    (te_down : ∀ e, motive (.te_down e)
      (s.deliver (.error e), match K.kind with | .throttle _ _ => .te_hcell | _ => .fin))
    (te_hcell_some : ∀ h, s.hcell = some h → motive .te_hcell ({ s with hcell := none }, .te_cancel h))
    (te_hcell_none : s.hcell = none → motive .te_hcell (s, .fin))
    (te_cancel : ∀ h, motive (.te_cancel h) (s.upd h cancel, .fin))
    (dl_retain : ∀ n, motive (.dl_retain n) ((s.spawn K.dur (.emit n)).1, .dl_append (s.spawn K.dur (.emit n)).2))
    (dl_append_some : ∀ k l, s.multi = some l → motive (.dl_append k) ({ s with multi := some (l ++ [k]) }, .fin))
    (dl_append_none : ∀ k, s.multi = none → motive (.dl_append k) (s, .dl_late k))
    (dl_late : ∀ k, motive (.dl_late k) (s.upd k cancel, .fin))
    (p_handle_cancelled : ∀ k ret, (s.task k).keep = false → motive (.p_handle k ret) (s, .p_fin k true ret))
    (p_handle_body : ∀ k ret, (s.task k).keep = true →
      ((s.task k).dur = none ∨ ∃ id tm, (s.task k).timer = some id ∧ s.timers[id]? = some tm ∧ tm.fired = true) →
      motive (.p_handle k ret)
        (s, match (s.task k).body with | .trailing => .p_trail k ret | .emit n => .p_emit k n ret))
    (p_handle_first : ∀ k ret d, (s.task k).keep = true → (s.task k).dur = some d → (s.task k).timer = none →
      motive (.p_handle k ret)
        (({ s with timers := s.timers ++ [{ due := s.now + d, waiter := some k }] } : St).upd k
          fun x => { x with timer := some s.timers.length }, .p_fin k false ret))
    (p_handle_pending : ∀ k ret id tm, (s.task k).keep = true → s.timers[id]? = some tm →
      motive (.p_handle k ret) ({ s with timers := s.timers.set id { tm with waiter := some k } }, .p_fin k false ret))
    (p_handle_lost : ∀ k ret, (s.task k).keep = true → motive (.p_handle k ret) (s, .p_fin k false ret))
    (p_trail_some : ∀ k ret v, s.trailing = some v → motive (.p_trail k ret) ({ s with trailing := none }, .p_down k v ret))
    (p_trail_none : ∀ k ret, s.trailing = none → motive (.p_trail k ret) (s.upd k finished, .p_fin k true ret))
    (p_down : ∀ k v ret, motive (.p_down k v ret) ((s.deliver (.next v)).upd k finished, .p_fin k true ret))
    (p_emit : ∀ k n ret, motive (.p_emit k n ret) ((s.deliver n).upd k finished, .p_fin k true ret))
    (u_slot : ∀ first, motive (.u_slot first) ({ s with slotOpen := false }, if first then uSecond K false else .u_end))
    (u_hcell_some : ∀ first h, s.hcell = some h → motive (.u_hcell first) ({ s with hcell := none }, .u_cancel h first))
    (u_hcell_none : ∀ first, s.hcell = none → motive (.u_hcell first) (s, uAfter first))
    (u_cancel : ∀ h first, motive (.u_cancel h first) (s.upd h cancel, uAfter first))
    (u_multi : ∀ first, motive (.u_multi first)
      ({ s with multi := none }, match s.multi with | some (h :: r) => .u_mc (h :: r) first | _ => uAfter first))
    (u_mc_nil : ∀ first, motive (.u_mc [] first) (s, uAfter first))
    (u_mc_last : ∀ h first, motive (.u_mc [h] first) (s.upd h cancel, uAfter first))
    (u_mc_more : ∀ h r first, r ≠ [] → motive (.u_mc (h :: r) first) (s.upd h cancel, .u_mc r first))
    (p : Pc) : motive p (step K s p) := by
  refine step.fun_cases_unfolding K s motive fin adv fire_due fire_none p_begin_live p_begin_none run_round
    run_polls_nil run_polls_live run_polls_skip p_fin u_begin_held u_begin_gone u_end sj_load sj_chamber sj_obs_next
    sj_obs_term sj_obs_dead sj_slot sj_tslot_open sj_tslot_closed db_trail db_hcell_some db_hcell_none db_cancel
    hc_store th_trail th_hcell_some th_hcell_none th_closed_over th_closed_in th_ltrail_emit th_ltrail_skip th_ldown
    tc_trail_some tc_trail_none tc_dnext tc_hcell_some tc_hcell_none tc_cancel tc_down te_down te_hcell_some
    te_hcell_none te_cancel dl_retain dl_append_some dl_append_none dl_late ?_ ?_ ?_ ?_ ?_ ?_ p_trail_some
    p_trail_none p_down p_emit u_slot u_hcell_some u_hcell_none u_cancel u_multi u_mc_nil
    (fun b h => u_mc_last h b) (fun b h r => u_mc_more h r b) p
  -- `p_handle`: the test `!t.keep` and the two ways to the body, in the form stated above
  all_goals intros
  · exact p_handle_cancelled _ _ (by simpa using ‹(!_) = true›)
  · exact p_handle_body _ _ (by simpa using ‹¬(!_) = true›) (.inl ‹_›)
  · exact p_handle_first _ _ _ (by simpa using ‹¬(!_) = true›) ‹_› ‹_›
  · exact p_handle_body _ _ (by simpa using ‹¬(!_) = true›) (.inr ⟨_, _, ‹_›, ‹_›, ‹_›⟩)
  · exact p_handle_pending _ _ _ _ (by simpa using ‹¬(!_) = true›) ‹_›
  · exact p_handle_lost _ _ (by simpa using ‹¬(!_) = true›)

@[simp] theorem upd_locks (s : St) (k : Nat) (f : Task → Task) : (s.upd k f).locks = s.locks := rfl
@[simp] theorem spawn_locks (s : St) (d : Option Nat) (b : Body) : (s.spawn d b).1.locks = s.locks := rfl
@[simp] theorem beginPoll_locks (s : St) (k : Nat) : (s.beginPoll k).locks = s.locks := rfl

@[simp] theorem deliver_tasks (s : St) (n : Notif) : (s.deliver n).tasks = s.tasks := by
  unfold St.deliver; split <;> rfl

theorem fireTimer_frame (s : St) (j : Nat) :
    s.fireTimer j = { s with timers := (s.fireTimer j).timers, asleep := (s.fireTimer j).asleep } := by
  unfold St.fireTimer; split
  · rfl
  · split <;> rfl

theorem foldl_fire_frame (l : List Nat) : ∀ s : St,
    l.foldl St.fireTimer s =
      { s with timers := (l.foldl St.fireTimer s).timers, asleep := (l.foldl St.fireTimer s).asleep } := by
  induction l with
  | nil => intro s; rfl
  | cons j r ih => intro s; rw [List.foldl_cons, ih, fireTimer_frame s j]

/-- `s` with the part of the state that the guard of cell `c` gives access to taken from `s'` (`none`: what the
    lock-free steps of harness and executor own). -/
def St.put (s s' : St) : Option Cell → St
  | some .obs => { s with subjLive := s'.subjLive, inObs := s'.inObs }
  | some .chamber => { s with inObs := s'.inObs, inChamber := s'.inChamber }
  | some .slot => { s with slotOpen := s'.slotOpen }
  | some .trail => { s with trailing := s'.trailing }
  | some .hcell => { s with hcell := s'.hcell }
  | some .multi => { s with multi := s'.multi }
  | some .down => { s with downOpen := s'.downOpen, log := s'.log }
  | some (.handle _) => { s with timers := s'.timers }
  | none => { s with now := s'.now, timers := s'.timers, asleep := s'.asleep, subHeld := s'.subHeld, log := s'.log }

theorem put_of_frame {s s' : St} {tm : List Timer} {a : List Nat} (h : s' = { s with timers := tm, asleep := a }) :
    s.put s' none = { s' with tasks := s.tasks } := by
  subst h; rfl

/-- A step changes the part of the state its cell guards, the task table, and nothing else. -/
theorem step_frame (K : Conf) (s : St) (p : Pc) :
    s.put (step K s p).1 p.cell = { (step K s p).1 with tasks := s.tasks } := by
  induction p using step_elim K s <;>
    first
    | rfl
    | exact put_of_frame (fireTimer_frame _ _)
    | exact put_of_frame (foldl_fire_frame _ _)
    | (simp only [thOver, St.deliver]; (repeat' split) <;> rfl)

/-- `step_frame` for the fields the invariants read -/
structure Framed (c : Option Cell) (s s' : St) : Prop where
  locks : s'.locks = s.locks
  slotOpen : c ≠ some .slot → s'.slotOpen = s.slotOpen
  trailing : c ≠ some .trail → s'.trailing = s.trailing
  hcell : c ≠ some .hcell → s'.hcell = s.hcell
  multi : c ≠ some .multi → s'.multi = s.multi
  log : c ≠ some .down → c ≠ none → s'.log = s.log
  subHeld : c ≠ none → s'.subHeld = s.subHeld

theorem step_framed (K : Conf) (s : St) (p : Pc) : Framed p.cell s (step K s p).1 := by
  have h := step_frame K s p
  generalize (step K s p).1 = s' at h
  have e : s' = { s.put s' p.cell with tasks := s'.tasks } := by rw [h]
  rw [e]
  rcases p.cell with _ | _ | _ | _ | _ | _ | _ | _ | _ <;>
    refine ⟨rfl, ?_, ?_, ?_, ?_, ?_, ?_⟩ <;> intros <;> first | rfl | contradiction

theorem step_locks (K : Conf) (s : St) (p : Pc) : (step K s p).1.locks = s.locks := (step_framed K s p).locks

/-! ### lock discipline -/

/-- A step gains only the cell it acquires (and may release anything). -/
theorem step_holds' (K : Conf) (s : St) (p : Pc) :
    ∀ c ∈ (step K s p).2.holds, c ∈ p.holds ∨ p.cell = some c := by
  -- as a Boolean `all`, so that `rfl` checks a branch by evaluation; `simp` where `Cell.handle k == _` is stuck on `k`
  have : ((step K s p).2.holds.all fun c => p.holds.contains c || p.cell == some c) = true := by
    induction p using step_elim K s <;>
      first
      | rfl
      | (simp only [nextEntry, termEntry, afterTrail, thOver, uSecond, uAfter, retPc]
         (repeat' split) <;> first | rfl | simp [Pc.holds, Pc.cell])
  simpa using this

theorem step_holds (K : Conf) (s : St) (p q : Pc) (ha : After (step K s p).2 q) :
    ∀ c ∈ q.holds, c ∈ p.holds ∨ p.cell = some c := by
  rcases ha with rfl | ⟨_, he⟩
  · exact step_holds' K s p
  · rw [isEntry_holds he]; simp

/-- Lock discipline: `locks` says exactly what the program counters say, and no cell is held twice. -/
structure LD (s : St) (f : Nat → Pc) : Prop where
  iff : ∀ c j, (c, j) ∈ s.locks ↔ c ∈ (f j).holds
  excl : ∀ c j j', c ∈ (f j).holds → c ∈ (f j').holds → j = j'

theorem free_iff (s : St) (c : Cell) : s.free c = true ↔ ∀ j, (c, j) ∉ s.locks := by
  unfold St.free
  simp only [Bool.not_eq_true', List.any_eq_false, beq_iff_eq, Prod.forall]
  constructor
  · intro h j hm; exact h c j hm rfl
  · intro h a j hm e; subst e; exact h j hm

theorem mem_setHeld (s : St) (i : Tid) (cells : List Cell) (c : Cell) (j : Tid) :
    (c, j) ∈ (s.setHeld i cells).locks ↔ ((c, j) ∈ s.locks ∧ j ≠ i) ∨ (c ∈ cells ∧ j = i) := by
  unfold St.setHeld
  simp only [List.mem_append, List.mem_filter, List.mem_map, bne_iff_ne, ne_eq, Prod.mk.injEq]
  constructor
  · rintro (h | ⟨a, ha, rfl, rfl⟩)
    · exact Or.inl h
    · exact Or.inr ⟨ha, rfl⟩
  · rintro (h | ⟨h, rfl⟩)
    · exact Or.inl h
    · exact Or.inr ⟨c, h, rfl, rfl⟩

/-- a held cell is not free, so a thread that holds `c` keeps every other thread from acquiring it -/
theorem LD.not_free {s : St} {f : Nat → Pc} (h : LD s f) {c : Cell} {j : Nat} (hc : c ∈ (f j).holds) :
    s.free c = false := by
  cases hf : s.free c with
  | false => rfl
  | true => exact absurd ((h.iff c j).mpr hc) ((free_iff s c).mp hf j)

theorem LD.preserved (K : Conf) {s : St} {f : Nat → Pc} (h : LD s f) (i : Nat) (q : Pc)
    (he : s.enabled (f i) = true) (ha : After (step K s (f i)).2 q) :
    LD ((step K s (f i)).1.setHeld i q.holds) (fun j => if j = i then q else f j) := by
  have hl : ∀ c j, (c, j) ∈ ((step K s (f i)).1.setHeld i q.holds).locks ↔
      ((c, j) ∈ s.locks ∧ j ≠ i) ∨ (c ∈ q.holds ∧ j = i) := by
    intro c j; rw [mem_setHeld, step_locks]
  have gain := step_holds K s (f i) q ha
  -- what thread i holds afterwards, no other thread holds
  have key : ∀ c j', c ∈ q.holds → j' ≠ i → c ∉ (f j').holds := by
    intro c j' hq hne hj
    rcases gain c hq with hh | hc
    · exact hne (h.excl c j' i hj hh)
    · unfold St.enabled at he
      rw [hc] at he
      simp only [] at he
      rw [h.not_free hj] at he
      cases he
  refine ⟨?_, ?_⟩
  · intro c j
    rw [hl]
    by_cases hj : j = i
    · subst hj; simp
    · simp [hj, h.iff]
  · intro c j j' h1 h2
    by_cases hj : j = i <;> by_cases hj' : j' = i
    · rw [hj, hj']
    · simp only [hj, hj', if_true, if_false] at h1 h2
      exact absurd h2 (key c j' h1 hj')
    · simp only [hj, hj', if_true, if_false] at h1 h2
      exact absurd h1 (key c j h2 hj)
    · simp only [hj, hj', if_false] at h1 h2
      exact h.excl c j j' h1 h2

theorem mk'_pc (ops : List Op) : (Thread.mk' ops).pc = .fin ∨ (Thread.mk' ops).pc.isEntry = true := by
  unfold Thread.mk'
  rcases norm_after .fin ops with h | ⟨_, h⟩
  · exact Or.inl h
  · exact Or.inr h

/-- program counters of an initial configuration: nothing has started -/
theorem init_pcOf (s : St) (progs : List (List Op)) (j : Nat) :
    (Cfg.init s progs).pcOf j = .fin ∨ ((Cfg.init s progs).pcOf j).isEntry = true := by
  unfold Cfg.pcOf Cfg.init
  simp only [List.getElem?_map]
  cases progs[j]? with
  | none => exact Or.inl rfl
  | some ops => exact mk'_pc ops

theorem init_holds (s : St) (progs : List (List Op)) (j : Nat) : ((Cfg.init s progs).pcOf j).holds = [] := by
  rcases init_pcOf s progs j with h | h
  · rw [h]; rfl
  · exact isEntry_holds h

theorem LD.init (s : St) (hs : s.locks = []) (progs : List (List Op)) : LD s (Cfg.init s progs).pcOf := by
  refine ⟨fun c j => ?_, fun c j j' h => ?_⟩
  · rw [init_holds, hs]; simp
  · rw [init_holds] at h; cases h

theorem LD.exec (K : Conf) (s : St) (hs : s.locks = []) (progs : List (List Op)) (sched : List Nat) :
    LD (exec K (Cfg.init s progs) sched).st (exec K (Cfg.init s progs) sched).pcOf :=
  view_induction K LD (fun _ _ i q h he ha => h.preserved K i q he ha) sched _ (LD.init s hs progs)

/-! ### ranked acquisition, no deadlock -/

/-- Every program point asks for a cell above everything it holds. -/
theorem pc_ranked (p : Pc) (c : Cell) (hc : p.cell = some c) : ∀ h ∈ p.holds, h.rank < c.rank := by
  have : (p.holds.all fun h => decide (h.rank < c.rank)) = true := by
    cases p
    case u_mc => rfl
    all_goals cases hc <;> rfl
  simpa using this

/-- 6: the rank of `down`, the last cell a thread takes -/
theorem rank_le (c : Cell) : c.rank ≤ 6 := by cases c <;> simp [Cell.rank]

theorem holds_not_fin {p : Pc} {c : Cell} (h : c ∈ p.holds) : p ≠ .fin := by
  intro e; subst e; cases h

/-- If every thread is blocked, a blocked thread waiting for rank r yields one waiting for a higher rank: at most
    `m` times (`rank_le`). -/
theorem no_deadlock_view {s : St} {f : Nat → Pc} (h : LD s f)
    (blocked : ∀ j, f j ≠ .fin → s.enabled (f j) = false) :
    ∀ (m : Nat) (j : Nat) (c : Cell), f j ≠ .fin → (f j).cell = some c → 7 ≤ c.rank + m → False := by
  intro m
  induction m with
  | zero => intro j c _ _ hr; have := rank_le c; omega
  | succ m ih =>
    intro j c hj hc hr
    have hb := blocked j hj
    unfold St.enabled at hb
    rw [hc] at hb
    simp only [] at hb
    -- somebody holds c
    have : ∃ j', (c, j') ∈ s.locks := Classical.byContradiction fun hn => by
      rw [(free_iff s c).mpr fun j hm => hn ⟨j, hm⟩] at hb; cases hb
    obtain ⟨j', hj'⟩ := this
    have hh := (h.iff c j').mp hj'
    have hnf : f j' ≠ .fin := holds_not_fin hh
    have hb' := blocked j' hnf
    -- j' is blocked too: it waits for some cell c' above c
    cases hc' : (f j').cell with
    | none => unfold St.enabled at hb'; rw [hc'] at hb'; cases hb'
    | some c' =>
      have := pc_ranked (f j') c' hc' c hh
      exact ih j' c' hnf hc' (by omega)

end Rx.Conc.TS
