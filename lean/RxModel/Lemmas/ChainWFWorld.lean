import RxModel.Lemmas.ChainWFBase
/-
  C01 over the chain model: the world invariant.

  `WInv r w`: there is a ghost history `up` of what the source has handed to
  stage 0 such that `Chain up w.stages w.log` and `SrcOK r w up`:
  `up` is well formed and the source cannot break it later.  The source side
  is protected by the *critical* tasks (the subscribing task of subscribe_on /
  delay_subscription and the tasks of timer / from_future / from_stream): at most
  one of them is live, apart from the task `r` that is running right now.

  `Quiet w w'`: a move that does not involve the source: same source fields,
  the scheduler only extended by benign tasks, `Chain` kept for every `up`.
  The chain part is proved for every `StepClosed` relation (`TW.Keeps`).
-/
namespace Rx.T
open Rx Rx.Spec

def Body.critical : Body → Bool
  | .subscribe _ => true
  | .timerSrc _ => true
  | .futureSrc => true
  | .streamSrc => true
  | _ => false

def Body.isSub : Body → Bool
  | .subscribe _ => true
  | _ => false

/-- The bodies that feed stage 0 only exist over the matching source. -/
def Body.okFor (src : TSrc) : Body → Prop
  | .tick => ∃ d p, src = .interval d p
  | .timerSrc _ => ∃ v d, src = .timer v d
  | .futureSrc => ∃ r sc, src = .future r sc
  | .streamSrc => ∃ r sc c, src = .stream r sc c
  | _ => True

theorem Body.okFor_of_benign (src : TSrc) (b : Body) (h : b.benign = true) : b.okFor src := by
  cases b <;> first | trivial | (simp [Body.benign] at h)

theorem Body.benign_of_critical {b : Body} (h : b.critical = true) : b.benign = false := by
  cases b <;> first | rfl | (simp [Body.critical] at h)

theorem Body.critical_of_isSub {b : Body} (h : b.isSub = true) : b.critical = true := by
  cases b <;> first | rfl | (simp [Body.isSub] at h)

structure SrcOK (r : Option TaskId) (w : TW) (up : List Notif) : Prop where
  wf : WF up
  bodies : ∀ t ∈ w.sched.tasks, t.body.okFor w.src
  uniq : ∀ k1 b1 k2 b2, w.sched.Live k1 b1 → b1.critical = true → w.sched.Live k2 b2 →
    b2.critical = true → k1 = k2 ∨ some k1 = r ∨ some k2 = r
  unsubd : w.subscribed = false →
    w.srcSubscribed = false ∧ ∀ k b, w.sched.Live k b → b.critical = false
  nosrc : w.srcSubscribed = false →
    terminated up = false ∧ ∀ k b, w.sched.Live k b → b.critical = true → b.isSub = true
  subd : w.srcSubscribed = true → ∀ k b, w.sched.Live k b → b.isSub = true → some k = r
  term : terminated up = true → ∀ k b, w.sched.Live k b → b.critical = true → some k = r
  hot : ∀ i, w.src = .hot i → terminated up = true → i ∈ w.terminated
  interval : ∀ d p, w.src = .interval d p → terminated up = false

/-- All live critical tasks are the running one. -/
def Only (r : Option TaskId) (w : TW) : Prop :=
  ∀ k b, w.sched.Live k b → b.critical = true → some k = r

def WInvU (r : Option TaskId) (w : TW) (up : List Notif) : Prop :=
  Chain up w.stages w.log ∧ SrcOK r w up

def WInv (r : Option TaskId) (w : TW) : Prop := ∃ up, WInvU r w up

/-- Moves that start no critical task. -/
theorem SrcOK.frame' {r : Option TaskId} {w w' : TW} {up : List Notif} (h : SrcOK r w up)
    (hsrc : w'.src = w.src) (hss : w'.srcSubscribed = w.srcSubscribed)
    (hsub : w'.subscribed = w.subscribed) (hterm : ∀ i, i ∈ w.terminated → i ∈ w'.terminated)
    (back : ∀ {k b}, w'.sched.Live k b → b.critical = true → w.sched.Live k b)
    (bod : ∀ t ∈ w'.sched.tasks, t.body.okFor w.src) : SrcOK r w' up := by
  exact {
    wf := h.wf
    bodies := by rw [hsrc]; exact bod
    uniq := fun k1 b1 k2 b2 l1 c1 l2 c2 => h.uniq k1 b1 k2 b2 (back l1 c1) c1 (back l2 c2) c2
    unsubd := fun hs => by
      rw [hsub] at hs
      refine ⟨by rw [hss]; exact (h.unsubd hs).1, fun k b hl => ?_⟩
      cases hc : b.critical with
      | false => rfl
      | true => rw [← hc]; exact (h.unsubd hs).2 k b (back hl hc)
    nosrc := fun hs => by
      rw [hss] at hs
      exact ⟨(h.nosrc hs).1, fun k b hl hc => (h.nosrc hs).2 k b (back hl hc) hc⟩
    subd := fun hs k b hl hb => by
      rw [hss] at hs
      exact h.subd hs k b (back hl (Body.critical_of_isSub hb)) hb
    term := fun ht k b hl hc => h.term ht k b (back hl hc) hc
    hot := fun i hi ht => by rw [hsrc] at hi; exact hterm i (h.hot i hi ht)
    interval := fun d p hi => by rw [hsrc] at hi; exact h.interval d p hi }

theorem SrcOK.frame {r : Option TaskId} {w w' : TW} {up : List Notif} (h : SrcOK r w up)
    (hsrc : w'.src = w.src) (hss : w'.srcSubscribed = w.srcSubscribed)
    (hsub : w'.subscribed = w.subscribed) (hterm : ∀ i, i ∈ w.terminated → i ∈ w'.terminated)
    (hle : w.sched.Le w'.sched) : SrcOK r w' up :=
  h.frame' hsrc hss hsub hterm (fun hl hc => hle.live hl (Body.benign_of_critical hc))
    (hle.body (fun b hb => Body.okFor_of_benign _ b hb) h.bodies)

structure Quiet (w w' : TW) : Prop where
  src : w'.src = w.src
  srcSubscribed : w'.srcSubscribed = w.srcSubscribed
  subscribed : w'.subscribed = w.subscribed
  term : ∀ i, i ∈ w.terminated → i ∈ w'.terminated
  sched : w.sched.Ext w'.sched
  chain : ∀ up, Chain up w.stages w.log → Chain up w'.stages w'.log

theorem Quiet.refl (w : TW) : Quiet w w :=
  ⟨rfl, rfl, rfl, fun _ h => h, Sched.Ext.refl _, fun _ h => h⟩

theorem Quiet.trans {a b c : TW} (h1 : Quiet a b) (h2 : Quiet b c) : Quiet a c :=
  ⟨h2.src.trans h1.src, h2.srcSubscribed.trans h1.srcSubscribed, h2.subscribed.trans h1.subscribed,
    fun i h => h2.term i (h1.term i h), h1.sched.trans h2.sched, fun up h => h2.chain up (h1.chain up h)⟩

theorem Quiet.invU {r : Option TaskId} {w w' : TW} {up : List Notif} (q : Quiet w w')
    (h : WInvU r w up) : WInvU r w' up :=
  ⟨q.chain up h.1, h.2.frame q.src q.srcSubscribed q.subscribed q.term q.sched.le⟩

theorem Quiet.inv {r : Option TaskId} {w w' : TW} (q : Quiet w w') (h : WInv r w) : WInv r w' := by
  obtain ⟨up, h⟩ := h
  exact ⟨up, q.invU h⟩

theorem Only.mono {r : Option TaskId} {w w' : TW} (h : Only r w) (hle : w.sched.Le w'.sched) :
    Only r w' :=
  fun k b hl hc => h k b (hle.live hl (Body.benign_of_critical hc)) hc

theorem Quiet.only {r : Option TaskId} {w w' : TW} (q : Quiet w w') (h : Only r w) : Only r w' :=
  h.mono q.sched.le

theorem Quiet.ofSched (w : TW) (s' : Sched) (h : w.sched.Ext s') : Quiet w { w with sched := s' } :=
  ⟨rfl, rfl, rfl, fun _ h => h, h, fun _ h => h⟩

theorem WInv.le {r : Option TaskId} {w : TW} (h : WInv r w) (s' : Sched) (hle : w.sched.Le s') :
    WInv r { w with sched := s' } := by
  obtain ⟨up, hc, hs⟩ := h
  exact ⟨up, hc, hs.frame rfl rfl rfl (fun _ h => h) hle⟩

theorem Only.le {r : Option TaskId} {w : TW} (h : Only r w) (s' : Sched) (hle : w.sched.Le s') :
    Only r { w with sched := s' } :=
  h.mono hle

namespace TW

@[simp] theorem push_src (w : TW) (j ns) : (w.push j ns).src = w.src := rfl
@[simp] theorem push_srcSubscribed (w : TW) (j ns) : (w.push j ns).srcSubscribed = w.srcSubscribed := rfl
@[simp] theorem push_subscribed (w : TW) (j ns) : (w.push j ns).subscribed = w.subscribed := rfl
@[simp] theorem push_terminated (w : TW) (j ns) : (w.push j ns).terminated = w.terminated := rfl
@[simp] theorem push_srcRest (w : TW) (j ns) : (w.push j ns).srcRest = w.srcRest := rfl

theorem push_ext (w : TW) (j : Nat) (ns : List Notif) : w.sched.Ext (w.push j ns).sched :=
  cascadeF_ext _ (w.stages.drop j) j ns w.sched

section
variable {R : Stage → List Notif → List Notif → Prop}

/-- A move that keeps every `R`-chain, whatever the source has handed to stage 0. -/
def Keeps (R : Stage → List Notif → List Notif → Prop) (w w' : TW) : Prop :=
  ∀ up, ChainOf R up w.stages w.log → ChainOf R up w'.stages w'.log

theorem push_zero_chainOf (hR : StepClosed R) (w : TW) (ns : List Notif) {up : List Notif}
    (h : ChainOf R up w.stages w.log) : ChainOf R (up ++ ns) (w.push 0 ns).stages (w.push 0 ns).log :=
  cascade_chain hR w.stages 0 ns w.sched h

theorem push_keeps (hR : StepClosed R) (w : TW) (j : Nat) (st st' : Stage) (ns : List Notif)
    (hj : w.stages[j]? = some st) (hok : ∀ inp out, R st inp out → R st' inp (out ++ ns)) :
    Keeps R w ((w.setStage j st').push (j + 1) ns) := by
  intro up h
  have hd : (w.stages.set j st').drop (j + 1) = w.stages.drop (j + 1) := by
    rw [List.drop_set]; simp
  have key := h.modify hj hok (fun out hc => cascade_chain hR _ (j + 1) ns w.sched hc)
  rw [push_eq]
  simp only [setStage_stages, hd, take_succ_set _ j st' (Sched.get_lt hj), List.append_assoc,
    List.singleton_append]
  exact key

theorem setStage_keeps (w : TW) (j : Nat) (st st' : Stage) (hj : w.stages[j]? = some st)
    (hok : ∀ inp out, R st inp out → R st' inp out) : Keeps R w (w.setStage j st') := by
  intro up h
  have key := h.modify (ns := []) (post' := w.stages.drop (j + 1)) (log' := w.log) hj
    (fun inp out ho => by simpa using hok inp out ho) (fun out hc => by simpa using hc)
  rw [setStage_stages, List.set_eq_take_append_cons_drop, if_pos (Sched.get_lt hj)]
  exact key

end

theorem Keeps.chain {w w' : TW} (k : Keeps Stage.OK w w') (up : List Notif)
    (h : Chain up w.stages w.log) : Chain up w'.stages w'.log :=
  Chain.iff.2 (k up (Chain.iff.1 h))

theorem push_zero_chain (w : TW) (ns : List Notif) (up : List Notif)
    (h : Chain up w.stages w.log) : Chain (up ++ ns) (w.push 0 ns).stages (w.push 0 ns).log :=
  Chain.iff.2 (push_zero_chainOf Stage.ok_closed w ns (Chain.iff.1 h))

theorem push_quiet (w : TW) (j : Nat) (st st' : Stage) (ns : List Notif)
    (hj : w.stages[j]? = some st) (hok : ∀ inp out, st.OK inp out → st'.OK inp (out ++ ns)) :
    Quiet w ((w.setStage j st').push (j + 1) ns) :=
  ⟨rfl, rfl, rfl, fun _ h => h, push_ext (w.setStage j st') (j + 1) ns,
    (push_keeps Stage.ok_closed w j st st' ns hj hok).chain⟩

theorem setStage_quiet (w : TW) (j : Nat) (st st' : Stage)
    (hj : w.stages[j]? = some st) (hok : ∀ inp out, st.OK inp out → st'.OK inp out) :
    Quiet w (w.setStage j st') :=
  ⟨rfl, rfl, rfl, fun _ h => h, Sched.Ext.refl _, (setStage_keeps w j st st' hj hok).chain⟩

end TW
end Rx.T
