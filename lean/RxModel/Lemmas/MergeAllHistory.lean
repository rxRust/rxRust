import RxModel.Lemmas.MergeAllStep
/-
  What holds on EVERY history of merge_all (errors, unsubscription, malformed
  subjects, the stuck state of the code before the fix):

    * the bookkeeping invariant `GInv` (limit, queue only when full, ghost
      counters) and with it the FIFO law of the log
          starts so far ++ queue  =  accepted arrivals so far;
    * arrival tags are strictly increasing;
    * the subjects never hold more live observers than the counter says (`LiveBound`);
    * at most one terminal, and it is the last entry of the whole log (`LogShape`, `Ends`);
    * an error in the log comes from an error event or from a started cold inner that fails
      (`runG_err_src`).
-/
namespace Rx.MergeAll

/-- The code's counter respects the limit, instances wait only while all slots are taken, and
    every `actual_subscribe` is covered by a slot or a received completion. -/
structure GInv (s : St) : Prop where
  le : s.subscribed ≤ s.concurrent
  full : s.queue ≠ [] → s.concurrent ≤ s.subscribed
  cnt : s.started ≤ s.subscribed + s.completed

/-- An inner completion keeps `started ≤ subscribed + completed`, also when the counter is
    already `0` (a subject that completes an observer twice). -/
theorem le_pred_add_succ {a b c : Nat} (h : a ≤ b + c) : a ≤ b - 1 + (c + 1) := by omega

/-- The same with `=`, when a slot is taken. -/
theorem pred_add_succ_eq {a b c : Nat} (h : a = b + c) (h1 : 1 ≤ b) : a = b - 1 + (c + 1) := by
  omega

theorem startTop_fifo (f : Bool) (s : St) (i : Inst)
    (hd : ∀ s', GInv { s' with queue := s.queue } → GInv (drain f s' s.queue).1 ∧
      startsOf (drainL f s' s.queue) ++ (drain f s' s.queue).1.queue = s.queue)
    (h : GInv { s with started := s.started + 1 }) :
    GInv (startTop f s i).1 ∧ startsOf (startTopL f s i) ++ (startTop f s i).1.queue = i :: s.queue :=
  startTop_cases f s i (P := fun r l => GInv r.1 ∧ startsOf l ++ r.1.queue = i :: s.queue)
    (hot := fun _ _ => ⟨⟨h.le, h.full, h.cnt⟩, rfl⟩)
    (open_ := fun _ _ => ⟨h, by simp [startsOf]⟩)
    (error := fun _ _ _ => ⟨⟨h.le, h.full, h.cnt⟩, by simp [startsOf]⟩)
    (complete := fun _ _ => by
      have := hd { s with started := s.started + 1 } h
      exact ⟨this.1, by simp [startsOf, this.2]⟩)

theorem drain_fifo (f : Bool) : ∀ q s, GInv { s with queue := q } →
    GInv (drain f s q).1 ∧ startsOf (drainL f s q) ++ (drain f s q).1.queue = q :=
  drain_induct f (P := fun s q r l => GInv { s with queue := q } →
      GInv r.1 ∧ startsOf l ++ r.1.queue = q)
    (last := fun _ _ _ h =>
      ⟨⟨Nat.le_trans (Nat.sub_le _ _) h.le, fun h => absurd rfl h, le_pred_add_succ h.cnt⟩, rfl⟩)
    (more := fun _ _ h =>
      ⟨⟨Nat.le_trans (Nat.sub_le _ _) h.le, fun h => absurd rfl h, le_pred_add_succ h.cnt⟩, rfl⟩)
    (stuck := fun _ _ _ _ h =>
      ⟨⟨h.le, fun _ => h.full (List.cons_ne_nil _ _), Nat.succ_le_succ h.cnt⟩, rfl⟩)
    (start := fun s i rest _ ih h =>
      startTop_fifo f { s with completed := s.completed + 1, queue := rest } i ih
        ⟨h.le, fun _ => h.full (List.cons_ne_nil _ _), Nat.succ_le_succ h.cnt⟩)

theorem completeAll_fifo (f : Bool) : ∀ ts s, GInv s →
    GInv (completeAll f s ts).1 ∧
      startsOf (completeAllL f s ts) ++ (completeAll f s ts).1.queue = s.queue :=
  completeAll_chain f (R := fun s r l => GInv s → GInv r.1 ∧ startsOf l ++ r.1.queue = s.queue)
    (fun _ h => ⟨h, rfl⟩)
    (fun a _ b h => by
      have h1 := a h
      have h2 := b h1.1
      exact ⟨h2.1, by rw [startsOf_append, List.append_assoc, h2.2, h1.2]⟩)
    (fun s => innerComplete_cases f s
      (P := fun r l => GInv s → GInv r.1 ∧ startsOf l ++ r.1.queue = s.queue)
      (alive := fun _ h => drain_fifo f s.queue s h) (dead := fun _ h => ⟨h, rfl⟩))

theorem stepG_fifo (f : Bool) (s : St) (ev : Ev) (h : GInv s) :
    GInv (stepG f s ev).1 ∧
    startsOf (stepL f s ev) ++ (stepG f s ev).1.queue = s.queue ++ arrivalsOf (stepL f s ev) :=
  stepG_cases f s ev
    (P := fun r l => GInv r.1 ∧ startsOf l ++ r.1.queue = s.queue ++ arrivalsOf l)
    (idle := fun _ => ⟨h, by simp [startsOf, arrivalsOf]⟩)
    (lost := fun _ _ _ _ _ => ⟨⟨h.le, h.full, h.cnt⟩, by simp [startsOf, arrivalsOf]⟩)
    (room := fun k _ _ _ _ hlt => by
      -- a free slot: nothing is waiting
      have hq : s.queue = [] := Decidable.byContradiction fun hne =>
        Nat.lt_irrefl _ (Nat.lt_of_lt_of_le hlt (h.full hne))
      have := startTop_fifo f
        { s with arrivals := s.arrivals + 1, subscribed := s.subscribed + 1 } ⟨s.arrivals, k⟩
        (fun s' => drain_fifo f _ s')
        ⟨hlt, fun hne => absurd hq hne, Nat.add_right_comm s.subscribed s.completed 1 ▸ Nat.succ_le_succ h.cnt⟩
      refine ⟨this.1, ?_⟩
      simp only [startsOf, arrivalsOf]
      rw [this.2, arrivalsOf_startTopL f _ _ (fun s' => arrivalsOf_drainL f _ s'), hq]; rfl)
    (full := fun _ _ _ _ _ hge =>
      ⟨⟨h.le, fun _ => Nat.le_of_not_lt hge, h.cnt⟩, by simp [startsOf, arrivalsOf]⟩)
    (outer := fun _ _ _ _ _ _ _ _ _ => ⟨⟨h.le, h.full, h.cnt⟩, by simp⟩)
    (inext := fun _ _ _ _ _ => ⟨h, by simp⟩)
    (ierr := fun _ _ _ _ _ _ _ _ => ⟨⟨h.le, h.full, h.cnt⟩, by simp [St.take]⟩)
    (icomp := fun j _ _ _ => by
      have := completeAll_fifo f (targets s j) (s.take j) ⟨h.le, h.full, h.cnt⟩
      exact ⟨this.1, by rw [this.2, arrivalsOf_completeAllL]; simp [St.take]⟩)
    (unsub := fun _ _ => ⟨⟨h.le, h.full, h.cnt⟩, by simp [startsOf, arrivalsOf]⟩)

theorem init_ginv (inners : List Inner) (n : Nat) : GInv (init inners n) :=
  ⟨Nat.zero_le _, fun h => absurd rfl h, Nat.zero_le _⟩

theorem runG_fifo (f : Bool) : ∀ evs s, GInv s →
    GInv (runG f s evs).1 ∧
    startsOf (runL f s evs) ++ (runG f s evs).1.queue = s.queue ++ arrivalsOf (runL f s evs) :=
  runG_chain f
    (R := fun s r l => GInv s → GInv r.1 ∧ startsOf l ++ r.1.queue = s.queue ++ arrivalsOf l)
    (fun _ h => ⟨h, by simp [startsOf, arrivalsOf]⟩)
    (fun a b h => by
      have h1 := a h
      have h2 := b h1.1
      exact ⟨h2.1, by rw [startsOf_append, arrivalsOf_append, List.append_assoc, h2.2,
        ← List.append_assoc, h1.2, List.append_assoc]⟩)
    (stepG_fifo f)

theorem runG_limit (f : Bool) (inners : List Inner) (n : Nat) (evs : List Ev) :
    (runG f (init inners n) evs).1.subscribed ≤ n ∧
    (runG f (init inners n) evs).1.started - (runG f (init inners n) evs).1.completed ≤ n := by
  have h := (runG_fifo f evs _ (init_ginv inners n)).1
  have hc : (runG f (init inners n) evs).1.concurrent = n := (runG_frame f evs _).conc
  have h1 := h.le; have h2 := h.cnt
  rw [hc] at h1
  omega

theorem runL_arrivals_sorted (f : Bool) (evs : List Ev) : ∀ s : St,
    (arrivalsOf (runL f s evs)).Pairwise (fun a b => a.tag < b.tag) ∧
    ∀ i ∈ arrivalsOf (runL f s evs), s.arrivals ≤ i.tag ∧ i.tag < (runG f s evs).1.arrivals := by
  induction evs with
  | nil => intro s; simp [runL, arrivalsOf]
  | cons ev r ih =>
    intro s
    simp only [runL, runG, arrivalsOf_append]
    have h2 := ih (stepG f s ev).1
    have hm := (stepG_frame f s ev).arr
    have hm2 := (runG_frame f r (stepG f s ev).1).arr
    have h1 := arrivalsOf_stepL f s ev
    -- an event accepts nothing, or one instance tagged with the counter, which then moves on
    have hcase : arrivalsOf (stepL f s ev) = [] ∨ ∃ k, arrivalsOf (stepL f s ev) = [⟨s.arrivals, k⟩] ∧
        s.arrivals < (stepG f s ev).1.arrivals := by
      cases ev with
      | outerNext k =>
        simp only at h1
        split at h1
        · rename_i hc
          exact Or.inr ⟨k, h1, by rw [stepG_arrivals_succ f s k hc.1 hc.2.1]; exact Nat.lt_succ_self _⟩
        · exact Or.inl h1
      | _ => exact Or.inl h1
    rcases hcase with h0 | ⟨k, h0, hlt⟩
    · rw [h0]
      exact ⟨h2.1, fun i hi => ⟨Nat.le_trans hm (h2.2 i hi).1, (h2.2 i hi).2⟩⟩
    · rw [h0]
      refine ⟨?_, ?_⟩
      · simp only [List.singleton_append, List.pairwise_cons]
        exact ⟨fun b hb => Nat.lt_of_lt_of_le hlt (h2.2 b hb).1, h2.1⟩
      · intro i hi
        simp only [List.singleton_append, List.mem_cons] at hi
        rcases hi with rfl | hi
        · exact ⟨Nat.le_refl _, Nat.lt_of_lt_of_le hlt hm2⟩
        · exact ⟨Nat.le_trans hm (h2.2 i hi).1, (h2.2 i hi).2⟩

/-- Number of inner observers held by subjects that can still call them. -/
def liveOf (subs : List (Nat × Nat)) (dead : List Nat) : Nat :=
  (subs.filter (fun p => !dead.contains p.1)).length

def live (s : St) : Nat := liveOf s.subs s.dead

theorem liveOf_append_le (subs : List (Nat × Nat)) (p : Nat × Nat) (dead : List Nat) :
    liveOf (subs ++ [p]) dead ≤ liveOf subs dead + 1 := by
  unfold liveOf
  rw [List.filter_append, List.length_append]
  have : ([p].filter fun p => !dead.contains p.1).length ≤ [p].length := List.length_filter_le _ _
  simpa using this

/-- Taking the observers of subject `j` (not dead yet): its targets were all live. -/
theorem liveOf_take (subs : List (Nat × Nat)) (dead : List Nat) (j : Nat)
    (hj : dead.contains j = false) :
    liveOf (subs.filter (fun p => !(p.1 == j))) (j :: dead) + (subs.filter (fun p => p.1 == j)).length
      = liveOf subs dead := by
  unfold liveOf
  induction subs with
  | nil => rfl
  | cons p r ih =>
    -- `p` counts on the right iff it counts in exactly one summand on the left
    simp only [List.contains_cons] at ih
    simp only [List.filter_cons, List.contains_cons]
    cases hb : p.1 == j with
    | true =>
      have hd : dead.contains p.1 = false := by rw [beq_iff_eq.mp hb]; exact hj
      simp only [hd, Bool.not_true, Bool.not_false, Bool.false_eq_true, if_false, if_true,
        List.length_cons]
      omega
    | false =>
      cases hd : dead.contains p.1 <;>
        simp only [hb, hd, Bool.not_true, Bool.not_false, Bool.false_eq_true, if_false, if_true,
          Bool.or_false, Bool.or_true, List.filter_cons, List.length_cons] <;>
        omega

theorem liveOf_zero {subs : List (Nat × Nat)} {dead : List Nat} (h : liveOf subs dead = 0) :
    ∀ p ∈ subs, dead.contains p.1 = true := by
  intro p hp
  have := List.filter_eq_nil_iff.mp (List.eq_nil_of_length_eq_zero h) p hp
  simpa using this

/-- `d` = inner completions already taken from a subject and not yet delivered. -/
def LiveBound (s : St) (d : Nat) : Prop := live s + d ≤ s.subscribed

/-- One observer more at most while a completion is pending. -/
theorem liv_more {L L' d n : Nat} (h1 : L' ≤ L + 1) (h : L + (d + 1) ≤ n) : L' + d ≤ n := by
  omega

/-- The pending completion gives its slot back. -/
theorem liv_pred {L d n : Nat} (h : L + (d + 1) ≤ n) : L + d ≤ n - 1 := by
  omega

theorem startTop_liv (f : Bool) (s : St) (i : Inst) (d : Nat)
    (hd : ∀ s', s'.subs = s.subs → s'.dead = s.dead → s'.subscribed = s.subscribed →
      LiveBound (drain f s' s.queue).1 d)
    (h : LiveBound s (d + 1)) : LiveBound (startTop f s i).1 d := by
  unfold LiveBound live at h
  exact startTop_cases f s i (P := fun r _ => LiveBound r.1 d)
    (hot := fun j _ => liv_more (liveOf_append_le s.subs (j, i.tag) s.dead) h)
    (open_ := fun _ _ => liv_more (Nat.le_succ _) h) (error := fun _ _ _ => liv_more (Nat.le_succ _) h)
    (complete := fun _ _ => hd _ rfl rfl rfl)

theorem drain_liv (f : Bool) (d : Nat) : ∀ q s, LiveBound s (d + 1) → LiveBound (drain f s q).1 d :=
  drain_induct f (P := fun s _ r _ => LiveBound s (d + 1) → LiveBound r.1 d)
    (last := fun _ _ _ h => liv_pred h) (more := fun _ _ h => liv_pred h)
    (stuck := fun _ _ _ _ h => liv_more (Nat.le_succ _) h)
    (start := fun s i rest _ ih h =>
      startTop_liv f { s with completed := s.completed + 1, queue := rest } i d
        (fun s' e1 e2 e3 => ih s' (by unfold LiveBound live at h ⊢; rw [e1, e2, e3]; exact h)) h)

theorem innerComplete_liv (f : Bool) (d : Nat) (s : St) (h : LiveBound s (d + 1)) :
    LiveBound (innerComplete f s).1 d :=
  innerComplete_cases f s (P := fun r _ => LiveBound r.1 d) (alive := fun _ => drain_liv f d _ s h)
    (dead := fun _ => Nat.le_trans (Nat.le_succ _) h)

theorem completeAll_liv (f : Bool) (d : Nat) (ts : List (Nat × Nat)) : ∀ s : St,
    LiveBound s (d + ts.length) → LiveBound (completeAll f s ts).1 d := by
  induction ts with
  | nil => intro s h; exact h
  | cons t r ih =>
    intro s h
    have h1 := innerComplete_liv f (d + r.length) s h
    rw [completeAll_cons]
    split
    · exact Nat.le_trans (Nat.add_le_add_left (Nat.le_add_right d r.length) _) h1
    · exact ih _ h1

theorem stepG_liv (f : Bool) (s : St) (ev : Ev) (h : LiveBound s 0) : LiveBound (stepG f s ev).1 0 := by
  unfold LiveBound live at h
  refine stepG_cases f s ev (P := fun r _ => LiveBound r.1 0) (idle := fun _ => h) (lost := fun _ _ _ _ _ => h)
    (room := fun k _ _ _ _ _ => ?_) (full := fun _ _ _ _ _ _ => h) (outer := fun _ _ _ _ _ _ _ _ _ => h) (inext := fun _ _ _ _ _ => h)
    (ierr := fun j _ _ _ _ _ hd _ => ?_) (icomp := fun j _ _ hd => ?_) (unsub := fun _ _ => ?_)
  · have h1 : liveOf s.subs s.dead + (0 + 1) ≤ s.subscribed + 1 := Nat.succ_le_succ h
    exact startTop_liv f _ _ 0 (fun s' e1 e2 e3 => drain_liv f 0 _ s' (by
      unfold LiveBound live; rw [e1, e2, e3]; exact h1)) h1
  · have := liveOf_take s.subs s.dead j hd
    show liveOf (s.subs.filter _) (j :: s.dead) + 0 ≤ s.subscribed; omega
  · have := liveOf_take s.subs s.dead j hd
    apply completeAll_liv f 0
    show liveOf (s.subs.filter _) (j :: s.dead) + (0 + (targets s j).length) ≤ s.subscribed
    unfold targets; omega
  · show liveOf [] s.dead + 0 ≤ s.subscribed
    simp [liveOf]

theorem init_liv (inners : List Inner) (n : Nat) : LiveBound (init inners n) 0 := Nat.le_refl 0

/-- Either no terminal and `alive` untouched, or the log ends with its only
    terminal and the cell is empty afterwards. -/
def LogShape (s s' : St) (l : List Lab) : Prop :=
  (hasTerm l = false ∧ s'.alive = s.alive) ∨
  (∃ l' x, l = l' ++ [x] ∧ x.isTerm = true ∧ hasTerm l' = false ∧ s'.alive = false)

theorem LogShape.nil (s : St) : LogShape s s [] := Or.inl ⟨rfl, rfl⟩

theorem LogShape.dead_of_term {s s' : St} {l : List Lab} (h : LogShape s s' l)
    (ht : hasTerm l = true) : s'.alive = false := by
  rcases h with ⟨a, _⟩ | ⟨_, _, _, _, _, b⟩
  · rw [a] at ht; cases ht
  · exact b

theorem LogShape.alive_of_noterm {s s' : St} {l : List Lab} (h : LogShape s s' l)
    (ht : hasTerm l = false) : s'.alive = s.alive := by
  rcases h with ⟨_, b⟩ | ⟨l', x, rfl, hx, _, _⟩
  · exact b
  · simp [hasTerm_cons, hx] at ht

theorem LogShape.prepend {s s' : St} {l : List Lab} (a : List Lab) (ha : hasTerm a = false)
    (h : LogShape s s' l) : LogShape s s' (a ++ l) := by
  rcases h with ⟨a1, b1⟩ | ⟨l', x, e1, hx, a1, b1⟩
  · exact Or.inl ⟨by rw [hasTerm_append, ha, a1]; rfl, b1⟩
  · exact Or.inr ⟨a ++ l', x, by rw [e1, List.append_assoc], hx,
      by rw [hasTerm_append, ha, a1]; rfl, b1⟩

/-- A piece of work seen from the terminal: the shape of its log, and an empty cell
    is silent. -/
def Ends (s : St) (r : St × List Out) (l : List Lab) : Prop :=
  LogShape s r.1 l ∧ (s.alive = false → l = [])

theorem Ends.refl (s : St) : Ends s (s, []) [] := ⟨.nil s, fun _ => rfl⟩

theorem Ends.trans {s : St} {r1 r2 : St × List Out} {l1 l2 : List Lab} (h1 : Ends s r1 l1)
    (h2 : Ends r1.1 r2 l2) : Ends s (r2.1, r1.2 ++ r2.2) (l1 ++ l2) := by
  obtain ⟨h1, q1⟩ := h1
  obtain ⟨h2, q2⟩ := h2
  constructor
  · rcases h1 with ⟨a1, b1⟩ | ⟨l', x, e1, hx, a1, b1⟩
    · rcases h2 with ⟨a2, b2⟩ | ⟨l'', y, e2, hy, a2, b2⟩
      · exact Or.inl ⟨by rw [hasTerm_append, a1, a2]; rfl, b2.trans b1⟩
      · exact Or.inr ⟨l1 ++ l'', y, by rw [e2, List.append_assoc], hy,
          by rw [hasTerm_append, a1, a2]; rfl, b2⟩
    · rw [q2 b1, List.append_nil]
      exact Or.inr ⟨l', x, e1, hx, a1, (h2.alive_of_noterm (by rw [q2 b1]; rfl)).trans b1⟩
  · intro ha
    have e1 := q1 ha
    subst e1
    rw [q2 ((h1.alive_of_noterm rfl).trans ha)]; rfl

theorem EndOut.shape {a0 a : Bool} {x : Out} {w : Prop} {o : List Out} (h : EndOut a0 x w a o)
    {s s' : St}
    (hx : (Lab.out x).isTerm = true) (h0 : s.alive = a0) (h1 : s'.alive = a) :
    Ends s (s', o) (o.map .out) := by
  cases h with
  | none _ => exact ⟨Or.inl ⟨rfl, h1.trans h0.symm⟩, fun _ => rfl⟩
  | term ha _ =>
    exact ⟨Or.inr ⟨[], .out x, rfl, hx, rfl, h1⟩, fun h => by rw [h0, ha] at h; cases h⟩

theorem startTop_shape (f : Bool) (s : St) (i : Inst)
    (hd : ∀ s', s'.alive = s.alive → LogShape s' (drain f s' s.queue).1 (drainL f s' s.queue)) :
    LogShape s (startTop f s i).1 (startTopL f s i) :=
  startTop_cases f s i (P := fun r l => LogShape s r.1 l)
    (hot := fun _ _ => Or.inl ⟨rfl, rfl⟩)
    (open_ := fun xs _ => Or.inl ⟨by simp [hasTerm_cons, Lab.isTerm], rfl⟩)
    (error := fun xs e _ => Or.inr ⟨.start i :: itemsL i.tag xs, .out (.error e), rfl, rfl,
      by simp [hasTerm_cons, Lab.isTerm], rfl⟩)
    (complete := fun xs _ => LogShape.prepend (Lab.start i :: itemsL i.tag xs)
      (by simp [hasTerm_cons, Lab.isTerm]) (hd { s with started := s.started + 1 } rfl))

theorem drain_shape (f : Bool) : ∀ q s, LogShape s (drain f s q).1 (drainL f s q) :=
  drain_induct f (P := fun s _ r l => LogShape s r.1 l)
    (last := fun _ _ _ => Or.inr ⟨[], .out .complete, rfl, rfl, rfl, rfl⟩) (more := fun _ _ => Or.inl ⟨rfl, rfl⟩)
    (stuck := fun _ _ _ _ => Or.inl ⟨rfl, rfl⟩)
    (start := fun s i rest _ ih =>
      startTop_shape f { s with completed := s.completed + 1, queue := rest } i (fun s' _ => ih s'))

theorem completeAll_ends (f : Bool) : ∀ ts s, Ends s (completeAll f s ts) (completeAllL f s ts) :=
  completeAll_chain f (R := Ends) Ends.refl (fun a _ b => a.trans b)
    (fun s => innerComplete_cases f s (P := fun r l => Ends s r l)
      (alive := fun ha => ⟨drain_shape f _ s, fun h => by rw [ha] at h; cases h⟩) (dead := fun _ => Ends.refl s))

theorem stepG_ends (f : Bool) (s : St) (ev : Ev) : Ends s (stepG f s ev) (stepL f s ev) :=
  stepG_cases f s ev (P := fun r l => Ends s r l) (idle := fun _ => Ends.refl s)
    (lost := fun _ _ _ _ _ => ⟨Or.inl ⟨rfl, rfl⟩, fun _ => rfl⟩)
    (room := fun k _ _ _ ha _ =>
      ⟨LogShape.prepend [Lab.arrive ⟨s.arrivals, k⟩] rfl
        (startTop_shape f { s with arrivals := s.arrivals + 1, subscribed := s.subscribed + 1 }
          ⟨s.arrivals, k⟩ (fun s' _ => drain_shape f _ s')),
        fun h => by rw [ha] at h; cases h⟩)
    (full := fun _ _ _ _ ha _ => ⟨Or.inl ⟨rfl, rfl⟩, fun h => by rw [ha] at h; cases h⟩)
    (outer := fun _ _ _ _ _ hx _ _ h =>
      h.shape (by rcases hx with ⟨_, rfl, _⟩ | ⟨_, _, rfl, _⟩ <;> rfl) rfl rfl)
    (inext := fun j v _ _ _ => by
      refine ⟨Or.inl ⟨?_, rfl⟩, fun h => by rw [h]; rfl⟩
      split
      · exact hasTerm_map_item (fun p : Nat × Nat => p.2) (fun _ => v) _
      · rfl)
    (ierr := fun _ _ _ _ _ _ _ h => h.shape rfl rfl rfl)
    (icomp := fun j _ _ _ => completeAll_ends f (targets s j) (s.take j))
    (unsub := fun _ _ => ⟨Or.inl ⟨rfl, rfl⟩, fun _ => rfl⟩)

theorem runG_ends (f : Bool) : ∀ evs s, Ends s (runG f s evs) (runL f s evs) :=
  runG_chain f (R := Ends) Ends.refl Ends.trans (stepG_ends f)

/-- A dead cell is silent. -/
theorem runG_dead_out (f : Bool) (evs : List Ev) (s : St) (ha : s.alive = false) :
    (runG f s evs).2 = [] := by
  rw [← outs_runL, (runG_ends f evs s).2 ha]; rfl

theorem runL_after_term (f : Bool) (s : St) (pre post : List Ev)
    (h : hasTerm (runL f s pre) = true) : runL f s (pre ++ post) = runL f s pre := by
  rw [runL_append, (runG_ends f post _).2 ((runG_ends f pre s).1.dead_of_term h), List.append_nil]

/-- Instance `i` is a cold inner whose script ends with the error `e`. -/
def ColdErr (s : St) (i : Inst) (e : Err) : Prop := ∃ xs, s.inner i.k = .cold xs (.error e)

theorem mem_itemsL_ne_error (tag : Nat) (xs : List Val) (e : Err) :
    Lab.out (.error e) ∉ itemsL tag xs := by
  unfold itemsL; simp

theorem startTop_err_src (f : Bool) (e : Err) (s : St) (i : Inst)
    (hd : ∀ s', Lab.out (.error e) ∈ drainL f s' s.queue →
      ∃ a ∈ startsOf (drainL f s' s.queue), ColdErr s' a e) :
    Lab.out (.error e) ∈ startTopL f s i → ∃ a ∈ startsOf (startTopL f s i), ColdErr s a e :=
  startTop_cases f s i (P := fun _ l => Lab.out (.error e) ∈ l → ∃ a ∈ startsOf l, ColdErr s a e)
    (hot := fun _ _ h => by simp at h) (open_ := fun _ _ h => by simp [mem_itemsL_ne_error] at h)
    (error := fun xs e' hin h => by
      have : e = e' := by simpa [mem_itemsL_ne_error] using h
      exact ⟨i, by simp [startsOf], xs, this ▸ hin⟩)
    (complete := fun xs _ h => by
      obtain ⟨a, ha, hc⟩ := hd { s with started := s.started + 1 }
        (by simpa [mem_itemsL_ne_error] using h)
      exact ⟨a, by simp [startsOf, ha], hc⟩)

theorem drain_err_src (f : Bool) (e : Err) : ∀ q s, Lab.out (.error e) ∈ drainL f s q →
    ∃ a ∈ startsOf (drainL f s q), ColdErr s a e :=
  drain_induct f (P := fun s _ _ l => Lab.out (.error e) ∈ l → ∃ a ∈ startsOf l, ColdErr s a e)
    (last := fun _ _ _ h => by simp at h) (more := fun _ _ h => by simp at h) (stuck := fun _ _ _ _ h => by simp at h)
    (start := fun s i rest _ ih =>
      startTop_err_src f e { s with completed := s.completed + 1, queue := rest } i ih)

theorem stepG_err_src (f : Bool) (e : Err) (s : St) (ev : Ev) :
    Lab.out (.error e) ∈ stepL f s ev →
    ev = .outerError e ∨ (∃ j, ev = .innerError j e) ∨
      ∃ a ∈ startsOf (stepL f s ev), ColdErr s a e :=
  stepG_cases f s ev (P := fun _ l => Lab.out (.error e) ∈ l →
      ev = .outerError e ∨ (∃ j, ev = .innerError j e) ∨ ∃ a ∈ startsOf l, ColdErr s a e)
    (idle := fun _ h => by simp at h) (lost := fun _ _ _ _ _ h => by simp at h)
    (room := fun k _ _ _ _ _ h => by
      obtain ⟨a, ha, hc⟩ := startTop_err_src f e _ _
        (fun s' => drain_err_src f e _ s') (by simpa using h)
      exact Or.inr (Or.inr ⟨a, by simpa [startsOf] using ha, hc⟩))
    (full := fun _ _ _ _ _ _ h => by simp at h)
    (outer := fun x _ a c o hx _ _ ho h => by
      cases ho with
      | none _ => simp at h
      | term _ _ =>
        rcases hx with ⟨_, rfl, _⟩ | ⟨e', he, rfl, _⟩
        · simp at h
        · have : e = e' := by simpa using h
          exact Or.inl (this ▸ he))
    (inext := fun j v _ _ _ h => by
      split at h
      · simp at h
      · simp at h)
    (ierr := fun j e' a o he _ _ ho h => by
      cases ho with
      | none _ => simp at h
      | term _ _ =>
        have : e = e' := by simpa using h
        exact Or.inr (Or.inl ⟨j, this ▸ he⟩))
    (icomp := fun j _ _ _ h => by
      refine Or.inr (Or.inr ?_)
      exact (completeAll_chain f (R := fun s r l => r.1.inners = s.inners ∧
          (Lab.out (.error e) ∈ l → ∃ a ∈ startsOf l, ColdErr s a e))
        (fun _ => ⟨rfl, fun h => by simp at h⟩)
        (fun {s r1 l1 r2 l2} a _ b => ⟨b.1.trans a.1, fun h => by
          rw [List.mem_append] at h
          rcases h with h | h
          · obtain ⟨i, hi, hc⟩ := a.2 h
            exact ⟨i, by simp [hi], hc⟩
          · obtain ⟨i, hi, xs, hc⟩ := b.2 h
            exact ⟨i, by simp [hi], xs, by rw [← inner_of_inners a.1]; exact hc⟩⟩)
        (fun s => innerComplete_cases f s (P := fun r l => r.1.inners = s.inners ∧
            (Lab.out (.error e) ∈ l → ∃ a ∈ startsOf l, ColdErr s a e))
          (alive := fun _ => ⟨(drain_same f _ s).inners, drain_err_src f e _ s⟩)
          (dead := fun _ => ⟨rfl, fun h => by simp at h⟩)) _ (s.take j)).2 h)
    (unsub := fun _ _ h => by simp at h)

theorem runG_err_src (f : Bool) (e : Err) (evs : List Ev) : ∀ s : St,
    Lab.out (.error e) ∈ runL f s evs →
    .outerError e ∈ evs ∨ (∃ j, .innerError j e ∈ evs) ∨
      ∃ a ∈ startsOf (runL f s evs), ColdErr s a e := by
  induction evs with
  | nil => intro s h; simp [runL] at h
  | cons ev r ih =>
    intro s h
    simp only [runL, List.mem_append, startsOf_append] at h ⊢
    rcases h with h | h
    · rcases stepG_err_src f e s ev h with h | ⟨j, h⟩ | ⟨i, hi, hc⟩
      · exact Or.inl (by rw [h]; exact List.mem_cons_self ..)
      · exact Or.inr (Or.inl ⟨j, by rw [h]; exact List.mem_cons_self ..⟩)
      · exact Or.inr (Or.inr ⟨i, Or.inl hi, hc⟩)
    · rcases ih _ h with h | ⟨j, h⟩ | ⟨i, hi, xs, hc⟩
      · exact Or.inl (List.mem_cons_of_mem _ h)
      · exact Or.inr (Or.inl ⟨j, List.mem_cons_of_mem _ h⟩)
      · exact Or.inr (Or.inr ⟨i, Or.inr hi, xs,
          by rw [← inner_of_inners (stepG_frame f s ev).inners]; exact hc⟩)

end Rx.MergeAll
