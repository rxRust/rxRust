import RxModel.Lemmas.ChainWFWorld
/-
  C01 over the chain model: the moves that do not involve the source are `Quiet`:
  deliveries to the second input of a two-input cell, the bodies of the stage
  tasks (delay / observe_on slot calls, debounce_task, throttle_task, emit_buffer,
  the notifier tick), unsubscription.
-/
namespace Rx.T
open Rx Rx.Spec

theorem run_gate (c : St2) (sd : Side) (ns : List Notif) {out : List Notif} (h : Gate c.alive out) :
    Gate (c.run sd ns).1.alive (out ++ (c.run sd ns).2) := by
  induction ns generalizing c out with
  | nil => simpa [St2.run] using h
  | cons n r ih =>
    have := ih (c.step sd n).1 (step_gate c sd n h)
    simpa [St2.run, List.append_assoc] using this

namespace TW

theorem Quiet.ofEq {w w' : TW} (h1 : w'.src = w.src := by rfl) (h2 : w'.srcSubscribed = w.srcSubscribed := by rfl)
    (h3 : w'.subscribed = w.subscribed := by rfl) (h4 : w'.terminated = w.terminated := by rfl)
    (h5 : w'.sched = w.sched := by rfl) (h6 : w'.stages = w.stages := by rfl) (h7 : w'.log = w.log := by rfl) : Quiet w w' :=
  ⟨h1, h2, h3, fun i h => by rw [h4]; exact h, by rw [h5]; exact Sched.Ext.refl _,
    fun up h => by rw [h6, h7]; exact h⟩

theorem pushB_quiet (w : TW) (j : Nat) (ns : List Notif) : Quiet w (w.pushB j ns) := by
  unfold pushB
  split
  · next st nsrc na nt hj =>
    exact push_quiet w j _ (.op2n (st.run .b ns).1 nsrc na nt) (st.run .b ns).2 hj
      (fun inp out h => run_gate st .b ns h)
  · exact Quiet.refl w

theorem loopB_quiet (j n : Nat) (fuel : Nat) : ∀ (k : Nat) (w : TW),
    Quiet w (subscribeNotifier.loopB j n fuel k w) := by
  induction fuel with
  | zero => intro k w; exact Quiet.refl w
  | succ f ih =>
    intro k w
    rw [loopB_succ]
    split
    · split
      · exact Quiet.refl w
      · split
        · refine Quiet.trans ?_ (ih _ _)
          exact Quiet.trans (Quiet.ofEq (w' := { w with pulls := w.pulls + 1 }))
            (pushB_quiet _ j _)
        · exact pushB_quiet w j _
    · exact Quiet.refl w

theorem subscribeNotifier_quiet (w : TW) (j : Nat) : Quiet w (w.subscribeNotifier j) := by
  unfold subscribeNotifier
  split
  · next st nsrc na nt hj =>
    cases nsrc with
    | hot i => exact setStage_quiet w j _ _ hj (fun _ _ h => h)
    | cold s => exact pushB_quiet w j _
    | interval d p =>
      exact (Quiet.ofSched w _ (Sched.Ext.scheduleRepeat _ _ _ _ _ rfl)).trans
        (setStage_quiet _ j _ _ hj (fun _ _ h => h))
    | timer v d =>
      exact (Quiet.ofSched w _ (Sched.Ext.scheduleOnce _ _ _ rfl)).trans
        (setStage_quiet _ j _ _ hj (fun _ _ h => h))
    | iterc n => exact loopB_quiet j n _ _ w
    | future r sc => exact Quiet.refl w
    | stream r sc c => exact Quiet.refl w
  · exact Quiet.refl w

theorem deliverNotifiers_quiet (w : TW) (i : Nat) (n : Notif) (k : Nat) :
    Quiet w (deliverNotifiers w i n k) := by
  induction k with
  | zero => exact Quiet.refl w
  | succ k ih =>
    rw [deliverNotifiers_succ]
    refine Quiet.trans ih ?_
    split
    · next st j na nt hj =>
      split
      · split
        · exact pushB_quiet _ k _
        · exact (setStage_quiet _ k _ (.op2n st (.hot j) false nt) hj (fun _ _ h => h)).trans (pushB_quiet _ k _)
      · exact Quiet.refl _
    · exact Quiet.refl _

theorem WF_single_nt (n : Notif) (h : n.isTerm = false) : Rx.terminated [n] = false := by
  cases n <;> simp_all [Notif.isTerm, Rx.terminated]

/-- A gate at position `j` whose slot is full hands `ns` to its downstream and becomes `st'`
    (`e`, `e'`: `st`, `st'` are gates with slots `alive`, `alive'`). -/
theorem gate_push_quiet (w : TW) (j : Nat) {st : Stage} (st' : Stage) {alive : Bool} (alive' : Bool)
    {ns : List Notif} (hj : w.stages[j]? = some st) (e : ∀ inp out, st.OK inp out → Gate alive out)
    (e' : ∀ inp out, Gate alive' out → st'.OK inp out) (ha : alive = true) (hns : WF ns)
    (ht : Rx.terminated ns = true → alive' = false) : Quiet w ((w.setStage j st').push (j + 1) ns) :=
  push_quiet w j st st' ns hj fun inp out h => e' _ _ ((e inp out h).push ha hns ht)

/-- The slot call of delay / observe_on: a terminal empties the slot. -/
theorem slotCall_quiet (w : TW) (j : Nat) (n : Notif) {st : Stage} (st' : Stage) {alive : Bool}
    (hj : w.stages[j]? = some st) (e : ∀ inp out, st.OK inp out ↔ Gate alive out)
    (e' : ∀ inp out, Gate false out → st'.OK inp out) (ha : alive = true) :
    Quiet w ((if n.isTerm then w.setStage j st' else w).push (j + 1) [n]) := by
  cases hn : n.isTerm with
  | true =>
    exact gate_push_quiet w j st' false hj (fun i o => (e i o).1) e' ha (WF_single n) (fun _ => rfl)
  | false =>
    have := gate_push_quiet w j st alive hj (fun i o => (e i o).1) (fun i o => (e i o).2) ha
      (WF_single n) (by simp [WF_single_nt n hn])
    rwa [setStage_same w j st hj] at this

/-- debounce_task / throttle_task: the trailing value leaves the cell, and goes downstream if the
    slot is full. -/
theorem trailing_quiet (w : TW) (j : Nat) (v : Val) {st : Stage} (st' : Stage) (alive : Bool)
    (hj : w.stages[j]? = some st) (e : ∀ inp out, st.OK inp out → Gate alive out)
    (e' : ∀ inp out, Gate alive out → st'.OK inp out) :
    Quiet w (if alive = true then (w.setStage j st').push (j + 1) [.next v] else w.setStage j st') := by
  split
  · next ha => exact gate_push_quiet w j st' alive hj e e' ha (by simp) (by simp [Rx.terminated])
  · exact setStage_quiet w j _ _ hj (fun i o h => e' i o (e i o h))

theorem runBody_quiet (w : TW) (b : Body) (hb : b.critical = false) : Quiet w (w.runBody b) := by
  cases b with
  | emit j n =>
    rw [runBody_emit]
    split
    · next d alive multi hj =>
      split
      · next ha => exact slotCall_quiet w j n _ hj (fun _ _ => Iff.rfl) (fun _ _ h => h) ha
      · exact Quiet.refl w
    · next alive multi hj =>
      split
      · next ha => exact slotCall_quiet w j n _ hj (fun _ _ => Iff.rfl) (fun _ _ h => h) ha
      · exact Quiet.refl w
    · exact Quiet.refl w
  | debounce j =>
    rw [runBody_debounce]
    split
    · next d alive v h hj => exact trailing_quiet w j v _ alive hj (fun _ _ h => h) (fun _ _ h => h)
    · exact Quiet.refl w
  | throttle j =>
    rw [runBody_throttle]
    split
    · next d e alive v h hj => exact trailing_quiet w j v _ alive hj (fun _ _ h => h) (fun _ _ h => h)
    · exact Quiet.refl w
  | subscribe j => cases hb
  | timerSrc v => cases hb
  | _ => exact Quiet.refl w

/-- The ticks of the stages (everything but the `interval` source). -/
theorem runTick_quiet (w : TW) (b : Body) (seq : Nat) (hb : b ≠ .tick) : Quiet w (w.runTick b seq).1 := by
  cases b with
  | tick => exact absurd rfl hb
  | tickN j =>
    rw [runTick_tickN]
    split
    · split
      · exact Quiet.refl w
      · exact pushB_quiet w j [.next (.int seq)]
    · exact Quiet.refl w
  | bufTick j =>
    rw [runTick_bufTick]
    split
    · next d cnt alive data t hj =>
      split
      · exact Quiet.refl w
      · next hc =>
        have ha : alive = true := by
          cases alive with
          | true => rfl
          | false => simp at hc
        exact gate_push_quiet w j (.bufTime d cnt alive [] t) alive hj (fun _ _ h => h) (fun _ _ h => h) ha
          (WF_flushBuf data) (by simp [terminated_flushBuf])
    · exact Quiet.refl w
  | _ => exact Quiet.refl w

theorem unsubFrom_quiet (j : Nat) : ∀ (w : TW), Quiet w (unsubFrom w j) := by
  induction j with
  | zero =>
    intro w
    rw [unsubFrom_zero]
    split
    · exact ⟨rfl, rfl, rfl, fun _ h => h, Sched.Ext.cancel _ _, fun _ h => h⟩
    · exact Quiet.ofEq
  | succ j ih =>
    intro w
    -- the source side first, then the stage's own handles are cancelled and forgotten
    have own : ∀ (s : Sched) (st st' : Stage), w.stages[j]? = some st → (unsubFrom w j).sched.Ext s →
        (∀ inp out, st.OK inp out → st'.OK inp out) →
        Quiet w (({ unsubFrom w j with sched := s } : TW).setStage j st') := by
      intro s st st' hj hs hok
      have hst := unsubFrom_stages_ge j w j (Nat.le_refl j)
      rw [hj] at hst
      exact (ih w).trans ((Quiet.ofSched _ _ hs).trans (setStage_quiet _ j _ _ hst hok))
    rw [unsubFrom_succ]
    split
    · next hj => exact own _ _ _ hj (Sched.Ext.cancelAll _ _) (fun _ _ h => h)
    · next hj => exact own _ _ _ hj (Sched.Ext.cancelAll _ _) (fun _ _ h => h)
    · next d h hj =>
      have q1 : Quiet w { w with sched := w.sched.cancel h } := Quiet.ofSched w _ (Sched.Ext.cancel _ _)
      split
      · exact q1.trans (ih _)
      · exact q1
    · next hj => exact own _ _ _ hj (Sched.Ext.cancelOpt _ _) (fun _ _ h => h)
    · next hj => exact own _ _ _ hj (Sched.Ext.cancelOpt _ _) (fun _ _ h => h)
    · exact (Quiet.ofSched w _ (Sched.Ext.cancel _ _)).trans (ih _)
    · next hj => exact own _ _ _ hj (Sched.Ext.cancelOpt _ _) (fun _ _ h => h)
    · exact ih w

end TW
end Rx.T
