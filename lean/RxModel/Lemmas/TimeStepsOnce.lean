import RxModel.Lemmas.TimeStepsQuiet
import RxModel.Lemmas.TimeStepsCount
/-
  debounce / throttle on threads never deliver an item more often than it was emitted (Props/C09S.lean).  A token
  argument: every emitted item is, at every moment of every schedule, in at most one place — still in a thread's
  operation list, on its way through the subject, in the candidate cell, in the hands of a thread that is about to
  deliver it, or in the log — and the number of places never grows.
-/
namespace Rx.Conc.TS
open Rx

/-- the item `v` in the shared state: as the trailing candidate, and as often as it stands in the log -/
def tokS (v : Val) (s : St) : Nat :=
  (if s.trailing = some v then 1 else 0) + s.log.count (.n (.next v))

/-- the item `v` in the hands of a thread standing at a program counter.  (With a trailing edge the emitter has put
    the item into the candidate cell at `th_trail`; from then on it only LOOKS at the window.) -/
def tok (K : Conf) (v : Val) : Pc → Nat
  | .sj_load n | .sj_chamber n | .sj_obs n => if n = .next v then 1 else 0
  | .sj_slot x | .db_trail x | .th_trail x | .th_ldown x | .tc_dnext x | .p_down _ x _ => if x = v then 1 else 0
  | .th_hcell x | .th_closed _ x | .th_ltrail x => if x = v ∧ K.tail = false then 1 else 0
  | _ => 0

/-- the emitter of `x` between its store of the candidate and its decision about the leading edge -/
def Pc.owner (x : Val) : Pc → Bool
  | .th_hcell y | .th_closed _ y | .th_ltrail y => y == x
  | _ => false

@[simp] theorem tokS_setHeld (v : Val) (s : St) (i : Tid) (cells : List Cell) :
    tokS v (s.setHeld i cells) = tokS v s := rfl

@[simp] theorem tokS_upd (v : Val) (s : St) (k : Nat) (f : Task → Task) : tokS v (s.upd k f) = tokS v s := rfl

@[simp] theorem tokS_spawn (v : Val) (s : St) (d : Option Nat) (b : Body) : tokS v (s.spawn d b).1 = tokS v s := rfl

theorem tokS_deliver_le (v : Val) (s : St) (n : Notif) :
    tokS v (s.deliver n) ≤ tokS v s + (if n = .next v then 1 else 0) := by
  unfold tokS
  rw [deliver_trailing]
  have := deliver_count_le s n v
  omega

theorem tokS_deliver_next (v : Val) (s : St) (x : Val) :
    tokS v (s.deliver (.next x)) ≤ tokS v s + (if x = v then 1 else 0) := by
  simpa only [Notif.next.injEq] using tokS_deliver_le v s (.next x)

/-- storing a candidate: the cell holds it, whatever it held before is dropped -/
theorem tokS_store (v : Val) (s : St) (x : Val) :
    tokS v { s with trailing := some x } ≤ tokS v s + (if x = v then 1 else 0) := by
  unfold tokS
  simp only [Option.some.injEq]
  split <;> split <;> omega

theorem tokS_take (v : Val) (s : St) :
    tokS v { s with trailing := none } + (if s.trailing = some v then 1 else 0) = tokS v s := by
  unfold tokS; cases s.trailing <;> simp <;> omega

@[simp] theorem tokS_beginPoll (v : Val) (s : St) (k : Nat) : tokS v (s.beginPoll k) = tokS v s := rfl

@[simp] theorem tok_afterTrail (K : Conf) (v : Val) : tok K v (afterTrail K) = 0 := by
  unfold afterTrail; split <;> rfl

@[simp] theorem tok_retPc (K : Conf) (v : Val) (r : Ret) : tok K v (retPc r) = 0 := by
  cases r <;> rfl

@[simp] theorem tok_uSecond (K : Conf) (v : Val) (b : Bool) : tok K v (uSecond K b) = 0 := by
  unfold uSecond; split <;> rfl

@[simp] theorem tok_uAfter (K : Conf) (v : Val) (b : Bool) : tok K v (uAfter b) = 0 := by
  unfold uAfter; split <;> rfl

theorem tok_nextEntry_le (K : Conf) (v x : Val) : tok K v (nextEntry K x) ≤ if x = v then 1 else 0 := by
  unfold nextEntry; (repeat' split) <;> simp only [tok] <;> (repeat' split) <;> simp_all

theorem tok_termEntry (K : Conf) (v : Val) (t : Notif) : tok K v (termEntry K t) = 0 := by
  unfold termEntry; (repeat' split) <;> rfl

theorem tok_thOver_le (K : Conf) (v : Val) (s : St) (x : Val) :
    tokS v (thOver K s x).1 + tok K v (thOver K s x).2 ≤ tokS v s + if x = v ∧ K.tail = false then 1 else 0 := by
  unfold thOver
  split
  · split
    · exact Nat.le_refl _
    · exact Nat.le_add_right _ _
  · exact Nat.le_add_right _ _

/-- **One step never multiplies an item.**  What the step leaves in the shared state plus what the thread holds
    afterwards is at most what there was before. -/
theorem step_tok (K : Conf) (hO : K.order = .original) (v : Val) (s : St) (p : Pc) (hok : p.okH = true)
    (hA1 : ∀ x, K.tail = true → p.owner x = true → s.trailing = some x ∨ s.trailing = none)
    (hA2 : ∀ x, p = .th_trail x → K.tail = true) :
    tokS v (step K s p).1 + tok K v (step K s p).2 ≤ tokS v s + tok K v p := by
  revert hok hA1 hA2
  induction p using step_elim K s <;> intro hok hA1 hA2
  case fire_due => rw [fireTimer_frame]; exact Nat.le_refl _
  case run_round => exact Nat.le_of_eq (congrArg (tokS v · + 0) (foldl_fire_frame s.dueTimers s) :)
  case sj_slot x =>
    split
    · exact Nat.add_le_add_left (tok_nextEntry_le K v x) _
    · exact Nat.le_add_right _ _
  case sj_tslot_open t _ => exact Nat.le_of_eq (congrArg (tokS v s + ·) (tok_termEntry K v t))
  case db_trail x => exact tokS_store v s x
  case th_trail x => simp only [tok, hA2 x rfl]; simpa using tokS_store v s x
  case th_hcell_none x _ => exact tok_thOver_le K v s x
  case th_closed_over h x _ => exact tok_thOver_le K v s x
  -- on the leading edge, with a trailing edge, the emitter finds its OWN item in the cell, or nothing
  case th_ltrail_emit x hc =>
    have take := tokS_take v s
    by_cases ht : K.tail = true
    · have hs : s.trailing.isSome = true := by simpa [ht, hO] using hc
      rcases hA1 x ht (by simp [Pc.owner]) with e | e
      · simp only [e, Option.some.injEq] at take
        simp only [tok, ht]; exact Nat.le_of_eq (by simpa using take)
      · simp [e] at hs
    · simp only [tok]; simp only [Bool.not_eq_true] at ht; simp only [ht, and_true]
      exact Nat.add_le_add_right (Nat.le.intro take) _
  case th_ltrail_skip => exact Nat.le_trans (Nat.le.intro (tokS_take v s)) (Nat.le_add_right _ _)
  case th_ldown x => exact tokS_deliver_next v s x
  case tc_dnext x => simp only [tok_afterTrail]; exact tokS_deliver_next v s x
  case tc_down => simpa [tok] using tokS_deliver_le v s .complete
  case te_down e => have := tokS_deliver_le v s (.error e); split <;> simpa [tok] using this
  case p_down k x ret => exact tokS_deliver_next v s x
  case tc_trail_some x e => have take := tokS_take v s; simp only [e, Option.some.injEq] at take; exact Nat.le_of_eq take
  case p_trail_some k ret x e => have take := tokS_take v s; simp only [e, Option.some.injEq] at take; exact Nat.le_of_eq take
  case u_end => simp [tokS, tok]
  case sj_obs_next x => split <;> simp only [tok, Notif.next.injEq] <;> first | exact Nat.le_refl _ | exact Nat.le_add_right _ _
  case p_handle_body => split <;> exact Nat.le_refl _
  all_goals
    first
    | exact Nat.le_refl _
    | exact Nat.le_add_right _ _
    | (cases hok; done)
    | (simp only [tok_afterTrail, tok_retPc, tok_uAfter, hO]; exact Nat.le_refl _)
    | (split <;> first | exact Nat.le_refl _ | exact Nat.le_add_right _ _ | (rw [tok_uSecond]; exact Nat.le_refl _))

@[simp] theorem upd_trailing (s : St) (k : Nat) (f : Task → Task) : (s.upd k f).trailing = s.trailing := rfl

/-! ### what the emitter knows about the candidate cell -/

/-- Between its store of the candidate and its decision about the leading edge the emitter of `x` finds in the cell
    its own item or nothing (only the window task can have been there); `th_trail` is reached with a trailing edge only. -/
structure OInv (K : Conf) (s : St) (f : Nat → Pc) : Prop where
  own : ∀ j x, K.tail = true → (f j).owner x = true → s.trailing = some x ∨ s.trailing = none
  tl : ∀ j x, f j = .th_trail x → K.tail = true

theorem step_to_th_trail (K : Conf) (s : St) (p : Pc) (x : Val) (h : (step K s p).2 = .th_trail x) :
    K.tail = true := by
  revert h
  induction p using step_elim K s
  -- `th_trail` is where `ThrottleObserver::next` starts when there is a trailing edge
  case sj_slot v =>
    intro h
    split at h
    · unfold nextEntry at h
      (repeat' split at h) <;> first | (cases h; done) | simp_all [Conf.tail]
    · cases h
  all_goals
    intro h
    first
    | cases h
    | (simp only [termEntry, afterTrail, thOver, uSecond, uAfter, retPc] at h; (repeat' split at h) <;> cases h)

theorem step_owner (K : Conf) (s : St) (p : Pc) (x : Val) (ht : K.tail = true)
    (hA : p.owner x = true → s.trailing = some x ∨ s.trailing = none)
    (h : (step K s p).2.owner x = true) :
    (step K s p).1.trailing = some x ∨ (step K s p).1.trailing = none := by
  revert hA h
  induction p using step_elim K s
  case sj_slot v =>
    intro _ h
    split at h
    · unfold nextEntry at h
      (repeat' split at h) <;> first | cases h | simp_all [Conf.tail]
    · cases h
  case th_trail y => exact fun _ h => .inl (congrArg some (beq_iff_eq.mp h))
  case th_hcell_some => exact fun hA h => hA h
  case th_hcell_none | th_closed_over =>
    intro hA h
    have e : ∀ v, (thOver K s v).1.trailing = s.trailing := fun v => by unfold thOver; (repeat' split) <;> rfl
    rw [e]
    refine hA ?_
    unfold thOver at h
    (repeat' split at h) <;> first | exact h | cases h
  all_goals
    intro _ h
    first
    | cases h
    | (simp only [termEntry, afterTrail, uSecond, uAfter, retPc] at h; (repeat' split at h) <;> cases h)

theorem owner_holds_slot {p : Pc} {x : Val} (h : p.owner x = true) : Cell.slot ∈ p.holds := by
  cases p <;> simp [Pc.owner] at h <;> simp [Pc.holds]

theorem entry_not_owner {q : Pc} (h : q.isEntry = true) (x : Val) : q.owner x = false := by
  cases q <;> simp [Pc.isEntry] at h <;> rfl

theorem OInv.preserved (K : Conf) {s : St} {f : Nat → Pc} (ld : LD s f) (h : OInv K s f) (i : Nat) (q : Pc)
    (ha : After (step K s (f i)).2 q) :
    OInv K ((step K s (f i)).1.setHeld i q.holds) (fun j => if j = i then q else f j) := by
  refine ⟨?_, ?_⟩
  · intro j x ht ho
    show (step K s (f i)).1.trailing = some x ∨ (step K s (f i)).1.trailing = none
    by_cases hj : j = i
    · simp only [hj, if_true] at ho
      rcases ha with e | ⟨_, e⟩
      · rw [e] at ho
        exact step_owner K s (f i) x ht (h.own i x ht) ho
      · rw [entry_not_owner e x] at ho; cases ho
    · simp only [hj, if_false] at ho
      rcases step_trailing K s (f i) with e | e | e
      · rw [e]; exact h.own j x ht ho
      · exact Or.inr e
      · exact absurd (ld.excl _ j i (owner_holds_slot ho) e) hj
  · intro j x hq
    by_cases hj : j = i
    · simp only [hj, if_true] at hq
      rcases ha with e | ⟨_, e⟩
      · rw [e] at hq
        exact step_to_th_trail K s (f i) x hq
      · rw [hq] at e; cases e
    · simp only [hj, if_false] at hq
      exact h.tl j x hq

/-! ### counting over the threads -/

/-- all the places the item `v` is in -/
def Phi (K : Conf) (v : Val) (c : Cfg) : Nat := Count (tokS v) (tok K v) v c

theorem tok_entry (K : Conf) (v : Val) (op : Op) :
    tok K v op.entry = if op = .emit (.next v) then 1 else 0 := by
  cases op <;> simp [Op.entry, tok]

theorem OInv.init (K : Conf) (s : St) (progs : List (List Op)) : OInv K s (Cfg.init s progs).pcOf := by
  refine ⟨?_, ?_⟩
  · intro j x _ ho
    rcases init_pcOf s progs j with e | e
    · rw [e] at ho; cases ho
    · rw [entry_not_owner e x] at ho; cases ho
  · intro j x hq
    rcases init_pcOf s progs j with e | e
    · rw [e] at hq; cases hq
    · rw [hq] at e; cases e

/-- debounce / throttle, the order of the code: along every schedule the places an item is in never become more. -/
theorem Phi_exec {K : Conf} (hK : HConf K) (v : Val) (live : Bool) (progs : List (List Op)) (sched : List Nat) :
    Phi K v (exec K (Cfg.init (St.subscribed live) progs) sched) ≤ (progs.map (pend v)).sum := by
  refine (exec_induction K
    (fun c => (DInv c.st c.pcOf ∧ OInv K c.st c.pcOf) ∧ Phi K v c ≤ (progs.map (pend v)).sum)
    (fun c i h => ⟨?_, Nat.le_trans ?_ h.2⟩) sched _ ⟨⟨DInv.init live progs, OInv.init K _ progs⟩, ?_⟩).2
  · exact view_step K (fun s f => DInv s f ∧ OInv K s f)
      (fun _ _ i q h he ha => ⟨h.1.preserved hK i q he ha, h.2.preserved K h.1.ld i q ha⟩) c i h.1
  · exact count_sched1 rfl (tok_entry K v) (fun _ _ _ => rfl) K c i
      (step_tok K hK.order v c.st _ (h.1.1.dd.ok i) (fun x => h.1.2.own i x) (h.1.2.tl i))
  · exact Nat.le_of_eq (count_init rfl (tok_entry K v) _ rfl progs)

end Rx.Conc.TS
