import RxModel.Lemmas.ChainQuietSubscribe
/-
  `Good` survives the task bodies (`runBody`, `runTick`, `runAsync`), the scheduler's own
  moves (`pollPre`, `finishOnce`, `continueRepeat`, `fire`), hence `pollTask`, and the event
  `emit`; a world nobody emits into (`Detached`); the world before `sub` (`PreSub`), in which
  `sub` establishes `Good`.
-/
namespace Rx.T
open Rx

theorem Fr.toFl {w w' : TW} (f : Fr w w') : Fl w w' := f.fl

theorem field_good {r : Option TaskId} {w w' : TW} (g : GoodW r w)
    (h1 : w'.info = w.info) (h2 : w'.stages = w.stages) (h3 : w'.sched = w.sched)
    (h4 : w'.subscribed = w.subscribed) (h5 : w'.unsubscribed = w.unsubscribed) :
    GoodW r w' ∧ Fr w w' := by
  refine ⟨?_, ?_⟩
  · unfold GoodW; rw [h1, h2, h3]; exact g
  · have h6 : w'.src = w.src := congrArg Info.src h1
    exact ⟨by rw [h2], by rw [h2], by rw [h3]; exact SubKeep.refl _, h1, ⟨h4, h5, h6⟩⟩

theorem runBody_good {r : Option TaskId} {w : TW} (b : Body) (hb : b.isSub = false) (g : GoodW r w)
    (hr : ReachedW r w b.level) : GoodW r (w.runBody b) ∧ Fr w (w.runBody b) := by
  cases b with
  | emit j n =>
    rw [TW.runBody_emit]
    split
    · rename_i d alive multi hj
      split
      · split
        · exact setStage_push_good (st1 := .delay d false multi) g hr hj rfl rfl rfl rfl id [n]
        · exact push_good (j + 1) [n] g hr
      · exact ⟨g, Fr.refl _⟩
    · rename_i alive multi hj
      split
      · split
        · exact setStage_push_good (st1 := .observeOn false multi) g hr hj rfl rfl rfl rfl id [n]
        · exact push_good (j + 1) [n] g hr
      · exact ⟨g, Fr.refl _⟩
    · exact ⟨g, Fr.refl _⟩
  | debounce j =>
    rw [TW.runBody_debounce]
    split
    · rename_i d alive v h hj
      split
      · exact setStage_push_good (st1 := .debounce d alive none h) g hr hj rfl rfl rfl rfl id [.next v]
      · exact setStage_good (st1 := .debounce d alive none h) g hj rfl rfl rfl rfl id
    · exact ⟨g, Fr.refl _⟩
  | throttle j =>
    rw [TW.runBody_throttle]
    split
    · rename_i d e alive v h hj
      split
      · exact setStage_push_good (st1 := .throttle d e alive none h) g hr hj rfl rfl rfl rfl id [.next v]
      · exact setStage_good (st1 := .throttle d e alive none h) g hj rfl rfl rfl rfl id
    · exact ⟨g, Fr.refl _⟩
  | subscribe j => cases hb
  | timerSrc v => exact push_good 0 [.next v, .complete] g hr
  | _ => exact ⟨g, Fr.refl _⟩

theorem runTick_good {r : Option TaskId} {w : TW} (b : Body) (seq : Nat) (g : GoodW r w)
    (hr : ReachedW r w b.level) : GoodW r (w.runTick b seq).1 ∧ Fr w (w.runTick b seq).1 := by
  cases b with
  | tick =>
    rw [TW.runTick_tick]
    split
    · exact ⟨g, Fr.refl _⟩
    · exact push_good 0 [.next (.int seq)] g hr
  | tickN j =>
    rw [TW.runTick_tickN]
    split
    · split
      · exact ⟨g, Fr.refl _⟩
      · exact pushB_good j [.next (.int seq)] g hr
    · exact ⟨g, Fr.refl _⟩
  | bufTick j =>
    rw [TW.runTick_bufTick]
    split
    · rename_i d cnt alive data t hj
      split
      · exact ⟨g, Fr.refl _⟩
      · exact setStage_push_good (st1 := .bufTime d cnt alive [] t) g hr hj rfl rfl rfl rfl id
          (flushBuf data)
    · exact ⟨g, Fr.refl _⟩
  | _ => exact ⟨g, Fr.refl _⟩

theorem srcRest_good {r : Option TaskId} {w : TW} (l : List AStep) (g : GoodW r w) :
    GoodW r { w with srcRest := l } ∧ Fr w { w with srcRest := l } :=
  field_good g rfl rfl rfl rfl rfl

theorem pollFuture_good {r : Option TaskId} {w : TW} (res : Bool) (g : GoodW r w)
    (hr : ReachedW r w 0) : GoodW r (w.pollFuture res).1 ∧ Fr w (w.pollFuture res).1 := by
  rw [TW.pollFuture_eq]
  split
  · exact ⟨g, Fr.refl _⟩
  · exact ⟨g, Fr.refl _⟩
  · exact srcRest_good _ g
  · rename_i v rest _
    exact good_then g hr (srcRest_good rest g) (push_good 0 [.next v, .complete])
  · rename_i e rest _
    dsimp only
    split
    · exact good_then g hr (srcRest_good rest g) (push_good 0 [.error e])
    · exact good_then g hr (srcRest_good rest g) (push_good 0 [.next (.int e), .complete])

theorem streamLap_good {r : Option TaskId} (res : Bool) (l : List AStep) :
    ∀ w : TW, GoodW r w → ReachedW r w 0 →
      GoodW r (TW.streamLap res l w).1 ∧ Fr w (TW.streamLap res l w).1 := by
  induction l with
  | nil => intro w g _; unfold TW.streamLap; exact srcRest_good _ g
  | cons st rest ih =>
    intro w g hr
    unfold TW.streamLap
    split
    · exact srcRest_good _ g
    · split
      · rename_i v
        exact good_then g hr (pulls_good (w.pulls + 1) g) fun g0 hr0 =>
          good_then g0 hr0 (push_good 0 [.next v] g0 hr0) (ih _)
      · rename_i e
        split
        · exact good_then g hr
            (field_good (w' := { w with pulls := w.pulls + 1, srcRest := rest }) g rfl rfl rfl rfl rfl)
            (push_good 0 [.error e])
        · exact good_then g hr (pulls_good (w.pulls + 1) g) fun g0 hr0 =>
            good_then g0 hr0 (push_good 0 [.next (.int e)] g0 hr0) (ih _)
      · exact srcRest_good _ g
      · exact srcRest_good _ g

theorem pollStream_good {r : Option TaskId} (res : Bool) (script : List AStep) (cyc : Bool) (f : Nat) :
    ∀ w : TW, GoodW r w → ReachedW r w 0 →
      GoodW r (TW.pollStream res script cyc f w).1 ∧ Fr w (TW.pollStream res script cyc f w).1 := by
  induction f with
  | zero => intro w g _; exact ⟨g, Fr.refl _⟩
  | succ f ih =>
    intro w g hr
    unfold TW.pollStream
    obtain ⟨g1, f1⟩ := streamLap_good (r := r) res w.srcRest w g hr
    generalize TW.streamLap res w.srcRest w = lap at g1 f1 ⊢
    obtain ⟨w1, o⟩ := lap
    simp only at g1 f1
    split
    · rename_i w1' heq
      cases heq
      split
      · exact good_then g hr ⟨g1, f1⟩ fun g1 hr1 => good_then g1 hr1 (srcRest_good script g1) (ih _)
      · exact good_then g hr ⟨g1, f1⟩ (push_good 0 [.complete])
    · exact ⟨g1, f1⟩

theorem runAsync_good {r : Option TaskId} {w : TW} (b : Body) (g : GoodW r w)
    (hr : ReachedW r w 0) : GoodW r (w.runAsync b).1 ∧ Fr w (w.runAsync b).1 := by
  rw [TW.runAsync_eq]
  split
  · exact pollFuture_good _ g hr
  · exact pollStream_good _ _ _ _ w g hr
  · exact ⟨g, Fr.refl _⟩

theorem Good.setLike {r : Option TaskId} {a : Info} {stages : List Stage} {s s' : Sched}
    {k : Nat} {t t' : Task} (g : Good r a stages s) (ht : s.tasks[k]? = some t)
    (hs : s'.tasks = s.tasks.set k t') (hb : t'.body = t.body)
    (hl : t'.live = true → t.live = true) (hv : t'.hasValue = true → t'.done = true)
    (hm : t.hasValue = true → t'.hasValue = true) : Good r a stages s' := by
  have g1 : Good r a stages (s.setTask k t') :=
    g.sched_mono (SRel.setTask ht ⟨hb, hl, hv⟩ g.valueDone) (HVMono.setTask ht hm)
  exact g1.of_tasks_eq hs

theorem Good.weaken {r : Option TaskId} {a : Info} {stages : List Stage} {s : Sched}
    (g : Good none a stages s) : Good r a stages s := by
  apply g.sched (s' := s)
  · exact ⟨rfl, fun k t ht => ⟨t, ht, rfl, id, g.valueDone k t ht⟩⟩
  · intro i st h _ _ hr
    rcases hr with hr | hr
    · exact Or.inl hr
    · cases hr

theorem finish_good {r : Option TaskId} {a : Info} {stages : List Stage} {s : Sched} (k : Nat)
    (g : Good r a stages s) : Good r a stages (s.finishOnce k) := by
  unfold Sched.finishOnce
  cases ht : s.tasks[k]? with
  | none => exact g
  | some t => exact g.setLike ht rfl rfl (by simp [Task.live]) (fun _ => rfl) (fun _ => rfl)

theorem finish_good_sub {a : Info} {stages : List Stage} {s : Sched} (k : Nat) {t : Task}
    (ht : s.tasks[k]? = some t) (g : Good (some k) a stages s) : Good none a stages (s.finishOnce k) := by
  have hf : s.finishOnce k = s.setTask k { t with done := true, hasValue := true } := by
    unfold Sched.finishOnce; rw [ht]
  rw [hf]
  apply g.sched
  · exact SRel.setTask ht ⟨rfl, by simp [Task.live], fun _ => rfl⟩ g.valueDone
  · intro i st h _ _ hr
    left
    rcases hr with hr | hr
    · obtain ⟨u, hu, hv⟩ := (handleClosed_iff s h).1 hr
      obtain ⟨u', hu', hv'⟩ := HVMono.setTask (t' := { t with done := true, hasValue := true }) ht
        (fun _ => rfl) h u hu hv
      exact (handleClosed_iff _ h).2 ⟨u', hu', hv'⟩
    · cases hr
      exact (handleClosed_iff _ k).2 ⟨_, Sched.setTask_get_self _ _ _ _ ht, rfl⟩

theorem stay_good {r : Option TaskId} {a : Info} {stages : List Stage} {s : Sched} (k : Nat) (wk : Bool)
    (g : Good r a stages s) : Good r a stages (s.stayPending k wk) := by
  unfold Sched.stayPending
  cases ht : s.tasks[k]? with
  | none => exact g
  | some t => exact g.setLike ht rfl rfl id (g.valueDone k t ht) id

theorem cont_good {r : Option TaskId} {a : Info} {stages : List Stage} {s : Sched} (k : Nat)
    (g : Good r a stages s) : Good r a stages (s.continueRepeat k) := by
  unfold Sched.continueRepeat
  cases ht : s.tasks[k]? with
  | none => exact g
  | some t =>
    simp only
    cases hrep : t.rep with
    | none => exact g
    | some p =>
      obtain ⟨fur, iv, seq⟩ := p
      simp only
      refine g.setLike (t' := { t with rep := some (s.timers.length, iv, seq + 1) }) ht ?_ rfl id
        (g.valueDone k t ht) id
      simp [Sched.setTask, Sched.newTimer]

/-- What `pollPre` does to the tasks: nothing, or task `k` loses its wake-up flag, arms or
    drops its outer timer, or is retired because it was cancelled. -/
def PreRel (k : Nat) (s s1 : Sched) : Prop :=
  s1.tasks = s.tasks ∨ ∃ t t' : Task, s.tasks[k]? = some t ∧ s1.tasks = s.tasks.set k t' ∧
    t'.body = t.body ∧ t'.hasValue = t.hasValue ∧ (t'.live = true → t.live = true) ∧
    (t.done = true → t'.done = true)

def PreRun (k : Nat) (s1 : Sched) (b : Body) : Prop :=
  ∃ t1 : Task, s1.tasks[k]? = some t1 ∧ t1.live = true ∧ t1.body = b

theorem pollPre_spec (s : Sched) (k : Nat) :
    PreRel k s (s.pollPre k).1 ∧
      (∀ b, (s.pollPre k).2 = .runOnce b → PreRun k (s.pollPre k).1 b) ∧
      (∀ b q, (s.pollPre k).2 = .runTick b q → PreRun k (s.pollPre k).1 b) := by
  have idle : ∀ {s1 : Sched}, PreRel k s s1 → PreRel k s s1 ∧
      (∀ b, Sched.Poll.none = .runOnce b → PreRun k s1 b) ∧
      (∀ b q, Sched.Poll.none = .runTick b q → PreRun k s1 b) :=
    fun h => ⟨h, (fun _ e => by cases e), (fun _ _ e => by cases e)⟩
  refine Sched.pollPre_elim s k
    (motive := fun p => PreRel k s p.1 ∧ (∀ b, p.2 = .runOnce b → PreRun k p.1 b) ∧
      (∀ b q, p.2 = .runTick b q → PreRun k p.1 b))
    (absent := fun _ => idle (Or.inl rfl)) (finished := fun _ _ _ => idle (Or.inl rfl))
    (cancelled := fun t ht _ _ =>
      idle (Or.inr ⟨t, _, ht, rfl, rfl, rfl, by simp [Task.live], fun _ => rfl⟩))
    (arm := fun t d ht _ _ _ => idle (Or.inr
      ⟨t, { t with woken := false, outerDelay := none, outerTimer := some s.timers.length }, ht,
        by simp [Sched.setTask, Sched.newTimer], rfl, rfl, id, id⟩))
    (waitOuter := fun t tm ht _ _ _ _ _ =>
      idle (Or.inr ⟨t, { t with woken := false }, ht, by simp [Sched.setTask], rfl, rfl, id, id⟩))
    (once := ?once)
    (waitPeriod := fun t fur iv seq ht _ _ _ _ _ _ => idle (Or.inr
      ⟨t, { t with woken := false, outerTimer := none }, ht, by simp [Sched.setTask], rfl, rfl, id, id⟩))
    (tick := ?tick)
  case once =>
    intro t ht hd hk _ _ _
    refine ⟨Or.inr ⟨t, _, ht, rfl, rfl, rfl, id, id⟩, ?_, (fun _ _ e => by cases e)⟩
    intro b hb; cases hb
    exact ⟨_, Sched.setTask_get_self _ _ _ _ ht, by simp [Task.live, hd, hk], rfl⟩
  case tick =>
    intro t fur iv seq ht hd hk _ _ _ _
    refine ⟨Or.inr ⟨t, _, ht, rfl, rfl, rfl, id, id⟩, (fun _ e => by cases e), ?_⟩
    intro b q hb; cases hb
    exact ⟨_, Sched.setTask_get_self _ _ _ _ ht, by simp [Task.live, hd, hk], rfl⟩

theorem Good.preRel {r : Option TaskId} {a : Info} {stages : List Stage} {s s1 : Sched} {k : Nat}
    (g : Good r a stages s) (h : PreRel k s s1) : Good r a stages s1 := by
  rcases h with h | ⟨t, t', ht, hs, hb, hv, hl, hd⟩
  · exact g.of_tasks_eq h
  · exact g.setLike ht hs hb hl (fun hv' => hd (g.valueDone k t ht (hv ▸ hv'))) (by rw [hv]; exact id)

theorem isAsync_level {b : Body} (h : b.isAsync = true) : b.level = 0 ∧ b.isSub = false := by
  cases b with
  | futureSrc => exact ⟨rfl, rfl⟩
  | streamSrc => exact ⟨rfl, rfl⟩
  | _ => cases h

theorem Fl.sched {w w1 : TW} (h : Fl w w1) (s : Sched) : Fl w { w1 with sched := s } :=
  ⟨h.1, h.2, h.3⟩

theorem subscribeBody_good {w : TW} {k j : Nat} {t1 : Task} (g : GoodW none w)
    (ht1 : w.sched.tasks[k]? = some t1) (hl1 : t1.live = true) (hb1 : t1.body = .subscribe j) :
    GoodW none { (w.subscribeFrom j) with sched := (w.subscribeFrom j).sched.finishOnce k } ∧
      Fl w (w.subscribeFrom j) := by
  have ho := g.own k t1 ht1 hl1
  rw [hb1] at ho
  obtain ⟨st, hs, hm⟩ : ∃ st, w.stages[j]? = some st ∧ k ∈ st.handles := ho
  obtain ⟨t', ht', _, hsub⟩ := g.handleTask j st k hs hm
  rw [ht1] at ht'; cases ht'
  rw [hb1] at hsub
  have hst : st.subH = some k := by
    cases st with
    | subscribeOn d t =>
      cases t with
      | none => cases hm
      | some h => rw [List.mem_singleton.1 hm]; rfl
    | _ => cases hsub
  have hnr : ¬ ran none w.sched k := fun hr => hr.elim (g.live_open ht1 hl1) (fun e => nomatch e)
  have hp := g.prist j st k hs hst hnr
  have g' : GoodW (some k) w := Good.weaken g
  have hr1 : ReachedW none w (j + 1) := by
    have := g.reached_of_live ht1 hl1
    rw [hb1] at this; exact this
  have hr1' : ReachedW (some k) w j := by
    intro i st' h hi hs' e
    by_cases ei : i = j
    · subst ei
      rw [hs] at hs'; cases hs'
      rw [hst] at e; cases e
      exact Or.inr rfl
    · rcases hr1 i st' h (Nat.lt_of_le_of_ne hi (Ne.symm ei)) hs' e with h1 | h1
      · exact Or.inl h1
      · cases h1
  obtain ⟨g2, f2⟩ := subscribeFrom_good j w g' hp hr1'
  have hk2 := f2.keep k t1 ht1 (by rw [hb1]; rfl)
  exact ⟨finish_good_sub k hk2 g2, f2.fl⟩

theorem pollTask_good {w : TW} (k : Nat) (g : GoodW none w) :
    GoodW none (w.pollTask k) ∧ Fl w (w.pollTask k) := by
  obtain ⟨hrel, h1, h2⟩ := pollPre_spec w.sched k
  have g1 : GoodW none ({ w with sched := (w.sched.pollPre k).1 } : TW) := Good.preRel g hrel
  have fl1 : Fl w ({ w with sched := (w.sched.pollPre k).1 } : TW) := ⟨rfl, rfl, rfl⟩
  -- the task that runs is live, so the level of its body has been reached
  have reach : ∀ b, PreRun k (w.sched.pollPre k).1 b →
      ReachedW none ({ w with sched := (w.sched.pollPre k).1 } : TW) b.level :=
    fun b ⟨_, ht1, hl1, hb1⟩ => hb1 ▸ g1.reached_of_live ht1 hl1
  refine TW.pollTask_cases (M := fun w' => GoodW none w' ∧ Fl w w') w k (idle := fun _ => ⟨g1, fl1⟩)
    (once := ?once) (pending := ?pending) (ready := ?ready) (again := ?again) (last := ?last)
  case once =>
    intro b hp _
    cases hsub : b.isSub with
    | false =>
      obtain ⟨g2, f2⟩ := runBody_good b hsub g1 (reach b (h1 b hp))
      exact ⟨finish_good k g2, (fl1.trans f2.fl).sched _⟩
    | true =>
      obtain ⟨j, rfl⟩ : ∃ j, b = .subscribe j := by
        cases b with
        | subscribe j => exact ⟨j, rfl⟩
        | _ => cases hsub
      obtain ⟨t1, ht1, hl1, hb1⟩ := h1 _ hp
      obtain ⟨g2, f2⟩ := subscribeBody_good g1 ht1 hl1 hb1
      exact ⟨g2, (fl1.trans f2).sched _⟩
  case pending =>
    intro b w1 wk hp hasync heq
    have hr1 := reach b (h1 b hp)
    rw [(isAsync_level hasync).1] at hr1
    obtain ⟨g2, f2⟩ := runAsync_good b g1 hr1
    rw [heq] at g2 f2
    exact ⟨stay_good k wk g2, (fl1.trans f2.fl).sched _⟩
  case ready =>
    intro b w1 o hp hasync heq _
    have hr1 := reach b (h1 b hp)
    rw [(isAsync_level hasync).1] at hr1
    obtain ⟨g2, f2⟩ := runAsync_good b g1 hr1
    rw [heq] at g2 f2
    exact ⟨finish_good k g2, (fl1.trans f2.fl).sched _⟩
  case again =>
    intro b seq hp _
    obtain ⟨g2, f2⟩ := runTick_good b seq g1 (reach b (h2 b seq hp))
    exact ⟨cont_good k g2, (fl1.trans f2.fl).sched _⟩
  case last =>
    intro b seq hp _
    obtain ⟨g2, f2⟩ := runTick_good b seq g1 (reach b (h2 b seq hp))
    exact ⟨finish_good k g2, (fl1.trans f2.fl).sched _⟩

theorem fire_tasks (s : Sched) (tm : TimerId) :
    (s.fire tm).tasks = s.tasks ∨ ∃ (k : Nat) (tk : Task), s.tasks[k]? = some tk ∧
      (s.fire tm).tasks = s.tasks.set k { tk with woken := true } := by
  unfold Sched.fire
  split
  · exact Or.inl rfl
  · rename_i t _
    dsimp only
    split
    · split
      · rename_i tk htk
        exact Or.inr ⟨t.owner, tk, htk, rfl⟩
      · exact Or.inl rfl
    · exact Or.inl rfl

theorem fire_good {r : Option TaskId} {a : Info} {stages : List Stage} {s : Sched} (tm : TimerId)
    (g : Good r a stages s) : Good r a stages (s.fire tm) := by
  rcases fire_tasks s tm with h | ⟨k, tk, htk, h⟩
  · exact g.of_tasks_eq h
  · exact g.setLike (t' := { tk with woken := true }) htk h rfl id (g.valueDone _ tk htk) id

theorem deliverNotifiers_good (i : Nat) (n : Notif) (k : Nat) : ∀ w : TW, GoodW none w →
    GoodW none (TW.deliverNotifiers w i n k) ∧ Fl w (TW.deliverNotifiers w i n k) := by
  induction k with
  | zero => intro w g; exact ⟨g, Fl.refl _⟩
  | succ k ih =>
    intro w g
    obtain ⟨g1, f1⟩ := ih w g
    simp only [TW.deliverNotifiers]
    generalize TW.deliverNotifiers w i n k = w1 at g1 f1 ⊢
    split
    · rename_i st j na nt hk
      split
      · rename_i hc
        have hna : na = true := by
          simp only [Bool.and_eq_true] at hc; exact hc.2
        subst hna
        have hr : ReachedW none w1 (k + 1) := g1.reached_of_na hk rfl
        split
        · obtain ⟨g2, f2⟩ := pushB_good k _ g1 hr
          exact ⟨g2, f1.trans f2.fl⟩
        · have g2 : GoodW none (w1.setStage k (.op2n st (.hot j) false nt)) :=
            g1.restage hk rfl rfl rfl (fun h => nomatch h) id
          have hr2 : ReachedW none (w1.setStage k (.op2n st (.hot j) false nt)) (k + 1) :=
            Reached.frame hr g1 (map_set_same _ _ _ _ _ hk rfl) (SubKeep.refl _)
          have f2 : Fl w1 (w1.setStage k (.op2n st (.hot j) false nt)) := ⟨rfl, rfl, rfl⟩
          obtain ⟨g3, f3⟩ := pushB_good k _ g2 hr2
          exact ⟨g3, (f1.trans f2).trans f3.fl⟩
      · exact ⟨g1, f1⟩
    · exact ⟨g1, f1⟩

theorem emitSrc_good {w w1 : TW} (i : Nat) (n : Notif) (g : GoodW none w) (g1 : GoodW none w1)
    (f1 : Fl w w1) (hst : w1.stages = w.stages) (hsc : w1.sched = w.sched) :
    GoodW none (TW.emitSrc w w1 i n) ∧ Fl w (TW.emitSrc w w1 i n) := by
  unfold TW.emitSrc
  split
  · rename_i j hsrc
    split
    · rename_i hc
      have hal : w.srcAlive = true := by
        simp only [Bool.and_eq_true] at hc; exact hc.2
      have hr : ReachedW none w1 0 := by
        unfold ReachedW; rw [hst, hsc]
        exact g.reached_of_alive hal
      split
      · obtain ⟨g2, f2⟩ := push_good 0 _ g1 hr
        exact ⟨g2, f1.trans f2.fl⟩
      · have g2 : GoodW none ({ w1 with srcAlive := false } : TW) :=
          Good.srcAlive g1 false (Or.inl rfl)
        have f2 : Fl w1 ({ w1 with srcAlive := false } : TW) := ⟨rfl, rfl, rfl⟩
        obtain ⟨g3, f3⟩ := push_good (w := { w1 with srcAlive := false }) 0 _ g2 hr
        exact ⟨g3, (f1.trans f2).trans f3.fl⟩
    · exact ⟨g1, f1⟩
  · exact ⟨g1, f1⟩

theorem step_emit_good {w : TW} (i : Nat) (n : Notif) (g : GoodW none w) :
    GoodW none (w.step (.emit i n)) ∧ Fl w (w.step (.emit i n)) := by
  rw [TW.step_emit]
  split
  · exact ⟨g, Fl.refl _⟩
  · have h1 : GoodW none (if n.isTerm then { w with terminated := i :: w.terminated } else w) ∧
        Fl w (if n.isTerm then { w with terminated := i :: w.terminated } else w) ∧
        (if n.isTerm then { w with terminated := i :: w.terminated } else w).stages = w.stages ∧
        (if n.isTerm then { w with terminated := i :: w.terminated } else w).sched = w.sched := by
      split
      · exact ⟨g, ⟨rfl, rfl, rfl⟩, rfl, rfl⟩
      · exact ⟨g, Fl.refl _, rfl, rfl⟩
    obtain ⟨g1, f1, hst, hsc⟩ := h1
    obtain ⟨g2, f2⟩ := emitSrc_good i n g g1 f1 hst hsc
    obtain ⟨g3, f3⟩ := deliverNotifiers_good i n _ _ g2
    exact ⟨g3, f2.trans f3⟩

/-- The Subscriber slot a subject holds for the second input of a two-input stage. -/
def Stage.naHot : Stage → Bool
  | .op2n _ (.hot _) na _ => na
  | _ => false

theorem Stage.naHot_le (st : Stage) (h : st.naOn = false) : st.naHot = false := by
  cases st with
  | op2n o ns na nt =>
    cases ns with
    | hot i => exact h
    | _ => rfl
  | _ => rfl

/-- No subject holds a slot of the chain. -/
def Detached (w : TW) : Prop :=
  (w.src.isHot = true → w.srcAlive = false) ∧
    ∀ (j : Nat) (st : Stage), w.stages[j]? = some st → st.naHot = false

theorem deliverNotifiers_idle (i : Nat) (n : Notif) (k : Nat) (w : TW)
    (h : ∀ (j : Nat) (st : Stage), w.stages[j]? = some st → st.naHot = false) :
    TW.deliverNotifiers w i n k = w := by
  induction k with
  | zero => rfl
  | succ k ih =>
    simp only [TW.deliverNotifiers, ih]
    split
    · rename_i st j na nt hk
      have := h k _ hk
      simp only [Stage.naHot] at this
      subst this
      simp
    · rfl

theorem step_emit_idle (w : TW) (i : Nat) (n : Notif) (h : Detached w) :
    ∃ t, w.step (.emit i n) = { w with terminated := t } := by
  rw [TW.step_emit]
  have h1 : ∀ w1 : TW, TW.emitSrc w w1 i n = w1 := by
    intro w1
    unfold TW.emitSrc
    split
    · rename_i j hsrc
      have := h.1 (by rw [hsrc]; rfl)
      simp [this]
    · rfl
  rw [h1]
  split
  · exact ⟨_, rfl⟩
  · split
    · exact ⟨_, deliverNotifiers_idle i n _ _ h.2⟩
    · exact ⟨_, deliverNotifiers_idle i n _ _ h.2⟩

/-- The world before `sub`. -/
structure PreSub (w : TW) : Prop where
  tasks : w.sched.tasks = []
  timers : w.sched.timers = []
  prist : PristineBelow w.info w.stages w.stages.length
  wf : ∀ (j : Nat) (st : Stage), w.stages[j]? = some st → st.wf
  unsub : w.unsubscribed = false

theorem PreSub.good {w : TW} (r : Option TaskId) (p : PreSub w) : GoodW r w := by
  have hh : ∀ (j : Nat) (st : Stage), w.stages[j]? = some st → st.handles = [] := fun j st hs =>
    (p.prist.2.2 j st (Sched.get_lt hs) hs).1
  have hsrc : w.info.srcTask = none := p.prist.1
  exact {
    valueDone := fun k t ht => by rw [p.tasks] at ht; cases ht
    own := fun k t ht => by rw [p.tasks] at ht; cases ht
    handleTask := fun j st h hs hm => by rw [hh j st hs] at hm; cases hm
    srcHandle := fun h e => by rw [hsrc] at e; cases e
    prist := fun i st h hs e => by
      have := (subH_mem_handles e).1
      rw [hh i st hs] at this; cases this
    wf := p.wf
    srcWf := fun e => by rw [hsrc] at e; cases e }

theorem PreSub.detached {w : TW} (p : PreSub w) : Detached w :=
  ⟨fun _ => p.prist.2.1, fun j st hs => st.naHot_le (p.prist.2.2 j st (Sched.get_lt hs) hs).2⟩

theorem step_sub_good {w : TW} (p : PreSub w) (hs : w.subscribed = false) :
    GoodW none (w.step .sub) ∧ (w.step .sub).subscribed = true ∧ (w.step .sub).unsubscribed = false := by
  rw [TW.step_sub, if_neg (by simp [hs])]
  have g0 : GoodW none ({ w with subscribed := true } : TW) := p.good none
  have hr : ReachedW none ({ w with subscribed := true } : TW) w.stages.length := by
    intro i st h hi hst _
    have := Sched.get_lt hst
    exact absurd this (Nat.not_lt.2 hi)
  obtain ⟨g1, f1⟩ := subscribeFrom_good w.stages.length _ g0 p.prist hr
  exact ⟨g1, f1.fl.1, f1.fl.2.trans p.unsub⟩

end Rx.T
