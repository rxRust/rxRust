import RxModel.Lemmas.GroupByGrammar
/-
  group_by, the suite world (C01M / C02M / C20): all histories, any operators on the outer stream.
-/
namespace Rx
namespace GroupBy

variable (key : Val → Val) (ord : List (Val × Subj) → List (Val × Subj))

/-- An emptied `Subscriber` slot: nothing is delivered any more. -/
theorem step_dead (w : World) (h : w.slot = none) (e : Ev) :
    (w.step key ord e).2 = [] ∧ (w.step key ord e).1.slot = none := by
  have hk := World.step_kind key ord w e
  generalize w.step key ord e = x at hk ⊢
  cases hk with
  | idle => exact ⟨rfl, h⟩
  | next st v hs => rw [h] at hs; cases hs
  | term st t ht hd hs => rw [h] at hs; cases hs
  | drop w' h' => exact ⟨rfl, h'⟩
  | gunsub k => exact ⟨rfl, by show w.slot.map _ = none; rw [h]; rfl⟩

theorem run_dead (evs : List Ev) : ∀ w : World, w.slot = none →
    (World.run key ord w evs).2 = [] := by
  induction evs with
  | nil => intro w _; rfl
  | cons e r ih =>
    intro w h
    have := step_dead key ord w h e
    rw [World.run_cons, this.1, ih _ this.2]
    rfl

/-! ### groups -/

theorem world_grp_wf (hord : ∀ l, (ord l).Perm l) (k : Val) (evs : List Ev) : ∀ w : World,
    (∀ st, w.slot = some st → GI st) → WF (grpLog k (World.run key ord w evs).2) := by
  induction evs with
  | nil => intro w _; exact WF_nil
  | cons e r ih =>
    intro w hw
    rw [World.run_cons, grpLog_append]
    have hk := World.step_kind key ord w e
    generalize w.step key ord e = x at hk ⊢
    cases hk with
    | idle => exact ih w hw
    | next st v hs =>
      obtain ⟨m, hm⟩ := onNext_grpLog key (w.att key v) st v k
      dsimp only
      rw [pushOuter_grp, hm, WF_replicate_next]
      exact ih _ fun st' h' => by cases h'; exact onNext_GI key _ st v (hw st hs)
    | term st t ht hd hs =>
      dsimp only
      rw [pushOuter_grp, grpLog_onTerm ord hord, run_dead key ord r _ rfl, grpLog_nil, List.append_nil]
      exact WF_replicate_le_one _ _ (hw st hs k)
    | drop w' h' => dsimp only; rw [run_dead key ord r _ h']; exact WF_nil
    | gunsub k' =>
      exact ih _ fun st' h' => by
        obtain ⟨st, hs, rfl⟩ := Option.map_eq_some_iff.1 h'
        exact unsubGroup_GI st k' (hw st hs)

/-! ### outer stream -/

/-- The outer probe's log is what the outer operators make of a well-formed
    stream of announcements. -/
theorem world_outer (evs : List Ev) : ∀ w : World,
    ∃ X, WF X ∧ outerLog (World.run key ord w evs).2 = (runChain w.outer X).2 := by
  induction evs with
  | nil => intro w; exact ⟨[], WF_nil, by rw [runChain_nil]; rfl⟩
  | cons e r ih =>
    intro w
    rw [World.run_cons, outerLog_append]
    have hk := World.step_kind key ord w e
    generalize w.step key ord e = x at hk ⊢
    cases hk with
    | idle => exact ih w
    | next st v hs =>
      obtain ⟨m, hm⟩ := onNext_outerLog key (w.att key v) st v
      have hp := pushOuter_outer (st.onNext key (w.att key v) v).2 w.outer
      obtain ⟨X, hX, hrun⟩ := ih { w with
        slot := some (st.onNext key (w.att key v) v).1,
        outer := (pushOuter w.outer (st.onNext key (w.att key v) v).2).1 }
      refine ⟨List.replicate m (.next (key v)) ++ X, (WF_replicate_next m _ X).2 hX, ?_⟩
      dsimp only at hrun ⊢
      rw [hrun, hp.2, hp.1, hm, runChain_append]
    | term st t ht hd hs =>
      refine ⟨[t], WF_single t, ?_⟩
      dsimp only
      rw [run_dead key ord r _ rfl, (pushOuter_outer _ w.outer).2, outerLog_onTerm]
      exact List.append_nil _
    | drop w' h' => exact ⟨[], WF_nil, by dsimp only; rw [run_dead key ord r _ h', runChain_nil]; rfl⟩
    | gunsub k' => exact ih _

theorem world_outer_wf (evs : List Ev) (w : World) :
    WF (outerLog (World.run key ord w evs).2) := by
  obtain ⟨X, hX, h⟩ := world_outer key ord evs w
  rw [h]
  exact runChain_wf _ _ hX

/-! ### after `gunsub k` -/

theorem world_quiet (hord : ∀ l, (ord l).Perm l) (k : Val) (evs : List Ev) : ∀ w : World,
    (∀ st, w.slot = some st → Quiet k st) → grpLog k (World.run key ord w evs).2 = [] := by
  induction evs with
  | nil => intro w _; rfl
  | cons e r ih =>
    intro w hw
    rw [World.run_cons, grpLog_append]
    have hk := World.step_kind key ord w e
    generalize w.step key ord e = x at hk ⊢
    cases hk with
    | idle => exact ih w hw
    | next st v hs =>
      have hq := onNext_Quiet key (w.att key v) st v k (hw st hs)
      dsimp only
      rw [pushOuter_grp, hq.2]
      exact ih _ fun st' h' => by cases h'; exact hq.1
    | term st t ht hd hs =>
      dsimp only
      rw [pushOuter_grp, grpLog_onTerm ord hord, (hw st hs).2, run_dead key ord r _ rfl]
      rfl
    | drop w' h' => dsimp only; rw [run_dead key ord r _ h']; rfl
    | gunsub k' =>
      exact ih _ fun st' h' => by
        obtain ⟨st, hs, rfl⟩ := Option.map_eq_some_iff.1 h'
        exact unsubGroup_Quiet st k k' (hw st hs)

theorem step_FI (w : World) (e : Ev) (hw : ∀ st, w.slot = some st → FI st.subjects) :
    ∀ st, (w.step key ord e).1.slot = some st → FI st.subjects := by
  intro st' h'
  have hk := World.step_kind key ord w e
  generalize w.step key ord e = x at hk h' ⊢
  cases hk with
  | idle => exact hw st' h'
  | next st v hs => cases h'; exact onNext_FI key _ st v (hw st hs)
  | term st t ht hd hs => cases h'
  | drop w' h'' => rw [h''] at h'; cases h'
  | gunsub k' =>
    obtain ⟨st, hs, rfl⟩ := Option.map_eq_some_iff.1 h'
    exact unsubGroup_FI st k' (hw st hs)

theorem run_FI (evs : List Ev) : ∀ w : World, (∀ st, w.slot = some st → FI st.subjects) →
    ∀ st, (World.run key ord w evs).1.slot = some st → FI st.subjects := by
  induction evs with
  | nil => intro w hw; exact hw
  | cons e r ih => intro w hw; exact ih _ (step_FI key ord w e hw)

theorem step_Ex (k : Val) (w : World) (e : Ev) :
    ∀ st', (w.step key ord e).1.slot = some st' →
      (grpLog k (w.step key ord e).2 ≠ [] ∨ ∀ st, w.slot = some st → Ex k st) → Ex k st' := by
  intro st' h' hor
  have hk := World.step_kind key ord w e
  generalize w.step key ord e = x at hk h' hor ⊢
  cases hk with
  | idle => exact hor.elim (fun h => absurd rfl h) fun h => h st' h'
  | next st v hs =>
    cases h'
    dsimp only at hor
    rw [pushOuter_grp] at hor
    exact hor.elim (onNext_Ex key _ st v k).2 fun h => (onNext_Ex key _ st v k).1 (h st hs)
  | term st t ht hd hs => cases h'
  | drop w' h'' => rw [h''] at h'; cases h'
  | gunsub k' =>
    obtain ⟨st, hs, rfl⟩ := Option.map_eq_some_iff.1 h'
    exact hor.elim (fun h => absurd rfl h) fun h => unsubGroup_Ex st k k' (h st hs)

theorem run_Ex (k : Val) (evs : List Ev) : ∀ w : World,
    ∀ st', (World.run key ord w evs).1.slot = some st' →
      (grpLog k (World.run key ord w evs).2 ≠ [] ∨ ∀ st, w.slot = some st → Ex k st) → Ex k st' := by
  induction evs with
  | nil =>
    intro w st' h hor
    rcases hor with hor | hor
    · exact absurd rfl hor
    · exact hor st' h
  | cons e r ih =>
    intro w st' h hor
    simp only [World.run] at h hor
    apply ih _ st' h
    rw [grpLog_append] at hor
    by_cases h1 : grpLog k (World.run key ord (w.step key ord e).1 r).2 = []
    · right
      intro st1 hs1
      apply step_Ex key ord k w e st1 hs1
      rcases hor with hor | hor
      · left
        intro h0
        rw [h0, h1] at hor
        exact hor rfl
      · exact Or.inr hor
    · exact Or.inl h1

/-! ### the terminal step behind any outer operators -/

/-- The terminal step of the suite world, whatever the outer chain is and whatever state it is in
    (finished or not): every live subscriber of group `k` hears the terminal exactly once, the
    outer stream gets what the outer operators make of it, the source is done, the slot is empty. -/
theorem step_term_outer (hord : ∀ l, (ord l).Perm l) (w : World) (st : St) (t : Notif)
    (ht : t.isTerm = true) (hd : w.srcDone = false) (hs : w.slot = some st) (k : Val) :
    grpLog k (w.step key ord (.emit t)).2 = List.replicate (total k st.subjects) t ∧
    outerLog (w.step key ord (.emit t)).2 = (runChain w.outer [t]).2 ∧
    (w.step key ord (.emit t)).1.srcDone = true ∧ (w.step key ord (.emit t)).1.slot = none := by
  rw [World.step_term_live key ord w st t ht hd hs]
  exact ⟨by rw [pushOuter_grp]; exact grpLog_onTerm ord hord k st t,
    by rw [(pushOuter_outer _ w.outer).2, outerLog_onTerm], rfl, rfl⟩

/-- Items only: the source stays live, the slot full, and a group whose subscriber has received
    something has a live subscriber — whatever the outer chain does with the announcements. -/
theorem world_items_live (k : Val) (xs : List Val) : ∀ w : World, w.srcDone = false →
    ∀ st, w.slot = some st →
    (World.run key ord w (xs.map fun v => Ev.emit (.next v))).1.srcDone = false ∧
    ∃ st', (World.run key ord w (xs.map fun v => Ev.emit (.next v))).1.slot = some st' ∧
      ((1 ≤ total k st.subjects ∨
          grpLog k (World.run key ord w (xs.map fun v => Ev.emit (.next v))).2 ≠ []) →
        1 ≤ total k st'.subjects) ∧
      (GI st → GI st') := by
  induction xs with
  | nil =>
    intro w hd st hs
    refine ⟨hd, st, hs, fun h => ?_, id⟩
    rcases h with h | h
    · exact h
    · exact absurd rfl h
  | cons v r ih =>
    intro w hd st hs
    rw [List.map_cons, World.run_cons, World.step_next_live key ord w st v hd hs]
    obtain ⟨h1, st', h2, h3, h4⟩ := ih ({ w with
      slot := some (st.onNext key (w.att key v) v).1,
      outer := (pushOuter w.outer (st.onNext key (w.att key v) v).2).1 } : World) hd _ rfl
    have hl := onNext_live key (w.att key v) st v k
    refine ⟨h1, st', h2, fun h => ?_, fun hg => h4 (onNext_GI key _ st v hg)⟩
    rw [grpLog_append, pushOuter_grp] at h
    apply h3
    rcases h with h | h
    · exact Or.inl (hl.1 h)
    · by_cases hn : grpLog k (st.onNext key (w.att key v) v).2 = []
      · rw [hn, List.nil_append] at h
        exact Or.inr h
      · exact Or.inl (hl.2 hn)

end GroupBy
end Rx
