import RxModel.Lemmas.ChainCompMain
import RxModel.Lemmas.ChainFifoObs
import RxModel.Lemmas.ChainFifoDelayMain
/-
  C07C: `observe_on` and `delay d` are mover kinds (their one-stage worlds under FIFO
  histories are `Open1`), and the statements about them between single-input observers,
  derived from the simulation theorem and the one-stage theory (Lemmas/ChainFifo*.lean).
-/
namespace Rx.T
open Rx Rx.Spec

theorem oneW_obs : oneW (.observeOn true (some [])) = Obs.w₀.step .sub := by
  rw [← oneW_sub _ rfl]; rfl

theorem oneW_del (d : Nat) : oneW (.delay d true (some [])) = (Del.w₀ d).step .sub := by
  rw [← oneW_sub _ rfl]; rfl

theorem Kind_obs : Kind (oneW (.observeOn true (some []))) := by
  intro evs hall
  rw [oneW_obs]
  obtain ⟨a, ⟨base, m, hw, hsrc, hsub, halive, hterm⟩, hi⟩ := Obs.fifo_main evs hall
  rw [hw]
  refine ⟨hsrc, hsub, ⟨⟨_, rfl, rfl⟩, ?_⟩, by rw [← hi.term]; exact hterm, ?_⟩
  · intro t ht
    simp only [Obs.mkW, List.mem_append, List.mem_map] at ht
    rcases ht with ⟨n, _, rfl⟩ | ⟨n, _, rfl⟩
    · exact ⟨⟨n, rfl⟩, rfl⟩
    · exact ⟨⟨n, rfl⟩, rfl⟩
  · intro hs
    have hT : a.term = false := by rw [hi.term, hs]
    refine ⟨halive hT, ?_⟩
    intro T hT'
    have : T = .observeOn a.alive m := by
      simp only [Obs.mkW, List.cons.injEq, and_true] at hT'; exact hT'.symm
    subst this
    show a.alive = true
    exact hi.alive_open hs

theorem Kind_del (d : Nat) : Kind (oneW (.delay d true (some []))) := by
  intro evs hall
  rw [oneW_del]
  obtain ⟨a, ⟨base, m, hw, hsrc, hsub, halive, hterm⟩, hnow, hat, hcase⟩ := Del.delay_main d evs hall
  have hg := Del.GI_ghost evs hall
  rw [hw]
  refine ⟨hsrc, hsub, ⟨⟨_, rfl, rfl⟩, ?_⟩, by rw [← hg.term, ← hat]; exact hterm, ?_⟩
  · intro t ht
    simp only [Del.mkW, Del.mkS, List.mem_append, List.mem_map] at ht
    rcases ht with ht | ⟨fe, _, rfl⟩
    · obtain ⟨i, x, rfl⟩ := mem_mapK _ _ _ _ ht
      obtain ⟨ph, e⟩ := x
      cases ph <;> exact ⟨⟨e.n, rfl⟩, rfl⟩
    · exact ⟨⟨fe.n, rfl⟩, rfl⟩
  · intro hs
    have hgt : (Del.ghost evs).term = false := by rw [hg.term, hs]
    have hT : a.term = false := by rw [hat, hgt]
    refine ⟨halive hT, ?_⟩
    intro T hT'
    have : T = .delay d a.alive m := by
      simp only [Del.mkW, List.cons.injEq, and_true] at hT'; exact hT'.symm
    subst this
    show a.alive = true
    rcases hcase with ⟨he, D, A, hq⟩ | ⟨e, pre, _, _, h3, _⟩
    · exact hq.alive_open hgt
    · rw [hgt] at h3; cases h3

/-- hot subject 0 → `pre` → observe_on → `post` → probe. -/
def obsChain (pre post : List Op1) : TW :=
  chainW (pre.map Op1.init) (.observeOn true (some [])) (post.map Op1.init)

/-- hot subject 0 → `pre` → delay d → `post` → probe. -/
def delayChain (d : Nat) (pre post : List Op1) : TW :=
  chainW (pre.map Op1.init) (.delay d true (some [])) (post.map Op1.init)

/-- What `pre` outputs for the gated source script. -/
def preOut (pre : List Op1) (evs : List TW.Ev) : List Notif :=
  (runChain (pre.map Op1.init) (gate (script evs))).2

/-- What the synchronous chain `pre ++ post` (the mover removed) delivers for the gated source script. -/
def syncOut (pre post : List Op1) (evs : List TW.Ev) : List Notif :=
  (runChain ((pre ++ post).map Op1.init) (gate (script evs))).2

theorem WF_preOut (pre : List Op1) (evs : List TW.Ev) : WF (preOut pre evs) :=
  runChain_wf (pre.map Op1.init) _ (WF_gate _)

theorem syncOut_eq (pre post : List Op1) (evs : List TW.Ev) :
    syncOut pre post evs = (runChain (post.map Op1.init) (preOut pre evs)).2 := by
  simp [syncOut, preOut, List.map_append, runChain_chain_append]

theorem runChain_prefix (sts : List St1) {L O : List Notif} (h : L <+: O) :
    (runChain sts L).2 <+: (runChain sts O).2 := by
  obtain ⟨x, rfl⟩ := h
  rw [runChain_append]
  exact List.prefix_append _ _

theorem obs_sim (pre post : List Op1) (hcalm : ∀ o ∈ pre ++ post, o.calm = true) (evs : List TW.Ev)
    (hall : ∀ e ∈ evs, FifoEv e) :
    (evs.foldl TW.step ((obsChain pre post).step .sub)).log =
      (runChain (post.map Op1.init)
        ((feedEvs (pre.map Op1.init) evs).foldl TW.step (Obs.w₀.step .sub)).log).2 := by
  rw [← oneW_obs]
  exact comp_sim _ rfl Kind_obs pre post hcalm evs hall

theorem obs_fifo (pre post : List Op1) (hcalm : ∀ o ∈ pre ++ post, o.calm = true) (evs : List TW.Ev)
    (hall : ∀ e ∈ evs, FifoEv e) :
    (∃ L, L <+: preOut pre evs ∧
      (evs.foldl TW.step ((obsChain pre post).step .sub)).log = (runChain (post.map Op1.init) L).2) ∧
    (∀ evs', evs = evs' ++ [TW.Ev.run] →
      (evs.foldl TW.step ((obsChain pre post).step .sub)).log = syncOut pre post evs) := by
  have hs := script_feedEvs (pre.map Op1.init) evs hall
  have hf := fifo_feedEvs (pre.map Op1.init) evs hall
  have hg : gate (preOut pre evs) = preOut pre evs := gate_of_WF (WF_preOut pre evs)
  refine ⟨⟨_, ?_, obs_sim pre post hcalm evs hall⟩, ?_⟩
  · have := Obs.fifo_prefix _ hf
    rw [hs] at this
    rw [← hg]; exact this
  · rintro evs' rfl
    rw [obs_sim pre post hcalm _ hall, syncOut_eq]
    have hall' : ∀ e ∈ evs', FifoEv e := fun e he => hall e (List.mem_append_left _ he)
    rw [feedEvs_snoc_run]
    have := Obs.fifo_all _ (fifo_feedEvs (pre.map Op1.init) evs' hall')
    rw [this, ← feedEvs_snoc_run, hs]
    show (runChain _ (gate (preOut pre _))).2 = _
    rw [hg]

theorem obs_order (pre post : List Op1) (hcalm : ∀ o ∈ pre ++ post, o.calm = true) (evs : List TW.Ev)
    (hall : ∀ e ∈ evs, FifoEv e) :
    (evs.foldl TW.step ((obsChain pre post).step .sub)).log <+: syncOut pre post evs := by
  obtain ⟨⟨L, hL, e⟩, _⟩ := obs_fifo pre post hcalm evs hall
  rw [e, syncOut_eq]
  exact runChain_prefix _ hL

theorem WF_syncOut (pre post : List Op1) (evs : List TW.Ev) : WF (syncOut pre post evs) :=
  runChain_wf ((pre ++ post).map Op1.init) _ (WF_gate _)

theorem del_sim (d : Nat) (pre post : List Op1) (hcalm : ∀ o ∈ pre ++ post, o.calm = true) (evs : List TW.Ev)
    (hall : ∀ e ∈ evs, FifoEv e) :
    (evs.foldl TW.step ((delayChain d pre post).step .sub)).log =
      (runChain (post.map Op1.init)
        ((feedEvs (pre.map Op1.init) evs).foldl TW.step ((Del.w₀ d).step .sub)).log).2 := by
  rw [← oneW_del]
  exact comp_sim _ rfl (Kind_del d) pre post hcalm evs hall

theorem del_order (d : Nat) (pre post : List Op1) (hcalm : ∀ o ∈ pre ++ post, o.calm = true) (evs : List TW.Ev)
    (hall : ∀ e ∈ evs, FifoEv e) :
    ∃ p, p <+: preOut pre evs ∧
      ((evs.foldl TW.step ((delayChain d pre post).step .sub)).log = (runChain (post.map Op1.init) p).2 ∨
       ∃ e, (preOut pre evs).getLast? = some (.error e) ∧
         (evs.foldl TW.step ((delayChain d pre post).step .sub)).log
           = (runChain (post.map Op1.init) (p ++ [.error e])).2) := by
  have hs := script_feedEvs (pre.map Op1.init) evs hall
  have hf := fifo_feedEvs (pre.map Op1.init) evs hall
  have hg : gate (preOut pre evs) = preOut pre evs := gate_of_WF (WF_preOut pre evs)
  obtain ⟨p, hp, h⟩ := Del.delay_order d _ hf
  rw [hs] at hp h
  change p <+: gate (preOut pre evs) at hp
  change _ ∨ ∃ e, (gate (preOut pre evs)).getLast? = _ ∧ _ at h
  rw [hg] at hp h
  refine ⟨p, hp, ?_⟩
  rw [del_sim d pre post hcalm evs hall]
  rcases h with h | ⟨e, h1, h2⟩
  · exact Or.inl (by rw [h])
  · exact Or.inr ⟨e, h1, by rw [h2]⟩

/-- The total clock advance of a history. -/
def clockOf : List TW.Ev → Nat
  | [] => 0
  | .adv k :: r => k + clockOf r
  | _ :: r => clockOf r

theorem ghost_fold_clock : ∀ (evs : List TW.Ev) (g : Del.Ghost),
    (evs.foldl Del.Ghost.step g).clock = g.clock + clockOf evs := by
  intro evs
  induction evs with
  | nil => intro g; rfl
  | cons e r ih =>
    intro g
    rw [List.foldl_cons, ih]
    cases e with
    | adv k => simp [Del.Ghost.step, clockOf, Nat.add_assoc]
    | emit i n =>
      simp only [Del.Ghost.step, clockOf]
      split
      · rfl
      · split <;> rfl
    | run => simp only [Del.Ghost.step, clockOf]; split <;> rfl
    | _ => rfl

theorem ghost_clock (evs : List TW.Ev) : (Del.ghost evs).clock = clockOf evs := by
  have := ghost_fold_clock evs {}
  simpa [Del.ghost] using this

theorem clockOf_append (a b : List TW.Ev) : clockOf (a ++ b) = clockOf a + clockOf b := by
  induction a with
  | nil => simp [clockOf]
  | cons e r ih => cases e <;> simp [clockOf, ih, Nat.add_assoc]

theorem clockOf_emits (mid : List Notif) : clockOf (mid.map (TW.Ev.emit 0)) = 0 := by
  induction mid with
  | nil => rfl
  | cons m r ih => simpa [clockOf] using ih

theorem clockOf_feed_fold (evs : List TW.Ev) : ∀ (f : FS),
    clockOf (evs.foldl FS.step f).out = clockOf f.out + clockOf evs := by
  induction evs with
  | nil => intro f; rfl
  | cons e r ih =>
    intro f
    rw [List.foldl_cons, ih]
    cases e with
    | adv k => simp [FS.step, clockOf, clockOf_append, Nat.add_assoc]
    | run => simp [FS.step, clockOf, clockOf_append]
    | emit i n =>
      simp only [FS.step, clockOf]
      split
      · simp [clockOf_append, clockOf_emits]
      · rfl
    | _ => rfl

/-- The feed keeps the clock advances where they are. -/
theorem clockOf_feedEvs (pre0 : List St1) (evs : List TW.Ev) : clockOf (feedEvs pre0 evs) = clockOf evs := by
  have := clockOf_feed_fold evs { ps := pre0 }
  simpa [feedEvs, feedSt, clockOf] using this

end Rx.T
