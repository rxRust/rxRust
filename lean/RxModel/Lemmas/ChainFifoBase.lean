import RxModel.Lemmas.ChainTraverse
import RxModel.Lemmas.Sched
/-
  C07 (FIFO clause): vocabulary and basic facts shared by the FIFO developments over the chain world.

  * `FifoEv`, `script`, `fold_indexed`: the events of the FIFO-only executor, the notifications a history
    emits on subject 0, and the induction over histories with a growing index;
  * list tools: `idxs p l k` (positions, offset `k`, of the elements satisfying `p`: `dueTimers`, `liveTasks`
    and the ready list of `runLoop` are of this form, `TW.runLoop_succ_idxs`), `mapK`, `deliver` (what a slot
    lets through), facts about `gate` / `terminated` / `script`;
  * chains without two-input cells (`NoOp2n`): an emission reaches no notifier input;
  * movers (`Stage.isMover`: observe_on, delay): their slot call (`TW.runBody_mover`), the subject side of a
    one-stage mover world (`Hot0`, `Hot0.step_emit`);
  * `Stage.simpleF`: stages whose `actual_subscribe` only subscribes upstream (`subscribeFrom_simple`).
-/
namespace Rx.T
open Rx

/-- The events of the FIFO-only executor: emissions (on any subject, any
    notification, also after a terminal), clock advances, `run` (= `TW.runLoop`:
    fire all due timers in creation order, poll all woken live tasks in spawn
    order, repeat).  No `fire` / `poll` / `unsub`. -/
inductive FifoEv : TW.Ev → Prop
  | emit (i n) : FifoEv (.emit i n)
  | adv (k) : FifoEv (.adv k)
  | run : FifoEv .run

/-- The notifications one event emits on subject 0. -/
def scriptOf : TW.Ev → List Notif
  | .emit i n => if i = 0 then [n] else []
  | _ => []

/-- The notifications emitted on subject 0 by a list of events, in order. -/
def script (evs : List TW.Ev) : List Notif := evs.flatMap scriptOf

/-- A property of an index and a state that every FIFO event keeps (advancing both) holds along every FIFO
    history.  The index is the script so far, a closed-form description, the history itself … -/
theorem fold_indexed {ι σ : Type} (fi : ι → TW.Ev → ι) (fs : σ → TW.Ev → σ) (P : ι → σ → Prop)
    (hstep : ∀ i x e, FifoEv e → P i x → P (fi i e) (fs x e)) :
    ∀ (evs : List TW.Ev) (i : ι) (x : σ), (∀ e ∈ evs, FifoEv e) → P i x → P (evs.foldl fi i) (evs.foldl fs x)
  | [], _, _, _, h => h
  | e :: r, i, x, hall, h =>
    fold_indexed fi fs P hstep r _ _ (fun y hy => hall y (List.mem_cons_of_mem _ hy))
      (hstep i x e (hall e (List.mem_cons_self ..)) h)

theorem foldl_script (evs : List TW.Ev) (s : List Notif) :
    evs.foldl (fun s e => s ++ scriptOf e) s = s ++ script evs := by
  induction evs generalizing s with
  | nil => simp [script]
  | cons e r ih => simp [script, List.flatMap_cons, ih, List.append_assoc]

def idxs {α} (p : α → Bool) : List α → Nat → List Nat
  | [], _ => []
  | x :: xs, k => if p x then k :: idxs p xs (k + 1) else idxs p xs (k + 1)

theorem get_mid {α} (a c : List α) (b : α) : (a ++ b :: c)[a.length]? = some b := by
  simp

theorem set_mid {α} (a c : List α) (b x : α) : (a ++ b :: c).set a.length x = a ++ x :: c := by
  simp

theorem take_mid {α} (a c : List α) (b : α) (j : Nat) (h : a.length = j) :
    (a ++ b :: c).take (j + 1) = a ++ [b] := by
  have : a ++ b :: c = (a ++ [b]) ++ c := by simp
  rw [this]
  exact List.take_left' (by simp [h])

theorem drop_mid {α} (a c : List α) (b : α) (j : Nat) (h : a.length = j) :
    (a ++ b :: c).drop (j + 1) = c := by
  have : a ++ b :: c = (a ++ [b]) ++ c := by simp
  rw [this]
  exact List.drop_left' (by simp [h])

theorem filter_range'_idx {α} (p : α → Bool) (l pre : List α) :
    (List.range' pre.length l.length).filter
        (fun i => match (pre ++ l)[i]? with | some t => p t | none => false)
      = idxs p l pre.length := by
  induction l generalizing pre with
  | nil => simp [idxs]
  | cons x xs ih =>
    have h := ih (pre ++ [x])
    simp only [List.append_assoc, List.singleton_append, List.length_append, List.length_cons,
      List.length_nil, Nat.zero_add] at h
    simp only [List.length_cons, List.range'_succ, List.filter_cons, get_mid, idxs, h]

theorem filter_range_idx {α} (p : α → Bool) (l : List α) :
    (List.range l.length).filter (fun i => match l[i]? with | some t => p t | none => false)
      = idxs p l 0 := by
  have := filter_range'_idx p l []
  simpa [List.range_eq_range'] using this

theorem idxs_append {α} (p : α → Bool) (a b : List α) (k : Nat) :
    idxs p (a ++ b) k = idxs p a k ++ idxs p b (k + a.length) := by
  induction a generalizing k with
  | nil => simp [idxs]
  | cons x xs ih =>
    simp only [List.cons_append, idxs, ih, List.length_cons]
    have : k + 1 + xs.length = k + (xs.length + 1) := by omega
    split <;> simp [this]

theorem idxs_none {α} (p : α → Bool) (a : List α) (k : Nat) (h : ∀ x ∈ a, p x = false) :
    idxs p a k = [] := by
  induction a generalizing k with
  | nil => rfl
  | cons x xs ih =>
    simp only [idxs, h x (List.mem_cons_self ..)]
    exact ih _ (fun y hy => h y (List.mem_cons_of_mem _ hy))

theorem idxs_all {α} (p : α → Bool) (a : List α) (k : Nat) (h : ∀ x ∈ a, p x = true) :
    idxs p a k = List.range' k a.length := by
  induction a generalizing k with
  | nil => rfl
  | cons x xs ih =>
    simp only [idxs, h x (List.mem_cons_self ..), if_true, List.length_cons, List.range'_succ]
    rw [ih _ (fun y hy => h y (List.mem_cons_of_mem _ hy))]

theorem idxs_eq_nil {α} (p : α → Bool) (a : List α) (k : Nat) (h : idxs p a k = []) :
    ∀ x ∈ a, p x = false := by
  induction a generalizing k with
  | nil => intro x hx; cases hx
  | cons y ys ih =>
    intro x hx
    cases hy : p y with
    | true => simp [idxs, hy] at h
    | false =>
      simp only [idxs, hy, Bool.false_eq_true, if_false] at h
      rcases List.mem_cons.mp hx with rfl | hx
      · exact hy
      · exact ih _ h x hx

theorem idxs_map {α β} (p : β → Bool) (f : α → β) (a : List α) (k : Nat) :
    idxs p (a.map f) k = idxs (fun x => p (f x)) a k := by
  induction a generalizing k with
  | nil => rfl
  | cons x xs ih => simp only [List.map_cons, idxs, ih]

theorem idxs_congr {α} (p q : α → Bool) (a : List α) (k : Nat) (h : ∀ x ∈ a, p x = q x) :
    idxs p a k = idxs q a k := by
  induction a generalizing k with
  | nil => rfl
  | cons x xs ih =>
    simp only [idxs, h x (List.mem_cons_self ..)]
    rw [ih _ (fun y hy => h y (List.mem_cons_of_mem _ hy))]

def mapK {α β} (f : Nat → α → β) : Nat → List α → List β
  | _, [] => []
  | k, x :: xs => f k x :: mapK f (k + 1) xs

@[simp] theorem mapK_length {α β} (f : Nat → α → β) (k : Nat) (l : List α) :
    (mapK f k l).length = l.length := by
  induction l generalizing k with
  | nil => rfl
  | cons x xs ih => simp [mapK, ih]

theorem mapK_append {α β} (f : Nat → α → β) (k : Nat) (a b : List α) :
    mapK f k (a ++ b) = mapK f k a ++ mapK f (k + a.length) b := by
  induction a generalizing k with
  | nil => simp [mapK]
  | cons x xs ih =>
    have : k + 1 + xs.length = k + (xs.length + 1) := by omega
    simp [mapK, ih, this]

theorem mapK_get {α β} (f : Nat → α → β) (k : Nat) (l : List α) (i : Nat) :
    (mapK f k l)[i]? = (l[i]?).map (f (k + i)) := by
  induction l generalizing k i with
  | nil => simp [mapK]
  | cons x xs ih =>
    cases i with
    | zero => simp [mapK]
    | succ i =>
      have : k + 1 + i = k + (i + 1) := by omega
      simp [mapK, ih, this]

theorem mapK_set {α β} (f : Nat → α → β) (k : Nat) (l : List α) (i : Nat) (x : α) :
    (mapK f k l).set i (f (k + i) x) = mapK f k (l.set i x) := by
  induction l generalizing k i with
  | nil => simp [mapK]
  | cons y ys ih =>
    cases i with
    | zero => simp [mapK]
    | succ i =>
      have : k + (i + 1) = k + 1 + i := by omega
      simp only [mapK, List.set_cons_succ, this, ih]

theorem mem_mapK {α β} (f : Nat → α → β) (l : List α) (k : Nat) (y : β) (h : y ∈ mapK f k l) :
    ∃ i x, y = f i x := by
  induction l generalizing k with
  | nil => cases h
  | cons a r ih =>
    simp only [mapK, List.mem_cons] at h
    rcases h with rfl | h
    · exact ⟨k, a, rfl⟩
    · exact ih _ h

theorem idxs_mapK {α β} (p : β → Bool) (q : α → Bool) (f : Nat → α → β)
    (h : ∀ i x, p (f i x) = q x) (l : List α) (k j : Nat) :
    idxs p (mapK f k l) j = idxs q l j := by
  induction l generalizing k j with
  | nil => rfl
  | cons x xs ih => simp only [mapK, idxs, h, ih]

/-- Notifications arriving one by one at a slot that is `alive` (and is emptied
    by a terminal): the final flag and what went through. -/
def deliver : Bool → List Notif → Bool × List Notif
  | a, [] => (a, [])
  | a, n :: r =>
    let x := deliver (a && !n.isTerm) r
    (x.1, (if a then [n] else []) ++ x.2)

theorem deliver_false (r : List Notif) : deliver false r = (false, []) := by
  induction r with
  | nil => rfl
  | cons n r ih => simp [deliver, ih]

theorem deliver_true (r : List Notif) : deliver true r = (!terminated r, gate r) := by
  induction r with
  | nil => rfl
  | cons n r ih =>
    cases n <;> simp [deliver, ih, deliver_false, Notif.isTerm, terminated, gate]

theorem deliver_append (a : Bool) (r s : List Notif) :
    deliver a (r ++ s) = ((deliver (deliver a r).1 s).1, (deliver a r).2 ++ (deliver (deliver a r).1 s).2) := by
  induction r generalizing a with
  | nil => simp [deliver]
  | cons n r ih => simp [deliver, ih]

/-- A slot in the state left by the well-formed stream `Dn` lets the continuation `X` through unchanged. -/
theorem deliver_of_WF (Dn X R : List Notif) (h : WF (Dn ++ (X ++ R))) :
    deliver (!terminated Dn) X = (!terminated (Dn ++ X), X) := by
  obtain ⟨_, h1, h2⟩ := (WF_append_iff _ _).mp h
  obtain ⟨hX, _, _⟩ := (WF_append_iff _ _).mp h2
  cases hD : terminated Dn with
  | true =>
    have := h1 hD
    simp only [List.append_eq_nil_iff] at this
    simp [this.1, deliver, hD]
  | false =>
    simp [deliver_true, gate_of_WF hX, terminated_append, hD]

theorem gate_append_of_not_terminated (s t : List Notif) (h : terminated s = false) :
    gate (s ++ t) = s ++ gate t := by
  induction s with
  | nil => rfl
  | cons n r ih => cases n <;> simp_all [gate, terminated]

theorem gate_append_of_terminated (s t : List Notif) (h : terminated s = true) :
    gate (s ++ t) = gate s := by
  induction s with
  | nil => simp [terminated] at h
  | cons n r ih => cases n <;> simp_all [gate, terminated]

theorem gate_eq_self_of_not_terminated (s : List Notif) (h : terminated s = false) : gate s = s := by
  have := gate_append_of_not_terminated s [] h
  simpa [gate] using this

theorem terminated_gate (s : List Notif) : terminated (gate s) = terminated s := by
  induction s with
  | nil => rfl
  | cons n r ih => cases n <;> simp [gate, terminated, ih]

theorem terminated_single (n : Notif) : terminated [n] = n.isTerm := by
  cases n <;> rfl

theorem script_append (a b : List TW.Ev) : script (a ++ b) = script a ++ script b := by
  simp [script, List.flatMap_append]

theorem script_emits (mid : List Notif) : script (mid.map (TW.Ev.emit 0)) = mid := by
  induction mid with
  | nil => rfl
  | cons m r ih =>
    have : script (TW.Ev.emit 0 m :: r.map (TW.Ev.emit 0)) = m :: script (r.map (TW.Ev.emit 0)) := by
      simp [script, scriptOf]
    simp only [List.map_cons, this, ih]

theorem fifo_emits (mid : List Notif) : ∀ e ∈ mid.map (TW.Ev.emit 0), FifoEv e := by
  intro e he
  simp only [List.mem_map] at he
  obtain ⟨m, _, rfl⟩ := he
  exact .emit 0 m

theorem gate_snoc (s : List Notif) (n : Notif) (h : terminated s = false) : gate (s ++ [n]) = gate s ++ [n] := by
  rw [gate_append_of_not_terminated s _ h, gate_eq_self_of_not_terminated s h]
  cases n <;> rfl

theorem term_false_of_WF_append {a b : List Notif} (h : WF (a ++ b)) (hb : b ≠ []) :
    terminated a = false := by
  have := (WF_append_iff a b).mp h
  cases ht : terminated a with
  | false => rfl
  | true => exact absurd (this.2.1 ht) hb

theorem foldl_snoc (w0s : TW) (evs : List TW.Ev) (e : TW.Ev) :
    (evs ++ [e]).foldl TW.step w0s = (evs.foldl TW.step w0s).step e := by
  simp [List.foldl_append]

theorem fifo_append {a b : List TW.Ev} (ha : ∀ e ∈ a, FifoEv e) (hb : ∀ e ∈ b, FifoEv e) :
    ∀ e ∈ a ++ b, FifoEv e := by
  intro e he
  rcases List.mem_append.mp he with he | he
  · exact ha e he
  · exact hb e he

theorem fifo_single {e : TW.Ev} (he : FifoEv e) : ∀ x ∈ [e], FifoEv x := by
  intro x hx; simp only [List.mem_singleton] at hx; subst hx; exact he

theorem contains_zero_cons (i : Nat) (l : List Nat) (hi : i ≠ 0) :
    (i :: l).contains 0 = l.contains 0 := by
  have : (0 == i) = false := by simpa using (Ne.symm hi)
  simp only [List.contains_cons, this, Bool.false_or]

theorem foldl_snoc_eq (evs l : List TW.Ev) : evs.foldl (fun l e => l ++ [e]) l = l ++ evs := by
  induction evs generalizing l with
  | nil => simp
  | cons e r ih => simp [ih]

theorem terminated_of_mem {L : List Notif} {t : Notif} (ht : t.isTerm = true) (h : t ∈ L) :
    terminated L = true := by
  induction L with
  | nil => cases h
  | cons n r ih =>
    cases n with
    | next v =>
      simp only [terminated]
      rcases List.mem_cons.mp h with rfl | h
      · simp [Notif.isTerm] at ht
      · exact ih h
    | error e => rfl
    | complete => rfl

/-- A prefix of a well-formed stream that contains a terminal is the whole stream. -/
theorem prefix_eq_of_terminal {L S : List Notif} (hp : L <+: S) (hw : WF S) {t : Notif}
    (ht : t.isTerm = true) (h : t ∈ L) : L = S := by
  obtain ⟨x, rfl⟩ := hp
  have := ((WF_append_iff L x).mp hw).2.1 (terminated_of_mem ht h)
  rw [this, List.append_nil]

theorem items_gate_mono (sf x : List Notif) : (items (gate sf)).Sublist (items (gate (sf ++ x))) := by
  cases hT : terminated sf with
  | true => rw [gate_append_of_terminated sf x hT]; exact List.Sublist.refl _
  | false =>
    rw [gate_append_of_not_terminated sf x hT, gate_eq_self_of_not_terminated sf hT, items_append]
    exact List.sublist_append_left _ _

theorem gate_single (n : Notif) : gate [n] = [n] := by cases n <;> rfl

theorem items_gate_snoc (sf : List Notif) (n : Notif) (hT : terminated sf = false) :
    items (gate (sf ++ [n])) = items (gate sf) ++ items [n] := by
  rw [gate_append_of_not_terminated sf [n] hT, gate_eq_self_of_not_terminated sf hT, items_append, gate_single]

theorem terminated_snoc (sf : List Notif) (n : Notif) (hT : terminated sf = false) :
    terminated (sf ++ [n]) = n.isTerm := by
  induction sf with
  | nil => exact terminated_single n
  | cons a r ih => cases a <;> simp_all [terminated]

theorem error_or (n : Notif) : (∃ e, n = .error e) ∨ ∀ e, n ≠ .error e := by
  cases n <;> simp

def NoOp2n (stages : List Stage) : Prop := ∀ st ∈ stages, ∀ a b c d, st ≠ Stage.op2n a b c d

namespace TW

theorem pollAll_append (w : TW) (a b : List TaskId) :
    pollAll w (a ++ b) = pollAll (pollAll w a) b := by
  induction a generalizing w with
  | nil => rfl
  | cons k r ih => simp only [List.cons_append, pollAll_cons, ih]

theorem pollAll_cons_live (w : TW) (k : TaskId) (r : List TaskId) (t : Task)
    (h : w.sched.tasks[k]? = some t) (hd : t.done = false) :
    pollAll w (k :: r) = pollAll (w.pollTask k) r := by
  simp [pollAll_cons, h, hd]

theorem deliverNotifiers_noop (w : TW) (i : Nat) (n : Notif) (hno : NoOp2n w.stages) :
    ∀ k, deliverNotifiers w i n k = w := by
  intro k
  induction k with
  | zero => rfl
  | succ k ih =>
    rw [deliverNotifiers_succ, ih]
    split
    · next st j na nt heq => exact absurd rfl (hno _ (List.mem_of_getElem? heq) _ _ _ _)
    · rfl

theorem step_emit_ignored (w : TW) (i : Nat) (n : Notif) (h : w.terminated.contains i = true) :
    w.step (.emit i n) = w := by
  rw [step_emit, if_pos h]

theorem step_emit_other (w : TW) (i j : Nat) (n : Notif) (hsrc : w.src = .hot j) (hi : i ≠ j)
    (hno : NoOp2n w.stages) :
    w.step (.emit i n) =
      if w.terminated.contains i then w
      else if n.isTerm then { w with terminated := i :: w.terminated } else w := by
  have hij : (i = j && w.srcSubscribed && w.srcAlive) = false := by simp [hi]
  rw [step_emit]
  unfold emitSrc
  split
  · rfl
  · simp only [hsrc, hij, Bool.false_eq_true, if_false]
    split
    · exact deliverNotifiers_noop { w with src := .hot j, terminated := i :: w.terminated } i n hno _
    · exact deliverNotifiers_noop w i n hno _

theorem step_emit_next (w : TW) (j : Nat) (v : Val)
    (hsrc : w.src = .hot j) (h : w.terminated.contains j = false)
    (hsub : w.srcSubscribed = true) (hal : w.srcAlive = true) :
    w.step (.emit j (.next v)) =
      deliverNotifiers (w.push 0 [.next v]) j (.next v) (w.push 0 [.next v]).stages.length := by
  rw [step_emit, if_neg (by rw [h]; exact Bool.false_ne_true)]
  unfold emitSrc
  simp [hsrc, hsub, hal, Notif.isTerm]

theorem step_emit_term (w : TW) (j : Nat) (n : Notif) (hn : n.isTerm = true)
    (hsrc : w.src = .hot j) (h : w.terminated.contains j = false)
    (hsub : w.srcSubscribed = true) (hal : w.srcAlive = true) :
    w.step (.emit j n) =
      (let w2 := { w with terminated := j :: w.terminated, srcAlive := false }.push 0 [n]
       deliverNotifiers w2 j n w2.stages.length) := by
  rw [step_emit, if_neg (by rw [h]; exact Bool.false_ne_true)]
  unfold emitSrc
  cases n with
  | next v => cases hn
  | error e => simp [hsrc, hsub, hal, Notif.isTerm]
  | complete => simp [hsrc, hsub, hal, Notif.isTerm]

end TW

namespace Sched

/-- The list `runLoop` polls: the woken live tasks, in spawn order. -/
theorem ready_eq (s : Sched) :
    (s.liveTasks.filter fun k => match s.tasks[k]? with | some t => t.woken | none => false)
      = idxs (fun t => t.woken && !t.done) s.tasks 0 := by
  unfold liveTasks
  rw [List.filter_filter, ← filter_range_idx]
  apply List.filter_congr
  intro i _
  cases s.tasks[i]? <;> simp

theorem dueTimers_eq (s : Sched) :
    s.dueTimers = idxs (fun t => !t.fired && decide (t.due ≤ s.now)) s.timers 0 := by
  unfold dueTimers
  rw [← filter_range_idx]
  apply List.filter_congr
  intro i _
  cases s.timers[i]? <;> simp

end Sched

def Stage.isMover : Stage → Bool
  | .delay _ _ _ => true
  | .observeOn _ _ => true
  | _ => false

/-- The slot of a mover. -/
def Stage.mAlive : Stage → Bool
  | .delay _ a _ => a
  | .observeOn a _ => a
  | _ => false

theorem Stage.fin_mover (T : Stage) (h : T.isMover = true) (r : List Stage) :
    fin (T :: r) = (!T.mAlive || fin r) := by
  cases T <;> simp_all [Stage.isMover, fin, Stage.mAlive]

theorem Stage.onNotif_mover (T : Stage) (h : T.isMover = true) (j : Nat) (n : Notif) (s : Sched) :
    (T.onNotif j n s).1.isMover = true ∧ (T.onNotif j n s).2.1.length ≤ 1 := by
  cases T with
  | delay d a m =>
    rcases error_or n with ⟨e, rfl⟩ | hn
    · rw [Stage.onNotif_delay_error]; exact ⟨rfl, by cases a <;> first | exact Nat.le_refl _ | exact Nat.zero_le _⟩
    · rw [Stage.onNotif_delay_item _ _ _ _ _ _ hn]; exact ⟨rfl, Nat.zero_le _⟩
  | observeOn a m => rw [Stage.onNotif_observeOn]; exact ⟨rfl, Nat.zero_le _⟩
  | _ => cases h

theorem Stage.afterEmit_mover (T : Stage) (h : T.isMover = true) (j : Nat) (s : Sched) :
    T.afterEmit j s = (T, s) := by
  cases T <;> first | rfl | cases h

def Stage.mKill : Stage → Stage
  | .delay d _ m => .delay d false m
  | .observeOn _ m => .observeOn false m
  | st => st

theorem Stage.mKill_mover (T : Stage) (h : T.isMover = true) : T.mKill.isMover = true := by
  cases T <;> simp_all [Stage.isMover, Stage.mKill]

theorem TW.runBody_mover (w : TW) (j : Nat) (T : Stage) (hj : w.stages[j]? = some T) (hT : T.isMover = true)
    (n : Notif) :
    w.runBody (.emit j n) =
      if T.mAlive then (if n.isTerm then w.setStage j T.mKill else w).push (j + 1) [n] else w := by
  rw [TW.runBody_emit, hj]
  cases T with
  | delay d a m => rfl
  | observeOn a m => rfl
  | _ => cases hT

theorem runBody_one1 (w : TW) (T : Stage) (hs : w.stages = [T]) (hT : T.isMover = true) (n : Notif) :
    w.runBody (.emit 0 n) =
      { w with stages := [if T.mAlive && n.isTerm then T.mKill else T],
               log := w.log ++ (if T.mAlive then [n] else []) } := by
  rw [TW.runBody_mover w 0 T (by rw [hs]; rfl) hT n]
  obtain ⟨sched, src, stages, a1, a2, a3, a4, a5, a6, a7, a8, log⟩ := w
  simp only at hs; subst hs
  cases T.mAlive <;> cases n.isTerm <;> simp [TW.setStage, TW.push_one]

/-- The source side of a subscribed world over the hot subject 0; `t`: the subject has emitted a terminal. -/
structure Hot0 (t : Bool) (w : TW) : Prop where
  src : w.src = .hot 0
  sub : w.srcSubscribed = true
  alive : t = false → w.srcAlive = true
  term : w.terminated.contains 0 = t

/-- An emission into a one-stage chain of a mover: the subject's bookkeeping (`terminated`, `srcAlive`) changes,
    and the stage receives the notification iff it comes from the live subject 0. -/
theorem Hot0.step_emit {t : Bool} {w : TW} (h : Hot0 t w) {st : Stage} (hs : w.stages = [st])
    (hst : st.isMover = true) (i : Nat) (n : Notif) :
    ∃ tl al, Hot0 (t || (decide (i = 0) && n.isTerm)) { w with terminated := tl, srcAlive := al } ∧
      w.step (.emit i n) =
        if i = 0 ∧ t = false then ({ w with terminated := tl, srcAlive := al } : TW).push 0 [n]
        else { w with terminated := tl, srcAlive := al } := by
  have hno : ∀ T : Stage, T.isMover = true → NoOp2n [T] := by
    intro T hT st hst a b c d e
    rw [List.mem_singleton] at hst
    subst hst; subst e; cases hT
  by_cases hi : i = 0
  · subst hi
    cases t with
    | true =>
      refine ⟨w.terminated, w.srcAlive, ⟨h.src, h.sub, (fun e => by cases e), h.term⟩, ?_⟩
      rw [TW.step_emit_ignored w 0 n h.term, if_neg (by simp)]
    | false =>
      have hal := h.alive rfl
      -- after the push the only stage is still a mover: no notifier inputs
      have hdn : ∀ w' : TW, w'.stages = [st] →
          TW.deliverNotifiers (w'.push 0 [n]) 0 n (w'.push 0 [n]).stages.length = w'.push 0 [n] := by
        intro w' hs'
        have hm := (st.onNotif_mover hst 0 n w'.sched).1
        have e := TW.push_zero w' st n hs'
        rw [Stage.afterEmit_mover _ hm] at e
        exact TW.deliverNotifiers_noop _ 0 n (by rw [e]; exact hno _ hm) _
      cases hn : n.isTerm with
      | false =>
        obtain ⟨v, rfl⟩ : ∃ v, n = .next v := by
          cases n with
          | next v => exact ⟨v, rfl⟩
          | _ => cases hn
        refine ⟨w.terminated, w.srcAlive, ⟨h.src, h.sub, fun _ => hal, h.term⟩, ?_⟩
        rw [if_pos ⟨rfl, rfl⟩, TW.step_emit_next w 0 v h.src h.term h.sub hal]
        exact hdn w hs
      | true =>
        refine ⟨0 :: w.terminated, false, ⟨h.src, h.sub, (fun e => by cases e), by simp⟩, ?_⟩
        rw [if_pos ⟨rfl, rfl⟩, TW.step_emit_term w 0 n hn h.src h.term h.sub hal]
        exact hdn { w with terminated := 0 :: w.terminated, srcAlive := false } hs
  · have ht : (t || (decide (i = 0) && n.isTerm)) = t := by simp [hi]
    rw [ht, TW.step_emit_other w i 0 n h.src hi (hs ▸ hno st hst)]
    have hneg : ¬ (i = 0 ∧ t = false) := fun e => hi e.1
    split
    · exact ⟨w.terminated, w.srcAlive, h, rfl⟩
    · split
      · refine ⟨i :: w.terminated, w.srcAlive, ⟨h.src, h.sub, h.alive, ?_⟩, rfl⟩
        rw [← h.term]
        simp only [List.contains_cons]
        have : (0 == i) = false := by simpa using Ne.symm hi
        rw [this, Bool.false_or]
      · exact ⟨w.terminated, w.srcAlive, h, rfl⟩

theorem emit_flag {i : Nat} {t : Bool} (n : Notif) (hc : ¬ (i = 0 ∧ t = false)) :
    (i ≠ 0 ∨ t = true) ∧ (t || (decide (i = 0) && n.isTerm)) = t := by
  by_cases h0 : i = 0
  · cases t with
    | true => exact ⟨Or.inr rfl, rfl⟩
    | false => exact absurd ⟨h0, rfl⟩ hc
  · exact ⟨Or.inl h0, by simp [h0]⟩

/-- The stages whose `actual_subscribe` only subscribes upstream. -/
def Stage.simpleF : Stage → Bool
  | .bufTime _ _ _ _ _ => false
  | .subscribeOn _ _ => false
  | .op2n _ _ _ _ => false
  | _ => true

theorem subscribeFrom_simple (w : TW) (h : ∀ st ∈ w.stages, st.simpleF = true) (j : Nat) :
    w.subscribeFrom j = w.subscribeSource := by
  induction j with
  | zero => rfl
  | succ j ih =>
    rw [TW.subscribeFrom_succ]
    split
    · next heq => cases h _ (List.mem_of_getElem? heq)
    · next heq => cases h _ (List.mem_of_getElem? heq)
    · next heq => cases h _ (List.mem_of_getElem? heq)
    · exact ih

/-- One pass of the executor's loop, with the ready list in `idxs` form. -/
theorem TW.runLoop_succ_idxs (f : Nat) (w : TW) :
    TW.runLoop (f + 1) w =
      (if w.sched.dueTimers.isEmpty &&
          (idxs (fun t => t.woken && !t.done) (w.sched.dueTimers.foldl Sched.fire w.sched).tasks 0).isEmpty
       then { w with sched := w.sched.dueTimers.foldl Sched.fire w.sched }
       else TW.runLoop f (TW.pollAll { w with sched := w.sched.dueTimers.foldl Sched.fire w.sched }
          (idxs (fun t => t.woken && !t.done) (w.sched.dueTimers.foldl Sched.fire w.sched).tasks 0))) := by
  rw [← Sched.ready_eq]
  rfl

end Rx.T
