import RxModel.Lemmas.Sched
/-
  `Sched.poll` after `pollPre`: its equations, and every outcome of polling an existing task
  (`poll_task_elim`).
-/
namespace Rx.T
namespace Sched

theorem setTask_setTask (s : Sched) (k t1 t2) : (s.setTask k t1).setTask k t2 = s.setTask k t2 := by
  simp [setTask, List.set_set]
theorem registerTimer_setTask (s : Sched) (k t tm) :
    (s.setTask k t).registerTimer tm = (s.registerTimer tm).setTask k t := by
  unfold registerTimer; simp only [setTask_timers]; split <;> rfl
theorem newTimer_setTask (s : Sched) (k t d o) :
    ((s.setTask k t).newTimer d o).1 = ((s.newTimer d o).1).setTask k t := rfl

theorem finishOnce_setTask (s : Sched) (k t1 t0) (h : s.tasks[k]? = some t0) :
    (s.setTask k t1).finishOnce k = s.setTask k { t1 with done := true, hasValue := true } := by
  unfold finishOnce; rw [setTask_get_self _ _ _ _ h]; simp only [setTask_setTask]
theorem continueRepeat_setTask (s : Sched) (k t1 t0 fur iv seq) (h : s.tasks[k]? = some t0)
    (hr : t1.rep = some (fur, iv, seq)) :
    (s.setTask k t1).continueRepeat k =
      ((s.newTimer iv k).1.registerTimer s.timers.length).setTask k
        { t1 with rep := some (s.timers.length, iv, seq + 1) } := by
  unfold continueRepeat; rw [setTask_get_self _ _ _ _ h]; simp only [hr]
  simp only [newTimer_setTask, registerTimer_setTask, setTask_setTask, newTimer_id, setTask_timers]

theorem poll_of_none {s s1 : Sched} {k : TaskId} (c : Bool) (h : s.pollPre k = (s1, .none)) :
    s.poll k c = (s1, []) := by
  unfold poll; rw [h]
theorem poll_absent (s : Sched) (k : TaskId) (c : Bool) (h : s.tasks[k]? = none) : s.poll k c = (s, []) :=
  poll_of_none c (pollPre_absent h)
theorem poll_of_once {s s1 : Sched} {k : TaskId} {b : Body} (c : Bool) (h : s.pollPre k = (s1, .runOnce b)) :
    s.poll k c = (s1.finishOnce k, [{ task := k, seq := none, time := s1.now }]) := by
  unfold poll; rw [h]
theorem poll_of_tick {s s1 : Sched} {k : TaskId} {b : Body} {n : Nat} (c : Bool)
    (h : s.pollPre k = (s1, .runTick b n)) :
    s.poll k c = (if c then s1.continueRepeat k else s1.finishOnce k,
      [{ task := k, seq := some n, time := s1.now }]) := by
  unfold poll; rw [h]

/-- Every outcome of polling an existing task: the new state, the new record of task `k`, the runs. -/
theorem poll_task_elim (s : Sched) (k : TaskId) (c : Bool) (t : Task) (ht : s.tasks[k]? = some t)
    {motive : Sched → Task → List Run → Prop}
    (finished : t.done = true → motive s t [])
    (cancelled : t.done = false → t.keepRunning = false →
      motive (s.setTask k { t with woken := false, done := true })
        { t with woken := false, done := true } [])
    (arm : ∀ d, t.done = false → t.keepRunning = true → t.outerDelay = some d →
      motive (((s.newTimer d k).1.registerTimer s.timers.length).setTask k
          { t with woken := false, outerDelay := none, outerTimer := some s.timers.length })
        { t with woken := false, outerDelay := none, outerTimer := some s.timers.length } [])
    (waitOuter : ∀ tm, t.done = false → t.keepRunning = true →
      t.outerDelay = none → t.outerTimer = some tm → s.timerFired tm = false →
      motive ((s.registerTimer tm).setTask k { t with woken := false }) { t with woken := false } [])
    (once : t.done = false → t.keepRunning = true →
      t.outerDelay = none → s.outerReady t → t.rep = none →
      motive (s.setTask k { t with woken := false, outerTimer := none, done := true, hasValue := true })
        { t with woken := false, outerTimer := none, done := true, hasValue := true }
        [{ task := k, seq := none, time := s.now }])
    (waitPeriod : ∀ fur iv seq, t.done = false → t.keepRunning = true →
      t.outerDelay = none → s.outerReady t → t.rep = some (fur, iv, seq) → s.timerFired fur = false →
      motive ((s.registerTimer fur).setTask k { t with woken := false, outerTimer := none })
        { t with woken := false, outerTimer := none } [])
    (lastTick : ∀ fur iv seq, t.done = false → t.keepRunning = true →
      t.outerDelay = none → s.outerReady t → t.rep = some (fur, iv, seq) → s.timerFired fur = true →
      c = false →
      motive (s.setTask k { t with woken := false, outerTimer := none, done := true, hasValue := true })
        { t with woken := false, outerTimer := none, done := true, hasValue := true }
        [{ task := k, seq := some seq, time := s.now }])
    (tick : ∀ fur iv seq, t.done = false → t.keepRunning = true →
      t.outerDelay = none → s.outerReady t → t.rep = some (fur, iv, seq) → s.timerFired fur = true →
      c = true →
      motive (((s.newTimer iv k).1.registerTimer s.timers.length).setTask k
          { t with woken := false, outerTimer := none, rep := some (s.timers.length, iv, seq + 1) })
        { t with woken := false, outerTimer := none, rep := some (s.timers.length, iv, seq + 1) }
        [{ task := k, seq := some seq, time := s.now }]) :
    ∃ t', (s.poll k c).1.tasks[k]? = some t' ∧ motive (s.poll k c).1 t' (s.poll k c).2 := by
  have ht' : ∀ tm, (s.registerTimer tm).tasks[k]? = some t := fun tm => by
    rw [registerTimer_tasks]; exact ht
  have ht'' : ∀ d tm, ((s.newTimer d k).1.registerTimer tm).tasks[k]? = some t := fun d tm => by
    rw [registerTimer_tasks]; exact ht
  refine pollPre_elim s k (motive := fun r => s.pollPre k = r →
    ∃ t', (s.poll k c).1.tasks[k]? = some t' ∧ motive (s.poll k c).1 t' (s.poll k c).2)
    ?_ ?_ ?_ ?_ ?_ ?_ ?_ ?_ rfl
  · intro h; rw [ht] at h; cases h
  · intro t0 h0 hd e; rw [ht] at h0; cases h0
    rw [poll_of_none c e]; exact ⟨t, ht, finished hd⟩
  · intro t0 h0 hd hk e; rw [ht] at h0; cases h0
    rw [poll_of_none c e]; exact ⟨_, setTask_get_self _ _ _ t ht, cancelled hd hk⟩
  · intro t0 d h0 hd hk hod e; rw [ht] at h0; cases h0
    rw [poll_of_none c e]; exact ⟨_, setTask_get_self _ _ _ t (ht'' d _), arm d hd hk hod⟩
  · intro t0 tm h0 hd hk hod hot hf e; rw [ht] at h0; cases h0
    rw [poll_of_none c e]; exact ⟨_, setTask_get_self _ _ _ t (ht' tm), waitOuter tm hd hk hod hot hf⟩
  · intro t0 h0 hd hk hod hr hrep e; rw [ht] at h0; cases h0
    rw [poll_of_once c e, finishOnce_setTask _ _ _ _ ht]
    exact ⟨_, setTask_get_self _ _ _ t ht, once hd hk hod hr hrep⟩
  · intro t0 fur iv seq h0 hd hk hod hr hrep hf e; rw [ht] at h0; cases h0
    rw [poll_of_none c e]
    exact ⟨_, setTask_get_self _ _ _ t (ht' fur), waitPeriod fur iv seq hd hk hod hr hrep hf⟩
  · intro t0 fur iv seq h0 hd hk hod hr hrep hf e; rw [ht] at h0; cases h0
    rw [poll_of_tick c e]
    cases c with
    | false =>
      rw [if_neg Bool.false_ne_true, finishOnce_setTask _ _ _ _ ht]
      exact ⟨_, setTask_get_self _ _ _ t ht, lastTick fur iv seq hd hk hod hr hrep hf rfl⟩
    | true =>
      rw [if_pos rfl,
        continueRepeat_setTask s k { t with woken := false, outerTimer := none } t fur iv seq ht hrep]
      exact ⟨_, setTask_get_self _ _ _ t (ht'' iv _), tick fur iv seq hd hk hod hr hrep hf rfl⟩

end Sched
end Rx.T
