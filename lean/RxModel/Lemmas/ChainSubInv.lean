import RxModel.Lemmas.ChainSubBase
import RxModel.Lemmas.ChainRateWorld
import RxModel.Lemmas.ChainWFMain
/-
  C09 over whole chains: the world level.

  `Keep9 w w'`: for every ghost upstream history `up`, `Chain9 up` of `w` gives
  `Chain9 up` of `w'` (the move does not involve the source).  Task bodies of the
  stages (debounce_task, throttle_task, emit_buffer), `unsubscribe`, and — since a
  `Chain9` world has no delay / observe_on / subscribe_on / two-input stage — every
  other benign body, the notifier deliveries and `actual_subscribe` of the stages.
  Everything else about those moves (source fields, scheduler only extended by
  benign tasks) is taken from the `Quiet` lemmas of ChainWFOps.lean.

  `W9 ks E T w`: the world `hot 0 → stages → probe` has been subscribed, every task
  in the scheduler carries a benign body, and there is a ghost history `up` of
  what subject 0 has handed to stage 0 whose items are a sublist of `E` and with
  `Chain9 up w.stages w.log`.  `(E, T)` is the ghost state of ChainRateWorld.lean:
  the items subject 0 emitted before its first terminal, and whether that
  terminal has been emitted (then subject 0 is in `w.terminated`).

  The last part of the file is the interface of Props/C09C.lean: the stage lists the
  theorems range over (`Stage.RateInit`, `Stage.BufInit`) and what `W9` says about
  the final probe log (`rate_final`, `buf_final9`, `chainRun_wf`).
-/
namespace Rx.T
open Rx Rx.Spec

/-- Every stage of a chain is one of the kinds that have a `Sub9` relation. -/
theorem Chain9K.get {ks : List Bool} {up : List Notif} {stages : List Stage} {log : List Notif}
    {j : Nat} {st : Stage} (h : Chain9K ks up stages log) (hj : stages[j]? = some st) :
    ∃ inp out, st.Sub9 inp out := by
  obtain ⟨_, inp, out, _, _, hs, _⟩ := (Chain9.iff.1 h.2).at hj
  exact ⟨inp, out, hs⟩

namespace TW

def Keep9 (w w' : TW) : Prop :=
  ∀ ks up, Chain9K ks up w.stages w.log → Chain9K ks up w'.stages w'.log

theorem Keep9.refl (w : TW) : Keep9 w w := fun _ _ h => h

theorem Keep9.trans {a b c : TW} (h1 : Keep9 a b) (h2 : Keep9 b c) : Keep9 a c :=
  fun ks up h => h2 ks up (h1 ks up h)

theorem Keep9.ofEq {w w' : TW} (h1 : w'.stages = w.stages) (h2 : w'.log = w.log) : Keep9 w w' :=
  fun ks up h => by rw [h1, h2]; exact h

/-- A world with a stage of a kind that `Sub9` does not know: vacuous. -/
theorem Keep9.ofBad {w w' : TW} {j : Nat} {st : Stage} (hj : w.stages[j]? = some st)
    (hbad : ∀ inp out, ¬ st.Sub9 inp out) : Keep9 w w' := by
  intro ks up h
  obtain ⟨inp, out, hs⟩ := h.get hj
  exact absurd hs (hbad inp out)

theorem Keep9.of_keeps {w w' : TW} (hk : w'.stages.map Stage.isBuf = w.stages.map Stage.isBuf)
    (h : Keeps Stage.Sub9 w w') : Keep9 w w' :=
  fun _ up c => ⟨hk.trans c.1, Chain9.iff.2 (h up (Chain9.iff.1 c.2))⟩

theorem push_zero_chain9 (w : TW) (ns : List Notif) (ks : List Bool) (up : List Notif)
    (h : Chain9K ks up w.stages w.log) :
    Chain9K ks (up ++ ns) (w.push 0 ns).stages (w.push 0 ns).log :=
  ⟨(cascadeF_kinds _ w.stages 0 ns w.sched).trans h.1,
    Chain9.iff.2 (push_zero_chainOf Stage.sub9_closed w ns (Chain9.iff.1 h.2))⟩

theorem kinds_replace {stages : List Stage} {j : Nat} {st st' : Stage} {post' : List Stage}
    (hj : stages[j]? = some st) (hk : st'.isBuf = st.isBuf)
    (hp : post'.map Stage.isBuf = (stages.drop (j + 1)).map Stage.isBuf) :
    (stages.take j ++ st' :: post').map Stage.isBuf = stages.map Stage.isBuf := by
  conv => rhs; rw [split_at hj]
  simp only [List.map_append, List.map_cons, hk, hp]

theorem push_keep9 (w : TW) (j : Nat) (st st' : Stage) (ns : List Notif)
    (hj : w.stages[j]? = some st) (hk : st'.isBuf = st.isBuf)
    (hok : ∀ inp out, st.Sub9 inp out → st'.Sub9 inp (out ++ ns)) :
    Keep9 w ((w.setStage j st').push (j + 1) ns) := by
  refine Keep9.of_keeps ?_ (push_keeps Stage.sub9_closed w j st st' ns hj hok)
  have hd : (w.stages.set j st').drop (j + 1) = w.stages.drop (j + 1) := by
    rw [List.drop_set]; simp
  rw [push_eq]
  simp only [setStage_stages, hd, take_succ_set _ j st' (Sched.get_lt hj), List.append_assoc,
    List.singleton_append]
  exact kinds_replace hj hk (cascadeF_kinds _ _ (j + 1) ns w.sched)

theorem setStage_keep9 (w : TW) (j : Nat) (st st' : Stage)
    (hj : w.stages[j]? = some st) (hk : st'.isBuf = st.isBuf)
    (hok : ∀ inp out, st.Sub9 inp out → st'.Sub9 inp out) :
    Keep9 w (w.setStage j st') := by
  refine Keep9.of_keeps ?_ (setStage_keeps w j st st' hj hok)
  rw [setStage_stages, List.set_eq_take_append_cons_drop, if_pos (Sched.get_lt hj)]
  exact kinds_replace hj hk rfl

/-- debounce_task / throttle_task on a cell holding `v`. -/
theorem trailing_keep9 (w : TW) (j : Nat) (v : Val) {st : Stage} (st' : Stage) (alive : Bool)
    (hj : w.stages[j]? = some st) (hk : st'.isBuf = st.isBuf)
    (e : ∀ inp out, st.Sub9 inp out → (items out ++ [v]).Sublist (items inp))
    (e' : ∀ inp out, (items out ++ []).Sublist (items inp) → st'.Sub9 inp out) :
    Keep9 w (if alive = true then (w.setStage j st').push (j + 1) [.next v] else w.setStage j st') := by
  split
  · exact push_keep9 w j _ _ [Notif.next v] hj hk
      (fun inp out h => e' _ _ (by simpa [items_append, items] using e inp out h))
  · exact setStage_keep9 w j _ _ hj hk (fun inp out h => e' _ _ (by simpa using sub_left (e inp out h)))

theorem runBody_keep9 (w : TW) (b : Body) (hb : b.benign = true) : Keep9 w (w.runBody b) := by
  cases b with
  | emit j n =>
    rw [runBody_emit]
    split
    · next hj => exact Keep9.ofBad hj (fun _ _ h => h)
    · next hj => exact Keep9.ofBad hj (fun _ _ h => h)
    · exact Keep9.refl w
  | debounce j =>
    rw [runBody_debounce]
    split
    · next d alive v h hj => exact trailing_keep9 w j v _ alive hj rfl (fun _ _ h => h) (fun _ _ h => h)
    · exact Keep9.refl w
  | throttle j =>
    rw [runBody_throttle]
    split
    · next d e alive v h hj => exact trailing_keep9 w j v _ alive hj rfl (fun _ _ h => h) (fun _ _ h => h)
    · exact Keep9.refl w
  | subscribe j => cases hb
  | timerSrc v => cases hb
  | _ => exact Keep9.refl w

theorem runTick_keep9 (w : TW) (b : Body) (seq : Nat) (hb : b.benign = true) :
    Keep9 w (w.runTick b seq).1 := by
  cases b with
  | tick => cases hb
  | tickN j =>
    rw [runTick_tickN]
    split
    · next hj => exact Keep9.ofBad hj (fun _ _ h => h)
    · exact Keep9.refl w
  | bufTick j =>
    rw [runTick_bufTick]
    split
    · next d cnt alive data t hj =>
      split
      · exact Keep9.refl w
      · exact push_keep9 w j _ (.bufTime d cnt alive [] t) (flushBuf data) hj rfl
          (fun inp out (h : (released out ++ data).Sublist (items inp)) =>
            show (released (out ++ flushBuf data) ++ []).Sublist (items inp) by
              simpa [released_append, released_flushBuf] using h)
    · exact Keep9.refl w
  | _ => exact Keep9.refl w

theorem deliverNotifiers_keep9 (w : TW) (i : Nat) (n : Notif) (k : Nat) :
    Keep9 w (deliverNotifiers w i n k) := by
  induction k with
  | zero => exact Keep9.refl w
  | succ k ih =>
    rw [deliverNotifiers_succ]
    refine Keep9.trans ih ?_
    split
    · next hj => exact Keep9.ofBad hj (fun _ _ h => h)
    · exact Keep9.refl _

theorem unsubFrom_keep9 (j : Nat) : ∀ (w : TW), Keep9 w (unsubFrom w j) := by
  induction j with
  | zero =>
    intro w
    rw [unsubFrom_zero]
    split <;> exact Keep9.ofEq rfl rfl
  | succ j ih =>
    intro w
    have own : ∀ (s : Sched) (st st' : Stage), w.stages[j]? = some st → st'.isBuf = st.isBuf →
        (∀ inp out, st.Sub9 inp out → st'.Sub9 inp out) →
        Keep9 w (({ unsubFrom w j with sched := s } : TW).setStage j st') := by
      intro s st st' hj hk hok
      have hst := unsubFrom_stages_ge j w j (Nat.le_refl j)
      rw [hj] at hst
      exact (ih w).trans ((Keep9.ofEq rfl rfl).trans (setStage_keep9 _ j _ _ hst hk hok))
    rw [unsubFrom_succ]
    split
    · next hj => exact Keep9.ofBad hj (fun _ _ h => h)
    · next hj => exact Keep9.ofBad hj (fun _ _ h => h)
    · next hj => exact Keep9.ofBad hj (fun _ _ h => h)
    · next hj => exact own _ _ _ hj rfl (fun _ _ h => h)
    · next hj => exact own _ _ _ hj rfl (fun _ _ h => h)
    · next h hj =>
      exact Keep9.trans (Keep9.ofEq (w' := { w with sched := w.sched.cancel h }) rfl rfl) (ih _)
    · next hj => exact Keep9.ofBad hj (fun _ _ h => h)
    · exact ih w

/-- What `actual_subscribe` of the stages and of the hot source leaves unchanged. -/
structure Subscribed (w w' : TW) : Prop where
  src : w'.src = w.src
  subscribed : w'.subscribed = w.subscribed
  srcSubscribed : w'.srcSubscribed = true
  terminated : w'.terminated = w.terminated
  sched : w.sched.Ext w'.sched

theorem subscribeFrom_9 (ks : List Bool) (j : Nat) : ∀ (w : TW) (up : List Notif), w.src = .hot 0 →
    Chain9K ks up w.stages w.log →
    Subscribed w (subscribeFrom w j) ∧ Chain9K ks up (subscribeFrom w j).stages (subscribeFrom w j).log := by
  induction j with
  | zero =>
    intro w up hsrc h
    have e : subscribeFrom w 0 = { w with srcSubscribed := true, srcAlive := true } := by
      show w.subscribeSource = _
      unfold subscribeSource
      rw [hsrc]
    rw [e]
    exact ⟨⟨rfl, rfl, rfl, rfl, Sched.Ext.refl _⟩, h⟩
  | succ j ih =>
    intro w up hsrc h
    rw [subscribeFrom_succ]
    split
    · next d cnt alive data t hj =>
      have k : Keep9 w (({ w with sched := (w.sched.scheduleRepeat (.bufTick j) d none).1 } : TW).setStage j
          (.bufTime d cnt alive data (some (w.sched.scheduleRepeat (.bufTick j) d none).2))) :=
        Keep9.trans (Keep9.ofEq (w' := { w with sched := (w.sched.scheduleRepeat (.bufTick j) d none).1 }) rfl rfl)
          (setStage_keep9 _ j _ _ hj rfl (fun _ _ h => h))
      obtain ⟨r, c⟩ := ih (({ w with sched := (w.sched.scheduleRepeat (.bufTick j) d none).1 } : TW).setStage j
          (.bufTime d cnt alive data (some (w.sched.scheduleRepeat (.bufTick j) d none).2))) up hsrc (k ks up h)
      exact ⟨⟨r.src, r.subscribed, r.srcSubscribed, r.terminated,
        (Sched.Ext.scheduleRepeat w.sched (.bufTick j) d none d rfl).trans r.sched⟩, c⟩
    · next hj => obtain ⟨_, _, hs⟩ := h.get hj; exact hs.elim
    · next hj => obtain ⟨_, _, hs⟩ := h.get hj; exact hs.elim
    · exact ih w up hsrc h

end TW

theorem ghost_sub (E : List Val) (T : Bool) (ev : TW.Ev) : E.Sublist (ghost (E, T) ev).1 := by
  cases ev with
  | emit i n =>
    simp only [ghost]
    split
    · cases n <;> simp
    · exact List.Sublist.refl _
  | _ => exact List.Sublist.refl _

theorem ghost_T (E : List Val) (T : Bool) (i : Nat) (n : Notif)
    (h : (ghost (E, T) (.emit i n)).2 = true) : T = true ∨ (i = 0 ∧ n.isTerm = true) := by
  simp only [ghost] at h
  split at h
  · next hc => cases n <;> simp_all [Notif.isTerm]
  · exact Or.inl h

structure W9 (ks : List Bool) (E : List Val) (T : Bool) (w : TW) : Prop where
  src : w.src = .hot 0
  subscribed : w.subscribed = true
  srcSubscribed : w.srcSubscribed = true
  term : T = true → 0 ∈ w.terminated
  benign : w.sched.Benign
  chain : ∃ up, (items up).Sublist E ∧ Chain9K ks up w.stages w.log

variable {ks : List Bool} {E E' : List Val} {T T' : Bool} {w w' : TW}

theorem W9.setSched (I : W9 ks E T w) (s' : Sched) (hs : w.sched.Le s') : W9 ks E T { w with sched := s' } :=
  ⟨I.src, I.subscribed, I.srcSubscribed, I.term, hs.benign I.benign, I.chain⟩

/-- A move that does not involve the source. -/
theorem W9.quiet (I : W9 ks E T w) (q : Quiet w w') (k : TW.Keep9 w w') : W9 ks E T w' := by
  obtain ⟨up, hs, hc⟩ := I.chain
  exact ⟨q.src.trans I.src, q.subscribed.trans I.subscribed, q.srcSubscribed.trans I.srcSubscribed,
    fun h => q.term 0 (I.term h), q.sched.benign I.benign, up, hs, k ks up hc⟩

theorem W9.weaken (I : W9 ks E T w) (hE : E.Sublist E') (hT : T' = true → 0 ∈ w.terminated) :
    W9 ks E' T' w := by
  obtain ⟨up, hs, hc⟩ := I.chain
  exact ⟨I.src, I.subscribed, I.srcSubscribed, hT, I.benign, up, hs.trans hE, hc⟩

theorem W9.push0 (I : W9 ks E T w) (n : Notif)
    (hE : ∀ up : List Notif, (items up).Sublist E → (items (up ++ [n])).Sublist E')
    (hT : T' = true → 0 ∈ w.terminated) : W9 ks E' T' (w.push 0 [n]) := by
  obtain ⟨up, hs, hc⟩ := I.chain
  exact ⟨I.src, I.subscribed, I.srcSubscribed, hT, (TW.push_ext w 0 [n]).benign I.benign,
    up ++ [n], hE up hs, TW.push_zero_chain9 w [n] ks up hc⟩

theorem benign_not_critical {b : Body} (h : b.benign = true) : b.critical = false := by
  cases b <;> first | rfl | cases h

theorem benign_ne_tick {b : Body} (h : b.benign = true) : b ≠ .tick := by
  rintro rfl; cases h

theorem W9.pollTask (I : W9 ks E T w) (k : TaskId) : W9 ks E T (w.pollTask k) :=
  TW.pollTask_benign (I := W9 ks E T) (fun _ I => I.benign) (fun _ s' I h => I.setSched s' h)
    (fun _ b I hb => I.quiet (TW.runBody_quiet _ b (benign_not_critical hb)) (TW.runBody_keep9 _ b hb))
    (fun _ b seq I hb => I.quiet (TW.runTick_quiet _ b seq (benign_ne_tick hb)) (TW.runTick_keep9 _ b seq hb))
    w k I

theorem W9.emitSrc (I : W9 ks E T w) (i : Nat) (n : Notif) (hni : ¬ i ∈ w.terminated)
    (hE : E.Sublist E') (hv : ∀ v, n = .next v → i = 0 → E' = E ++ [v])
    (hT : T' = true → T = true ∨ (i = 0 ∧ n.isTerm = true)) :
    W9 ks E' T' (TW.emitSrc w (if n.isTerm then { w with terminated := i :: w.terminated } else w) i n) := by
  cases hn : n.isTerm with
  | false =>
    obtain ⟨v, rfl⟩ := Notif.eq_next_of_not_term hn
    have hT' : T' = true → 0 ∈ w.terminated := fun h => (hT h).elim I.term (fun h' => by cases h'.2)
    rw [if_neg Bool.false_ne_true, TW.emitSrc_next w w I.src I.srcSubscribed]
    split
    · next hi =>
      rw [hv v rfl hi.1]
      exact I.push0 (.next v)
        (fun up h => by rw [items_append]; exact List.Sublist.append h (List.Sublist.refl _)) hT'
    · exact I.weaken hE hT'
  | true =>
    -- the world with subject `i` marked as terminated
    have I1 : W9 ks E' T' { w with terminated := i :: w.terminated } := by
      obtain ⟨up, hs, hc⟩ := I.chain
      refine ⟨I.src, I.subscribed, I.srcSubscribed, fun h => ?_, I.benign, up, hs.trans hE, hc⟩
      rcases hT h with h' | ⟨h', _⟩
      · exact List.mem_cons_of_mem _ (I.term h')
      · subst h'; exact List.mem_cons_self ..
    rw [if_pos rfl, TW.emitSrc_term w _ I.src I.srcSubscribed i n hn]
    split
    · have I2 : W9 ks E' T' { w with terminated := i :: w.terminated, srcAlive := false } :=
        ⟨I1.src, I1.subscribed, I1.srcSubscribed, I1.term, I1.benign, I1.chain⟩
      have hi : items [n] = [] := by cases n <;> first | rfl | cases hn
      exact I2.push0 n (fun up h => by rw [items_append, hi]; simpa using h) I2.term
    · exact I1

theorem W9.sub (I : W9 ks E T w) : W9 ks E T (w.step .sub) := by
  rw [TW.step_sub, I.subscribed, if_pos rfl]; exact I

theorem W9.unsub (I : W9 ks E T w) : W9 ks E T (w.step .unsub) := by
  rw [TW.step_unsub]
  split
  · have q2 : Quiet (TW.unsubFrom w w.stages.length)
        { TW.unsubFrom w w.stages.length with unsubscribed := true } :=
      TW.Quiet.ofEq
    exact (I.quiet (TW.unsubFrom_quiet _ w) (TW.unsubFrom_keep9 _ w)).quiet q2 (TW.Keep9.ofEq rfl rfl)
  · exact I

theorem W9.step (I : W9 ks E T w) (ev : TW.Ev) :
    W9 ks (ghost (E, T) ev).1 (ghost (E, T) ev).2 (w.step ev) := by
  cases ev with
  | emit i n =>
    rw [TW.step_emit]
    split
    · next hc =>
      have hc : i ∈ w.terminated := by simpa using hc
      refine I.weaken (ghost_sub E T _) (fun h => ?_)
      rcases ghost_T E T i n h with h' | ⟨h', _⟩
      · exact I.term h'
      · subst h'; exact hc
    · next hni =>
      have hni : ¬ i ∈ w.terminated := by simpa using hni
      have hv : ∀ v, n = .next v → i = 0 → (ghost (E, T) (.emit i n)).1 = E ++ [v] := by
        intro v hn hi
        subst hn; subst hi
        have hT : T = false := by
          cases T with
          | false => rfl
          | true => exact absurd (I.term rfl) hni
        subst hT
        rw [ghost_next]
      have I1 := I.emitSrc i n hni (ghost_sub E T _) hv (ghost_T E T i n)
      exact I1.quiet (TW.deliverNotifiers_quiet _ i n _) (TW.deliverNotifiers_keep9 _ i n _)
  | _ =>
    exact TW.step_keeps' (P := W9 ks E T) (fun _ k I => I.pollTask k)
      (fun _ tm I => I.setSched _ (Sched.Ext.fire _ tm).le) (fun _ I => I.sub) (fun _ I => I.unsub)
      (fun _ _ I => I.setSched _ (Sched.Ext.of_tasks rfl).le) w _ nofun I

theorem W9.fold (evs : List TW.Ev) (g : List Val × Bool) (w : TW) (I : W9 ks g.1 g.2 w) :
    W9 ks (evs.foldl ghost g).1 (evs.foldl ghost g).2 (evs.foldl TW.step w) := by
  induction evs generalizing g w with
  | nil => exact I
  | cons e r ih => exact ih _ _ (I.step e)

/-- The world `hot 0 → stages → probe`, subscribed, then driven by `evs`. -/
def chainRun (stages : List Stage) (evs : List TW.Ev) : TW :=
  evs.foldl TW.step (TW.step { src := .hot 0, stages := stages } .sub)

theorem chainRun_eq (stages : List Stage) (evs : List TW.Ev) :
    chainRun stages evs = (TW.Ev.sub :: evs).foldl TW.step { src := .hot 0, stages := stages } := rfl

/-- The first `sub`: `actual_subscribe` of every stage, then of the subject. -/
theorem W9.init (stages : List Stage) (hs : ∀ st ∈ stages, st.Start9) :
    W9 (stages.map Stage.isBuf) [] false (TW.step { src := .hot 0, stages := stages } .sub) := by
  have e : TW.step { src := .hot 0, stages := stages } .sub
      = TW.subscribeFrom { src := .hot 0, stages := stages, subscribed := true } stages.length := rfl
  rw [e]
  obtain ⟨r, c⟩ := TW.subscribeFrom_9 (stages.map Stage.isBuf) stages.length
    { src := .hot 0, stages := stages, subscribed := true } [] rfl ⟨rfl, Chain9.initial stages hs⟩
  exact ⟨r.src, r.subscribed, r.srcSubscribed, fun h => (by cases h),
    r.sched.benign (fun _ ht => by cases ht), [], List.Sublist.refl _, c⟩

theorem W9.run (stages : List Stage) (hs : ∀ st ∈ stages, st.Start9) (evs : List TW.Ev) :
    ∃ T, W9 (stages.map Stage.isBuf) (itemsEmitted evs) T (chainRun stages evs) := by
  have := W9.fold evs ([], false) _ (W9.init stages hs)
  rw [ghost_fold_false] at this
  exact ⟨_, by simpa [chainRun] using this⟩

/-- The per-subscription initial state of a filtering single-input operator, of
    debounce, or of throttle (any edge mode). -/
def Stage.RateInit : Stage → Prop
  | .op1 st => ∃ op : Op1, op.filtering = true ∧ st = op.init
  | .debounce _ alive tr h => alive = true ∧ tr = none ∧ h = none
  | .throttle _ _ alive tr h => alive = true ∧ tr = none ∧ h = none
  | _ => False

/-- The per-subscription initial state of buffer_with_time / buffer_with_count_and_time. -/
def Stage.BufInit : Stage → Prop
  | .bufTime _ _ alive data task => alive = true ∧ data = [] ∧ task = none
  | _ => False

theorem Stage.RateInit.start9 {st : Stage} (h : st.RateInit) : st.Start9 := by
  cases st with
  | op1 o =>
    obtain ⟨op, hf, rfl⟩ := h
    exact ⟨by rw [op.init_filtering]; exact hf, by rw [op.init_held]; exact List.Sublist.refl _⟩
  | debounce d a tr hd => obtain ⟨_, rfl, _⟩ := h; exact List.Sublist.refl _
  | throttle d e a tr hd => obtain ⟨_, rfl, _⟩ := h; exact List.Sublist.refl _
  | _ => exact h.elim

theorem Stage.RateInit.notBuf {st : Stage} (h : st.RateInit) : st.isBuf = false := by
  cases st <;> first | rfl | exact h.elim

theorem Stage.RateInit.initial {st : Stage} (h : st.RateInit) : st.Initial := by
  cases st with
  | op1 o => obtain ⟨op, _, rfl⟩ := h; exact ⟨op, rfl⟩
  | debounce d a tr hd => exact h
  | throttle d e a tr hd => exact h
  | _ => exact h.elim

theorem Stage.BufInit.start9 {st : Stage} (h : st.BufInit) : st.Start9 := by
  cases st with
  | bufTime d c a data t => obtain ⟨_, rfl, _⟩ := h; exact List.Sublist.refl _
  | _ => exact h.elim

theorem Stage.BufInit.isBuf {st : Stage} (h : st.BufInit) : st.isBuf = true := by
  cases st <;> first | rfl | exact h.elim

theorem Stage.BufInit.initial {st : Stage} (h : st.BufInit) : st.Initial := by
  cases st with
  | bufTime d c a data t => exact h
  | _ => exact h.elim

theorem rateInit_debounce (d : Nat) : (Stage.debounce d true none none).RateInit := ⟨rfl, rfl, rfl⟩

theorem rateInit_throttle (d : Nat) (e : Edge) : (Stage.throttle d e true none none).RateInit :=
  ⟨rfl, rfl, rfl⟩

theorem bufInit_bufTime (d : Nat) (cnt : Option Nat) : (Stage.bufTime d cnt true [] none).BufInit :=
  ⟨rfl, rfl, rfl⟩

theorem rateInit_ops (ops : List Op1) (h : ∀ op ∈ ops, op.filtering = true) :
    ∀ st ∈ ops.map (Stage.op1 ∘ Op1.init), st.RateInit := by
  intro st hst
  obtain ⟨op, hop, rfl⟩ := List.mem_map.mp hst
  exact ⟨op, h op hop, rfl⟩

theorem forall_mem_append3 {α} {p : α → Prop} {A B : List α} {x : α}
    (hA : ∀ a ∈ A, p a) (hx : p x) (hB : ∀ a ∈ B, p a) : ∀ a ∈ A ++ x :: B, p a := by
  intro a ha
  simp only [List.mem_append, List.mem_cons] at ha
  rcases ha with ha | rfl | ha
  · exact hA a ha
  · exact hx
  · exact hB a ha

theorem rate_final (stages : List Stage) (hs : ∀ st ∈ stages, st.Start9)
    (hb : ∀ st ∈ stages, st.isBuf = false) (evs : List TW.Ev) :
    (items (chainRun stages evs).log).Sublist (itemsEmitted evs) := by
  obtain ⟨T, I⟩ := W9.run stages hs evs
  obtain ⟨up, h1, h2⟩ := I.chain
  exact (h2.items_sublist hb).trans h1

/-- A single debounce / throttle stage is a chain of one. -/
theorem rate_single (st : Stage) (h : st.RateInit) (evs : List TW.Ev) :
    (items (rateRun st evs).log).Sublist (itemsEmitted evs) :=
  rate_final [st] (fun _ hs => by cases List.mem_singleton.1 hs; exact h.start9)
    (fun _ hs => by cases List.mem_singleton.1 hs; exact h.notBuf) evs

theorem buf_final9 (A B : List Stage) (st : Stage) (hA : ∀ s ∈ A, s.Start9) (hst : st.Start9)
    (hB : ∀ s ∈ B, s.Start9) (hbA : ∀ s ∈ A, s.isBuf = false) (hbst : st.isBuf = true)
    (hbB : ∀ s ∈ B, s.isBuf = false) (evs : List TW.Ev) :
    (released (chainRun (A ++ st :: B) evs).log).Sublist (itemsEmitted evs) := by
  obtain ⟨T, I⟩ := W9.run (A ++ st :: B) (forall_mem_append3 hA hst hB) evs
  obtain ⟨up, h1, h2⟩ := I.chain
  exact (h2.released_sublist hbst hbA hbB).trans h1

theorem chainRun_wf (stages : List Stage) (hs : ∀ st ∈ stages, st.Initial) (evs : List TW.Ev) :
    WF (chainRun stages evs).log := by
  rw [chainRun_eq]
  exact TW.WInv.wf_log (TW.fold_inv _ (TW.init_inv (.hot 0) stages (fun st h => (hs st h).ok)))

end Rx.T
