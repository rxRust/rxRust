import RxModel.Lemmas.SubjectBasic
import RxModel.Lemmas.SubjectSpecFacts
/-
  The abstraction function from the concrete subject state to the abstract one, the
  invariant of the reachable states, and the simulation: every building block, every
  operation (`apply_sim`), hence every history (`runFrom_refines`).
-/
namespace Rx.Subj

theorem modSlot_recv_script (v : Val) : ∀ (l : List Slot) (i : Nat),
    (modSlot (Slot.recv v) l i).map (·.script) = modTail (l.map (·.script)) i
  | [], _ => rfl
  | x :: r, 0 => by simp [modSlot, modTail, Slot.recv]
  | x :: r, n + 1 => by simp [modSlot, modTail, modSlot_recv_script v r n]

/-- entries of both lists -/
def State.entries (s : State) : List SlotId := s.observers.getD [] ++ s.chamber.getD []

/-- current subscribers: alive entries of observers ++ chamber while observers is `Some` -/
def State.absLive (s : State) : List SlotId :=
  match s.observers with
  | some _ => s.entries.filter (aliveAt s.slots)
  | none => []

/-- the abstraction function -/
def State.abs (s : State) : Abs := ⟨s.absLive, s.observers.isNone, s.slots.map (·.script), s.panicked⟩

/-- Invariant of every reachable state. -/
structure Inv (s : State) : Prop where
  /-- so the `unwrap()`s on the chamber (load, len, is_empty) never panic -/
  cham : s.observers.isSome = true → s.chamber.isSome = true
  bound : ∀ i ∈ s.entries, i < s.slots.length
  nodup : s.entries.Nodup

/-- A block of the concrete subject is simulated by the same block of the spec: same deliveries, the
    abstraction commutes, the invariant is kept. -/
def Sim (r : State × List Delivery) (ra : Abs × List Delivery) : Prop :=
  r.2 = ra.2 ∧ r.1.abs = ra.1 ∧ Inv r.1

theorem Inv.init : Inv State.init := ⟨fun _ => rfl, by simp [State.entries, State.init], by simp [State.entries, State.init]⟩

theorem filter_alive_append_new (l : List SlotId) (slots : List Slot) (x : Slot)
    (hb : ∀ i ∈ l, i < slots.length) :
    l.filter (aliveAt (slots ++ [x])) = l.filter (aliveAt slots) := by
  apply List.filter_congr
  intro i hi
  exact aliveAt_append_lt slots x i (hb i hi)

theorem subscribe_abs (s : State) (hI : Inv s) (sc : List Act) (log0 : List Notif) :
    (s.subscribe sc log0).abs = s.abs.subscribe sc ∧ Inv (s.subscribe sc log0) := by
  obtain ⟨obs, ch, slots, p⟩ := s
  obtain ⟨hc, hb, hn⟩ := hI
  cases ch with
  | none =>
    cases obs with
    | some o => simp at hc
    | none =>
      refine ⟨?_, ⟨by simp [State.subscribe], ?_, ?_⟩⟩
      · simp [State.subscribe, State.abs, State.absLive, Abs.subscribe]
      · simp [State.subscribe, State.entries]
      · simp [State.subscribe, State.entries]
  | some c =>
    obtain ⟨hn', hb'⟩ := fresh_append hb hn
    have he : (State.subscribe ⟨obs, some c, slots, p⟩ sc log0).entries =
        State.entries ⟨obs, some c, slots, p⟩ ++ [slots.length] := (List.append_assoc ..).symm
    refine ⟨?_, ⟨fun _ => rfl, fun i hi => ?_, by rw [he]; exact hn'⟩⟩
    · cases obs with
      | none => simp [State.subscribe, State.abs, State.absLive, Abs.subscribe]
      | some o =>
        simp only [State.entries, Option.getD_some] at hb
        have h1 := filter_alive_append_new (o ++ c) slots ⟨true, sc, log0⟩ hb
        simp only [State.subscribe, State.abs, State.absLive, Abs.subscribe, State.entries,
          Option.getD_some, Option.isNone_some, List.map_append, List.map_cons, List.map_nil,
          List.length_map, Bool.false_eq_true, if_false]
        rw [← List.append_assoc, List.filter_append, h1]
        simp [aliveAt_append_new]
    · rw [he] at hi
      exact Nat.lt_of_lt_of_eq (hb' i hi) (List.length_append (as := slots) (bs := [_])).symm

theorem modSlot_abs (s : State) (hI : Inv s) (f : Slot → Slot) (hf : ∀ x, (f x).alive = x.alive) (i : Nat) :
    ({ s with slots := modSlot f s.slots i } : State).absLive = s.absLive ∧
    Inv { s with slots := modSlot f s.slots i } := by
  obtain ⟨obs, ch, slots, p⟩ := s
  obtain ⟨hc, hb, hn⟩ := hI
  refine ⟨?_, ⟨hc, ?_, hn⟩⟩
  · cases obs with
    | none => rfl
    | some o =>
      simp only [State.absLive, State.entries]
      apply List.filter_congr
      intro j _
      exact aliveAt_modSlot_same f hf slots i j
  · intro j hj
    simp only [modSlot_length]
    exact hb j hj

theorem killSlot_abs (s : State) (hI : Inv s) (t : SlotId) :
    (s.killSlot t).abs = s.abs.unsubOne t ∧ Inv (s.killSlot t) := by
  obtain ⟨obs, ch, slots, p⟩ := s
  obtain ⟨hc, hb, hn⟩ := hI
  refine ⟨?_, ⟨hc, ?_, hn⟩⟩
  · simp only [State.killSlot, State.abs, Abs.unsubOne, State.absLive, State.entries]
    rw [modSlot_map_of_fix (·.script) Slot.kill (fun _ => rfl)]
    cases obs with
    | none => rfl
    | some o =>
      simp only [List.filter_filter]
      congr 1
      apply List.filter_congr
      intro j _
      rw [aliveAt_modSlot_dead _ (fun _ => rfl), Bool.and_comm]
  · intro j hj
    simp only [State.killSlot, modSlot_length]
    exact hb j hj

theorem act_sim (s : State) (hI : Inv s) (greet : Option Val) (i : SlotId) (a : Act) :
    Sim (s.act greet i a) (s.abs.act greet i a) ∧ (s.act greet i a).1.observers = s.observers := by
  cases a with
  | nop => exact ⟨⟨rfl, rfl, hI⟩, rfl⟩
  | sub =>
    have hobs : ∀ l, (s.subscribe [] l).observers = s.observers := by
      intro l; unfold State.subscribe; cases s.chamber <;> rfl
    cases greet with
    | none => exact ⟨⟨rfl, subscribe_abs s hI [] []⟩, hobs _⟩
    | some v => exact ⟨⟨by simp [State.act, Abs.act, State.abs], subscribe_abs s hI [] [.next v]⟩, hobs _⟩
  | unsub t =>
    by_cases h : t = i
    · simp only [State.act, Abs.act, if_pos h]
      exact ⟨⟨rfl, rfl, ⟨hI.cham, hI.bound, hI.nodup⟩⟩, trivial⟩
    · simp only [State.act, Abs.act, if_neg h]
      exact ⟨⟨rfl, killSlot_abs s hI t⟩, rfl⟩

theorem mem_absLive (s : State) (obs : List SlotId) (ho : s.observers = some obs) (i : SlotId) (hi : i ∈ obs) :
    i ∈ s.absLive ↔ aliveAt s.slots i = true := by
  simp [State.absLive, ho, State.entries, hi]

theorem callNext_sim (s : State) (hI : Inv s) (obs : List SlotId) (ho : s.observers = some obs)
    (greet : Option Val) (i : SlotId) (hi : i ∈ obs) (v : Val) :
    Sim (s.callNext greet i v) (s.abs.callNext greet i v) ∧
      (s.callNext greet i v).1.observers = some obs := by
  have hm := mem_absLive s obs ho i hi
  by_cases hal : aliveAt s.slots i = true
  · have hy : i ∈ s.abs.live := hm.mpr hal
    obtain ⟨sl, hs, hsa⟩ : ∃ sl, s.slots[i]? = some sl ∧ sl.alive = true := by
      unfold aliveAt at hal
      cases h : s.slots[i]? with
      | none => simp [h] at hal
      | some sl => exact ⟨sl, rfl, by simpa [h] using hal⟩
    have hmod := modSlot_abs s hI (Slot.recv v) (by intro x; rfl) i
    have hscr : s.abs.scripts[i]? = some sl.script := by
      simp [State.abs, hs]
    have habs1 : ({ s with slots := modSlot (Slot.recv v) s.slots i } : State).abs =
        { s.abs with scripts := modTail s.abs.scripts i } := by
      simp only [State.abs, hmod.1, modSlot_recv_script]
    have ha := act_sim { s with slots := modSlot (Slot.recv v) s.slots i } hmod.2 greet i (sl.script.headD .nop)
    rw [habs1] at ha
    simp only [State.callNext, hs, hsa, if_true, Abs.callNext, hy, hscr]
    exact ⟨⟨by rw [ha.1.1], ha.1.2⟩, ha.2.trans ho⟩
  · have hn : i ∉ s.abs.live := fun h => hal (hm.mp h)
    have e1 : s.callNext greet i v = (s, []) := by
      unfold State.callNext
      unfold aliveAt at hal
      cases h : s.slots[i]? with
      | none => rfl
      | some sl =>
        have : sl.alive = false := by simpa [h] using hal
        simp [this]
    rw [e1, Abs.callNext_skip _ greet i v hn]
    exact ⟨⟨rfl, rfl, hI⟩, ho⟩

theorem bcast_sim (greet : Option Val) (v : Val) : ∀ (xs : List SlotId) (s : State), Inv s →
    ∀ obs, s.observers = some obs → (∀ i ∈ xs, i ∈ obs) →
    Sim (bcast greet v s xs) (abcast greet v s.abs xs) ∧ (bcast greet v s xs).1.observers = some obs
  | [], s, hI, obs, ho, _ => ⟨⟨rfl, rfl, hI⟩, ho⟩
  | i :: r, s, hI, obs, ho, hx => by
    obtain ⟨⟨h1, h2, h3⟩, h4⟩ := callNext_sim s hI obs ho greet i (hx i (by simp)) v
    have hp : (s.callNext greet i v).1.panicked = (s.abs.callNext greet i v).1.panicked := by
      rw [← h2]; rfl
    unfold bcast abcast
    simp only [hp]
    by_cases hpp : (s.abs.callNext greet i v).1.panicked = true
    · simp only [if_pos hpp]
      exact ⟨⟨h1, h2, h3⟩, h4⟩
    · simp only [if_neg hpp]
      obtain ⟨⟨i1, i2, i3⟩, i4⟩ := bcast_sim greet v r (s.callNext greet i v).1 h3 obs h4
        (fun j hj => hx j (by simp [hj]))
      rw [h2] at i1 i2
      exact ⟨⟨by show _ ++ _ = _ ++ _; rw [h1, i1], i2, i3⟩, i4⟩

theorem load_some (s : State) (hI : Inv s) (obs : List SlotId) (ho : s.observers = some obs) :
    ∃ ch, s.chamber = some ch ∧
      s.load = { s with observers := some (obs ++ ch), chamber := some [] } := by
  have hc := hI.cham (by simp [ho])
  cases hch : s.chamber with
  | none => simp [hch] at hc
  | some ch => exact ⟨ch, rfl, by simp [State.load, ho, hch]⟩

theorem load_none (s : State) (ho : s.observers = none) : s.load = s := by
  simp [State.load, ho]

theorem load_abs (s : State) (hI : Inv s) :
    s.load.abs = s.abs ∧ Inv s.load ∧ s.load.panicked = s.panicked := by
  cases ho : s.observers with
  | none => rw [load_none s ho]; exact ⟨rfl, hI, rfl⟩
  | some obs =>
    obtain ⟨ch, hch, hl⟩ := load_some s hI obs ho
    rw [hl]
    obtain ⟨hc, hb, hn⟩ := hI
    simp only [State.entries, ho, hch, Option.getD_some] at hb hn
    refine ⟨?_, ⟨fun _ => rfl, ?_, ?_⟩, rfl⟩
    · simp [State.abs, State.absLive, State.entries, ho, hch]
    · simpa [State.entries] using hb
    · simpa [State.entries] using hn

theorem next_sim (s : State) (hI : Inv s) (hp : s.panicked = false) (greet : Option Val) (v : Val) :
    Sim (s.next greet v) (s.abs.next greet v) := by
  obtain ⟨hla, hlI, hlp⟩ := load_abs s hI
  have hpl : s.load.panicked = false := by rw [hlp, hp]
  unfold State.next Abs.next
  simp only [hpl, Bool.false_eq_true, if_false]
  cases ho : s.load.observers with
  | none =>
    have hd : s.abs.done = true := by
      rw [← hla]; simp [State.abs, ho]
    simp only [hd, if_true]
    exact ⟨by simp, hla, hlI⟩
  | some obs =>
    have hd : s.abs.done = false := by
      rw [← hla]; simp [State.abs, ho]
    simp only [hd, Bool.false_eq_true, if_false]
    have hb := bcast_sim greet v obs s.load hlI obs ho (fun _ h => h)
    rw [hla] at hb
    -- the snapshot of the spec is the alive part of the loaded list
    have hlive : s.abs.live = obs.filter (aliveAt s.load.slots) := by
      rw [← hla]
      cases ho0 : s.observers with
      | none => rw [load_none s ho0] at ho; rw [ho0] at ho; cases ho
      | some o =>
        obtain ⟨ch, hch, hl⟩ := load_some s hI o ho0
        rw [hl] at ho ⊢
        simp only [Option.some.injEq] at ho
        simp [State.abs, State.absLive, State.entries, ho]
    have hf := abcast_filter greet v (aliveAt s.load.slots) obs s.abs (by simpa [State.abs] using hp)
      (fun i _ hal hm => by
        rw [hlive] at hm
        have := (List.mem_filter.mp hm).2
        rw [hal] at this; cases this)
      (fun i hi => by
        have := hlI.bound i (by simp [State.entries, ho, hi])
        have e : s.abs.scripts.length = s.load.slots.length := by
          rw [← hla]; simp [State.abs]
        rw [e]; exact this)
    rw [hlive, hf]
    exact hb.1

theorem term_delivers (n : Notif) : ∀ (xs : List SlotId) (s : State), xs.Nodup →
    (term n s xs).2 = (xs.filter (aliveAt s.slots)).map (·, n) ∧
    (term n s xs).1.observers = s.observers ∧ (term n s xs).1.chamber = s.chamber ∧
    (term n s xs).1.panicked = s.panicked ∧
    (term n s xs).1.slots.map (·.script) = s.slots.map (·.script) ∧
    (term n s xs).1.slots.length = s.slots.length
  | [], s, _ => ⟨rfl, rfl, rfl, rfl, rfl, rfl⟩
  | i :: r, s, hn => by
    have hir : i ∉ r := (List.nodup_cons.mp hn).1
    have hr : r.Nodup := (List.nodup_cons.mp hn).2
    unfold term
    cases hal : aliveAt s.slots i with
    | false =>
      simp only [Bool.false_eq_true, if_false, List.filter_cons, hal]
      exact term_delivers n r s hr
    | true =>
      simp only [if_true, List.filter_cons, hal]
      obtain ⟨hdel, hobs, hch, hpan, hscr, hlen⟩ :=
        term_delivers n r { s with slots := modSlot (Slot.finish n) s.slots i } hr
      have hfl : r.filter (aliveAt (modSlot (Slot.finish n) s.slots i)) = r.filter (aliveAt s.slots) := by
        apply List.filter_congr
        intro j hj
        rw [aliveAt_modSlot_dead _ (fun _ => rfl)]
        have : j ≠ i := fun e => hir (e ▸ hj)
        simp [this]
      refine ⟨?_, hobs, hch, hpan, ?_, ?_⟩
      · show _ :: _ = _
        rw [hdel, hfl]; rfl
      · rw [hscr]; exact modSlot_map_of_fix (·.script) (Slot.finish n) (fun _ => rfl) _ _
      · rw [hlen]; exact modSlot_length _ _ _

theorem terminal_sim (s : State) (hI : Inv s) (hp : s.panicked = false) (n : Notif) :
    Sim (s.terminal n) (s.abs.terminal n) := by
  unfold State.terminal Abs.terminal
  cases ho : s.observers with
  | none =>
    rw [load_none s ho]
    have hd : s.abs.done = true := by simp [State.abs, ho]
    simp only [hp, Bool.false_eq_true, if_false, ho, hd, if_true]
    exact ⟨by simp, by simp, hI⟩
  | some obs =>
    obtain ⟨ch, hch, hl⟩ := load_some s hI obs ho
    have hd : s.abs.done = false := by simp [State.abs, ho]
    have hnd : (obs ++ ch).Nodup := by
      have := hI.nodup; simpa [State.entries, ho, hch] using this
    rw [hl]
    simp only [hp, Bool.false_eq_true, if_false, hd]
    have ht := term_delivers n (obs ++ ch)
      { observers := none, chamber := some [], slots := s.slots, panicked := false } hnd
    dsimp only at ht
    obtain ⟨t2, to, tc, tp, ts, tl⟩ := ht
    refine ⟨?_, ?_, ⟨?_, ?_, ?_⟩⟩
    · rw [t2]; simp [State.abs, State.absLive, State.entries, ho, hch]
    · simp only [State.abs, State.absLive, to, tp, ts]
      simp [hp]
    · intro h; rw [to] at h; cases h
    · simp [State.entries, to, tc]
    · simp [State.entries, to, tc]

theorem retain_abs (s : State) (hI : Inv s) : s.retain.abs = s.abs ∧ Inv s.retain := by
  unfold State.retain
  cases ho : s.observers with
  | none => exact ⟨rfl, hI⟩
  | some obs =>
    obtain ⟨hc, hb, hn⟩ := hI
    simp only [State.entries, ho, Option.getD_some] at hb hn
    refine ⟨?_, ⟨?_, ?_, ?_⟩⟩
    · simp [State.abs, State.absLive, State.entries, ho, List.filter_filter]
    · intro _; exact hc (by simp [ho])
    · intro i hi
      simp only [State.entries, Option.getD_some] at hi
      apply hb
      rcases List.mem_append.mp hi with h | h
      · exact List.mem_append.mpr (Or.inl (List.mem_filter.mp h).1)
      · exact List.mem_append.mpr (Or.inr h)
    · simp only [State.entries, Option.getD_some]
      exact List.Nodup.sublist (List.Sublist.append List.filter_sublist (List.Sublist.refl _)) hn

theorem unsubscribe_abs (s : State) : s.unsubscribe.abs = s.abs.unsubscribe ∧ Inv s.unsubscribe := by
  refine ⟨by simp [State.unsubscribe, State.abs, State.absLive, Abs.unsubscribe], ⟨?_, ?_, ?_⟩⟩
  · intro h; simp [State.unsubscribe] at h
  · simp [State.entries, State.unsubscribe]
  · simp [State.entries, State.unsubscribe]

theorem apply_sim (s : State) (hI : Inv s) (hp : s.panicked = false) (op : SubjOp) :
    Sim (s.apply op) (s.abs.apply op) := by
  cases op with
  | subscribe sc => exact ⟨rfl, subscribe_abs s hI sc []⟩
  | unsubOne i => exact ⟨rfl, killSlot_abs s hI i⟩
  | next v => exact next_sim s hI hp none v
  | error e => exact terminal_sim s hI hp (.error e)
  | complete => exact terminal_sim s hI hp .complete
  | retain => exact ⟨rfl, retain_abs s hI⟩
  | unsubscribe => exact ⟨rfl, unsubscribe_abs s⟩
  | clone => exact ⟨rfl, rfl, hI⟩

/-- under the invariant the size queries never hit the `unwrap()` panic -/
theorem len?_some (s : State) (hI : Inv s) : s.len?.isNone = false := by
  unfold State.len?
  cases ho : s.observers with
  | none => rfl
  | some obs =>
    have := hI.cham (by simp [ho])
    cases hch : s.chamber with
    | none => simp [hch] at this
    | some ch => rfl

/-- … so an operation reports a panic exactly when it leaves the state panicked. -/
theorem output_panic (s : State) (hI : Inv s) (ds : List Delivery) : (s.output ds).panic = s.panicked := by
  simp only [State.output, len?_some s hI, Bool.or_false]

theorem step_sim (s : State) (hI : Inv s) (hp : s.panicked = false) (op : SubjOp) :
    (step s op).2.vis = (s.abs.step op).2 ∧ (step s op).1.abs = (s.abs.step op).1 ∧ Inv (step s op).1 := by
  obtain ⟨h1, h2, h3⟩ := apply_sim s hI hp op
  refine ⟨?_, h2, h3⟩
  simp only [step, Abs.step, Output.vis, State.output, len?_some _ h3, Bool.or_false]
  rw [← h2, h1]
  rfl

theorem runFrom_refines : ∀ (ops : List SubjOp) (s : State), Inv s → s.panicked = false →
    (runFrom s ops).map Output.vis = Abs.runFrom s.abs ops
  | [], _, _, _ => rfl
  | op :: r, s, hI, hp => by
    obtain ⟨h1, h2, h3⟩ := step_sim s hI hp op
    have hpan : (step s op).2.panic = (s.abs.step op).2.panic := by rw [← h1]; rfl
    unfold runFrom Abs.runFrom
    simp only [hpan]
    by_cases hq : (s.abs.step op).2.panic = true
    · simp only [if_pos hq, List.map_cons, List.map_nil, h1]
    · simp only [if_neg hq, List.map_cons, h1]
      have hp' : (step s op).1.panicked = false :=
        (output_panic _ h3 _).symm.trans (hpan.trans (Bool.eq_false_iff.mpr hq))
      rw [runFrom_refines r (step s op).1 h3 hp', h2]

theorem size_queries (s : State) (hI : Inv s) :
    s.len? = some (match s.observers with
      | none => 0
      | some obs => obs.length + (s.chamber.getD []).length) ∧
    s.isEmpty = (s.len == 0) ∧ s.isClosed = s.isFinished ∧ (s.isFinished = true → s.len = 0) := by
  cases ho : s.observers with
  | none => simp [State.len?, State.len, State.isEmpty, State.isClosed, State.isFinished, ho]
  | some obs =>
    have := hI.cham (by simp [ho])
    cases hch : s.chamber with
    | none => simp [hch] at this
    | some ch =>
      simp only [State.len?, State.len, State.isEmpty, State.isClosed, State.isFinished, ho, hch,
        Option.getD_some, Option.isNone_some, Bool.false_eq_true, false_implies, and_true, true_and]
      cases obs <;> cases ch <;> simp

theorem runFrom_all (P : Output → Prop) (hP : ∀ s, Inv s → ∀ ds, P (s.output ds)) :
    ∀ (ops : List SubjOp) (s : State), Inv s → s.panicked = false → ∀ o ∈ runFrom s ops, P o
  | [], _, _, _, o, ho => by simp [runFrom] at ho
  | op :: r, s, hI, hp, o, ho => by
    have h3 : Inv (step s op).1 := (apply_sim s hI hp op).2.2
    have hP1 : P (step s op).2 := hP _ h3 _
    unfold runFrom at ho
    by_cases hq : (step s op).2.panic = true
    · simp only [if_pos hq, List.mem_singleton] at ho
      rw [ho]; exact hP1
    · simp only [if_neg hq, List.mem_cons] at ho
      rcases ho with ho | ho
      · rw [ho]; exact hP1
      · exact runFrom_all P hP r _ h3
          ((output_panic _ h3 _).symm.trans (Bool.eq_false_iff.mpr hq)) o ho

end Rx.Subj
