import RxModel.Sched.Chain
/-
  C16 over the chain (time) model: vocabulary on stage lists.

  * `Stage.sf`: the stage's own contribution to `is_finished` (its slot is
    empty); `fin (st :: r) = st.sf || fin r` for EVERY stage kind;
  * `Stage.bfin st down`: `is_finished` of the observer the stage hands to its
    SECOND input (notifier / other / sampler), `down` = the answer below it;
  * `Stage.le` / `SLe`: the order "same operator, same parameters, flags only
    move towards finished" — every move of the model is monotone for it;
  * `sealed`: a closed stage followed by single-input operators only (nothing
    is in flight below the cutter and nothing below it can produce);
  * `syncLen`: the length of the synchronous head of the chain (the single-input
    observers the source calls directly);
  * `nq`: every iterator in second-input position has a finished observer;
  * `TSrc.polls`: the sources that ask `is_finished()` before every item (interval, counting iterator,
    stream driver); `TSrc.bound`: the interval's longest wait between two such polls.
-/
namespace Rx.T
open Rx

namespace Stage

/-- The stage's own slot is empty. -/
def sf : Stage → Bool
  | .op1 st => st.finished false
  | .delay _ alive _ => !alive
  | .observeOn alive _ => !alive
  | .subscribeOn _ _ => false
  | .debounce _ alive _ _ => !alive
  | .throttle _ _ alive _ _ => !alive
  | .throttleW _ _ alive _ => !alive
  | .bufTime _ _ alive _ _ => !alive
  | .op2n st _ _ _ => !st.alive

/-- `is_finished` of the observer handed to the second input. -/
def bfin : Stage → Bool → Bool
  | .op2n st _ _ _, d => st.finished .b d
  | _, d => d

def isOp1 : Stage → Bool
  | .op1 _ => true
  | _ => false

/-- Operator kind (throttle in the middle of `next` is still throttle). -/
def kind : Stage → Nat
  | .op1 _ => 0
  | .delay _ _ _ => 1
  | .observeOn _ _ => 2
  | .subscribeOn _ _ => 3
  | .debounce _ _ _ _ => 4
  | .throttle _ _ _ _ _ => 5
  | .throttleW _ _ _ _ => 5
  | .bufTime _ _ _ _ _ => 6
  | .op2n _ _ _ _ => 7

/-- The source in second-input position. -/
def nsrc : Stage → Option TSrc
  | .op2n _ ns _ _ => some ns
  | _ => none

/-- Has an iterator as second input. -/
def iterN (st : Stage) : Bool :=
  match st.nsrc with
  | some (.iterc _) => true
  | _ => false

/-- Same operator, flags only move towards finished. -/
structure le (a b : Stage) : Prop where
  kind : a.kind = b.kind
  nsrc : a.nsrc = b.nsrc
  sf : a.sf = true → b.sf = true
  bfin : ∀ d, a.bfin d = true → b.bfin d = true

theorem le.refl (a : Stage) : le a a := ⟨rfl, rfl, id, fun _ => id⟩
theorem le.trans {a b c : Stage} (h1 : le a b) (h2 : le b c) : le a c :=
  ⟨h1.kind.trans h2.kind, h1.nsrc.trans h2.nsrc, fun h => h2.sf (h1.sf h), fun d h => h2.bfin d (h1.bfin d h)⟩

theorem isOp1_eq (st : Stage) : st.isOp1 = (st.kind == 0) := by cases st <;> rfl

theorem le.isOp1 {a b : Stage} (h : le a b) : b.isOp1 = a.isOp1 := by
  rw [isOp1_eq, isOp1_eq, h.kind]

theorem le.iterN {a b : Stage} (h : le a b) : b.iterN = a.iterN := by
  unfold Stage.iterN; rw [h.nsrc]

theorem bfin_mono (st : Stage) {d d' : Bool} (h : d = true → d' = true) :
    st.bfin d = true → st.bfin d' = true := by
  cases st with
  | op2n o ns na nt =>
    cases o with
    | skipUntil al sk => exact id   -- answers from its own two flags
    | _ =>
      simp only [Stage.bfin, St2.finished, Bool.or_eq_true]
      exact fun hd => hd.imp_right h
  | _ => exact h

end Stage

theorem St1.finished_or (o : St1) (d : Bool) : o.finished d = (o.finished false || d) := by
  cases o with
  | take _ _ al | takeWhile _ _ al | contains _ al => cases al <;> rfl
  | _ => rfl

theorem fin_cons (st : Stage) (r : List Stage) : fin (st :: r) = (st.sf || fin r) := by
  cases st with
  | op1 o => exact St1.finished_or o (fin r)
  | op2n o ns na nt => cases o <;> rfl
  | _ => rfl

theorem fin_append (a b : List Stage) : fin (a ++ b) = (fin a || fin b) := by
  induction a with
  | nil => rfl
  | cons st r ih => simp only [List.cons_append, fin_cons, ih, Bool.or_assoc]

theorem fin_of_mem {l : List Stage} {st : Stage} (hm : st ∈ l) (h : st.sf = true) : fin l = true := by
  induction l with
  | nil => cases hm
  | cons a r ih =>
    rw [fin_cons]
    rcases List.mem_cons.mp hm with e | e
    · subst e; simp [h]
    · simp [ih e]

theorem fin_iff_any (l : List Stage) : fin l = l.any Stage.sf := by
  induction l with
  | nil => rfl
  | cons a r ih => rw [fin_cons, List.any_cons, ih]

theorem fin_drop_of_fin_drop {l : List Stage} {i j : Nat} (hij : i ≤ j) (h : fin (l.drop j) = true) :
    fin (l.drop i) = true := by
  have : l.drop i = (l.drop i).take (j - i) ++ l.drop j := by
    have := (List.take_append_drop (j - i) (l.drop i)).symm
    rw [List.drop_drop] at this
    have e : i + (j - i) = j := by omega
    rw [e] at this; exact this
  rw [this, fin_append, h]; simp

def SLe : List Stage → List Stage → Prop
  | [], [] => True
  | a :: r, b :: r' => Stage.le a b ∧ SLe r r'
  | _, _ => False

theorem SLe.refl : ∀ l : List Stage, SLe l l
  | [] => trivial
  | a :: r => ⟨Stage.le.refl a, SLe.refl r⟩

/-- `SLe` is `Stage.le` pointwise on lists of equal length: induction on that. -/
theorem SLe.induction {motive : List Stage → List Stage → Prop} (nil : motive [] [])
    (cons : ∀ {x y : Stage} {r r' : List Stage}, Stage.le x y → SLe r r' → motive r r' →
      motive (x :: r) (y :: r')) : ∀ {a b : List Stage}, SLe a b → motive a b
  | [], [], _ => nil
  | _ :: _, _ :: _, h => cons h.1 h.2 (SLe.induction nil cons h.2)
  | [], _ :: _, h => h.elim
  | _ :: _, [], h => h.elim

theorem SLe.trans {a b c : List Stage} (h1 : SLe a b) : SLe b c → SLe a c := by
  refine SLe.induction (motive := fun a b => ∀ c, SLe b c → SLe a c) (fun _ h => h) ?_ h1 c
  intro x y r r' hle _ ih c h2
  cases c with
  | nil => exact h2.elim
  | cons z c' => exact ⟨hle.trans h2.1, ih c' h2.2⟩

theorem SLe.length : ∀ {a b : List Stage}, SLe a b → b.length = a.length :=
  SLe.induction (motive := fun a b => b.length = a.length) rfl (fun _ _ ih => by simp [ih])

theorem SLe.fin {a b : List Stage} (h : SLe a b) : fin a = true → fin b = true := by
  refine SLe.induction (motive := fun a b => Rx.T.fin a = true → Rx.T.fin b = true) id ?_ h
  intro x y r r' hle _ ih hf
  rw [fin_cons, Bool.or_eq_true] at hf ⊢
  exact hf.imp hle.sf ih

theorem SLe.append : ∀ {a a' b b' : List Stage}, SLe a a' → SLe b b' → SLe (a ++ b) (a' ++ b') :=
  fun {_ _ b b'} h1 h2 => SLe.induction (motive := fun a a' => SLe (a ++ b) (a' ++ b')) h2 (fun hle _ ih => ⟨hle, ih⟩) h1

theorem SLe.drop {a b : List Stage} (j : Nat) (h : SLe a b) : SLe (a.drop j) (b.drop j) := by
  refine SLe.induction (motive := fun a b => ∀ j, SLe (a.drop j) (b.drop j)) (fun j => by simp [SLe]) ?_ h j
  intro x y r r' hle h ih j
  cases j with
  | zero => exact ⟨hle, h⟩
  | succ j => exact ih j

theorem SLe.get {a b : List Stage} {j : Nat} {x : Stage} (h : SLe a b) : a[j]? = some x →
    ∃ y, b[j]? = some y ∧ Stage.le x y := by
  refine SLe.induction (motive := fun a b => ∀ j, a[j]? = some x → ∃ y, b[j]? = some y ∧ Stage.le x y)
    (fun _ hx => by simp at hx) ?_ h j
  intro x' y r r' hle _ ih j hx
  cases j with
  | zero =>
    simp only [List.getElem?_cons_zero, Option.some.injEq] at hx; subst hx
    exact ⟨_, rfl, hle⟩
  | succ j => exact ih j hx

theorem SLe.get_back {a b : List Stage} {j : Nat} {y : Stage} (h : SLe a b) (hy : b[j]? = some y) :
    ∃ x, a[j]? = some x ∧ Stage.le x y := by
  have hl : j < a.length := by
    rw [← h.length]; exact (List.getElem?_eq_some_iff.mp hy).1
  obtain ⟨y', hy', hle⟩ := h.get (List.getElem?_eq_getElem hl)
  rw [hy] at hy'; cases hy'
  exact ⟨_, List.getElem?_eq_getElem hl, hle⟩

theorem SLe.splice (l post : List Stage) (j : Nat) (h : SLe (l.drop j) post) :
    SLe l (l.take j ++ post) := by
  have := SLe.append (SLe.refl (l.take j)) h
  rwa [List.take_append_drop] at this

theorem SLe.set : ∀ (l : List Stage) (j : Nat) (x y : Stage), l[j]? = some x → Stage.le x y →
    SLe l (l.set j y)
  | [], _, _, _, h, _ => by simp at h
  | a :: r, 0, x, y, h, hle => by
    simp only [List.getElem?_cons_zero, Option.some.injEq] at h; subst h
    exact ⟨hle, SLe.refl r⟩
  | a :: r, j + 1, x, y, h, hle => by
    simp only [List.getElem?_cons_succ] at h
    exact ⟨Stage.le.refl a, SLe.set r j x y h hle⟩

/-- Some stage is closed and everything after it is a single-input observer. -/
def sealed : List Stage → Bool
  | [] => false
  | st :: r => sealed r || (st.sf && r.all Stage.isOp1)

theorem sealed_fin : ∀ {l : List Stage}, sealed l = true → fin l = true
  | [], h => by cases h
  | st :: r, h => by
    rw [fin_cons]
    simp only [sealed, Bool.or_eq_true, Bool.and_eq_true] at h
    rcases h with h | h
    · simp [sealed_fin h]
    · simp [h.1]

theorem SLe.all_isOp1 {a b : List Stage} (h : SLe a b) : a.all Stage.isOp1 = true → b.all Stage.isOp1 = true := by
  refine SLe.induction (motive := fun a b => a.all Stage.isOp1 = true → b.all Stage.isOp1 = true) id ?_ h
  intro x y r r' hle _ ih ha
  simp only [List.all_cons, Bool.and_eq_true, hle.isOp1] at ha ⊢
  exact ⟨ha.1, ih ha.2⟩

theorem SLe.sealed : ∀ {a b : List Stage}, SLe a b → sealed a = true → sealed b = true := by
  refine SLe.induction (motive := fun a b => Rx.T.sealed a = true → Rx.T.sealed b = true) id ?_
  intro x y r r' hle hr ih hs
  simp only [Rx.T.sealed, Bool.or_eq_true, Bool.and_eq_true] at hs ⊢
  exact hs.imp ih (fun hs => ⟨hle.sf hs.1, hr.all_isOp1 hs.2⟩)

/-- A stage of a sealed chain that is not a single-input observer is the closed
    one, or lies above it. -/
theorem sealed_at : ∀ {l : List Stage} {j : Nat} {st : Stage}, sealed l = true → l[j]? = some st →
    st.isOp1 = false → st.sf = true ∨ fin (l.drop (j + 1)) = true
  | [], _, _, h, _, _ => by cases h
  | a :: r, 0, st, h, hj, hn => by
    simp only [List.getElem?_cons_zero, Option.some.injEq] at hj; subst hj
    simp only [sealed, Bool.or_eq_true, Bool.and_eq_true] at h
    rcases h with h | h
    · right; simpa using sealed_fin h
    · left; exact h.1
  | a :: r, j + 1, st, h, hj, hn => by
    simp only [List.getElem?_cons_succ] at hj
    simp only [sealed, Bool.or_eq_true, Bool.and_eq_true] at h
    rcases h with h | h
    · simpa using sealed_at h hj hn
    · have := List.all_eq_true.mp h.2 st (List.mem_of_getElem? hj)
      rw [hn] at this; cases this

def syncLen (l : List Stage) : Nat := (l.takeWhile Stage.isOp1).length

theorem SLe.syncLen {a b : List Stage} (h : SLe a b) : syncLen b = syncLen a := by
  refine SLe.induction (motive := fun a b => Rx.T.syncLen b = Rx.T.syncLen a) rfl ?_ h
  intro x y r r' hle _ ih
  unfold Rx.T.syncLen at ih ⊢
  simp only [List.takeWhile_cons, hle.isOp1]
  cases x.isOp1
  · rfl
  · simp [ih]

theorem syncLen_le_of_not_op1 : ∀ {l : List Stage} {j : Nat} {st : Stage}, l[j]? = some st →
    st.isOp1 = false → syncLen l ≤ j
  | [], _, _, h, _ => by simp at h
  | a :: r, 0, st, h, hn => by
    simp only [List.getElem?_cons_zero, Option.some.injEq] at h; subst h
    simp [syncLen, hn]
  | a :: r, j + 1, st, h, hn => by
    simp only [List.getElem?_cons_succ] at h
    have := syncLen_le_of_not_op1 h hn
    unfold syncLen at this ⊢
    simp only [List.takeWhile_cons]
    cases a.isOp1 <;> simp <;> omega

/-- Every iterator in second-input position has a finished observer. -/
def nq : List Stage → Bool
  | [] => true
  | st :: r => (!st.iterN || st.bfin (fin r)) && nq r

theorem SLe.nq {a b : List Stage} (h : SLe a b) : nq a = true → nq b = true := by
  refine SLe.induction (motive := fun a b => Rx.T.nq a = true → Rx.T.nq b = true) id ?_ h
  intro x y r r' hle hr ih hq
  simp only [Rx.T.nq, Bool.and_eq_true, Bool.or_eq_true, Bool.not_eq_true', hle.iterN] at hq ⊢
  exact ⟨hq.1.imp_right fun e => Stage.bfin_mono y hr.fin (hle.bfin _ e), ih hq.2⟩

theorem nq_at : ∀ {l : List Stage} {j : Nat} {st : Stage}, nq l = true → l[j]? = some st →
    st.iterN = true → st.bfin (fin (l.drop (j + 1))) = true
  | [], _, _, _, h, _ => by simp at h
  | a :: r, 0, st, hq, hj, hi => by
    simp only [List.getElem?_cons_zero, Option.some.injEq] at hj; subst hj
    simp only [nq, Bool.and_eq_true, Bool.or_eq_true, Bool.not_eq_true'] at hq
    rcases hq.1 with e | e
    · rw [hi] at e; cases e
    · simpa using e
  | a :: r, j + 1, st, hq, hj, hi => by
    simp only [List.getElem?_cons_succ] at hj
    simp only [nq, Bool.and_eq_true] at hq
    simpa using nq_at hq.2 hj hi

/-- Producers that ask their observer's `is_finished()` before every item. -/
def TSrc.polls : TSrc → Bool
  | .interval _ _ => true
  | .iterc _ => true
  | .stream _ _ _ => true
  | _ => false

/-- The longest wait of the interval source between two polls of its observer. -/
def TSrc.bound : TSrc → Nat
  | .interval delay period => max (delay.getD period) period
  | _ => 0

end Rx.T
