import RxModel.Lemmas.ChainRetireEff
import RxModel.Lemmas.ChainTraverse
/-
  C16 over the chain model: the executor.

  One poll is three phases: the scheduler's `pollPre`, the body (an `Eff` move), and the bookkeeping after
  it (`Post`); `pollTask_shape` says so once, keeping the scheduler invariant `WI`.  What the first and the
  last phase do to the scheduler is a `Touch j` move.  `Moves I R`: the one-move lemmas for an invariant `I`
  and a relation `R` between before and after; through `ChainTraverse` they give `pollAll`, `runLoop`, every
  event and every history.
-/
namespace Rx.T
open Rx

/-- Tasks persist, keep their body, stay finished. -/
def Fwd (s s' : Sched) : Prop :=
  ∀ (k : Nat) (t : Task), s.tasks[k]? = some t →
    ∃ t' : Task, s'.tasks[k]? = some t' ∧ t'.body = t.body ∧ (t.done = true → t'.done = true)

theorem Fwd.refl (s : Sched) : Fwd s s := fun _ t h => ⟨t, h, rfl, id⟩
theorem Fwd.trans {a b c : Sched} (h1 : Fwd a b) (h2 : Fwd b c) : Fwd a c := by
  intro k t h
  obtain ⟨t', h', b1, d1⟩ := h1 k t h
  obtain ⟨t'', h'', b2, d2⟩ := h2 k t' h'
  exact ⟨t'', h'', b2.trans b1, fun x => d2 (d1 x)⟩

theorem Fwd.of_tasks {s s' : Sched} (h : s'.tasks = s.tasks) : Fwd s s' :=
  fun _ t ht => ⟨t, by rw [h]; exact ht, rfl, id⟩

theorem Fwd.of_frame {a} {s s' : Sched} (f : Frame a s s') : Fwd s s' := by
  intro k t h
  obtain ⟨t', h', b, d, _⟩ := f.tasks k t h
  exact ⟨t', h', b, fun x => by rw [d]; exact x⟩

theorem Fwd.fire (s : Sched) (tm : TimerId) : Fwd s (s.fire tm) := by
  intro k t h
  obtain ⟨t', h', w, rfl⟩ := Sched.fire_get s tm k t h
  exact ⟨_, h', rfl, id⟩

/-- No timer is created for task `k`; its timers only go from pending to expired. -/
def KeepT (k : TaskId) (s s' : Sched) : Prop :=
  ∀ (i : Nat) (tm' : Timer), s'.timers[i]? = some tm' → tm'.owner = k →
    ∃ tm : Timer, s.timers[i]? = some tm ∧ tm.owner = k ∧ (tm.fired = true → tm'.fired = true)

theorem KeepT.refl (k : TaskId) (s : Sched) : KeepT k s s := fun _ tm' h ho => ⟨tm', h, ho, id⟩

theorem KeepT.trans {k : TaskId} {a b c : Sched} (h1 : KeepT k a b) (h2 : KeepT k b c) : KeepT k a c := by
  intro i tm'' h ho
  obtain ⟨tm', h', ho', f2⟩ := h2 i tm'' h ho
  obtain ⟨tm, h0, ho0, f1⟩ := h1 i tm' h' ho'
  exact ⟨tm, h0, ho0, fun x => f2 (f1 x)⟩

theorem KeepT.of_timers {k : TaskId} {s s' : Sched} (h : s'.timers = s.timers) : KeepT k s s' :=
  fun _ tm' h' ho => ⟨tm', by rw [← h]; exact h', ho, id⟩

theorem KeepT.of_frame {a} {k : TaskId} {s s' : Sched} (f : Frame a s s') (hk : k < s.tasks.length) :
    KeepT k s s' := by
  intro i tm' h ho
  by_cases hl : i < s.timers.length
  · obtain ⟨new, e⟩ := f.timers
    rw [e, List.getElem?_append_left hl] at h
    exact ⟨tm', h, ho, id⟩
  · have := f.newT i tm' h (Nat.le_of_not_lt hl)
    rw [ho] at this
    exact absurd hk (Nat.not_lt.mpr this)

theorem KeepT.registerTimer (k : TaskId) (s : Sched) (tm : TimerId) : KeepT k s (s.registerTimer tm) := by
  intro i tm' h ho
  rw [Sched.registerTimer_get] at h
  cases h0 : s.timers[i]? with
  | none => rw [h0] at h; cases h
  | some t0 =>
    rw [h0] at h
    simp only [Option.map_some, Option.some.injEq] at h
    subst h
    refine ⟨t0, rfl, ?_, ?_⟩
    · split at ho <;> exact ho
    · intro hf; split <;> exact hf

theorem KeepT.newTimer {k j : TaskId} (s : Sched) (d : Nat) (hne : j ≠ k) : KeepT k s (s.newTimer d j).1 := by
  intro i tm' h ho
  rcases snoc_get_cases _ _ h with h1 | ⟨_, rfl⟩
  · exact ⟨tm', h1, ho, id⟩
  · exact absurd ho hne

/-- Task `k` keeps its RepeatTask state and its `done` / `woken` flags can only be
    raised; expired timers stay expired; no timer is created for it. -/
structure Keep (k : TaskId) (s s' : Sched) : Prop where
  task : ∀ t : Task, s.tasks[k]? = some t → ∃ t' : Task, s'.tasks[k]? = some t' ∧ t'.rep = t.rep ∧
    t'.body = t.body ∧ t'.done = t.done ∧ (t.woken = true → t'.woken = true)
  fired : ∀ i, s.timerFired i = true → s'.timerFired i = true
  timers : KeepT k s s'

theorem Keep.refl (k : TaskId) (s : Sched) : Keep k s s :=
  ⟨fun t h => ⟨t, h, rfl, rfl, rfl, id⟩, fun _ h => h, KeepT.refl k s⟩

theorem Keep.trans {k : TaskId} {a b c : Sched} (h1 : Keep k a b) (h2 : Keep k b c) : Keep k a c := by
  refine ⟨?_, fun i h => h2.fired i (h1.fired i h), h1.timers.trans h2.timers⟩
  intro t ht
  obtain ⟨t', ht', r1, b1, d1, w1⟩ := h1.task t ht
  obtain ⟨t'', ht'', r2, b2, d2, w2⟩ := h2.task t' ht'
  exact ⟨t'', ht'', r2.trans r1, b2.trans b1, d2.trans d1, fun x => w2 (w1 x)⟩

theorem Keep.lt {k : TaskId} {s s' : Sched} (h : Keep k s s') (hk : k < s.tasks.length) :
    k < s'.tasks.length := by
  obtain ⟨t', ht', _⟩ := h.task _ (List.getElem?_eq_getElem hk)
  exact Sched.get_lt ht'

theorem Keep.of_frame {a} {k : TaskId} {s s' : Sched} (f : Frame a s s') (hk : k < s.tasks.length) :
    Keep k s s' := by
  refine ⟨?_, fun i h => f.timerFired h, KeepT.of_frame f hk⟩
  intro t ht
  obtain ⟨t', ht', b, d, w, r, _⟩ := f.tasks k t ht
  exact ⟨t', ht', r, b, d, fun x => by rw [w]; exact x⟩

/-- A move of the executor on behalf of task `j` (`pollPre j`, what follows the body of `j`): the other
    tasks are untouched, task `j` keeps its body and stays finished, no task is added, expired timers
    stay expired, timers are created for `j` only. -/
structure Touch (j : TaskId) (s s' : Sched) : Prop where
  other : ∀ i, i ≠ j → s'.tasks[i]? = s.tasks[i]?
  self : ∀ t : Task, s.tasks[j]? = some t →
    ∃ t' : Task, s'.tasks[j]? = some t' ∧ t'.body = t.body ∧ (t.done = true → t'.done = true)
  len : s'.tasks.length = s.tasks.length
  fired : ∀ i, s.timerFired i = true → s'.timerFired i = true
  timers : ∀ k, k ≠ j → KeepT k s s'

theorem Touch.refl (j : TaskId) (s : Sched) : Touch j s s :=
  ⟨fun _ _ => rfl, fun t h => ⟨t, h, rfl, id⟩, rfl, fun _ h => h, fun k _ => KeepT.refl k s⟩

theorem Touch.fwd {j : TaskId} {s s' : Sched} (h : Touch j s s') : Fwd s s' := by
  intro k t ht
  by_cases e : k = j
  · subst e; exact h.self t ht
  · exact ⟨t, by rw [h.other k e]; exact ht, rfl, id⟩

theorem Touch.keep {j k : TaskId} {s s' : Sched} (h : Touch j s s') (hne : k ≠ j) : Keep k s s' :=
  ⟨fun t ht => ⟨t, by rw [h.other k hne]; exact ht, rfl, rfl, rfl, id⟩, h.fired, h.timers k hne⟩

theorem Touch.setTask {j : TaskId} {s s1 : Sched} {t t' : Task} (htasks : s1.tasks = s.tasks)
    (hfired : ∀ i, s.timerFired i = true → s1.timerFired i = true) (hT : ∀ k, k ≠ j → KeepT k s s1)
    (hj : s.tasks[j]? = some t) (hb : t'.body = t.body) (hd : t.done = true → t'.done = true) :
    Touch j s (s1.setTask j t') := by
  refine ⟨fun i hi => ?_, fun u hu => ?_, by simp [htasks], fun i h => by simpa using hfired i h, hT⟩
  · rw [Sched.setTask_get_ne _ _ _ _ hi, htasks]
  · rw [hj] at hu; cases hu
    exact ⟨t', Sched.setTask_get_self _ _ _ t (by rw [htasks]; exact hj), hb, hd⟩

/-- What follows the body of task `k` in `pollTask`. -/
inductive Post (k : TaskId) (s : Sched) : Sched → Prop
  | none : Post k s s
  | finish : Post k s (s.finishOnce k)
  | stay (wk : Bool) : Post k s (s.stayPending k wk)
  | cont : Post k s (s.continueRepeat k)

theorem Post.touch {k : TaskId} {s s' : Sched} (h : Post k s s') : Touch k s s' := by
  have plain : ∀ {t t' : Task}, s.tasks[k]? = some t → t'.body = t.body → (t.done = true → t'.done = true) →
      Touch k s (s.setTask k t') :=
    fun hk hb hd => Touch.setTask rfl (fun _ h => h) (fun j _ => KeepT.refl j s) hk hb hd
  cases h with
  | none => exact Touch.refl k s
  | finish =>
    unfold Sched.finishOnce
    cases hk : s.tasks[k]? with
    | none => exact Touch.refl k s
    | some t => exact plain hk rfl (fun _ => rfl)
  | stay wk =>
    unfold Sched.stayPending
    cases hk : s.tasks[k]? with
    | none => exact Touch.refl k s
    | some t => exact plain hk rfl id
  | cont =>
    unfold Sched.continueRepeat
    cases hk : s.tasks[k]? with
    | none => exact Touch.refl k s
    | some t =>
      simp only
      cases t.rep with
      | none => exact Touch.refl k s
      | some r =>
        exact Touch.setTask (by simp) (fun i h => by simpa using h)
          (fun j hne => (KeepT.newTimer s r.2.1 hne.symm).trans (KeepT.registerTimer _ _ _)) hk rfl id

theorem pollPre_touch (s : Sched) (k : TaskId) : Touch k s (s.pollPre k).1 := by
  have plain : ∀ {t t' : Task}, s.tasks[k]? = some t → t'.body = t.body → (t.done = true → t'.done = true) →
      Touch k s (s.setTask k t') :=
    fun hk hb hd => Touch.setTask rfl (fun _ h => h) (fun j _ => KeepT.refl j s) hk hb hd
  have reg : ∀ {t t' : Task} (tm : TimerId), s.tasks[k]? = some t → t'.body = t.body → t'.done = t.done →
      Touch k s ((s.registerTimer tm).setTask k t') :=
    fun tm hk hb hd => Touch.setTask (by simp) (fun i h => by simpa using h)
      (fun j _ => KeepT.registerTimer j s tm) hk hb (fun h => by rw [hd]; exact h)
  exact Sched.pollPre_elim s k (motive := fun r => Touch k s r.1)
    (absent := fun _ => Touch.refl k s)
    (finished := fun _ _ _ => Touch.refl k s)
    (cancelled := fun t ht _ _ => plain ht rfl (fun _ => rfl))
    (arm := fun t d ht _ _ _ => Touch.setTask (by simp) (fun i h => by simpa using h)
      (fun j hne => (KeepT.newTimer s d hne.symm).trans (KeepT.registerTimer _ _ _)) ht rfl id)
    (waitOuter := fun t tm ht _ _ _ _ _ => reg tm ht rfl rfl)
    (once := fun t ht _ _ _ _ _ => plain ht rfl id)
    (waitPeriod := fun t fur iv seq ht _ _ _ _ _ _ => reg fur ht rfl rfl)
    (tick := fun t fur iv seq ht _ _ _ _ _ _ => plain ht rfl id)

/-- When `pollPre` lets the body run: the task as it was and as it is now. -/
theorem pollPre_runs (s : Sched) (k : TaskId) :
    match (s.pollPre k).2 with
    | .none => True
    | .runOnce b => ∃ t t0 : Task, (s.pollPre k).1.tasks[k]? = some t ∧ t.body = b ∧ t.rep = none ∧
        s.tasks[k]? = some t0 ∧ t0.body = b ∧ t0.done = false
    | .runTick b seq => ∃ (t : Task) (fur iv : Nat), (s.pollPre k).1.tasks[k]? = some t ∧ t.body = b ∧
        t.rep = some (fur, iv, seq) ∧ (s.pollPre k).1.timerFired fur = true := by
  exact Sched.pollPre_elim s k (motive := fun r => match r.2 with
    | .none => True
    | .runOnce b => ∃ t t0 : Task, r.1.tasks[k]? = some t ∧ t.body = b ∧ t.rep = none ∧
        s.tasks[k]? = some t0 ∧ t0.body = b ∧ t0.done = false
    | .runTick b seq => ∃ (t : Task) (fur iv : Nat), r.1.tasks[k]? = some t ∧ t.body = b ∧
        t.rep = some (fur, iv, seq) ∧ r.1.timerFired fur = true)
    (absent := fun _ => trivial)
    (finished := fun _ _ _ => trivial)
    (cancelled := fun _ _ _ _ => trivial)
    (arm := fun _ _ _ _ _ _ => trivial)
    (waitOuter := fun _ _ _ _ _ _ _ _ => trivial)
    (once := fun t ht hd _ _ _ hr => ⟨_, t, Sched.setTask_get_self _ _ _ _ ht, rfl, hr, ht, rfl, hd⟩)
    (waitPeriod := fun _ _ _ _ _ _ _ _ _ _ _ => trivial)
    (tick := fun t fur iv seq ht _ _ _ _ hr hf =>
      ⟨_, fur, iv, Sched.setTask_get_self _ _ _ _ ht, rfl, hr, by simpa using hf⟩)

/-- What every move of the model guarantees: the `Eff` clauses without the scheduler detail, plus `Fwd`. -/
structure StepR (w w' : TW) : Prop where
  src : w'.src = w.src
  stg : SLe w.stages w'.stages
  log : sealed w.stages = true → w'.log = w.log
  pulls : fin w.stages = true → nq w.stages = true → w'.pulls = w.pulls
  head : fin w.stages = true → w.src.polls = true →
    w'.stages.take (syncLen w.stages) = w.stages.take (syncLen w.stages)
  fwd : Fwd w.sched w'.sched
  sub : w.srcSubscribed = true → w'.srcSubscribed = true

theorem Eff.stepR {a : Bool} {w w' : TW} (e : Eff a w w') : StepR w w' :=
  ⟨e.src, e.stg, e.log, e.pulls, e.head, Fwd.of_frame e.sch.frame, e.sub⟩

theorem StepR.sched (w : TW) (s' : Sched) (h : Fwd w.sched s') : StepR w { w with sched := s' } :=
  ⟨rfl, SLe.refl _, fun _ => rfl, fun _ _ => rfl, fun _ _ => rfl, h, id⟩

theorem StepR.refl (w : TW) : StepR w w := StepR.sched w _ (Fwd.refl _)

theorem StepR.trans {w1 w2 w3 : TW} (h1 : StepR w1 w2) (h2 : StepR w2 w3) : StepR w1 w3 := by
  refine ⟨h2.src.trans h1.src, h1.stg.trans h2.stg, ?_, ?_, ?_, h1.fwd.trans h2.fwd, fun h => h2.sub (h1.sub h)⟩
  · intro hs; rw [h2.log (h1.stg.sealed hs), h1.log hs]
  · intro hf hq; rw [h2.pulls (h1.stg.fin hf) (h1.stg.nq hq), h1.pulls hf hq]
  · intro hf hp
    have := h2.head (h1.stg.fin hf) (by rw [h1.src]; exact hp)
    rw [h1.stg.syncLen] at this
    rw [this, h1.head hf hp]

/-- The scheduler invariant of a world. -/
def WI (w : TW) : Prop := SInvX w.src none w.sched

/-- One poll: `pollPre`, then the body — an `Eff` move, subscribing (`a = true`) only if the task is a live
    subscribing task —, then the bookkeeping; the scheduler invariant is kept.  Only a RepeatTask whose
    tick runs is outside the invariant (`SInvX _ (some k)`) in between. -/
theorem pollTask_shape {w : TW} (hI : WI w) (k : TaskId) :
    ∃ (a : Bool) (w1 : TW) (s2 : Sched),
      Eff a { w with sched := (w.sched.pollPre k).1 } w1 ∧ Post k w1.sched s2 ∧
      w.pollTask k = { w1 with sched := s2 } ∧ SInvX w.src none s2 ∧
      (a = true → ∃ t : Task, w.sched.tasks[k]? = some t ∧ t.done = false ∧ t.body.isSub = true) := by
  have hinv := hI.pollPre k
  have hrun := pollPre_runs w.sched k
  refine TW.pollTask_cases (M := fun w' => ∃ (a : Bool) (w1 : TW) (s2 : Sched),
      Eff a { w with sched := (w.sched.pollPre k).1 } w1 ∧ Post k w1.sched s2 ∧
      w' = { w1 with sched := s2 } ∧ SInvX w.src none s2 ∧
      (a = true → ∃ t : Task, w.sched.tasks[k]? = some t ∧ t.done = false ∧ t.body.isSub = true)) w k
    (idle := ?idle) (once := ?once) (pending := ?pending) (ready := ?ready) (again := ?again) (last := ?last)
  case idle =>
    intro hp
    rw [hp] at hinv
    exact ⟨false, _, _, Eff.refl _ _, .none, rfl, hinv, nofun⟩
  case once =>
    intro b hp _
    rw [hp] at hinv hrun
    obtain ⟨t, t0, ht, hb, hr, ht0, hb0, hd0⟩ := hrun
    have inv1 : SInvX w.src none (w.sched.pollPre k).1 := hinv
    have e := runBody_eff ({ w with sched := (w.sched.pollPre k).1 } : TW) b (hb ▸ inv1.bodies k t ht)
    exact ⟨b.isSub, _, _, e, .finish, rfl, (inv1.be e.sch).weaken.finishOnce,
      fun h => ⟨t0, ht0, hd0, hb0 ▸ h⟩⟩
  case pending =>
    intro b w1 wk hp _ hra
    rw [hp] at hinv hrun
    obtain ⟨t, t0, ht, hb, hr, _⟩ := hrun
    have inv1 : SInvX w.src none (w.sched.pollPre k).1 := hinv
    have e := runAsync_eff ({ w with sched := (w.sched.pollPre k).1 } : TW) b
    rw [hra] at e
    refine ⟨false, w1, _, e, .stay wk, rfl, (inv1.be e.sch).stayPending wk ?_, nofun⟩
    intro t' ht'
    obtain ⟨t'', ht'', _, _, _, hr'', _⟩ := e.sch.frame.tasks k t ht
    rw [ht'] at ht''; cases ht''
    rw [hr'', hr]
  case ready =>
    intro b w1 o hp _ hra _
    rw [hp] at hinv
    have inv1 : SInvX w.src none (w.sched.pollPre k).1 := hinv
    have e := runAsync_eff ({ w with sched := (w.sched.pollPre k).1 } : TW) b
    rw [hra] at e
    exact ⟨false, w1, _, e, .finish, rfl, (inv1.be e.sch).weaken.finishOnce, nofun⟩
  case again =>
    intro b seq hp _
    rw [hp] at hinv hrun
    obtain ⟨t, fur, iv, ht, hb, hr, hf⟩ := hrun
    have inv1 : SInvX w.src (some k) (w.sched.pollPre k).1 := hinv
    have e := runTick_eff ({ w with sched := (w.sched.pollPre k).1 } : TW) b seq
    obtain ⟨t', ht', _, _, _, hr', _⟩ := e.sch.frame.tasks k t ht
    exact ⟨false, _, _, e, .cont, rfl,
      (inv1.be e.sch).continueRepeat ht' (hr'.trans hr) (e.sch.frame.timerFired hf), nofun⟩
  case last =>
    intro b seq hp _
    rw [hp] at hinv
    have inv1 : SInvX w.src (some k) (w.sched.pollPre k).1 := hinv
    have e := runTick_eff ({ w with sched := (w.sched.pollPre k).1 } : TW) b seq
    exact ⟨false, _, _, e, .finish, rfl, (inv1.be e.sch).finishOnce, nofun⟩

theorem pollTask_ok {w : TW} (hI : WI w) (k : TaskId) : WI (w.pollTask k) ∧ StepR w (w.pollTask k) := by
  obtain ⟨a, w1, s2, e, hp, heq, hinv, _⟩ := pollTask_shape hI k
  rw [heq]
  refine ⟨?_, (StepR.sched w _ (pollPre_touch _ k).fwd).trans (e.stepR.trans (StepR.sched w1 s2 hp.touch.fwd))⟩
  show SInvX w1.src none s2
  rw [e.src]; exact hinv

theorem pollTask_keep {w : TW} (hI : WI w) {k j : TaskId} (hne : j ≠ k) (hk : k < w.sched.tasks.length) :
    Keep k w.sched (w.pollTask j).sched := by
  obtain ⟨a, w1, s2, e, hp, heq, _⟩ := pollTask_shape hI j
  rw [heq]
  have k0 := (pollPre_touch w.sched j).keep hne.symm
  exact (k0.trans (Keep.of_frame e.sch.frame (k0.lt hk))).trans (hp.touch.keep hne.symm)

theorem pollAll_cons_cases (w : TW) (k : TaskId) (r : List TaskId) :
    (w.pollAll (k :: r) = (w.pollTask k).pollAll r ∧ ∃ t : Task, w.sched.tasks[k]? = some t ∧ t.done = false) ∨
    (w.pollAll (k :: r) = w.pollAll r ∧
      (w.sched.tasks[k]? = none ∨ ∃ t : Task, w.sched.tasks[k]? = some t ∧ t.done = true)) := by
  simp only [TW.pollAll]
  cases h : w.sched.tasks[k]? with
  | none => right; simp
  | some t =>
    cases hd : t.done with
    | false => left; simp [hd]
    | true => right; simp [hd]

def TW.runEvs (w : TW) (evs : List TW.Ev) : TW := evs.foldl TW.step w

theorem runEvs_append (w : TW) (a b : List TW.Ev) : w.runEvs (a ++ b) = (w.runEvs a).runEvs b := by
  simp [TW.runEvs, List.foldl_append]

theorem Eff.wi {a : Bool} {w w' : TW} (e : Eff a w w') (h : WI w) : WI w' := by
  show SInvX w'.src none _
  rw [e.src]; exact h.be e.sch

theorem moves_ok : Moves WI StepR :=
  ⟨StepR.refl, StepR.trans, fun _ k h => pollTask_ok h k,
    fun w tm h => ⟨h.fire tm, StepR.sched w _ (Fwd.fire _ tm)⟩,
    fun w d h => ⟨h.adv d, StepR.sched w _ (Fwd.of_tasks rfl)⟩,
    fun w h => ⟨(step_sub_eff w).wi h, (step_sub_eff w).stepR⟩,
    fun w i n h => ⟨(step_emit_eff w i n).wi h, (step_emit_eff w i n).stepR⟩,
    fun w h => ⟨(step_unsub_eff w).wi h, (step_unsub_eff w).stepR⟩⟩

theorem pollAll_ok (l : List TaskId) {w : TW} (h : WI w) : WI (w.pollAll l) ∧ StepR w (w.pollAll l) :=
  moves_ok.pollAll l h

theorem fireAll_ok {w : TW} (h : WI w) (l : List TimerId) :
    WI { w with sched := l.foldl Sched.fire w.sched } ∧
      StepR w { w with sched := l.foldl Sched.fire w.sched } := moves_ok.fireAll l h

theorem runLoop_ok (fuel : Nat) {w : TW} (h : WI w) : WI (TW.runLoop fuel w) ∧ StepR w (TW.runLoop fuel w) :=
  moves_ok.runLoop fuel h

theorem step_ok {w : TW} (h : WI w) (e : TW.Ev) : WI (w.step e) ∧ StepR w (w.step e) := moves_ok.step h e

theorem runEvs_ok (evs : List TW.Ev) {w : TW} (h : WI w) : WI (w.runEvs evs) ∧ StepR w (w.runEvs evs) :=
  moves_ok.steps evs h

/-- The world `Driver/SuiteTime.lean` builds. -/
def TW.start (src : TSrc) (stages : List Stage) : TW := { src := src, stages := stages }

theorem WI.start (src : TSrc) (stages : List Stage) : WI { src := src, stages := stages } :=
  SInvX.init src

theorem reach_WI (src : TSrc) (stages : List Stage) (evs : List TW.Ev) :
    WI ((TW.start src stages).runEvs evs) := (runEvs_ok evs (WI.start src stages)).1

theorem reach_src (src : TSrc) (stages : List Stage) (evs : List TW.Ev) :
    ((TW.start src stages).runEvs evs).src = src := (runEvs_ok evs (WI.start src stages)).2.src

end Rx.T
