import RxModel.Lemmas.ChainFifoBase
/-
  C07 (FIFO clause): `observe_on` over a hot source under the FIFO
  executor (`runLoop`).

  The worlds reachable from `{ src := .hot 0, stages := [.observeOn true (some [])] }`
  by `sub`, `emit`, `adv`, `run` are exactly described by an abstract state `OA`:
  the notifications whose task has run (`D`), those whose task is still fresh
  (`F`), the slot (`alive`), the probe log.  `mkW` rebuilds the concrete world.
-/
namespace Rx.T.Obs
open Rx Rx.T

def doneT (n : Notif) : Task := { body := .emit 0 n, hasValue := true, done := true, woken := false }
def freshT (n : Notif) : Task := { body := .emit 0 n }

structure OA where
  now : Nat := 0
  D : List Notif := []
  F : List Notif := []
  alive : Bool := true
  log : List Notif := []
  term : Bool := false       -- subject 0 has seen a terminal

def mkW (base : TW) (a : OA) (m : Option (List TaskId)) : TW :=
  { base with sched := { now := a.now, timers := [], tasks := a.D.map doneT ++ a.F.map freshT },
              stages := [.observeOn a.alive m], log := a.log }

/-- All fresh tasks run, in spawn order. -/
def OA.run (a : OA) : OA :=
  { a with D := a.D ++ a.F, F := [], alive := (deliver a.alive a.F).1,
           log := a.log ++ (deliver a.alive a.F).2 }

theorem pollTask_fresh (base : TW) (a : OA) (m) (n : Notif) (F' : List Notif) (hF : a.F = n :: F') :
    (mkW base a m).pollTask a.D.length =
      mkW base { a with D := a.D ++ [n], F := F', alive := a.alive && !n.isTerm,
                        log := a.log ++ (if a.alive then [n] else []) } m := by
  have hget : (a.D.map doneT ++ freshT n :: F'.map freshT)[a.D.length]? = some (freshT n) := by
    simp
  have hp : (mkW base a m).sched.pollPre a.D.length =
      ({ now := a.now, timers := [], tasks := a.D.map doneT ++ { freshT n with woken := false } :: F'.map freshT },
        .runOnce (.emit 0 n)) := by
    rw [Sched.pollPre_once (t := freshT n) (by simp [mkW, hF]) rfl rfl rfl (fun _ e => by cases e) rfl]
    simp [mkW, hF, freshT, Sched.setTask]
  have hst : (if (Stage.observeOn a.alive m).mAlive && n.isTerm then (Stage.observeOn a.alive m).mKill
      else .observeOn a.alive m) = .observeOn (a.alive && !n.isTerm) m := by
    cases a.alive <;> cases n.isTerm <;> rfl
  unfold TW.pollTask
  rw [hp]
  simp only [Body.isAsync, Bool.false_eq_true, if_false]
  rw [runBody_one1 _ (.observeOn a.alive m) rfl rfl n, hst]
  simp [mkW, Stage.mAlive, Sched.finishOnce, Sched.setTask, freshT, doneT]
  rfl

theorem pollAll_fresh (base : TW) (m) : ∀ (F : List Notif) (a : OA), a.F = F →
    (mkW base a m).pollAll (List.range' a.D.length F.length) = mkW base a.run m := by
  intro F
  induction F with
  | nil =>
    intro a hF
    cases a; simp_all [TW.pollAll_nil, OA.run, deliver]
  | cons n F' ih =>
    intro a hF
    have hget : (mkW base a m).sched.tasks[a.D.length]? = some (freshT n) := by
      simp [mkW, hF]
    simp only [List.length_cons, List.range'_succ, TW.pollAll_cons, hget]
    have hlive : (!(freshT n).done) = true := rfl
    rw [hlive, if_pos rfl, pollTask_fresh base a m n F' hF]
    have := ih { a with D := a.D ++ [n], F := F', alive := a.alive && !n.isTerm,
                        log := a.log ++ (if a.alive then [n] else []) } rfl
    simp only [List.length_append, List.length_singleton] at this
    rw [this]
    simp [OA.run, hF, deliver]

theorem ready_mkW (base : TW) (a : OA) (m) :
    idxs (fun t => t.woken && !t.done) (mkW base a m).sched.tasks 0 = List.range' a.D.length a.F.length := by
  simp only [mkW, idxs_append, List.length_map, Nat.zero_add]
  rw [idxs_none, idxs_all]
  · simp
  · intro x hx; simp only [List.mem_map] at hx; obtain ⟨n, _, rfl⟩ := hx; rfl
  · intro x hx; simp only [List.mem_map] at hx; obtain ⟨n, _, rfl⟩ := hx; rfl

theorem runLoop_quiet (base : TW) (a : OA) (m) (f : Nat) (hF : a.F = []) :
    TW.runLoop (f + 1) (mkW base a m) = mkW base a m := by
  have hd : (mkW base a m).sched.dueTimers = [] := by simp [Sched.dueTimers, mkW]
  have hr := ready_mkW base a m
  rw [TW.runLoop_succ_idxs, hd, List.foldl_nil, hr, hF]
  rfl

/-- Two passes of the executor's loop suffice: the first runs every fresh task, the
    second finds nothing to do. -/
theorem runLoop_obs (base : TW) (a : OA) (m) (f : Nat) :
    TW.runLoop (f + 2) (mkW base a m) = mkW base a.run m := by
  have hd : (mkW base a m).sched.dueTimers = [] := by simp [Sched.dueTimers, mkW]
  have hr := ready_mkW base a m
  have hw : ({ mkW base a m with sched := (mkW base a m).sched } : TW) = mkW base a m := rfl
  rw [TW.runLoop_succ_idxs, hd, List.foldl_nil, hr, hw]
  cases hF : a.F with
  | nil => cases a; simp_all [OA.run, deliver]
  | cons n F' =>
    have := pollAll_fresh base m a.F a rfl
    rw [hF] at this
    rw [this]
    simp only [List.length_cons, List.range'_succ, List.isEmpty_cons, Bool.and_false,
      Bool.false_eq_true, if_false]
    exact runLoop_quiet base a.run m f rfl

def OA.step (a : OA) : TW.Ev → OA
  | .emit i n =>
    if i ≠ 0 ∨ a.term then a
    else { a with F := a.F ++ [n], term := n.isTerm }
  | .adv k => { a with now := a.now + k }
  | .run => a.run
  | _ => a

/-- `w` is the world described by `a`. -/
def RO (a : OA) (w : TW) : Prop := ∃ base m, w = mkW base a m ∧ Hot0 a.term base

theorem mkW_congr (base : TW) (a a' : OA) (m) (h1 : a.now = a'.now) (h2 : a.D = a'.D) (h3 : a.F = a'.F)
    (h4 : a.alive = a'.alive) (h5 : a.log = a'.log) : mkW base a m = mkW base a' m := by
  cases a; cases a'; simp_all [mkW]

theorem push_emit (base : TW) (a : OA) (m) (n : Notif) :
    (mkW base a m).push 0 [n] =
      mkW base { a with F := a.F ++ [n] } (m.map (· ++ [a.D.length + a.F.length])) := by
  rw [TW.push_zero _ (.observeOn a.alive m) n rfl, Stage.onNotif_observeOn,
    Stage.afterEmit_mover (.observeOn _ _) rfl]
  simp [mkW, Sched.scheduleOnce, freshT]

theorem step_sim (a : OA) (w : TW) (ev : TW.Ev) (hev : FifoEv ev) (h : RO a w) :
    RO (a.step ev) (w.step ev) := by
  obtain ⟨base, m, rfl, hH⟩ := h
  cases hev with
  | adv k => exact ⟨base, m, rfl, hH⟩
  | run => exact ⟨base, m, runLoop_obs base a m 9998, hH⟩  -- `step .run` is `runLoop 10000` = `runLoop (9998 + 2)`
  | emit i n =>
    have hH' : Hot0 a.term (mkW base a m) := ⟨hH.src, hH.sub, hH.alive, hH.term⟩
    obtain ⟨tl, al, hN, hstep⟩ := hH'.step_emit (st := .observeOn a.alive m) rfl rfl i n
    rw [hstep]
    by_cases hc : i = 0 ∧ a.term = false
    · obtain ⟨rfl, hT⟩ := hc
      rw [if_pos ⟨rfl, hT⟩]
      have ha : a.step (.emit 0 n) = { a with F := a.F ++ [n], term := n.isTerm } := by simp [OA.step, hT]
      rw [ha]
      refine ⟨{ base with terminated := tl, srcAlive := al }, m.map (· ++ [a.D.length + a.F.length]), ?_, ?_⟩
      · show (mkW { base with terminated := tl, srcAlive := al } a m).push 0 [n] = _
        exact (push_emit _ a m n).trans (mkW_congr _ _ _ _ rfl rfl rfl rfl rfl)
      · rw [hT] at hN
        exact ⟨hN.src, hN.sub, hN.alive, hN.term⟩
    · rw [if_neg hc]
      obtain ⟨hc', ht⟩ := emit_flag n hc
      have ha : a.step (.emit i n) = a := by simp only [OA.step]; rw [if_pos hc']
      rw [ha]
      rw [ht] at hN
      exact ⟨{ base with terminated := tl, srcAlive := al }, m, rfl, ⟨hN.src, hN.sub, hN.alive, hN.term⟩⟩

structure OInv (a : OA) (s : List Notif) : Prop where
  q : a.D ++ a.F = gate s
  term : a.term = terminated s
  log : a.log = a.D
  alive : a.alive = !terminated a.D

theorem OInv.alive_open {a : OA} {s : List Notif} (h : OInv a s) (hs : terminated s = false) : a.alive = true := by
  have hD : terminated a.D = false := by
    have := terminated_append a.D a.F
    rw [h.q, gate_eq_self_of_not_terminated s hs, hs] at this
    cases h' : terminated a.D with
    | false => rfl
    | true => rw [h'] at this; simp at this
  rw [h.alive, hD]; rfl

theorem OInv_step (a : OA) (s : List Notif) (ev : TW.Ev) (hev : FifoEv ev) (h : OInv a s) :
    OInv (a.step ev) (s ++ scriptOf ev) := by
  obtain ⟨hq, ht, hl, hal⟩ := h
  cases hev with
  | adv k =>
    simp only [OA.step, scriptOf, List.append_nil]
    exact ⟨hq, ht, hl, hal⟩
  | emit i n =>
    by_cases hi : i = 0
    · subst hi
      cases hT : a.term with
      | true =>
        have hts : terminated s = true := by rw [← ht, hT]
        have ha : a.step (.emit 0 n) = a := by simp [OA.step, hT]
        rw [ha]
        exact ⟨by simp [scriptOf, gate_append_of_terminated _ _ hts, hq],
               by simp [scriptOf, terminated_append, hts, hT], hl, hal⟩
      | false =>
        have hts : terminated s = false := by rw [← ht, hT]
        have hgs : gate s = s := gate_eq_self_of_not_terminated s hts
        have hA : a.alive = true := OInv.alive_open ⟨hq, ht, hl, hal⟩ hts
        have ha : a.step (.emit 0 n) = { a with F := a.F ++ [n], term := n.isTerm } := by
          simp [OA.step, hT, hA]
        rw [ha]
        refine ⟨?_, ?_, hl, hal⟩
        · simp only [scriptOf, if_true]
          rw [gate_append_of_not_terminated _ _ hts, ← List.append_assoc, hq, hgs]
          cases n <;> rfl
        · simp [scriptOf, terminated_append, hts, terminated_single]
    · have ha : a.step (.emit i n) = a := by simp [OA.step, hi]
      rw [ha]
      simpa [scriptOf, hi] using (⟨hq, ht, hl, hal⟩ : OInv a s)
  | run =>
    have hwf : WF (a.D ++ a.F) := by rw [hq]; exact WF_gate s
    obtain ⟨_, hDF, hF⟩ := (WF_append_iff _ _).mp hwf
    simp only [scriptOf, List.append_nil, OA.step, OA.run]
    cases hD : terminated a.D with
    | true =>
      have hFn := hDF hD
      refine ⟨by simpa [hFn] using hq, ht, ?_, ?_⟩
      · simp [hFn, deliver, hl]
      · simp [hFn, deliver, hal, hD]
    | false =>
      have hA : a.alive = true := by rw [hal, hD]; rfl
      refine ⟨by simpa using hq, ht, ?_, ?_⟩
      · simp [hA, deliver_true, gate_of_WF hF, hl]
      · simp [hA, deliver_true, terminated_append, hD]

/-- The world of the statement: `observe_on` over the hot subject 0. -/
def w₀ : TW := { src := .hot 0, stages := [.observeOn true (some [])] }

theorem RO_init : RO {} (w₀.step .sub) :=
  ⟨w₀.step .sub, some [], rfl, rfl, rfl, fun _ => rfl, rfl⟩

theorem OInv_init : OInv {} [] := ⟨rfl, rfl, rfl, rfl⟩

theorem fifo_main (evs : List TW.Ev) (hall : ∀ e ∈ evs, FifoEv e) :
    ∃ a : OA, RO a (evs.foldl TW.step (w₀.step .sub)) ∧ OInv a (script evs) := by
  have := fold_indexed (fun s e => s ++ scriptOf e) TW.step (fun s w => ∃ a, RO a w ∧ OInv a s)
    (fun s w e he ⟨a, hr, hi⟩ => ⟨a.step e, step_sim a w e he hr, OInv_step a s e he hi⟩)
    evs [] _ hall ⟨{}, RO_init, OInv_init⟩
  rwa [foldl_script, List.nil_append] at this

theorem RO_log {a : OA} {w : TW} (h : RO a w) : w.log = a.log := by
  obtain ⟨base, m, rfl, _⟩ := h; rfl

theorem fifo_prefix (evs : List TW.Ev) (hall : ∀ e ∈ evs, FifoEv e) :
    (evs.foldl TW.step (w₀.step .sub)).log <+: gate (script evs) := by
  obtain ⟨a, hr, hi⟩ := fifo_main evs hall
  rw [RO_log hr, hi.log, ← hi.q]
  exact List.prefix_append _ _

theorem fifo_all (evs : List TW.Ev) (hall : ∀ e ∈ evs, FifoEv e) :
    ((evs ++ [TW.Ev.run]).foldl TW.step (w₀.step .sub)).log = gate (script (evs ++ [TW.Ev.run])) := by
  obtain ⟨a, hr, hi⟩ := fifo_main evs hall
  have hr' := step_sim a _ TW.Ev.run FifoEv.run hr
  have hi' := OInv_step a _ TW.Ev.run FifoEv.run hi
  rw [List.foldl_append, List.foldl_cons, List.foldl_nil, RO_log hr', hi'.log]
  have hq := hi'.q
  have hF : (a.step TW.Ev.run).F = [] := rfl
  rw [hF, List.append_nil] at hq
  rw [hq]
  simp [script, scriptOf]

end Rx.T.Obs
