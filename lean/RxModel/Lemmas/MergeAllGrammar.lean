import RxModel.Lemmas.MergeAllHistory
/-
  Helper lemmas for C01M / C02M (merge_all): the downstream log of the
  operator is well-formed for every history, and silent after `unsub`.
  Everything is generic in `fixed` (code as it is / repaired code) and holds
  from EVERY state, reachable or not.
-/
namespace Rx.MergeAll

/-- The notifications the downstream observer receives. -/
def notifs (o : List Out) : List Notif := o.map Out.toNotif

@[simp] theorem notifs_nil : notifs [] = [] := rfl
@[simp] theorem notifs_append (a b : List Out) : notifs (a ++ b) = notifs a ++ notifs b := by
  simp [notifs]
@[simp] theorem notifs_items (tag : Nat) (xs : List Val) :
    notifs (xs.map (Out.item tag)) = xs.map Notif.next := by
  simp [notifs, Out.toNotif]
@[simp] theorem notifs_error (e : Err) : notifs [.error e] = [.error e] := rfl
@[simp] theorem notifs_complete : notifs [.complete] = [.complete] := rfl

/-- One transition, seen from the downstream observer: the output is
    well-formed, a terminal in it kills the cell (`alive = false`), and a dead
    cell stays dead and silent. -/
structure Tr (s : St) (r : St × List Out) : Prop where
  wf : WF (notifs r.2)
  term : terminated (notifs r.2) = true → r.1.alive = false
  dead : s.alive = false → r.2 = [] ∧ r.1.alive = false

theorem Tr.silent (s : St) (h : s.alive = false → s'.alive = false) : Tr s (s', []) :=
  ⟨by simp, by simp [terminated], fun hd => ⟨rfl, h hd⟩⟩

/-- A log without terminal delivers items only. -/
theorem notifs_outs_noterm (l : List Lab) (h : hasTerm l = false) :
    WF (notifs (outs l)) ∧ terminated (notifs (outs l)) = false := by
  induction l with
  | nil => exact ⟨trivial, rfl⟩
  | cons x r ih =>
    rw [hasTerm_cons, Bool.or_eq_false_iff] at h
    cases x with
    | arrive i => exact ih h.2
    | start i => exact ih h.2
    | out o =>
      cases o with
      | item t v => exact ih h.2
      | error e => cases h.1
      | complete => cases h.1

/-- The grammar is the shape of the log (`Ends`) read through `outs`. -/
theorem Tr.of_ends {s : St} {r : St × List Out} {l : List Lab} (h : Ends s r l)
    (ho : outs l = r.2) : Tr s r := by
  obtain ⟨hsh, hq⟩ := h
  refine ⟨?_, ?_, fun hd => ⟨by rw [← ho, hq hd]; rfl, ?_⟩⟩
  · rw [← ho]
    rcases hsh with ⟨ht, _⟩ | ⟨l', x, rfl, hx, ht, _⟩
    · exact (notifs_outs_noterm l ht).1
    · have := notifs_outs_noterm l' ht
      rw [outs_append, notifs_append]
      refine WF_append this.1 this.2 ?_
      cases x with
      | out o => exact WF_single _
      | _ => cases hx
  · intro ht
    rcases hsh with ⟨hn, _⟩ | ⟨_, _, _, _, _, hd⟩
    · rw [← ho, (notifs_outs_noterm l hn).2] at ht; cases ht
    · exact hd
  · exact (hsh.alive_of_noterm (by rw [hq hd]; rfl)).trans hd

theorem runG_tr (f : Bool) (evs : List Ev) (s : St) : Tr s (runG f s evs) :=
  .of_ends (runG_ends f evs s) (outs_runL f evs s)

theorem completeAll_nil (f : Bool) (s : St) : completeAll f s [] = (s, []) := rfl
theorem errorAll_nil (s : St) (e : Err) : errorAll s e [] = (s, []) := rfl

/-- After `unsubscribe()` nobody holds a path to the cell: no event reaches it. -/
theorem stepG_severed (f : Bool) (s : St) (ev : Ev) (ho : s.outerOpen = false) (hs : s.subs = []) :
    (stepG f s ev).2 = [] ∧ (stepG f s ev).1.outerOpen = false ∧ (stepG f s ev).1.subs = [] := by
  have ht : ∀ j, targets s j = [] := fun j => by simp [targets, hs]
  have closed : s.outerOpen = true → ∀ {p : Prop}, p := fun h => by rw [ho] at h; cases h
  exact stepG_cases f s ev (P := fun r _ => r.2 = [] ∧ r.1.outerOpen = false ∧ r.1.subs = [])
    (idle := fun _ => ⟨rfl, ho, hs⟩) (lost := fun _ _ _ h => closed h) (room := fun _ _ _ h => closed h)
    (full := fun _ _ _ h => closed h) (outer := fun _ _ _ _ _ _ _ h => closed h)
    (inext := fun j _ _ _ _ => ⟨by rw [ht]; split <;> rfl, ho, hs⟩)
    (ierr := fun j _ _ _ _ _ _ hE => by
      cases hE with
      | none _ => exact ⟨rfl, ho, by simp [St.take, hs]⟩
      | term _ hne => exact absurd (ht j) hne)
    (icomp := fun j _ _ _ => by rw [ht]; exact ⟨rfl, ho, by simp [St.take, hs, completeAll_nil]⟩)
    (unsub := fun _ _ => ⟨rfl, rfl, rfl⟩)

/-- What `unsubscribe()` establishes: nobody holds a path to the cell (or the
    operator is stuck in a panic, which is silent too). -/
def Cut (s : St) : Prop := s.stuck = true ∨ (s.outerOpen = false ∧ s.subs = [])

theorem stepG_cut (f : Bool) (s : St) (ev : Ev) (h : Cut s) :
    (stepG f s ev).2 = [] ∧ Cut (stepG f s ev).1 := by
  rcases h with h | ⟨ho, hs⟩
  · rw [stepG_of_stuck h]; exact ⟨rfl, Or.inl h⟩
  · have := stepG_severed f s ev ho hs
    exact ⟨this.1, Or.inr this.2⟩

theorem runG_cut (f : Bool) (evs : List Ev) : ∀ s : St, Cut s → (runG f s evs).2 = [] := by
  induction evs with
  | nil => intro s _; rfl
  | cons ev r ih =>
    intro s h
    have := stepG_cut f s ev h
    simp only [runG, this.1, ih _ this.2, List.append_nil]

theorem runG_unsub (f : Bool) (s : St) (post : List Ev) : (runG f s (.unsub :: post)).2 = [] := by
  have h1 : (stepG f s .unsub).2 = [] ∧ Cut (stepG f s .unsub).1 := by
    cases h : s.stuck with
    | true => rw [stepG_of_stuck h]; exact ⟨rfl, Or.inl h⟩
    | false => rw [stepG_of_not_stuck h]; exact ⟨rfl, Or.inr ⟨rfl, rfl⟩⟩
  simp only [runG, h1.1, runG_cut f post _ h1.2, List.append_nil]

end Rx.MergeAll
