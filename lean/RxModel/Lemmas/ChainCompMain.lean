import RxModel.Lemmas.ChainCompSim
/-
  C07C: the events and the simulation theorem.  `feedEvs pre evs` replaces every effective emission of
  subject 0 by the emissions of what the observers `pre` output for it.  The world with stages
  `pre ++ [T] ++ post` driven by `evs` is the `lift` of the one-stage world `[T]` driven by
  `feedEvs pre evs` (`MainInv`, kept by every FIFO event); hence `comp_sim`: for every FIFO history
  the probe log of `pre ++ [T] ++ post` is what `post` makes of the probe log of the one-stage world.
-/
namespace Rx.T
open Rx Rx.Spec

structure FS where
  ps : List St1
  t : Bool := false
  out : List TW.Ev := []

def FS.step (f : FS) : TW.Ev → FS
  | .emit i n =>
    if i = 0 ∧ f.t = false then
      { ps := (runChain f.ps [n]).1, t := n.isTerm,
        out := f.out ++ (runChain f.ps [n]).2.map (TW.Ev.emit 0) }
    else f
  | .adv k => { f with out := f.out ++ [.adv k] }
  | .run => { f with out := f.out ++ [.run] }
  | _ => f

def feedSt (pre : List St1) (evs : List TW.Ev) : FS := evs.foldl FS.step { ps := pre }

/-- Every effective emission of subject 0 replaced by the emissions of what `pre` outputs. -/
def feedEvs (pre : List St1) (evs : List TW.Ev) : List TW.Ev := (feedSt pre evs).out

theorem feedSt_snoc (pre : List St1) (evs : List TW.Ev) (e : TW.Ev) :
    feedSt pre (evs ++ [e]) = (feedSt pre evs).step e := by
  simp [feedSt, List.foldl_append]

/-- What the feed is, in terms of the script. -/
structure FSI (pre : List St1) (s : List Notif) (f : FS) : Prop where
  t : f.t = terminated s
  ps : f.ps = (runChain pre (gate s)).1
  out : script f.out = (runChain pre (gate s)).2
  fifo : ∀ e ∈ f.out, FifoEv e

theorem FSI_step (pre : List St1) (s : List Notif) (f : FS) (e : TW.Ev) (he : FifoEv e) (h : FSI pre s f) :
    FSI pre (s ++ scriptOf e) (f.step e) := by
  obtain ⟨ht, hps, hout, hf⟩ := h
  cases he with
  | adv k =>
    refine ⟨by simpa [scriptOf, FS.step] using ht, by simpa [scriptOf, FS.step] using hps, ?_, ?_⟩
    · simp [scriptOf, FS.step, script]; simpa [script] using hout
    · intro x hx
      simp only [FS.step, List.mem_append, List.mem_singleton] at hx
      rcases hx with hx | rfl
      · exact hf x hx
      · exact .adv k
  | run =>
    refine ⟨by simpa [scriptOf, FS.step] using ht, by simpa [scriptOf, FS.step] using hps, ?_, ?_⟩
    · simp [scriptOf, FS.step, script]; simpa [script] using hout
    · intro x hx
      simp only [FS.step, List.mem_append, List.mem_singleton] at hx
      rcases hx with hx | rfl
      · exact hf x hx
      · exact .run
  | emit i n =>
    by_cases hi : i = 0
    · subst hi
      cases hT : f.t with
      | true =>
        have hts : terminated s = true := by rw [← ht, hT]
        have e1 : f.step (.emit 0 n) = f := by simp [FS.step, hT]
        rw [e1]
        exact ⟨by simp [scriptOf, terminated_append, hts, hT],
          by simp [scriptOf, gate_append_of_terminated _ _ hts, hps],
          by simp [scriptOf, gate_append_of_terminated _ _ hts, hout], hf⟩
      | false =>
        have hts : terminated s = false := by rw [← ht, hT]
        have e1 : f.step (.emit 0 n) =
            { ps := (runChain f.ps [n]).1, t := n.isTerm,
              out := f.out ++ (runChain f.ps [n]).2.map (TW.Ev.emit 0) } := by
          simp [FS.step, hT]
        rw [e1]
        simp only [scriptOf, if_true]
        refine ⟨by simp [terminated_append, hts, terminated_single], ?_, ?_, ?_⟩
        · rw [gate_snoc s n hts, runChain_append, ← hps]
        · rw [gate_snoc s n hts, runChain_append, ← hps]
          simp only [script_append, script_emits, hout]
        · intro x hx
          simp only [List.mem_append] at hx
          rcases hx with hx | hx
          · exact hf x hx
          · exact fifo_emits _ x hx
    · have e1 : f.step (.emit i n) = f := by simp [FS.step, hi]
      rw [e1]
      simpa [scriptOf, hi] using (⟨ht, hps, hout, hf⟩ : FSI pre s f)

theorem FSI_feed (pre : List St1) (evs : List TW.Ev) (hall : ∀ e ∈ evs, FifoEv e) :
    FSI pre (script evs) (feedSt pre evs) := by
  have := fold_indexed (fun s e => s ++ scriptOf e) FS.step (fun s f => FSI pre s f)
    (fun s f e he h => FSI_step pre s f e he h) evs [] { ps := pre } hall
    ⟨rfl, by simp [gate, runChain_nil], by simp [gate, runChain_nil, script], by simp⟩
  rwa [foldl_script, List.nil_append] at this

/-- What the simulation needs to know about a one-stage world whose subject has emitted `s`. -/
structure Open1 (w : TW) (s : List Notif) : Prop where
  src : w.src = .hot 0
  sub : w.srcSubscribed = true
  one : One1 w
  term : w.terminated.contains 0 = terminated s
  alive : terminated s = false → w.srcAlive = true ∧ ∀ T, w.stages = [T] → T.mAlive = true

/-- Agreement on the fields `lift` reads. -/
def Eq3 (a b : TW) : Prop := a.sched = b.sched ∧ a.stages = b.stages ∧ a.log = b.log

theorem Eq3.refl (a : TW) : Eq3 a a := ⟨rfl, rfl, rfl⟩

theorem Eq3.push {a b : TW} (h : Eq3 a b) (j : Nat) (ns : List Notif) : Eq3 (a.push j ns) (b.push j ns) := by
  obtain ⟨h1, h2, h3⟩ := h
  simp only [Eq3, TW.push, h1, h2, h3, and_self]

theorem Eq3.pushMany {a b : TW} (h : Eq3 a b) (mid : List Notif) :
    Eq3 (mid.foldl (fun w m => w.push 0 [m]) a) (mid.foldl (fun w m => w.push 0 [m]) b) := by
  induction mid generalizing a b with
  | nil => exact h
  | cons m r ih => exact ih (h.push 0 [m])

theorem Eq3.lift {a b : TW} (h : Eq3 a b) (post0 : List St1) (j : Nat) (base : TW) (preS : List St1) :
    lift post0 j base preS a = lift post0 j base preS b :=
  lift_congr _ _ _ _ _ _ h.1 h.2.1 h.2.2

theorem Open1.hot0 {w : TW} {s : List Notif} (h : Open1 w s) : Hot0 (terminated s) w :=
  ⟨h.src, h.sub, fun e => (h.alive e).1, h.term⟩

/-- An emission of the live, unterminated subject reaches the stage. -/
theorem Open1.step_emit {w : TW} {s : List Notif} (h : Open1 w s) (hs : terminated s = false) (m : Notif) :
    Eq3 (w.step (.emit 0 m)) (w.push 0 [m]) := by
  obtain ⟨T, hst, hT⟩ := h.one.stage
  obtain ⟨tl, al, _, e⟩ := h.hot0.step_emit hst hT 0 m
  rw [e, if_pos ⟨rfl, hs⟩]
  exact ⟨rfl, rfl, rfl⟩

/-- A kind of mover: its one-stage worlds (subscribed, driven by FIFO events) are `Open1`. -/
def Kind (w0s : TW) : Prop :=
  ∀ evs : List TW.Ev, (∀ e ∈ evs, FifoEv e) → Open1 (evs.foldl TW.step w0s) (script evs)

/-- Emissions through the subject = direct deliveries to the stage, as long as the total
    script stays well formed. -/
theorem Kind.feed_steps {w0s : TW} (K : Kind w0s) (mid : List Notif) : ∀ (evs : List TW.Ev),
    (∀ e ∈ evs, FifoEv e) → WF (script evs ++ mid) →
    Eq3 ((evs ++ mid.map (TW.Ev.emit 0)).foldl TW.step w0s)
        (mid.foldl (fun w m => w.push 0 [m]) (evs.foldl TW.step w0s)) := by
  induction mid with
  | nil => intro evs _ _; simp; exact Eq3.refl _
  | cons m r ih =>
    intro evs hall hwf
    have hnt : terminated (script evs) = false :=
      term_false_of_WF_append hwf (by simp)
    have hO := K evs hall
    have hall' := fifo_append hall (fifo_single (.emit 0 m))
    have hs' : script (evs ++ [TW.Ev.emit 0 m]) = script evs ++ [m] := by
      rw [script_append]; simp [script, scriptOf]
    have := ih (evs ++ [TW.Ev.emit 0 m]) hall' (by rw [hs']; simpa using hwf)
    simp only [List.map_cons, List.foldl_cons]
    have e1 : evs ++ TW.Ev.emit 0 m :: r.map (TW.Ev.emit 0) = (evs ++ [TW.Ev.emit 0 m]) ++ r.map (TW.Ev.emit 0) := by
      simp
    rw [e1]
    obtain ⟨t1, t2, t3⟩ := this
    have hstep : Eq3 ((evs ++ [TW.Ev.emit 0 m]).foldl TW.step w0s) ((evs.foldl TW.step w0s).push 0 [m]) := by
      rw [List.foldl_append, List.foldl_cons, List.foldl_nil]
      exact hO.step_emit hnt m
    obtain ⟨u1, u2, u3⟩ := hstep.pushMany r
    exact ⟨t1.trans u1, t2.trans u2, t3.trans u3⟩

/-- hot subject 0 → `pre` → `T` → `post` → probe, nothing subscribed yet. -/
def chainW (pre : List St1) (T : Stage) (post : List St1) : TW :=
  { src := .hot 0, stages := pre.map .op1 ++ T :: post.map .op1 }

theorem Stage.isMover.simple {T : Stage} (h : T.isMover = true) : T.simpleF = true := by
  cases T <;> first | rfl | cases h

theorem chainW_sub (pre : List St1) (T : Stage) (hT : T.isMover = true) (post : List St1) :
    (chainW pre T post).step .sub =
      { chainW pre T post with subscribed := true, srcSubscribed := true, srcAlive := true } := by
  have h := subscribeFrom_simple { chainW pre T post with subscribed := true } (by
    intro st hst
    simp only [chainW, List.mem_append, List.mem_map, List.mem_cons] at hst
    rcases hst with ⟨o, _, rfl⟩ | rfl | ⟨o, _, rfl⟩
    · rfl
    · exact Stage.isMover.simple hT
    · rfl) (chainW pre T post).stages.length
  rw [TW.step_sub]
  exact h

/-- The one-stage world of `T`, subscribed. -/
def oneW (T : Stage) : TW := { src := .hot 0, stages := [T], subscribed := true, srcSubscribed := true, srcAlive := true }

theorem oneW_sub (T : Stage) (hT : T.isMover = true) : ({ src := .hot 0, stages := [T] } : TW).step .sub = oneW T := by
  have := chainW_sub [] T hT []
  simpa [chainW, oneW] using this

theorem chainW_sub_lift (pre : List St1) (T : Stage) (hT : T.isMover = true) (post : List St1) :
    (chainW pre T post).step .sub =
      lift post pre.length
        { chainW pre T post with subscribed := true, srcSubscribed := true, srcAlive := true } pre (oneW T) := by
  rw [chainW_sub pre T hT post]
  simp [lift, oneW, chainW, runChain_nil, Sched.shift]

theorem lift_no_op2n (post0 : List St1) (j : Nat) (base : TW) (preS : List St1) (w1 : TW)
    (h : One1 w1) : NoOp2n (lift post0 j base preS w1).stages := by
  obtain ⟨T, hs, hT⟩ := h.stage
  intro st hm a b c d e
  rw [lift_stages _ _ _ _ _ T hs] at hm
  simp only [List.mem_append, List.mem_map, List.mem_cons] at hm
  subst e
  rcases hm with ⟨o, _, ho⟩ | rfl | ⟨o, _, ho⟩
  · cases ho
  · cases hT
  · cases ho

theorem fin_lift (post0 : List St1) (j : Nat) (base : TW) (preS : List St1) (w1 : TW) (T : Stage)
    (hs : w1.stages = [T]) (hT : T.isMover = true) :
    fin (lift post0 j base preS w1).stages =
      (deadSt preS || (!T.mAlive || deadSt (runChain post0 w1.log).1)) := by
  rw [lift_stages _ _ _ _ _ T hs, fin_op1_append, T.fin_mover hT, fin_op1]

/-- The world is the lift of the one-stage world driven by the feed. -/
def MainInv (pre0 post0 : List St1) (j : Nat) (w0s : TW) (evs : List TW.Ev) (W : TW) : Prop :=
  ∃ base preS, W = lift post0 j base preS ((feedEvs pre0 evs).foldl TW.step w0s) ∧
      base.src = .hot 0 ∧ base.srcSubscribed = true ∧
      base.terminated.contains 0 = (feedSt pre0 evs).t ∧
      ((feedSt pre0 evs).t = false → base.srcAlive = true ∧ preS = (feedSt pre0 evs).ps) ∧
      preS.length = j ∧ calmSt preS

theorem MainInv.log {pre0 post0 : List St1} {j : Nat} {w0s : TW} {evs : List TW.Ev} {W : TW}
    (h : MainInv pre0 post0 j w0s evs W) :
    W.log = (runChain post0 ((feedEvs pre0 evs).foldl TW.step w0s).log).2 := by
  obtain ⟨base, preS, rfl, _⟩ := h
  rfl

theorem lift_adv (post0 : List St1) (j : Nat) (base : TW) (preS : List St1) (w1 : TW) (k : Nat) :
    (lift post0 j base preS w1).step (.adv k) = lift post0 j base preS (w1.step (.adv k)) := rfl

theorem lift_run (post0 : List St1) (hc : calmSt post0) (j : Nat) (base : TW) (preS : List St1) (w1 : TW)
    (h : One1 w1) (hj : preS.length = j) :
    (lift post0 j base preS w1).step .run = lift post0 j base preS (w1.step .run) :=
  runLoop_lift post0 hc j base preS hj 10000 w1 h

/-- Feeding the head of the lifted world = extending the one-stage history by the emissions of
    what `pre` outputs. -/
theorem Kind.push_head {w0s : TW} (K : Kind w0s) (post0 : List St1) (hc : calmSt post0) (j : Nat) (base : TW)
    (preS : List St1) (hcp : calmSt preS) (hj : preS.length = j) (evs' : List TW.Ev) (hall : ∀ e ∈ evs', FifoEv e)
    (n : Notif) (hwf : WF (script evs' ++ (runChain preS [n]).2)) :
    (lift post0 j base preS (evs'.foldl TW.step w0s)).push 0 [n] =
      lift post0 j base (runChain preS [n]).1
        ((evs' ++ (runChain preS [n]).2.map (TW.Ev.emit 0)).foldl TW.step w0s) := by
  obtain ⟨T, hs, hT⟩ := (K evs' hall).one.stage
  rw [push_lift_head post0 hc j base preS hcp _ T hs hT hj n]
  exact ((K.feed_steps _ evs' hall hwf).lift post0 j base _).symm

theorem MainInv.step {w0s : TW} (K : Kind w0s) (pre : List Op1) (post0 : List St1) (hc : calmSt post0)
    (j : Nat) (evs : List TW.Ev) (hall : ∀ e ∈ evs, FifoEv e) (W : TW) (e : TW.Ev) (he : FifoEv e)
    (h : MainInv (pre.map Op1.init) post0 j w0s evs W) :
    MainInv (pre.map Op1.init) post0 j w0s (evs ++ [e]) (W.step e) := by
  have hF := FSI_feed (pre.map Op1.init) evs hall
  unfold MainInv feedEvs at h ⊢
  rw [feedSt_snoc]
  obtain ⟨base, preS, rfl, hsrc, hsub, hterm, hopen, hj, hcp⟩ := h
  generalize feedSt (pre.map Op1.init) evs = fs at *
  generalize script evs = s at hF
  have hO := K fs.out hF.fifo
  cases he with
  | adv k =>
    refine ⟨base, preS, ?_, hsrc, hsub, hterm, hopen, hj, hcp⟩
    show _ = lift post0 j base preS ((fs.out ++ [TW.Ev.adv k]).foldl TW.step w0s)
    rw [lift_adv, foldl_snoc]
  | run =>
    refine ⟨base, preS, ?_, hsrc, hsub, hterm, hopen, hj, hcp⟩
    show _ = lift post0 j base preS ((fs.out ++ [TW.Ev.run]).foldl TW.step w0s)
    rw [lift_run post0 hc j base preS _ hO.one hj, foldl_snoc]
  | emit i n =>
    by_cases hi : i = 0
    · subst hi
      cases hT : fs.t with
      | true =>
        have hfs : fs.step (.emit 0 n) = fs := by simp [FS.step, hT]
        rw [hfs]
        rw [hT] at hterm
        exact ⟨base, preS, TW.step_emit_ignored _ 0 n hterm, hsrc, hsub, by rw [hterm, hT],
          hopen, hj, hcp⟩
      | false =>
        obtain ⟨hal, rfl⟩ := hopen hT
        rw [hT] at hterm
        have hts : terminated s = false := by rw [← hF.t, hT]
        have hfs : fs.step (.emit 0 n) =
            { ps := (runChain fs.ps [n]).1, t := n.isTerm,
              out := fs.out ++ (runChain fs.ps [n]).2.map (TW.Ev.emit 0) } := by
          simp [FS.step, hT]
        rw [hfs]
        -- the total script of the one-stage world stays well formed
        have hwf : WF (script fs.out ++ (runChain fs.ps [n]).2) := by
          have h1 := runChain_wf (pre.map Op1.init) (gate s ++ [n]) (by rw [← gate_snoc s n hts]; exact WF_gate _)
          rw [runChain_append, ← hF.ps, ← hF.out] at h1
          exact h1
        have hpush := fun b => K.push_head post0 hc j b fs.ps hcp hj fs.out hF.fifo n hwf
        have hO' := K (fs.out ++ (runChain fs.ps [n]).2.map (TW.Ev.emit 0))
          (fifo_append hF.fifo (fifo_emits _))
        have hlen : (runChain fs.ps [n]).1.length = j := by rw [runChain_length]; exact hj
        have hcalm : calmSt (runChain fs.ps [n]).1 := calmSt_runChain _ _ hcp
        cases hn : n.isTerm with
        | false =>
          obtain ⟨v, rfl⟩ : ∃ v, n = .next v := by
            cases n with
            | next v => exact ⟨v, rfl⟩
            | _ => simp [Notif.isTerm] at hn
          rw [TW.step_emit_next (lift post0 j base fs.ps (fs.out.foldl TW.step w0s)) 0 v hsrc hterm hsub hal,
            hpush base, TW.deliverNotifiers_noop _ 0 _ (lift_no_op2n post0 j base _ _ hO'.one)]
          exact ⟨base, _, rfl, hsrc, hsub, hterm, fun _ => ⟨hal, rfl⟩, hlen, hcalm⟩
        | true =>
          rw [TW.step_emit_term (lift post0 j base fs.ps (fs.out.foldl TW.step w0s)) 0 n hn hsrc hterm hsub hal]
          simp only []
          have e1 : ({ lift post0 j base fs.ps (fs.out.foldl TW.step w0s) with
                terminated := 0 :: (lift post0 j base fs.ps (fs.out.foldl TW.step w0s)).terminated,
                srcAlive := false } : TW)
              = lift post0 j { base with terminated := 0 :: base.terminated, srcAlive := false } fs.ps
                  (fs.out.foldl TW.step w0s) := rfl
          rw [e1, hpush, TW.deliverNotifiers_noop _ 0 _ (lift_no_op2n post0 j _ _ _ hO'.one)]
          refine ⟨{ base with terminated := 0 :: base.terminated, srcAlive := false }, _, rfl, hsrc, hsub,
            by simp, ?_, hlen, hcalm⟩
          intro h; simp at h
    · have hfs : fs.step (.emit i n) = fs := by simp [FS.step, hi]
      rw [hfs]
      rw [TW.step_emit_other (lift post0 j base preS (fs.out.foldl TW.step w0s)) i 0 n hsrc hi
        (lift_no_op2n post0 j base preS _ hO.one)]
      split
      · exact ⟨base, preS, rfl, hsrc, hsub, hterm, hopen, hj, hcp⟩
      · split
        · refine ⟨{ base with terminated := i :: base.terminated }, preS, rfl, hsrc, hsub, ?_, hopen, hj, hcp⟩
          show (i :: base.terminated).contains 0 = fs.t
          rw [contains_zero_cons i _ hi]; exact hterm
        · exact ⟨base, preS, rfl, hsrc, hsub, hterm, hopen, hj, hcp⟩

theorem MainInv.init (pre0 post0 : List St1) (T : Stage) (hT : T.isMover = true) (hcp : calmSt pre0) :
    MainInv pre0 post0 pre0.length (oneW T) [] ((chainW pre0 T post0).step .sub) := by
  exact ⟨_, pre0, chainW_sub_lift pre0 T hT post0, rfl, rfl, rfl, fun _ => ⟨rfl, rfl⟩, rfl, hcp⟩

/-- The simulation theorem: for every FIFO history the probe log of `pre ++ [T] ++ post` is what
    `post` makes of the probe log of the one-stage world `[T]` driven by `feedEvs pre evs`. -/
theorem comp_sim (T : Stage) (hT : T.isMover = true) (K : Kind (oneW T)) (pre post : List Op1)
    (hcalm : ∀ o ∈ pre ++ post, o.calm = true) (evs : List TW.Ev) (hall : ∀ e ∈ evs, FifoEv e) :
    (evs.foldl TW.step ((chainW (pre.map Op1.init) T (post.map Op1.init)).step .sub)).log =
      (runChain (post.map Op1.init) ((feedEvs (pre.map Op1.init) evs).foldl TW.step (oneW T)).log).2 := by
  have hcp : calmSt (pre.map Op1.init) := calmSt_init pre (fun o ho => hcalm o (List.mem_append_left _ ho))
  have hc : calmSt (post.map Op1.init) := calmSt_init post (fun o ho => hcalm o (List.mem_append_right _ ho))
  have h0 := MainInv.init (pre.map Op1.init) (post.map Op1.init) T hT hcp
  have := fold_indexed (fun l e => l ++ [e]) TW.step
    (fun l W => (∀ e ∈ l, FifoEv e) ∧ MainInv (pre.map Op1.init) (post.map Op1.init) (pre.map Op1.init).length (oneW T) l W)
    (fun l W e he ⟨hl, h⟩ => ⟨fifo_append hl (fifo_single he), MainInv.step K pre _ hc _ l hl W e he h⟩)
    evs [] _ hall ⟨by simp, h0⟩
  rw [foldl_snoc_eq, List.nil_append] at this
  exact this.2.log

/-- The script of the feed: what `pre` outputs for the gated source script. -/
theorem script_feedEvs (pre0 : List St1) (evs : List TW.Ev) (hall : ∀ e ∈ evs, FifoEv e) :
    script (feedEvs pre0 evs) = (runChain pre0 (gate (script evs))).2 :=
  (FSI_feed pre0 evs hall).out

theorem fifo_feedEvs (pre0 : List St1) (evs : List TW.Ev) (hall : ∀ e ∈ evs, FifoEv e) :
    ∀ e ∈ feedEvs pre0 evs, FifoEv e :=
  (FSI_feed pre0 evs hall).fifo

theorem feedEvs_snoc_run (pre0 : List St1) (evs : List TW.Ev) :
    feedEvs pre0 (evs ++ [TW.Ev.run]) = feedEvs pre0 evs ++ [TW.Ev.run] := by
  simp [feedEvs, feedSt_snoc, FS.step]

end Rx.T
