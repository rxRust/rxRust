import RxModel.Lemmas.ChainSources
/-
  The prompt executor on an `interval` / `timer` world without stages, in closed form, under the
  unit-step schedule `[adv t0, sub, run] ++ prompt n`.  `ivSched now old tm wk p seq` is the scheduler
  of an interval world: the timers `old` have all fired, `tm` is the period timer the task waits on,
  `wk` the wake-up flag of the task, `seq` the next sequence number; after round `n` the world is
  quiescent, exactly `tickCount first p n` ticks have been delivered and the period timer is due at
  `t0 + first + tickCount·p` (`IvQ`).  `tmWait` / `tmDone` are the two shapes of a timer world (`TmQ`).
-/
namespace Rx.T
open Rx

namespace TW
open Sched

/-- The scheduler of an interval world. -/
def ivSched (now : Nat) (old : List Timer) (tm : Timer) (wk : Bool) (p seq : Nat) : Sched :=
  { now := now, timers := old ++ [tm],
    tasks := [{ body := .tick, woken := wk, rep := some (old.length, p, seq) }] }

/-- A fresh period timer of task 0, already polled (registered). -/
def freshT (dur due : Nat) : Timer := { dur := dur, due := due, owner := 0, registered := true }

theorem filter_range_last (f : Nat → Bool) (n : Nat) (h : ∀ i, i < n → f i = false) :
    (List.range (n + 1)).filter f = if f n then [n] else [] := by
  rw [List.range_succ, List.filter_append]
  have : (List.range n).filter f = [] := by
    rw [List.filter_eq_nil_iff]
    intro i hi
    rw [h i (by simpa using hi)]; simp
  rw [this]
  simp [List.filter_cons]

theorem dueTimers_snoc (s : Sched) (old : List Timer) (tm : Timer) (h : s.timers = old ++ [tm])
    (hold : ∀ t ∈ old, t.fired = true) :
    s.dueTimers = if !tm.fired && decide (tm.due ≤ s.now) then [old.length] else [] := by
  unfold dueTimers
  rw [h, List.length_append, List.length_singleton, filter_range_last]
  · simp
  · intro i hi
    rw [List.getElem?_append_left hi, List.getElem?_eq_getElem hi]
    simp [hold _ (List.getElem_mem hi)]

theorem dueTimers_iv (now : Nat) (old : List Timer) (tm : Timer) (wk : Bool) (p seq : Nat)
    (hold : ∀ t ∈ old, t.fired = true) :
    (ivSched now old tm wk p seq).dueTimers =
      if !tm.fired && decide (tm.due ≤ now) then [old.length] else [] :=
  dueTimers_snoc _ old tm rfl hold

theorem fire_iv (now : Nat) (old : List Timer) (tm : Timer) (wk : Bool) (p seq : Nat)
    (hown : tm.owner = 0) :
    (ivSched now old tm wk p seq).fire old.length =
      ivSched now old { tm with fired := true } (wk || tm.registered) p seq := by
  cases hr : tm.registered <;>
    simp [fire, ivSched, setTimer, setTask, hr, hown]

/-- The live tasks that have been woken, in spawn order (the `ready` list of `runLoop`). -/
def readyOf (s : Sched) : List TaskId :=
  s.liveTasks.filter fun k => match s.tasks[k]? with | some t => t.woken | none => false

/-- One pass of the prompt executor. -/
theorem runLoop_pass (f : Nat) (w : TW) : runLoop (f + 1) w =
    if w.sched.dueTimers.isEmpty && (readyOf (w.sched.dueTimers.foldl Sched.fire w.sched)).isEmpty
    then { w with sched := w.sched.dueTimers.foldl Sched.fire w.sched }
    else runLoop f ({ w with sched := w.sched.dueTimers.foldl Sched.fire w.sched }.pollAll
      (readyOf (w.sched.dueTimers.foldl Sched.fire w.sched))) := rfl

theorem ready_iv (now : Nat) (old : List Timer) (tm : Timer) (wk : Bool) (p seq : Nat) :
    readyOf (ivSched now old tm wk p seq) = if wk then [0] else [] := by
  cases wk <;> simp [readyOf, liveTasks, ivSched, List.range_succ]

theorem poll_iv (now : Nat) (old : List Timer) (tm : Timer) (wk : Bool) (p seq : Nat) :
    (ivSched now old tm wk p seq).poll 0 true =
      if tm.fired then
        (ivSched now (old ++ [tm]) (freshT p (now + p)) false p (seq + 1),
          [{ task := 0, seq := some seq, time := now }])
      else (ivSched now old { tm with registered := true } false p seq, []) := by
  cases hf : tm.fired <;>
    simp [poll, pollPre, ivSched, timerFired, hf, setTask, registerTimer, setTimer, continueRepeat,
      newTimer, freshT]

theorem pollAll_single (w : TW) (t : Task) (ht : w.sched.tasks[0]? = some t) (hd : t.done = false) :
    w.pollAll [0] = w.pollTask 0 := by
  simp [pollAll, ht, hd]

theorem pollTask_iv (w : TW) (hs : w.stages = []) (now : Nat) (old : List Timer) (tm : Timer)
    (wk : Bool) (p seq : Nat) (hw : w.sched = ivSched now old tm wk p seq) :
    w.pollTask 0 =
      if tm.fired then
        { w with sched := ivSched now (old ++ [tm]) (freshT p (now + p)) false p (seq + 1),
                 log := w.log ++ [.next (.int seq)] }
      else { w with sched := ivSched now old { tm with registered := true } false p seq } := by
  rw [pollTask_src w hs 0 _ (by rw [hw]; rfl) (Or.inl rfl)]
  simp only [contOf, hw, poll_iv]
  cases tm.fired <;> simp [emitOf]

theorem runLoop_iv (f : Nat) (w : TW) (hs : w.stages = []) (now : Nat) (old : List Timer) (tm : Timer)
    (wk : Bool) (p seq : Nat) (hw : w.sched = ivSched now old tm wk p seq)
    (hold : ∀ t ∈ old, t.fired = true) (hf : tm.fired = false) (hown : tm.owner = 0)
    (hrw : (wk || tm.registered) = true) (hp : 1 ≤ p) :
    runLoop (f + 2) w =
      if tm.due ≤ now then
        { w with sched := ivSched now (old ++ [{ tm with fired := true }]) (freshT p (now + p)) false p (seq + 1),
                 log := w.log ++ [.next (.int seq)] }
      else { w with sched := ivSched now old { tm with registered := true } false p seq } := by
  cases w with
  | mk sched src stages sa ss st term sub unsub pulls log =>
  simp only at hs hw; subst hs hw
  rw [runLoop_pass]
  simp only [dueTimers_iv _ _ _ _ _ _ hold, hf]
  by_cases hd : tm.due ≤ now
  · simp only [hd, Bool.not_false, Bool.true_and, decide_true, if_true, List.foldl_cons, List.foldl_nil,
      fire_iv _ _ _ _ _ _ hown, hrw, ready_iv]
    simp only [List.isEmpty_cons, Bool.false_and, Bool.false_eq_true, if_false]
    rw [pollAll_single _ _ rfl rfl, pollTask_iv _ rfl now old { tm with fired := true } true p seq rfl]
    simp only [if_true]
    rw [runLoop_pass]
    have hold' : ∀ t ∈ old ++ [{ tm with fired := true }], t.fired = true := by
      intro t ht
      simp only [List.mem_append, List.mem_singleton] at ht
      rcases ht with ht | ht
      · exact hold t ht
      · rw [ht]
    have hnd : ¬ (now + p ≤ now) := by omega
    simp [dueTimers_iv _ _ _ _ _ _ hold', ready_iv, freshT, hnd]
  · simp only [hd, decide_false, Bool.and_false, Bool.false_eq_true, if_false, List.foldl_nil, ready_iv]
    cases wk with
    | false =>
      have hr : tm.registered = true := by simpa using hrw
      have : ({ dur := tm.dur, due := tm.due, owner := tm.owner, registered := true } : Timer) = tm := by
        cases tm; simp_all
      rw [this]; simp
    | true =>
      simp only [if_true, List.isEmpty_cons, Bool.and_false, Bool.false_eq_true, if_false]
      rw [pollAll_single _ _ rfl rfl, pollTask_iv _ rfl now old tm true p seq rfl]
      simp only [hf, Bool.false_eq_true, if_false]
      rw [runLoop_pass]
      simp [dueTimers_iv _ _ _ _ _ _ hold, ready_iv, hd]

/-- `n` rounds of: the clock advances by one, the executor runs. -/
def prompt (n : Nat) : List Ev := (List.replicate n [Ev.adv 1, Ev.run]).flatten

theorem prompt_succ (n : Nat) : prompt (n + 1) = prompt n ++ [.adv 1, .run] := by
  simp [prompt, List.replicate_succ']

/-- How many of the instants `first, first + p, first + 2p, …` are `≤ n`. -/
def tickCount (first p n : Nat) : Nat := if n < first then 0 else (n - first) / p + 1

/-- `tickCount first p n` is the `k` with `first + (k-1)·p ≤ n < first + k·p` (no lower bound for `k = 0`). -/
theorem tickCount_spec (first p n : Nat) (hp : 1 ≤ p) :
    n < first + tickCount first p n * p ∧
      (tickCount first p n = 0 ∨ first + (tickCount first p n - 1) * p ≤ n) := by
  unfold tickCount
  by_cases h : n < first
  · rw [if_pos h]; exact ⟨by omega, Or.inl rfl⟩
  · rw [if_neg h, Nat.add_sub_cancel, Nat.succ_mul]
    have lo := Nat.div_mul_le_self (n - first) p
    have hi := Nat.lt_mul_div_succ (n - first) (show 0 < p from hp)
    rw [Nat.mul_succ, Nat.mul_comm] at hi
    exact ⟨by omega, Or.inr (by omega)⟩

theorem tickCount_eq (first p n k : Nat) (hlt : n < first + k * p)
    (hge : k = 0 ∨ first + (k - 1) * p ≤ n) : tickCount first p n = k := by
  unfold tickCount
  by_cases h : n < first
  · rw [if_pos h]
    rcases hge with rfl | hge
    · rfl
    · exact absurd (Nat.le_trans (Nat.le_add_right _ _) hge) (Nat.not_le.mpr h)
  · rw [if_neg h]
    cases k with
    | zero => exact absurd hlt (by omega)
    | succ j =>
      rw [Nat.succ_mul] at hlt
      rw [Nat.add_sub_cancel] at hge
      rw [Nat.div_eq_of_lt_le (k := j) (by omega) (by rw [Nat.succ_mul]; omega)]

/-- The quiescent interval world after round `n` of the prompt schedule. -/
structure IvQ (t0 first p n : Nat) (w : TW) : Prop where
  stages : w.stages = []
  sched : ∃ old tm, w.sched = ivSched (t0 + n) old tm false p (tickCount first p n) ∧
    (∀ t ∈ old, t.fired = true) ∧ tm.fired = false ∧ tm.owner = 0 ∧ tm.registered = true ∧
    tm.due = t0 + first + tickCount first p n * p
  log : w.log = ticks (tickCount first p n)

theorem ivQ_step (t0 first p n : Nat) (hp : 1 ≤ p) (w : TW) (h : IvQ t0 first p n w) :
    IvQ t0 first p (n + 1) (step (step w (.adv 1)) .run) := by
  obtain ⟨old, tm, hw, hold, hf, hown, hreg, hdue⟩ := h.sched
  have hs' : (step w (.adv 1)).stages = [] := h.stages
  have hw' : (step w (.adv 1)).sched = ivSched (t0 + n + 1) old tm false p (tickCount first p n) := by
    show ({ w.sched with now := w.sched.now + 1 } : Sched) = _; rw [hw]; rfl
  rw [step_run, runLoop_iv _ _ hs' _ old tm false p _ hw' hold hf hown (by simp [hreg]) hp]
  obtain ⟨hlt, hge⟩ := tickCount_spec first p n hp
  by_cases hd : tm.due ≤ t0 + n + 1
  · have hc : first + tickCount first p n * p ≤ n + 1 := by omega
    have e : tickCount first p (n + 1) = tickCount first p n + 1 :=
      tickCount_eq _ _ _ _ (by rw [Nat.succ_mul]; omega) (Or.inr hc)
    rw [if_pos hd]
    refine ⟨h.stages, ⟨_, _, by rw [e]; rfl, ?_, rfl, rfl, rfl, ?_⟩, ?_⟩
    · intro t ht
      simp only [List.mem_append, List.mem_singleton] at ht
      rcases ht with ht | ht
      · exact hold t ht
      · rw [ht]
    · -- prompt: the tick happens exactly when due, so the next timer is one period later
      rw [e]
      simp only [freshT, Nat.succ_mul]
      omega
    · show w.log ++ _ = _
      rw [e, h.log, ticks_succ]
  · have hc : ¬ first + tickCount first p n * p ≤ n + 1 := by omega
    have e : tickCount first p (n + 1) = tickCount first p n :=
      tickCount_eq _ _ _ _ (by omega) (hge.imp_right fun h => Nat.le_succ_of_le h)
    rw [if_neg hd]
    refine ⟨h.stages, ⟨old, { tm with registered := true }, by rw [e]; rfl, hold, hf, hown, rfl, ?_⟩, ?_⟩
    · rw [e]; exact hdue
    · rw [e]; exact h.log

theorem ivQ_base (delay : Option Nat) (p t0 : Nat) (term : List Nat) (hp : 1 ≤ p) :
    IvQ t0 (delay.getD p) p 0 (step (step (idle (.interval delay p) t0 term) .sub) .run) := by
  have hw1 : (step (idle (.interval delay p) t0 term) .sub).sched =
      ivSched t0 [] { dur := delay.getD p, due := t0 + delay.getD p, owner := 0 } true p 0 := rfl
  rw [step_run, runLoop_iv _ _ rfl t0 [] _ true p 0 hw1 (by simp) rfl rfl rfl hp]
  by_cases hd : t0 + delay.getD p ≤ t0
  · have h0 : delay.getD p = 0 := by omega
    have e : tickCount (delay.getD p) p 0 = 1 := by simp [tickCount, h0]
    rw [if_pos hd]
    refine ⟨rfl, ⟨_, _, by rw [e]; rfl, by simp, rfl, rfl, rfl, ?_⟩, ?_⟩
    · rw [e]; simp only [freshT]; omega
    · rw [e]; rfl
  · have h0 : 0 < delay.getD p := by omega
    have e : tickCount (delay.getD p) p 0 = 0 := by simp [tickCount, h0]
    rw [if_neg hd]
    refine ⟨rfl, ⟨[], { dur := delay.getD p, due := t0 + delay.getD p, owner := 0, registered := true },
      by rw [e]; rfl, by simp, rfl, rfl, rfl, ?_⟩, ?_⟩
    · rw [e]; simp
    · rw [e]; rfl

theorem run_prompt_ivQ (t0 first p : Nat) (hp : 1 ≤ p) (w : TW) (h : IvQ t0 first p 0 w) (n : Nat) :
    IvQ t0 first p n (run w (prompt n)) := by
  induction n with
  | zero => exact h
  | succ n ih =>
    rw [prompt_succ, run_append, run_cons, run_cons, run_nil]
    exact ivQ_step t0 first p n hp _ ih

/-- `interval` / `interval_at` under the prompt schedule: exactly `tickCount first p n` ticks
    after round `n`. -/
theorem interval_prompt_main (delay : Option Nat) (p t0 n : Nat) (hp : 1 ≤ p) :
    (run (start (.interval delay p)) ([.adv t0, .sub, .run] ++ prompt n)).log =
      ticks (tickCount (delay.getD p) p n) := by
  have h0 : step (start (.interval delay p)) (.adv t0) = idle (.interval delay p) t0 [] := by
    simp [step, start, idle]
  rw [run_append]
  simp only [run_cons, run_nil, h0]
  exact (run_prompt_ivQ t0 _ p hp _ (ivQ_base delay p t0 [] hp) n).log

/-- The timer task waits on its armed delay timer `tm`. -/
def tmWait (now : Nat) (tm : Timer) (wk : Bool) (v : Val) : Sched :=
  { now := now, timers := [tm],
    tasks := [{ body := .timerSrc v, woken := wk, outerDelay := none, outerTimer := some 0 }] }

/-- The timer task has run. -/
def tmDone (now : Nat) (tm : Timer) (v : Val) : Sched :=
  { now := now, timers := [tm],
    tasks := [{ body := .timerSrc v, woken := false, outerDelay := none, outerTimer := none,
                done := true, hasValue := true }] }

theorem runLoop_tmDone (f : Nat) (w : TW) (now : Nat) (tm : Timer) (v : Val)
    (hw : w.sched = tmDone now tm v) (hf : tm.fired = true) : runLoop (f + 1) w = w := by
  cases w with
  | mk sched src stages sa ss st term sub unsub pulls log =>
  simp only at hw; subst hw
  have h1 : (tmDone now tm v).dueTimers = [] := by
    rw [dueTimers_snoc _ [] tm rfl nofun, hf]; rfl
  rw [runLoop_pass, h1]
  rfl

theorem runLoop_tmWait (f : Nat) (w : TW) (hs : w.stages = []) (now d due : Nat) (v : Val)
    (hw : w.sched = tmWait now { dur := d, due := due, owner := 0, registered := true } false v) :
    runLoop (f + 2) w =
      if due ≤ now then
        { w with sched := tmDone now { dur := d, due := due, fired := true, owner := 0, registered := true } v,
                 log := w.log ++ [.next v, .complete] }
      else w := by
  cases w with
  | mk sched src stages sa ss st term sub unsub pulls rest log =>
  simp only at hs hw; subst hs hw
  rw [runLoop_pass]
  by_cases hd : due ≤ now
  · simp [tmWait, tmDone, dueTimers, readyOf, liveTasks, hd, List.range_succ, fire,
      setTimer, setTask, pollAll, pollTask, pollPre, timerFired, runBody_timerSrc, push, cascade_nil, finishOnce,
      runLoop_pass, Body.isAsync]
  · simp [tmWait, dueTimers, readyOf, liveTasks, hd, List.range_succ]

/-- The first `run` after `sub`: the task is polled, arms its delay timer, and (delay 0) runs. -/
theorem run_tm_sub (v : Val) (d t0 : Nat) (term : List Nat) :
    step (step (idle (.timer v d) t0 term) .sub) .run =
      if d = 0 then
        { step (idle (.timer v d) t0 term) .sub with
          sched := tmDone t0 { dur := d, due := t0 + d, fired := true, owner := 0, registered := true } v,
          log := [.next v, .complete] }
      else
        { step (idle (.timer v d) t0 term) .sub with
          sched := tmWait t0 { dur := d, due := t0 + d, owner := 0, registered := true } false v } := by
  have h1 : step (step (idle (.timer v d) t0 term) .sub) .run =
      runLoop (9997 + 2)
        { step (idle (.timer v d) t0 term) .sub with
          sched := tmWait t0 { dur := d, due := t0 + d, owner := 0, registered := true } false v } := by
    rw [step_run, runLoop_pass]
    simp [step, idle, subscribeFrom, subscribeSource, scheduleOnce, dueTimers, readyOf, liveTasks,
      List.range_succ, pollAll, pollTask, pollPre, newTimer, registerTimer, setTimer,
      setTask, tmWait]
  rw [h1, runLoop_tmWait _ _ rfl t0 d (t0 + d) v rfl]
  by_cases hd : d = 0
  · subst hd
    have hl : (step (idle (.timer v 0) t0 term) .sub).log = [] := rfl
    simp [hl]
  · have : ¬ t0 + d ≤ t0 := by omega
    simp [hd, this]

/-- The timer world after round `n` of the prompt schedule. -/
structure TmQ (v : Val) (d t0 n : Nat) (w : TW) : Prop where
  stages : w.stages = []
  st : if n < d then
      w.sched = tmWait (t0 + n) { dur := d, due := t0 + d, owner := 0, registered := true } false v ∧ w.log = []
    else
      w.sched = tmDone (t0 + n) { dur := d, due := t0 + d, fired := true, owner := 0, registered := true } v ∧
      w.log = [.next v, .complete]

theorem tmQ_base (v : Val) (d t0 : Nat) (term : List Nat) :
    TmQ v d t0 0 (step (step (idle (.timer v d) t0 term) .sub) .run) := by
  rw [run_tm_sub]
  by_cases hd : d = 0
  · subst hd; exact ⟨rfl, by simp⟩
  · have : 0 < d := by omega
    rw [if_neg hd]
    have hl : (step (idle (.timer v d) t0 term) .sub).log = [] := rfl
    exact ⟨rfl, by simp [this, hl]⟩

theorem tmQ_step (v : Val) (d t0 n : Nat) (w : TW) (h : TmQ v d t0 n w) :
    TmQ v d t0 (n + 1) (step (step w (.adv 1)) .run) := by
  have hs' : (step w (.adv 1)).stages = [] := h.stages
  by_cases hn : n < d
  · have hst := h.st
    rw [if_pos hn] at hst
    have hw' : (step w (.adv 1)).sched =
        tmWait (t0 + n + 1) { dur := d, due := t0 + d, owner := 0, registered := true } false v := by
      show ({ w.sched with now := w.sched.now + 1 } : Sched) = _; rw [hst.1]; rfl
    have hl' : (step w (.adv 1)).log = [] := hst.2
    rw [step_run, runLoop_tmWait _ _ hs' _ d (t0 + d) v hw']
    by_cases hd : t0 + d ≤ t0 + n + 1
    · rw [if_pos hd]
      refine ⟨h.stages, ?_⟩
      rw [if_neg (by omega)]
      exact ⟨rfl, by show (step w (.adv 1)).log ++ _ = _; rw [hl']; rfl⟩
    · rw [if_neg hd]
      refine ⟨h.stages, ?_⟩
      rw [if_pos (by omega)]
      exact ⟨hw', hl'⟩
  · have hst := h.st
    rw [if_neg hn] at hst
    have hw' : (step w (.adv 1)).sched =
        tmDone (t0 + n + 1) { dur := d, due := t0 + d, fired := true, owner := 0, registered := true } v := by
      show ({ w.sched with now := w.sched.now + 1 } : Sched) = _; rw [hst.1]; rfl
    rw [step_run, runLoop_tmDone _ _ _ _ v hw' rfl]
    refine ⟨h.stages, ?_⟩
    rw [if_neg (by omega)]
    exact ⟨hw', hst.2⟩

theorem run_prompt_tmQ (v : Val) (d t0 : Nat) (w : TW) (h : TmQ v d t0 0 w) (n : Nat) :
    TmQ v d t0 n (run w (prompt n)) := by
  induction n with
  | zero => exact h
  | succ n ih =>
    rw [prompt_succ, run_append, run_cons, run_cons, run_nil]
    exact tmQ_step v d t0 n _ ih

/-- `timer(v, d)` under the prompt schedule: silent before round `d`, `next v, complete` from
    round `d` on. -/
theorem timer_prompt_main (v : Val) (d t0 n : Nat) :
    (run (start (.timer v d)) ([.adv t0, .sub, .run] ++ prompt n)).log =
      if n < d then [] else [.next v, .complete] := by
  have h0 : step (start (.timer v d)) (.adv t0) = idle (.timer v d) t0 [] := by
    simp [step, start, idle]
  rw [run_append]
  simp only [run_cons, run_nil, h0]
  have h := (run_prompt_tmQ v d t0 _ (tmQ_base v d t0 []) n).st
  by_cases hn : n < d
  · rw [if_pos hn] at h ⊢; exact h.2
  · rw [if_neg hn] at h ⊢; exact h.2

end TW
end Rx.T
