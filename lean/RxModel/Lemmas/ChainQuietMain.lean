import RxModel.Lemmas.ChainQuietUnsub
import RxModel.Lemmas.ChainTraverse
/-
  C02 / C17 over the chain model: a quiet world stays quiet with its log and its
  `is_closed` answer frozen; `is_closed = true` on a subscribed world means quiet;
  the three phases of a case (`QInv`) and the run-level facts behind
  Props/C02C.lean and Props/C17C.lean.
-/
namespace Rx.T
open Rx

/-- Only the scheduler changes, and only in ways that keep tasks dead and handle values. -/
structure QRel (s s' : Sched) : Prop where
  len : s'.tasks.length = s.tasks.length
  rel : ∀ (k : Nat) (t : Task), s.tasks[k]? = some t →
    ∃ t', s'.tasks[k]? = some t' ∧ t'.hasValue = t.hasValue ∧ (t'.live = true → t.live = true)

theorem QRel.of_tasks_eq {s s' : Sched} (h : s'.tasks = s.tasks) : QRel s s' :=
  ⟨by rw [h], fun k t ht => ⟨t, by rw [h]; exact ht, rfl, id⟩⟩

theorem QRel.of_set {s s' : Sched} {k : Nat} {t t' : Task} (ht : s.tasks[k]? = some t)
    (hs : s'.tasks = s.tasks.set k t') (hv : t'.hasValue = t.hasValue)
    (hl : t'.live = true → t.live = true) : QRel s s' := by
  refine ⟨by rw [hs]; simp, ?_⟩
  intro j u hu
  rw [hs]
  by_cases e : j = k
  · subst e
    rw [ht] at hu; cases hu
    exact ⟨t', set_get_self _ _ _ _ ht, hv, hl⟩
  · exact ⟨u, by rw [set_get_of_ne _ _ _ _ (Ne.symm e)]; exact hu, rfl, id⟩

theorem QRel.dead {s s' : Sched} (h : QRel s s') {k : Nat} (hd : DeadIn s k) : DeadIn s' k :=
  dead_of_pointwise h.len (fun k t ht => by
    obtain ⟨t', ht', _, hl⟩ := h.rel k t ht
    exact ⟨t', ht', hl⟩) hd

theorem QRel.closed {s s' : Sched} (h : QRel s s') (k : Nat) :
    s'.handleClosed k = s.handleClosed k := by
  unfold Sched.handleClosed
  cases ht : s.tasks[k]? with
  | none =>
    have : s'.tasks[k]? = none := by
      apply List.getElem?_eq_none
      rw [h.len]
      exact Nat.le_of_not_lt (fun hlt => by rw [List.getElem?_eq_getElem hlt] at ht; cases ht)
    rw [this]
  | some t =>
    obtain ⟨t', ht', hv, _⟩ := h.rel k t ht
    rw [ht']; exact hv

theorem QRel.preRel {s s1 : Sched} {k : Nat} (h : PreRel k s s1) : QRel s s1 := by
  rcases h with h | ⟨t, t', ht, hs, _, hv, hl, _⟩
  · exact QRel.of_tasks_eq h
  · exact QRel.of_set ht hs hv hl

theorem QRel.fire (s : Sched) (tm : TimerId) : QRel s (s.fire tm) := by
  rcases fire_tasks s tm with h | ⟨k, tk, htk, h⟩
  · exact QRel.of_tasks_eq h
  · exact QRel.of_set (t' := { tk with woken := true }) htk h rfl id

/-- `w'` is `w` with another scheduler. -/
def QW (w w' : TW) : Prop := w' = { w with sched := w'.sched } ∧ QRel w.sched w'.sched

theorem QW.mk' (w : TW) (s : Sched) (h : QRel w.sched s) : QW w { w with sched := s } := ⟨rfl, h⟩

/-- Everything `isClosedFrom` looks at is the same. -/
structure Same (w w' : TW) : Prop where
  info : w'.info = w.info
  stages : w'.stages = w.stages
  closed : ∀ h, w'.sched.handleClosed h = w.sched.handleClosed h
  subscribed : w'.subscribed = w.subscribed
  unsubscribed : w'.unsubscribed = w.unsubscribed

theorem QW.same {w w' : TW} (h : QW w w') : Same w w' := by
  refine ⟨?_, ?_, fun k => h.2.closed k, ?_, ?_⟩ <;> rw [h.1] <;> rfl

theorem isClosedFrom_same {w w' : TW} (h : Same w w') : ∀ j, w'.isClosedFrom j = w.isClosedFrom j := by
  have hsrc : w'.src = w.src := congrArg Info.src h.info
  have htask : w'.srcTask = w.srcTask := congrArg Info.srcTask h.info
  have halive : w'.srcAlive = w.srcAlive := congrArg Info.srcAlive h.info
  have hc : w'.sched.handleClosed = w.sched.handleClosed := funext h.closed
  intro j
  induction j with
  | zero => simp only [TW.isClosedFrom, hsrc, htask, halive, hc]
  | succ j ih => simp only [TW.isClosedFrom, h.stages, hc, ih]

theorem isClosed_same {w w' : TW} (h : Same w w') : w'.isClosed = w.isClosed := by
  simp only [TW.isClosed, h.subscribed, h.unsubscribed, h.stages, isClosedFrom_same h]

/-- `w'` comes after the quiet world `w`: still quiet, same log, a `true` answer of
    `is_closed` and the `unsubscribed` flag stay. -/
structure Frozen (w w' : TW) : Prop where
  quiet : Quiet w'
  log : w'.log = w.log
  closed : w.isClosed = true → w'.isClosed = true
  unsub : w.unsubscribed = true → w'.unsubscribed = true

theorem Frozen.refl {w : TW} (q : Quiet w) : Frozen w w := ⟨q, rfl, id, id⟩

theorem Frozen.trans {a b c : TW} (h1 : Frozen a b) (h2 : Frozen b c) : Frozen a c :=
  ⟨h2.quiet, h2.log.trans h1.log, fun h => h2.closed (h1.closed h), fun h => h2.unsub (h1.unsub h)⟩

theorem Frozen.of_same {w w' : TW} (q : Quiet w') (hl : w'.log = w.log) (h : Same w w') : Frozen w w' :=
  ⟨q, hl, fun hc => by rw [isClosed_same h]; exact hc, fun hu => by rw [h.unsubscribed]; exact hu⟩

theorem QW.frozen {w w' : TW} (h : QW w w') (q : Quiet w) : Frozen w w' := by
  refine Frozen.of_same ?_ (by rw [h.1]) h.same
  rw [h.1]
  exact ⟨q.subscribed, fun k => h.2.dead (q.dead k), q.det⟩

/-- A dead task is never run: polling changes the scheduler only. -/
theorem Quiet.pollTask {w : TW} (q : Quiet w) (k : Nat) : Frozen w (w.pollTask k) := by
  obtain ⟨hrel, h1, h2⟩ := pollPre_spec w.sched k
  have qr := QRel.preRel hrel
  have norun : ∀ b, ¬ PreRun k (w.sched.pollPre k).1 b := by
    intro b ⟨t1, ht1, hl1, _⟩
    have := qr.dead (q.dead k) t1 ht1
    rw [this] at hl1; cases hl1
  exact TW.pollTask_cases (M := fun w' => Frozen w w') w k (idle := fun _ => (QW.mk' w _ qr).frozen q)
    (once := fun b hp _ => (norun b (h1 b hp)).elim)
    (pending := fun b _ _ hp _ _ => (norun b (h1 b hp)).elim)
    (ready := fun b _ _ hp _ _ _ => (norun b (h1 b hp)).elim)
    (again := fun b s hp _ => (norun b (h2 b s hp)).elim)
    (last := fun b s hp _ => (norun b (h2 b s hp)).elim)

theorem step_unsub_log (w : TW) : (w.step .unsub).log = w.log := by
  rw [TW.step_unsub]
  split
  · exact (unsubFrom_urel w.stages.length w).log
  · rfl

theorem step_unsub_closed (w : TW) : (w.step .unsub).isClosed = true := by
  rw [TW.step_unsub]
  split
  · simp [TW.isClosed]
  · rename_i h
    simp only [TW.isClosed]
    cases hs : w.subscribed <;> cases hu : w.unsubscribed <;> simp_all

theorem step_sub_of {w : TW} (hs : w.subscribed = true) : w.step .sub = w := by
  rw [TW.step_sub, if_pos hs]

theorem step_unsub_live {w : TW} (hs : w.subscribed = true) (hu : w.unsubscribed = false) :
    w.step .unsub = { w.unsubFrom w.stages.length with unsubscribed := true } := by
  rw [TW.step_unsub, hs, hu]; rfl

theorem Quiet.sub {w : TW} (q : Quiet w) : w.step .sub = w := step_sub_of q.subscribed

theorem Quiet.emit {w : TW} (q : Quiet w) (i : Nat) (n : Notif) : Frozen w (w.step (.emit i n)) := by
  obtain ⟨t, e⟩ := step_emit_idle w i n q.det
  rw [e]
  exact Frozen.of_same ⟨q.subscribed, q.dead, q.det⟩ rfl ⟨rfl, rfl, fun _ => rfl, rfl, rfl⟩

/-- `unsubFrom` on a quiet world: it only cancels and clears (`URel`). -/
theorem Quiet.unsub {w : TW} (q : Quiet w) : Frozen w (w.step .unsub) := by
  refine ⟨?_, step_unsub_log w, fun _ => step_unsub_closed w, fun hu => by
    rw [TW.step_unsub, hu]; cases w.subscribed <;> exact hu⟩
  rw [TW.step_unsub]
  split
  · have ur := unsubFrom_urel w.stages.length w
    refine ⟨ur.subscribed.trans q.subscribed, fun k => ur.sched.dead (q.dead k), ?_, ?_⟩
    · intro hh
      show (w.unsubFrom w.stages.length).srcAlive = false
      cases hb : (w.unsubFrom w.stages.length).srcAlive with
      | false => rfl
      | true =>
        have h2 : w.src.isHot = true := by rw [← ur.src]; exact hh
        have := ur.alive hb
        rw [q.det.1 h2] at this; cases this
    · intro i st' hs'
      show st'.naHot = false
      obtain ⟨st, hst, hna⟩ := ur.na i st' hs'
      cases hn : st'.naHot with
      | false => rfl
      | true => rw [q.det.2 i st hst] at hna; exact absurd (hna hn) (by simp)
  · exact q

theorem Quiet.adv {w : TW} (q : Quiet w) (d : Nat) : Frozen w (w.step (.adv d)) :=
  QW.frozen (QW.mk' w _ (QRel.of_tasks_eq rfl)) q

theorem Quiet.fire {w : TW} (q : Quiet w) (tm : TimerId) :
    Frozen w { w with sched := w.sched.fire tm } :=
  QW.frozen (QW.mk' w _ (QRel.fire _ _)) q

theorem Quiet.run {w : TW} (q : Quiet w) (evs : List TW.Ev) : Frozen w (evs.foldl TW.step w) :=
  TW.steps_keep (P := Frozen w)
    (TW.step_keeps (hpoll := fun _ k h => h.trans (h.quiet.pollTask k))
      (hfire := fun _ tm h => h.trans (h.quiet.fire tm))
      (hsub := fun _ h => by rw [h.quiet.sub]; exact h)
      (hemit := fun _ i n h => h.trans (h.quiet.emit i n))
      (hunsub := fun _ h => h.trans h.quiet.unsub)
      (hadv := fun _ d h => h.trans (h.quiet.adv d)))
    evs w (Frozen.refl q)

theorem isClosedFrom_none (w : TW) (j : Nat) (h : w.stages[j]? = none) :
    w.isClosedFrom (j + 1) = w.isClosedFrom j := by
  rw [TW.isClosedFrom_succ]; simp only [h]

theorem closed_at_stage (w : TW) (j : Nat) (st : Stage) (hst : w.stages[j]? = some st)
    (hwf : st.wf) (h : w.isClosedFrom (j + 1) = true) :
    w.isClosedFrom j = true ∧ (∀ k : Nat, k ∈ st.handles → w.sched.handleClosed k = true) ∧
      st.naHot = false := by
  rw [TW.isClosedFrom_succ] at h
  cases st with
  | op1 o | throttleW d e alive tr =>
    simp only [hst] at h
    exact ⟨h, (fun _ hk => by cases hk), rfl⟩
  | delay d alive multi | observeOn alive multi =>
    simp only [hst, Bool.and_eq_true, List.all_eq_true] at h
    exact ⟨h.1, fun k hk => h.2 k hk, rfl⟩
  | subscribeOn d t =>
    cases t with
    | none => simp only [hst] at h; cases h
    | some k0 =>
      simp only [hst] at h
      cases hc : w.sched.handleClosed k0 with
      | false => rw [hc] at h; simp at h
      | true =>
        rw [hc] at h; simp only [if_true] at h
        exact ⟨h, fun k hk => by simp [Stage.handles] at hk; subst hk; exact hc, rfl⟩
  | debounce d alive tr handler | throttle d e alive tr handler =>
    simp only [hst, Bool.and_eq_true] at h
    cases handler with
    | none => exact ⟨h.1, (fun _ hk => by cases hk), rfl⟩
    | some k0 => simp at h
  | bufTime d c alive data t =>
    cases t with
    | none =>
      simp only [hst] at h
      exact ⟨h, (fun _ hk => by cases hk), rfl⟩
    | some k0 =>
      simp only [hst, Bool.and_eq_true] at h
      exact ⟨h.2, fun k hk => by simp [Stage.handles] at hk; subst hk; exact h.1, rfl⟩
  | op2n o ns na nt =>
    simp only [hst, Bool.and_eq_true] at h
    obtain ⟨h1, h2⟩ := h
    refine ⟨h1, ?_, ?_⟩
    · intro k hk
      cases nt with
      | none => cases hk
      | some k0 =>
        simp [Stage.handles] at hk; subst hk
        have hw : ns.hasTask = true := hwf rfl
        cases ns <;> simp [TSrc.hasTask] at hw <;> exact h2
    · cases ns with
      | hot i => simpa [Stage.naHot] using h2
      | _ => rfl

theorem closed_at_source {w : TW} (h : w.isClosedFrom 0 = true) :
    (w.src.isHot = true → w.srcAlive = false) ∧
      (w.src.hasTask = true → ∀ k, w.srcTask = some k → w.sched.handleClosed k = true) := by
  rw [TW.isClosedFrom_zero] at h
  refine ⟨fun hh => ?_, fun hw k hk => ?_⟩
  · cases hsrc : w.src <;> rw [hsrc] at hh h <;> simp [TSrc.isHot] at hh
    simpa using h
  · cases hsrc : w.src <;> rw [hsrc] at hw h <;> simp [TSrc.hasTask] at hw <;>
      simp only [hk] at h <;> exact h

/-- A `true` answer of `isClosedFrom j`: the source's own subscription answers `true`, below
    `j` every handle is closed and no subject holds a notifier slot. -/
theorem closed_handles {w : TW} (hwf : ∀ (j : Nat) (st : Stage), w.stages[j]? = some st → st.wf) :
    ∀ j, w.isClosedFrom j = true →
      w.isClosedFrom 0 = true ∧ ∀ (i : Nat) (st : Stage), i < j → w.stages[i]? = some st →
        (∀ k : Nat, k ∈ st.handles → w.sched.handleClosed k = true) ∧ st.naHot = false := by
  intro j
  induction j with
  | zero => exact fun h => ⟨h, fun i _ hi => absurd hi (Nat.not_lt_zero _)⟩
  | succ j ih =>
    intro h
    cases hst : w.stages[j]? with
    | none =>
      rw [isClosedFrom_none w j hst] at h
      refine ⟨(ih h).1, fun i st hi hs => (ih h).2 i st ?_ hs⟩
      rcases Nat.lt_succ_iff_lt_or_eq.1 hi with h' | rfl
      · exact h'
      · rw [hst] at hs; cases hs
    | some st =>
      obtain ⟨h1, h2, h3⟩ := closed_at_stage w j st hst (hwf j st hst) h
      refine ⟨(ih h1).1, fun i st' hi hs => ?_⟩
      rcases Nat.lt_succ_iff_lt_or_eq.1 hi with h' | rfl
      · exact (ih h1).2 i st' h' hs
      · rw [hst] at hs; cases hs; exact ⟨h2, h3⟩

/-- A live task is held by a handle; all handles are closed; the task behind a closed handle
    is finished. -/
theorem closed_quiet {w : TW} (g : GoodW none w) (hs : w.subscribed = true)
    (h : w.isClosedFrom w.stages.length = true) : Quiet w := by
  obtain ⟨h0, hc⟩ := closed_handles g.wf _ h
  refine ⟨hs, fun k t ht => ?_, (closed_at_source h0).1, fun i st hst => (hc i st (Sched.get_lt hst) hst).2⟩
  cases hl : t.live with
  | false => rfl
  | true =>
    have ho := g.own k t ht hl
    have hk : w.sched.handleClosed k = true := by
      cases e : t.body.level with
      | zero =>
        have hk : w.srcTask = some k := ho.zero e
        exact (closed_at_source h0).2 (g.srcWf (by rw [show w.info.srcTask = w.srcTask from rfl, hk]; rfl)) k hk
      | succ i =>
        obtain ⟨st, hst, hm⟩ := ho.succ e
        exact (hc i st (Sched.get_lt hst) hst).1 k hm
    exact absurd hk (g.live_open ht hl)

/-- The three phases of a case: before `sub`, subscribed, after `unsub`. -/
inductive QInv (w : TW) : Prop
  | pre (p : PreSub w) (hs : w.subscribed = false)
  | live (g : GoodW none w) (hs : w.subscribed = true) (hu : w.unsubscribed = false)
  | quiet (q : Quiet w) (hu : w.unsubscribed = true)

theorem Stage.Initial.pristine {st : Stage} (h : st.Initial) :
    st.handles = [] ∧ st.naOn = false ∧ st.wf := by
  cases st with
  | delay d al m => cases h; exact ⟨rfl, rfl, rfl⟩
  | observeOn al m => cases h; exact ⟨rfl, rfl, rfl⟩
  | subscribeOn d t => cases h; exact ⟨rfl, rfl, trivial⟩
  | debounce d al tr hd => cases h; exact ⟨rfl, rfl, trivial⟩
  | throttle d e al tr hd => cases h; exact ⟨rfl, rfl, trivial⟩
  | throttleW d e al tr => exact h.elim
  | bufTime d c al data t => cases h; exact ⟨rfl, rfl, trivial⟩
  | op2n o ns na nt => obtain ⟨rfl, rfl⟩ := h; exact ⟨rfl, rfl, fun h => nomatch h⟩
  | op1 o => exact ⟨rfl, rfl, trivial⟩

/-- The world of a `time` case before its first event. -/
def TW.init (src : TSrc) (stages : List Stage) : TW := { src := src, stages := stages }

theorem init_qinv (src : TSrc) (stages : List Stage) (h : ∀ st ∈ stages, st.Initial) :
    QInv (TW.init src stages) := by
  refine .pre ⟨rfl, rfl, ⟨rfl, rfl, ?_⟩, ?_, rfl⟩ rfl
  · intro j st _ hs
    have := (h st (List.mem_of_getElem? hs)).pristine
    exact ⟨this.1, this.2.1⟩
  · intro j st hs
    exact (h st (List.mem_of_getElem? hs)).pristine.2.2

theorem QInv.move {w w' : TW} (I : QInv w)
    (pre : PreSub w → w.subscribed = false → QInv w')
    (live : GoodW none w → w.subscribed = true → w.unsubscribed = false →
      QInv w' ∧ w'.subscribed = true)
    (quiet : Quiet w → Frozen w w') :
    QInv w' ∧ (w.subscribed = true → w'.subscribed = true) := by
  cases I with
  | pre p hs => exact ⟨pre p hs, fun h => by rw [hs] at h; cases h⟩
  | live g hs hu => exact ⟨(live g hs hu).1, fun _ => (live g hs hu).2⟩
  | quiet q hu => exact ⟨.quiet (quiet q).quiet ((quiet q).unsub hu), fun _ => (quiet q).quiet.subscribed⟩

theorem QInv.of_good {w w' : TW} (hs : w.subscribed = true) (hu : w.unsubscribed = false)
    (h : GoodW none w' ∧ Fl w w') : QInv w' ∧ w'.subscribed = true :=
  ⟨.live h.1 (h.2.subscribed.trans hs) (h.2.unsubscribed.trans hu), h.2.subscribed.trans hs⟩

/-- Every history keeps the phases in order: the invariant of every reachable world. -/
theorem QInv.run {w : TW} (I : QInv w) (evs : List TW.Ev) :
    QInv (evs.foldl TW.step w) ∧ (w.subscribed = true → (evs.foldl TW.step w).subscribed = true) := by
  have lift : ∀ {w1 w2 : TW}, (QInv w1 → QInv w2 ∧ (w1.subscribed = true → w2.subscribed = true)) →
      QInv w1 ∧ (w.subscribed = true → w1.subscribed = true) →
      QInv w2 ∧ (w.subscribed = true → w2.subscribed = true) :=
    fun f h => ⟨(f h.1).1, fun hs => (f h.1).2 (h.2 hs)⟩
  refine TW.steps_keep (P := fun w' => QInv w' ∧ (w.subscribed = true → w'.subscribed = true))
    (TW.step_keeps (hpoll := ?poll) (hfire := ?fire) (hsub := ?sub) (hemit := ?emit) (hunsub := ?unsub)
      (hadv := ?adv)) evs w ⟨I, id⟩
  case poll =>
    intro w1 k
    refine lift fun I1 => I1.move (fun p hs => ?_) (fun g hs hu => QInv.of_good hs hu (pollTask_good k g))
      (fun q => q.pollTask k)
    have : w1.sched.tasks[k]? = none := by rw [p.tasks]; rfl
    unfold TW.pollTask
    rw [Sched.pollPre_absent this]; exact .pre p hs
  case fire =>
    intro w1 tm
    refine lift fun I1 => I1.move (fun p hs => ?_)
      (fun g hs hu => QInv.of_good hs hu ⟨fire_good tm g, ⟨rfl, rfl, rfl⟩⟩) (fun q => q.fire tm)
    have : w1.sched.timers[tm]? = none := by rw [p.timers]; rfl
    unfold Sched.fire
    rw [this]; exact .pre p hs
  case sub =>
    intro w1
    refine lift fun I1 => I1.move (fun p hs => ?_) (fun g hs hu => ?_) (fun q => by rw [q.sub]; exact Frozen.refl q)
    · obtain ⟨g, h1, h2⟩ := step_sub_good p hs
      exact .live g h1 h2
    · rw [step_sub_of hs]; exact ⟨.live g hs hu, hs⟩
  case emit =>
    intro w1 i n
    refine lift fun I1 => I1.move (fun p hs => ?_) (fun g hs hu => QInv.of_good hs hu (step_emit_good i n g))
      (fun q => q.emit i n)
    obtain ⟨t, e⟩ := step_emit_idle w1 i n p.detached
    rw [e]; exact .pre ⟨p.tasks, p.timers, p.prist, p.wf, p.unsub⟩ hs
  case unsub =>
    intro w1
    refine lift fun I1 => I1.move (fun p hs => ?_) (fun g hs hu => ?_) (fun q => q.unsub)
    · have : w1.step .unsub = w1 := by rw [TW.step_unsub, hs]; rfl
      rw [this]; exact .pre p hs
    · rw [step_unsub_live hs hu]
      exact ⟨.quiet (unsub_quiet g hs) rfl, (unsub_quiet g hs).subscribed⟩
  case adv =>
    intro w1 d
    exact lift fun I1 => I1.move (fun p hs => .pre ⟨p.tasks, p.timers, p.prist, p.wf, p.unsub⟩ hs)
      (fun g hs hu => QInv.of_good hs hu ⟨Good.of_tasks_eq g rfl, ⟨rfl, rfl, rfl⟩⟩) (fun q => q.adv d)

theorem subscribed_of_mem {w : TW} (I : QInv w) (evs : List TW.Ev) (h : TW.Ev.sub ∈ evs) :
    (evs.foldl TW.step w).subscribed = true := by
  obtain ⟨l1, l2, rfl⟩ := List.append_of_mem h
  rw [List.foldl_append, List.foldl_cons]
  have I1 := (I.run l1).1
  have I2 := I1.run [.sub]
  refine (I2.1.run l2).2 ?_
  cases I1 with
  | pre p hs => exact (step_sub_good p hs).2.1
  | live g hs hu => exact I2.2 hs
  | quiet q hu => exact I2.2 q.subscribed

/-- `unsub` makes a subscribed reachable world quiet. -/
theorem QInv.unsub_quiet {w : TW} (I : QInv w) (hs : w.subscribed = true) : Quiet (w.step .unsub) := by
  cases I with
  | pre p hs' => rw [hs'] at hs; cases hs
  | live g _ hu =>
    rw [step_unsub_live hs hu]; exact Rx.T.unsub_quiet g hs
  | quiet q hu => exact q.unsub.quiet

/-- `is_closed() = true` on a subscribed reachable world: the world is quiet. -/
theorem QInv.closed_quiet {w : TW} (I : QInv w) (hs : w.subscribed = true) (hc : w.isClosed = true) :
    Quiet w := by
  cases I with
  | pre p hs' => rw [hs'] at hs; cases hs
  | live g _ hu =>
    have : w.isClosedFrom w.stages.length = true := by
      simpa [TW.isClosed, hs, hu] using hc
    exact Rx.T.closed_quiet g hs this
  | quiet q hu => exact q

end Rx.T
