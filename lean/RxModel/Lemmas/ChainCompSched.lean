import RxModel.Sched.Chain
import RxModel.Lemmas.Sched
/-
  C07C: the scheduler of a chain `pre ++ [T] ++ post` is the scheduler of the
  one-stage chain `[T]` with every task body `emit 0 n` renamed to `emit j n`
  (`j` = position of `T`).  `Sched.shift j` is that renaming; every scheduler primitive
  commutes with it.  `Sched.EmitOnly`: all tasks are slot calls of stage 0 (OnceTasks).
-/
namespace Rx.T
open Rx

def shiftBody (j : Nat) : Body → Body
  | .emit i n => .emit (i + j) n
  | b => b

def shiftTask (j : Nat) (t : Task) : Task := { t with body := shiftBody j t.body }

namespace Sched

def Poll.shift (j : Nat) : Poll → Poll
  | .none => .none
  | .runOnce b => .runOnce (shiftBody j b)
  | .runTick b seq => .runTick (shiftBody j b) seq

def shift (s : Sched) (j : Nat) : Sched := { s with tasks := s.tasks.map (shiftTask j) }

@[simp] theorem shift_now (s : Sched) (j : Nat) : (s.shift j).now = s.now := rfl
@[simp] theorem shift_timers (s : Sched) (j : Nat) : (s.shift j).timers = s.timers := rfl
@[simp] theorem shift_tasks (s : Sched) (j : Nat) : (s.shift j).tasks = s.tasks.map (shiftTask j) := rfl

theorem shift_get (s : Sched) (j k : Nat) : (s.shift j).tasks[k]? = (s.tasks[k]?).map (shiftTask j) := by
  simp [shift]

theorem shift_dueTimers (s : Sched) (j : Nat) : (s.shift j).dueTimers = s.dueTimers := rfl

theorem shift_timerFired (s : Sched) (j : Nat) (tm : TimerId) : (s.shift j).timerFired tm = s.timerFired tm := rfl

theorem shift_setTask (s : Sched) (j k : Nat) (t : Task) :
    (s.shift j).setTask k (shiftTask j t) = (s.setTask k t).shift j := by
  simp [shift, setTask, List.map_set]

theorem shift_setTimer (s : Sched) (j k : Nat) (t : Timer) :
    (s.shift j).setTimer k t = (s.setTimer k t).shift j := rfl

theorem shift_registerTimer (s : Sched) (j : Nat) (tm : TimerId) :
    (s.shift j).registerTimer tm = (s.registerTimer tm).shift j := by
  unfold registerTimer
  simp only [shift_timers]
  split <;> rfl

theorem shift_newTimer (s : Sched) (j d k : Nat) :
    (s.shift j).newTimer d k = ((s.newTimer d k).1.shift j, (s.newTimer d k).2) := rfl

theorem shift_liveTasks (s : Sched) (j : Nat) : (s.shift j).liveTasks = s.liveTasks := by
  unfold liveTasks
  simp only [shift_tasks, List.length_map]
  apply List.filter_congr
  intro i _
  simp only [List.getElem?_map]
  cases s.tasks[i]? <;> simp [shiftTask]

theorem shift_fire (s : Sched) (j : Nat) (tm : TimerId) : (s.shift j).fire tm = (s.fire tm).shift j := by
  unfold fire
  simp only [shift_timers]
  cases h : s.timers[tm]? with
  | none => rfl
  | some t =>
    simp only
    generalize hs1 : s.setTimer tm { t with fired := true } = s1
    have e0 : (s.shift j).setTimer tm { t with fired := true } = s1.shift j := by rw [← hs1]; rfl
    rw [e0]
    by_cases hr : t.registered = true
    · rw [if_pos hr, if_pos hr, shift_get]
      cases h2 : s1.tasks[t.owner]? with
      | none => rfl
      | some tk => exact shift_setTask _ j t.owner { tk with woken := true }
    · rw [if_neg hr, if_neg hr]

theorem shift_fireAll (j : Nat) (l : List TimerId) : ∀ (s : Sched),
    l.foldl Sched.fire (s.shift j) = (l.foldl Sched.fire s).shift j := by
  induction l with
  | nil => intro s; rfl
  | cons a r ih => intro s; simp only [List.foldl_cons, shift_fire, ih]

theorem shift_finishOnce (s : Sched) (j k : Nat) : (s.shift j).finishOnce k = (s.finishOnce k).shift j := by
  unfold finishOnce
  rw [shift_get]
  cases h : s.tasks[k]? with
  | none => rfl
  | some t => exact shift_setTask s j k { t with done := true, hasValue := true }

theorem shift_scheduleOnce (s : Sched) (j : Nat) (b : Body) (d : Option Nat) :
    (s.shift j).scheduleOnce (shiftBody j b) d = ((s.scheduleOnce b d).1.shift j, (s.scheduleOnce b d).2) := by
  simp [scheduleOnce, shift, shiftTask]

@[simp] theorem shiftTask_done (j : Nat) (t : Task) : (shiftTask j t).done = t.done := rfl
@[simp] theorem shiftTask_keepRunning (j : Nat) (t : Task) : (shiftTask j t).keepRunning = t.keepRunning := rfl
@[simp] theorem shiftTask_outerDelay (j : Nat) (t : Task) : (shiftTask j t).outerDelay = t.outerDelay := rfl
@[simp] theorem shiftTask_outerTimer (j : Nat) (t : Task) : (shiftTask j t).outerTimer = t.outerTimer := rfl
@[simp] theorem shiftTask_rep (j : Nat) (t : Task) : (shiftTask j t).rep = t.rep := rfl
@[simp] theorem shiftTask_body (j : Nat) (t : Task) : (shiftTask j t).body = shiftBody j t.body := rfl

/-- Both sides are the same outcome of `pollPre`: the renaming touches no field `pollPre` reads, and the task it
    writes back is the renamed one. -/
theorem shift_pollPre (s : Sched) (j k : Nat) :
    (s.shift j).pollPre k = ((s.pollPre k).1.shift j, (s.pollPre k).2.shift j) := by
  have get : ∀ {t}, s.tasks[k]? = some t → (s.shift j).tasks[k]? = some (shiftTask j t) :=
    fun h => by rw [shift_get, h]; rfl
  have set : ∀ (s' : Sched) (t' : Task), (s'.shift j).setTask k (shiftTask j t') = (s'.setTask k t').shift j :=
    fun s' t' => shift_setTask s' j k t'
  refine pollPre_elim s k (motive := fun r => (s.shift j).pollPre k = (r.1.shift j, r.2.shift j))
    (absent := fun h => pollPre_absent (by rw [shift_get, h]; rfl))
    (finished := fun t h hd => pollPre_finished (get h) hd)
    (cancelled := fun t h hd hk => (pollPre_cancelled (get h) hd hk).trans (Prod.ext (set s { t with woken := false, done := true }) rfl))
    (arm := fun t d h hd hk hod => (pollPre_arm (get h) hd hk hod).trans (Prod.ext ?_ rfl))
    (waitOuter := fun t tm h hd hk hod hot hf =>
      (pollPre_waitOuter (get h) hd hk hod hot hf).trans (Prod.ext ?_ rfl))
    (once := fun t h hd hk hod hr hrep => (pollPre_once (get h) hd hk hod hr hrep).trans
        (Prod.ext (set s { t with woken := false, outerTimer := none }) rfl))
    (waitPeriod := fun t fur iv seq h hd hk hod hr hrep hf =>
      (pollPre_waitPeriod (get h) hd hk hod hr hrep hf).trans (Prod.ext ?_ rfl))
    (tick := fun t fur iv seq h hd hk hod hr hrep hf =>
      (pollPre_tick (get h) hd hk hod hr hrep hf).trans
        (Prod.ext (set s { t with woken := false, outerTimer := none }) rfl))
  · show (((s.newTimer d k).1.shift j).registerTimer s.timers.length).setTask k
        (shiftTask j { t with woken := false, outerDelay := none, outerTimer := some s.timers.length }) = _
    rw [shift_registerTimer, set]
  · show ((s.shift j).registerTimer tm).setTask k (shiftTask j { t with woken := false }) = _
    rw [shift_registerTimer, set]
  · show ((s.shift j).registerTimer fur).setTask k (shiftTask j { t with woken := false, outerTimer := none }) = _
    rw [shift_registerTimer, set]

theorem shift_ready (s : Sched) (j : Nat) :
    ((s.shift j).liveTasks.filter fun k => match (s.shift j).tasks[k]? with | some t => t.woken | none => false)
      = (s.liveTasks.filter fun k => match s.tasks[k]? with | some t => t.woken | none => false) := by
  rw [shift_liveTasks]
  apply List.filter_congr
  intro i _
  rw [shift_get]
  cases s.tasks[i]? <;> rfl

def EmitTask (t : Task) : Prop := (∃ n, t.body = .emit 0 n) ∧ t.rep = none

def EmitOnly (s : Sched) : Prop := ∀ t ∈ s.tasks, EmitTask t

theorem EmitOnly.get {s : Sched} (h : s.EmitOnly) {k : TaskId} {t : Task} (ht : s.tasks[k]? = some t) :
    EmitTask t := h t (List.mem_of_getElem? ht)

theorem EmitOnly.setTask {s : Sched} (h : s.EmitOnly) (k : TaskId) (t : Task) (ht : EmitTask t) :
    (s.setTask k t).EmitOnly := by
  intro t' ht'
  rcases List.mem_or_eq_of_mem_set ht' with h' | h'
  · exact h t' h'
  · subst h'; exact ht

theorem EmitOnly.of_tasks {s s' : Sched} (h : s.EmitOnly) (e : s'.tasks = s.tasks) : s'.EmitOnly := by
  intro t ht; rw [e] at ht; exact h t ht

theorem EmitOnly.registerTimer {s : Sched} (h : s.EmitOnly) (tm) : (s.registerTimer tm).EmitOnly :=
  h.of_tasks (registerTimer_tasks s tm)

theorem EmitOnly.newTimer {s : Sched} (h : s.EmitOnly) (d k) : (s.newTimer d k).1.EmitOnly :=
  h.of_tasks rfl

theorem EmitOnly.now {s : Sched} (h : s.EmitOnly) (n : Nat) : ({ s with now := n } : Sched).EmitOnly :=
  h.of_tasks rfl

theorem EmitOnly.finishOnce {s : Sched} (h : s.EmitOnly) (k) : (s.finishOnce k).EmitOnly := by
  unfold Sched.finishOnce
  split
  · next t ht => exact h.setTask k _ (h.get (t := t) ht)
  · exact h

theorem EmitOnly.fire {s : Sched} (h : s.EmitOnly) (tm) : (s.fire tm).EmitOnly := by
  unfold Sched.fire
  split
  · exact h
  · next t ht =>
    have h1 : (s.setTimer tm { t with fired := true }).EmitOnly := h.of_tasks rfl
    dsimp only
    split
    · split
      · next tk htk => exact h1.setTask _ _ (h1.get (t := tk) htk)
      · exact h1
    · exact h1

theorem EmitOnly.fireAll {s : Sched} (h : s.EmitOnly) (l : List TimerId) :
    (l.foldl Sched.fire s).EmitOnly := by
  induction l generalizing s with
  | nil => exact h
  | cons a r ih => exact ih (h.fire a)

theorem EmitOnly.scheduleOnce {s : Sched} (h : s.EmitOnly) (n : Notif) (d) :
    (s.scheduleOnce (.emit 0 n) d).1.EmitOnly := by
  intro t ht
  simp only [Sched.scheduleOnce, List.mem_append, List.mem_singleton] at ht
  rcases ht with ht | ht
  · exact h t ht
  · subst ht; exact ⟨⟨n, rfl⟩, rfl⟩

/-- Polling a scheduler of slot calls: nothing runs, or one slot call runs. -/
theorem EmitOnly.pollPre {s : Sched} (h : s.EmitOnly) (k) :
    (s.pollPre k).1.EmitOnly ∧ ((s.pollPre k).2 = .none ∨ ∃ n, (s.pollPre k).2 = .runOnce (.emit 0 n)) := by
  refine pollPre_elim s k
    (motive := fun r => r.1.EmitOnly ∧ (r.2 = .none ∨ ∃ n, r.2 = .runOnce (.emit 0 n)))
    ?_ ?_ ?_ ?_ ?_ ?_ ?_ ?_
  · intro _; exact ⟨h, Or.inl rfl⟩
  · intro t _ _; exact ⟨h, Or.inl rfl⟩
  · intro t ht _ _; exact ⟨h.setTask k _ (h.get (t := t) ht), Or.inl rfl⟩
  · intro t d ht _ _ _
    exact ⟨((h.newTimer _ _).registerTimer _).setTask k _ (h.get (t := t) ht), Or.inl rfl⟩
  · intro t tm ht _ _ _ _ _; exact ⟨(h.registerTimer _).setTask k _ (h.get (t := t) ht), Or.inl rfl⟩
  · intro t ht _ _ _ _ _
    obtain ⟨⟨n, hn⟩, hr⟩ := h.get (t := t) ht
    exact ⟨h.setTask k _ ⟨⟨n, hn⟩, hr⟩, Or.inr ⟨n, by rw [hn]⟩⟩
  · intro t fur iv seq ht _ _ _ _ hrep _
    have := (h.get (t := t) ht).2; rw [hrep] at this; cases this
  · intro t fur iv seq ht _ _ _ _ hrep _
    have := (h.get (t := t) ht).2; rw [hrep] at this; cases this

end Sched
end Rx.T
