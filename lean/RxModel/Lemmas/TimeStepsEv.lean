import RxModel.Lemmas.TimeSteps
/-
  How one step changes the observables the invariants talk about — keyed on the cell the step acquires / the cells it
  holds, so that the lock discipline decides which thread can interfere with which: the task table (`step_tasks`), the
  guarded cells, where control goes; the executor protocol `PollInv`; what debounce / throttle and delay / observe_on
  share about the end of `unsubscribe()`.
-/
namespace Rx.Conc.TS
open Rx

/-- the task may still run its body: not cancelled, the body not yet returned -/
def St.armed (s : St) (k : Nat) : Bool :=
  match s.tasks[k]? with
  | some t => t.keep && !t.value
  | none => false

/-- the operators whose subscription is `ZipSubscription(source, handler cell)` -/
def Kind.isH : Kind → Bool
  | .debounce _ | .throttle _ _ => true
  | _ => false

/-- the operators whose subscription is `ZipSubscription(source, MultiSubscriptionThreads)` -/
def Kind.isM : Kind → Bool
  | .delay _ | .observeOn => true
  | _ => false

/-- program counters that occur with debounce / throttle in the original order -/
def Pc.okH : Pc → Bool
  | .dl_retain _ | .dl_append _ | .dl_late _ | .p_emit _ _ _ | .u_multi _ | .u_mc _ _ => false
  | .u_slot b => b
  | .u_hcell b => !b
  | .u_cancel _ b => !b
  | _ => true

/-- program counters that occur with delay / observe_on in the original order -/
def Pc.okM : Pc → Bool
  | .db_trail _ | .db_hcell | .db_cancel _ | .hc_store _ | .th_trail _ | .th_hcell _ | .th_closed _ _
  | .th_ltrail _ | .th_ldown _ | .tc_trail | .tc_dnext _ | .tc_hcell | .tc_cancel _ | .tc_down | .te_hcell
  | .te_cancel _ | .p_trail _ _ | .p_down _ _ _ | .u_hcell _ | .u_cancel _ _ => false
  | .u_slot b => b
  | .u_multi b => !b
  | .u_mc _ b => !b
  | _ => true

/-- inside a poll of task `k` (between taking its future out of the queue and putting it back) -/
def Pc.inPoll (k : Nat) : Pc → Bool
  | .p_handle k' _ | .p_trail k' _ | .p_down k' _ _ | .p_emit k' _ _ | .p_fin k' _ _ => k' == k
  | _ => false

theorem getElem?_updT (ts : List Task) (h k : Nat) (f : Task → Task) :
    (updT ts h f)[k]? = if h = k then ts[k]?.map f else ts[k]? := by
  unfold updT
  cases hh : ts[h]? with
  | none =>
    simp only []
    split
    · next e => subst e; simp [hh]
    · rfl
  | some t =>
    simp only []
    by_cases e : h = k
    · subst e; simp [hh, List.getElem?_set]
      have : h < ts.length := (List.getElem?_eq_some_iff.mp hh).1
      simp [this]
    · simp [e, List.getElem?_set_ne e]

@[simp] theorem length_updT (ts : List Task) (h : Nat) (f : Task → Task) : (updT ts h f).length = ts.length := by
  unfold updT; split <;> simp

theorem task_eq (s : St) (k : Nat) : s.task k = (s.tasks[k]?).getD default := by
  unfold St.task; simp [List.getD]

theorem armed_iff (s : St) (k : Nat) :
    s.armed k = true ↔ ∃ t, s.tasks[k]? = some t ∧ t.keep = true ∧ t.value = false := by
  unfold St.armed
  cases s.tasks[k]? with
  | none => simp
  | some t => simp

theorem isLive_spec (s : St) (k : Nat) (h : s.isLive k = true) :
    ∃ t, s.tasks[k]? = some t ∧ t.done = false ∧ t.running = false := by
  unfold St.isLive at h
  simp only [Bool.and_eq_true, decide_eq_true_eq, Bool.not_eq_true'] at h
  obtain ⟨⟨hk, hd⟩, hr⟩ := h
  refine ⟨s.tasks[k], by simp [hk], ?_, ?_⟩
  · rw [task_eq] at hd; simpa [hk] using hd
  · rw [task_eq] at hr; simpa [hk] using hr

theorem live_spec (s : St) (j k : Nat) (h : s.live[j]? = some k) :
    ∃ t, s.tasks[k]? = some t ∧ t.done = false ∧ t.running = false := by
  have hm : k ∈ s.live := List.mem_of_getElem? h
  unfold St.live at hm
  simp only [List.mem_filter, List.mem_range] at hm
  exact isLive_spec s k (by unfold St.isLive; rw [decide_eq_true hm.1, Bool.true_and]; exact hm.2)

/-- What a step at `p` may have done to task `k`: the body stays; `keep` changes only in a step that acquires the
    task's handle; `running` / `done` change only when a poll of the task begins or ends; that the body has returned is
    recorded by the thread that holds the handle. -/
structure Kept (p : Pc) (k : Nat) (t t' : Task) : Prop where
  body : t'.body = t.body
  keep : t'.keep = t.keep ∨ (t'.keep = false ∧ p.cell = some (.handle k))
  run : (t'.running = t.running ∧ t'.done = t.done) ∨ (∃ r ret, p = .p_fin k r ret) ∨
    (t.running = false ∧ t.done = false ∧ t'.running = true ∧ t'.done = false)
  value : t'.value = t.value ∨ (t'.value = false ∧ t'.keep = false) ∨ (t'.value = true ∧ Cell.handle k ∈ p.holds)

structure Old (p : Pc) (ts ts' : List Task) : Prop where
  len : ts'.length = ts.length
  kept : ∀ k t, ts[k]? = some t → ∃ t', ts'[k]? = some t' ∧ Kept p k t t'

theorem Old.refl (p : Pc) (ts : List Task) : Old p ts ts :=
  ⟨rfl, fun _ t ht => ⟨t, ht, rfl, .inl rfl, .inl ⟨rfl, rfl⟩, .inl rfl⟩⟩

theorem Old.of_eq (p : Pc) {ts ts' : List Task} (e : ts' = ts) : Old p ts ts' := e ▸ .refl p ts

theorem Old.upd {p : Pc} {ts : List Task} {h : Nat} {f : Task → Task}
    (hf : ∀ t, ts[h]? = some t → Kept p h t (f t)) : Old p ts (updT ts h f) := by
  refine ⟨length_updT _ _ _, fun k t ht => ?_⟩
  rw [getElem?_updT]
  split
  · next e => subst e; exact ⟨f t, by rw [ht]; rfl, hf t ht⟩
  · exact (Old.refl p ts).kept k t ht

theorem Old.cancel {p : Pc} {h : Nat} (hc : p.cell = some (.handle h)) (ts : List Task) :
    Old p ts (updT ts h cancel) :=
  .upd fun _ _ => ⟨rfl, .inr ⟨rfl, hc⟩, .inl ⟨rfl, rfl⟩, .inr (.inl ⟨rfl, rfl⟩)⟩

theorem Old.finished {p : Pc} {h : Nat} (hh : Cell.handle h ∈ p.holds) (ts : List Task) :
    Old p ts (updT ts h finished) :=
  .upd fun _ _ => ⟨rfl, .inl rfl, .inl ⟨rfl, rfl⟩, .inr (.inr ⟨rfl, hh⟩)⟩

theorem Old.beginPoll (p : Pc) {s : St} {k : Nat}
    (hl : ∃ t, s.tasks[k]? = some t ∧ t.done = false ∧ t.running = false) : Old p s.tasks (s.beginPoll k).tasks :=
  .upd fun t ht => by
    obtain ⟨t0, h0, hd, hr⟩ := hl
    cases ht.symm.trans h0
    exact ⟨rfl, .inl rfl, .inr (.inr ⟨hr, hd, rfl, hd⟩), .inl rfl⟩

/-- the fresh task (index `n`, body `b`) and where the spawning thread goes on to register it -/
def Spawn (p q : Pc) (n : Nat) (b : Body) : Prop :=
  Cell.slot ∈ p.holds ∧
    ((p.okM = false ∧ b = .trailing ∧ q = .hc_store n) ∨ (p.okH = false ∧ (∃ x, b = .emit x) ∧ q = .dl_append n))

theorem step_tasks (K : Conf) (s : St) (p : Pc) :
    ∃ ts, Old p s.tasks ts ∧ ((step K s p).1.tasks = ts ∨
      ∃ b, (step K s p).1.tasks = ts ++ [{ dur := K.dur, body := b }] ∧ Spawn p (step K s p).2 ts.length b) := by
  have spawned : ∀ (p : Pc) {ts : List Task}, Old p s.tasks ts → Cell.slot ∈ p.holds → p.okM = false →
      ∃ ts', Old p s.tasks ts' ∧ ((ts ++ [{ dur := K.dur, body := .trailing }] : List Task) = ts' ∨
        ∃ b, ts ++ [{ dur := K.dur, body := .trailing }] = ts' ++ [{ dur := K.dur, body := b }] ∧
          Spawn p (.hc_store ts.length) ts'.length b) :=
    fun _ _ ho hs hm => ⟨_, ho, .inr ⟨_, rfl, hs, .inl ⟨hm, rfl, rfl⟩⟩⟩
  induction p using step_elim K s
  case fire_due => rw [fireTimer_frame]; exact ⟨_, .refl _ _, .inl rfl⟩
  case run_round => exact ⟨_, .refl _ _, .inl (congrArg St.tasks (foldl_fire_frame s.dueTimers s) :)⟩
  case p_begin_live j k hl => exact ⟨_, .beginPoll _ (live_spec s _ _ hl), .inl rfl⟩
  case run_polls_live pr k r hl => exact ⟨_, .beginPoll _ (isLive_spec s _ hl), .inl rfl⟩
  case p_fin k r ret =>
    refine ⟨_, ?_, .inl rfl⟩
    exact .upd fun _ _ => ⟨rfl, .inl rfl, .inr (.inl ⟨r, ret, rfl⟩), .inl rfl⟩
  case p_handle_first =>
    refine ⟨_, ?_, .inl rfl⟩
    exact .upd fun _ _ => ⟨rfl, .inl rfl, .inl ⟨rfl, rfl⟩, .inl rfl⟩
  case db_hcell_none => exact spawned .db_hcell (.refl _ _) (by simp [Pc.holds]) rfl
  case db_cancel => exact spawned (.db_cancel _) (.cancel rfl _) (by simp [Pc.holds]) rfl
  case th_hcell_none | th_closed_over =>
    unfold thOver; (repeat' split)
    · exact ⟨_, .refl _ _, .inl rfl⟩
    · exact spawned _ (.refl _ _) (by simp [Pc.holds]) rfl
    · exact ⟨_, .refl _ _, .inl rfl⟩
  case th_ltrail_skip => exact spawned (.th_ltrail _) (.refl _ _) (by simp [Pc.holds]) rfl
  case th_ldown => exact spawned (.th_ldown _) (.of_eq _ (deliver_tasks _ _)) (by simp [Pc.holds]) rfl
  case dl_retain n => exact ⟨_, .refl _ _, .inr ⟨_, rfl, by simp [Pc.holds], .inr ⟨rfl, ⟨n, rfl⟩, rfl⟩⟩⟩
  case p_trail_none => exact ⟨_, .finished (by simp [Pc.holds]) _, .inl rfl⟩
  case p_down | p_emit => exact ⟨_, deliver_tasks s _ ▸ .finished (by simp [Pc.holds]) _, .inl rfl⟩
  case tc_dnext | tc_down | te_down => exact ⟨_, .of_eq _ (deliver_tasks _ _), .inl rfl⟩
  case tc_cancel | te_cancel | dl_late | u_cancel | u_mc_last | u_mc_more => exact ⟨_, .cancel rfl _, .inl rfl⟩
  all_goals exact ⟨_, .refl _ _, .inl rfl⟩

theorem ev_old (K : Conf) (s : St) (p : Pc) (k : Nat) (t : Task) (ht : s.tasks[k]? = some t) :
    ∃ t', (step K s p).1.tasks[k]? = some t' ∧ Kept p k t t' := by
  obtain ⟨ts, ho, e | ⟨b, e, _⟩⟩ := step_tasks K s p <;> obtain ⟨t', ht', hk⟩ := ho.kept k t ht
  · exact ⟨t', e ▸ ht', hk⟩
  · exact ⟨t', by rw [e, List.getElem?_append_left (List.getElem?_eq_some_iff.mp ht').1]; exact ht', hk⟩

theorem ev_new (K : Conf) (s : St) (p : Pc) (k : Nat) (t' : Task) (h : (step K s p).1.tasks[k]? = some t')
    (h0 : s.tasks[k]? = none) :
    k = s.tasks.length ∧ ∃ b, t' = { dur := K.dur, body := b } ∧ Spawn p (step K s p).2 k b := by
  have hk : s.tasks.length ≤ k := List.getElem?_eq_none_iff.mp h0
  have hlt := (List.getElem?_eq_some_iff.mp h).1
  obtain ⟨ts, ho, e | ⟨b, e, hs⟩⟩ := step_tasks K s p
  · rw [e, ho.len] at hlt; omega
  · rw [e] at h hlt
    have ek : k = ts.length := by
      rw [List.length_append, ho.len] at hlt; simp only [List.length_cons, List.length_nil] at hlt
      rw [ho.len]; omega
    subst ek
    rw [List.getElem?_concat_length] at h
    cases h
    exact ⟨ho.len, b, rfl, hs⟩

theorem len_mono (K : Conf) (s : St) (p : Pc) : s.tasks.length ≤ (step K s p).1.tasks.length := by
  obtain ⟨ts, ho, e | ⟨b, e, _⟩⟩ := step_tasks K s p <;> rw [e]
  · exact Nat.le_of_eq ho.len.symm
  · rw [List.length_append, ho.len]; exact Nat.le_add_right _ _

/-- No step re-arms a task: an armed task was armed, or has just been spawned inside the slot section. -/
theorem ev_armed (K : Conf) (s : St) (p : Pc) (k : Nat) (h : (step K s p).1.armed k = true) :
    s.armed k = true ∨ (s.tasks[k]? = none ∧ Cell.slot ∈ p.holds) := by
  obtain ⟨t', ht', hk', hv'⟩ := (armed_iff _ _).mp h
  cases ht0 : s.tasks[k]? with
  | some t =>
    obtain ⟨t'', ht'', hkept⟩ := ev_old K s p k t ht0
    cases ht'.symm.trans ht''
    have hk : t.keep = true := by
      rcases hkept.keep with e | ⟨e, _⟩
      · rw [← e]; exact hk'
      · rw [hk'] at e; cases e
    have hv : t.value = false := by
      rcases hkept.value with e | ⟨_, e⟩ | ⟨e, _⟩
      · rw [← e]; exact hv'
      · rw [hk'] at e; cases e
      · rw [hv'] at e; cases e
    exact Or.inl ((armed_iff _ _).mpr ⟨t, ht0, hk, hv⟩)
  | none =>
    obtain ⟨_, _, _, hs, _⟩ := ev_new K s p k t' ht' ht0
    exact Or.inr ⟨rfl, hs⟩

/-- the end of a poll says whether the future left the queue -/
theorem fin_done (K : Conf) (s : St) (k : Nat) (r : Bool) (ret : Ret) (t' : Task)
    (h : (step K s (.p_fin k r ret)).1.tasks[k]? = some t') : t'.done = r := by
  change (updT s.tasks k _)[k]? = some t' at h
  rw [getElem?_updT, if_pos rfl] at h
  cases h0 : s.tasks[k]? with
  | none => rw [h0] at h; cases h
  | some t => rw [h0] at h; cases h; rfl

/-- a step of the thread that holds the handle of task `k` (it is inside the body) leaves the tasks alone or
    ends the body and goes on to put the future back -/
theorem ev_finish (K : Conf) (s : St) (p : Pc) (k : Nat) (h : Cell.handle k ∈ p.holds) :
    (∃ ret, (step K s p).2 = .p_fin k true ret) ∨ (step K s p).1.tasks = s.tasks := by
  induction p using step_elim K s <;> simp [Pc.holds] at h <;> subst h
  case p_trail_some => exact .inr rfl
  case p_trail_none | p_down | p_emit => exact .inl ⟨_, rfl⟩

theorem beginPoll_self (s : St) (k : Nat) (t : Task) (ht : s.tasks[k]? = some t) (hd : t.done = false) :
    ∃ t', (s.beginPoll k).tasks[k]? = some t' ∧ t'.running = true ∧ t'.done = false := by
  simp [St.beginPoll, St.upd, getElem?_updT, ht, hd]

theorem cancel_unarmed (s : St) (k : Nat) : (s.upd k cancel).armed k = false := by
  unfold St.armed St.upd
  simp only [getElem?_updT, if_true]
  cases s.tasks[k]? <;> simp [cancel]

/-- the slot never re-opens -/
theorem ev_slot (K : Conf) (s : St) (p : Pc) (h : (step K s p).1.slotOpen = true) : s.slotOpen = true := by
  by_cases hc : p.cell = some .slot
  · revert h
    induction p using step_elim K s <;> cases hc <;> intro h <;> first | exact h | cases h
  · exact (step_framed K s p).slotOpen hc ▸ h

/-- The slot section is entered only through an open slot. -/
theorem ev_enter (K : Conf) (s : St) (p : Pc) (h : Cell.slot ∈ (step K s p).2.holds) :
    Cell.slot ∈ p.holds ∨ s.slotOpen = true := by
  rcases step_holds' K s p _ h with h' | hc
  · exact .inl h'
  · right
    revert h
    induction p using step_elim K s <;> cases hc <;> intro h
    · split at h
      · assumption
      · cases h
    · assumption
    · cases h
    · unfold uSecond at h; (repeat' split at h) <;> cases h

theorem step_hcell (K : Conf) (s : St) (p : Pc) (hc : p.cell = some .hcell) :
    (∃ k, p = .hc_store k) ∨ (step K s p).1.hcell = s.hcell ∨
      ∃ h, s.hcell = some h ∧ (step K s p).1.hcell = none ∧
        ((step K s p).2 = .db_cancel h ∨ (step K s p).2 = .tc_cancel h ∨ (step K s p).2 = .te_cancel h ∨
          ∃ b, p = .u_hcell b ∧ (step K s p).2 = .u_cancel h b) := by
  induction p using step_elim K s <;> cases hc
  case hc_store k => exact .inl ⟨k, rfl⟩
  case th_hcell_none => unfold thOver; (repeat' split) <;> exact .inr (.inl rfl)
  all_goals
    first
    | exact .inr (.inl rfl)
    | exact .inr (.inr ⟨_, ‹_›, rfl, by simp⟩)

theorem ev_hcell_some (K : Conf) (s : St) (p : Pc) (k : Nat) (h : (step K s p).1.hcell = some k) :
    s.hcell = some k ∨ p = .hc_store k := by
  by_cases hc : p.cell = some .hcell
  · rcases step_hcell K s p hc with ⟨k', rfl⟩ | e | ⟨_, _, e, _⟩
    · cases h; exact .inr rfl
    · exact .inl (e ▸ h)
    · rw [e] at h; cases h
  · exact .inl ((step_framed K s p).hcell hc ▸ h)

theorem step_multi (K : Conf) (s : St) (p : Pc) (hc : p.cell = some .multi) :
    (step K s p).1.multi = s.multi ∨ (∃ k l, s.multi = some l ∧ (step K s p).1.multi = some (l ++ [k])) ∨
      ((step K s p).1.multi = none ∧ ∀ l, s.multi = some l → l ≠ [] → ∃ b, (step K s p).2 = .u_mc l b) := by
  induction p using step_elim K s <;> cases hc
  case dl_retain => exact .inl rfl
  case dl_append_some k l e => exact .inr (.inl ⟨k, l, e, rfl⟩)
  case dl_append_none => exact .inl rfl
  case u_multi b =>
    refine .inr (.inr ⟨rfl, fun l e hl => ⟨b, ?_⟩⟩)
    cases l with
    | nil => exact absurd rfl hl
    | cons a r => simp [e]

theorem ev_multi_none (K : Conf) (s : St) (p : Pc) (h : s.multi = none) : (step K s p).1.multi = none := by
  by_cases hc : p.cell = some .multi
  · rcases step_multi K s p hc with e | ⟨_, _, e, _⟩ | ⟨e, _⟩
    · exact e.trans h
    · rw [h] at e; cases e
    · exact e
  · exact ((step_framed K s p).multi hc).trans h

/-- a handle stays in the composite until `unsubscribe` takes the whole list -/
theorem ev_multi_mem (K : Conf) (s : St) (p : Pc) (l : List Nat) (k : Nat) (hl : s.multi = some l) (hk : k ∈ l) :
    (∃ l', (step K s p).1.multi = some l' ∧ k ∈ l') ∨ ∃ b, (step K s p).2 = .u_mc l b := by
  by_cases hc : p.cell = some .multi
  · rcases step_multi K s p hc with e | ⟨k', l', e0, e⟩ | ⟨_, e⟩
    · exact .inl ⟨l, e.trans hl, hk⟩
    · cases hl.symm.trans e0
      exact .inl ⟨_, e, List.mem_append_left _ hk⟩
    · exact .inr (e l hl (List.ne_nil_of_mem hk))
  · exact .inl ⟨l, ((step_framed K s p).multi hc).trans hl, hk⟩

/-- inside `unsubscribe()` (the subscription value has been taken) -/
def Pc.inUnsub : Pc → Bool
  | .u_slot _ | .u_hcell _ | .u_cancel _ _ | .u_multi _ | .u_mc _ _ | .u_end => true
  | _ => false

theorem step_free (K : Conf) (s : St) (p : Pc) (hc : p.cell = none) :
    ((step K s p).1.subHeld = s.subHeld ∧ (step K s p).1.log = s.log) ∨
      ((step K s p).1.subHeld = false ∧ (step K s p).1.log = s.log) ∨
      (p = .u_end ∧ (step K s p).1.subHeld = s.subHeld ∧ (step K s p).1.log = s.log ++ [.R]) := by
  induction p using step_elim K s <;> cases hc
  case fire_due => rw [fireTimer_frame]; exact .inl ⟨rfl, rfl⟩
  case run_round =>
    have e := foldl_fire_frame s.dueTimers s
    exact .inl ⟨(congrArg St.subHeld e :), (congrArg St.log e :)⟩
  case u_begin_held => exact .inr (.inl ⟨rfl, rfl⟩)
  case u_end => exact .inr (.inr ⟨rfl, rfl, rfl⟩)
  all_goals exact .inl ⟨rfl, rfl⟩

theorem ev_sub (K : Conf) (s : St) (p : Pc) (h : (step K s p).1.subHeld = true) : s.subHeld = true := by
  by_cases hc : p.cell = none
  · rcases step_free K s p hc with ⟨e, _⟩ | ⟨e, _⟩ | ⟨_, e, _⟩
    · exact e ▸ h
    · rw [e] at h; cases h
    · exact e ▸ h
  · exact (step_framed K s p).subHeld hc ▸ h

theorem deliver_hcell (s : St) (n : Notif) : (s.deliver n).hcell = s.hcell := by
  unfold St.deliver; split <;> rfl

theorem deliver_trailing (s : St) (n : Notif) : (s.deliver n).trailing = s.trailing := by
  unfold St.deliver; split <;> rfl

theorem deliver_count_le (s : St) (n : Notif) (v : Val) :
    (s.deliver n).log.count (.n (.next v)) ≤ s.log.count (.n (.next v)) + if n = .next v then 1 else 0 := by
  unfold St.deliver
  split
  · simp only [List.count_append, List.count_cons, List.count_nil]
    by_cases h : n = .next v
    · subst h; simp only [BEq.rfl, if_true]; omega
    · have : (Item.n n == Item.n (Notif.next v)) = false := by
        simp only [beq_eq_false_iff_ne, ne_eq, Item.n.injEq]; exact h
      simp only [this, h, if_false, Bool.false_eq_true]; omega
  · omega

theorem uSecond_H {K : Conf} (h : K.kind.isH = true) (b : Bool) : uSecond K b = .u_hcell b := by
  unfold uSecond; split <;> first | rfl | (rename_i e; rw [e] at h; cases h)

theorem uSecond_M {K : Conf} (h : K.kind.isM = true) (b : Bool) : uSecond K b = .u_multi b := by
  unfold uSecond; split <;> first | rfl | (rename_i e; rw [e] at h; cases h)

theorem deliver_log (s : St) (n : Notif) : (s.deliver n).log = s.log ∨ (s.deliver n).log = s.log ++ [.n n] := by
  unfold St.deliver; split
  · exact .inr rfl
  · exact .inl rfl

/-- The log grows by one delivery (in a step that acquires the downstream slot), by the marker (the last step
    of `unsubscribe`), or not at all. -/
theorem ev_log (K : Conf) (s : St) (p : Pc) :
    (step K s p).1.log = s.log ∨ (p = .u_end ∧ (step K s p).1.log = s.log ++ [.R]) ∨
      (p.cell = some .down ∧ ∃ n, (step K s p).1.log = s.log ++ [.n n]) := by
  by_cases hd : p.cell = some .down
  · have ⟨n, e⟩ : ∃ n, (step K s p).1.log = (s.deliver n).log := by
      induction p using step_elim K s <;> cases hd <;> exact ⟨_, rfl⟩
    rcases deliver_log s n with e' | e'
    · exact .inl (e.trans e')
    · exact .inr (.inr ⟨hd, n, e.trans e'⟩)
  · by_cases hc : p.cell = none
    · rcases step_free K s p hc with ⟨_, e⟩ | ⟨_, e⟩ | ⟨e1, _, e⟩
      · exact .inl e
      · exact .inl e
      · exact .inr (.inl ⟨e1, e⟩)
    · exact .inl ((step_framed K s p).log hd hc)

/-- Outside the slot section the candidate cell is only ever emptied. -/
theorem step_trailing (K : Conf) (s : St) (p : Pc) :
    (step K s p).1.trailing = s.trailing ∨ (step K s p).1.trailing = none ∨ Cell.slot ∈ p.holds := by
  by_cases hc : p.cell = some .trail
  · -- the emitter's steps at the cell are inside the slot section; the window task (`p_trail`) empties it
    induction p using step_elim K s <;> cases hc <;>
      first | exact .inr (.inl rfl) | exact .inl rfl | exact .inr (.inr (by simp [Pc.holds]))
  · exact .inl ((step_framed K s p).trailing hc)

theorem after_eq {p q r : Pc} (ha : After p q) (hp : p = r) (hr : r ≠ .fin) : q = r := by
  rcases ha with rfl | ⟨e, _⟩
  · exact hp
  · rw [hp] at e; exact absurd e hr

theorem retPc_inPoll (ret : Ret) (k : Nat) : (retPc ret).inPoll k = false := by
  cases ret <;> rfl

theorem entry_inPoll {q : Pc} (h : q.isEntry = true) (k : Nat) : q.inPoll k = false := by
  cases q <;> first | rfl | cases h

/-- A thread is inside a poll of task `k` after a step: it was before (and the step was not the end of the
    poll), or the step took the task — which was in the queue — out of it. -/
theorem ev_inPoll (K : Conf) (s : St) (p : Pc) (k : Nat) (h : (step K s p).2.inPoll k = true) :
    (p.inPoll k = true ∧ ∀ r ret, p ≠ .p_fin k r ret) ∨
      ∃ t, s.tasks[k]? = some t ∧ t.running = false ∧ t.done = false ∧
        ∃ t', (step K s p).1.tasks[k]? = some t' ∧ t'.running = true ∧ t'.done = false := by
  have enter : ∀ k', (∃ t, s.tasks[k']? = some t ∧ t.done = false ∧ t.running = false) → (k' == k) = true →
      ∃ t, s.tasks[k]? = some t ∧ t.running = false ∧ t.done = false ∧
        ∃ t', (s.beginPoll k').tasks[k]? = some t' ∧ t'.running = true ∧ t'.done = false := by
    intro k' ⟨t, a, b, c⟩ e
    cases beq_iff_eq.mp e
    exact ⟨t, a, c, b, beginPoll_self s _ t a b⟩
  revert h
  induction p using step_elim K s
  case p_begin_live j k' hl => exact fun h => .inr (enter _ (live_spec s _ _ hl) h)
  case run_polls_live pr k' r hl => exact fun h => .inr (enter _ (isLive_spec s _ hl) h)
  case p_fin k' r ret => intro h; rw [retPc_inPoll] at h; cases h
  case p_handle_body =>
    intro h
    refine .inl ⟨?_, nofun⟩
    simp only at h
    split at h <;> exact h
  case p_handle_cancelled | p_handle_first | p_handle_pending | p_handle_lost | p_trail_some | p_trail_none | p_down | p_emit => exact fun h => .inl ⟨h, nofun⟩
  all_goals
    intro h
    first
    | cases h
    | (simp only [nextEntry, termEntry, afterTrail, thOver, uSecond, uAfter] at h; (repeat' split at h) <;> cases h)

theorem step_u_begin {K : Conf} (hK : K.order = .original) (s : St) :
    (step K s .u_begin).2 = .u_slot true ∨ (step K s .u_begin).2 = .fin := by
  have : ∀ p, p = Pc.u_begin → (step K s p).2 = .u_slot true ∨ (step K s p).2 = .fin := by
    intro p
    induction p using step_elim K s <;> intro e <;> cases e
    · rw [hK]; exact .inl rfl
    · exact .inr rfl
  exact this _ rfl

/-- `unsubscribe()` is entered with the subscription value in hand, which is gone afterwards -/
theorem ev_inUnsub (K : Conf) (s : St) (p : Pc) (h : (step K s p).2.inUnsub = true) :
    p.inUnsub = true ∨ (p = .u_begin ∧ s.subHeld = true ∧ (step K s p).1.subHeld = false) := by
  revert h
  induction p using step_elim K s
  case u_begin_held h => exact fun _ => .inr ⟨rfl, h, rfl⟩
  case u_slot | u_hcell_some | u_hcell_none | u_cancel | u_multi | u_mc_nil | u_mc_last | u_mc_more => exact fun _ => .inl rfl
  all_goals
    intro h
    first
    | cases h
    | (simp only [nextEntry, termEntry, afterTrail, thOver, retPc] at h; (repeat' split at h) <;> cases h)

theorem quiet_append_R (l : List Item) : quietAfterR (l ++ [.R]) = quietAfterR l := by
  induction l with
  | nil => rfl
  | cons x r ih => cases x <;> simp [quietAfterR, ih]

theorem quiet_append_n (l : List Item) (x : Notif) (h : Item.R ∉ l) : quietAfterR (l ++ [.n x]) = true := by
  induction l with
  | nil => rfl
  | cons y r ih =>
    cases y with
    | R => simp at h
    | n z => simp only [List.cons_append, quietAfterR]; exact ih (fun m => h (List.mem_cons_of_mem _ m))

/-! ### the executor protocol (every operator kind): one poller per task -/

structure PollInv (s : St) (f : Nat → Pc) : Prop where
  /-- one poller per task, and the task is out of the queue meanwhile -/
  p1 : ∀ k j j', (f j).inPoll k = true → (f j').inPoll k = true → j = j'
  p2 : ∀ k j, (f j).inPoll k = true → ∃ t, s.tasks[k]? = some t ∧ t.running = true ∧ t.done = false
  /-- a task whose body has returned has left the queue, or its poller is about to say so -/
  v : ∀ k t, s.tasks[k]? = some t → t.value = true → t.done = true ∨ ∃ j ret, f j = .p_fin k true ret

theorem PollInv.preserved {K : Conf} {s : St} {f : Nat → Pc} {i : Nat} (h : PollInv s f) {q : Pc}
    (ha : After (step K s (f i)).2 q) :
    PollInv (step K s (f i)).1 (fun j => if j = i then q else f j) := by
  have hq_poll : ∀ k, q.inPoll k = true → ((f i).inPoll k = true ∧ ∀ r ret, f i ≠ .p_fin k r ret) ∨
      ∃ t, s.tasks[k]? = some t ∧ t.running = false ∧ t.done = false ∧
        ∃ t', (step K s (f i)).1.tasks[k]? = some t' ∧ t'.running = true ∧ t'.done = false := by
    intro k hk
    rcases ha with rfl | ⟨_, hent⟩
    · exact ev_inPoll _ _ _ _ hk
    · rw [entry_inPoll hent] at hk; cases hk
  refine ⟨?_, ?_, ?_⟩
  · -- p1: a thread that enters the poll found the task in the queue, so nobody else is polling it
    intro k j j' h1 h2
    have hx : ∀ j', j' ≠ i → q.inPoll k = true → (f j').inPoll k = true → j' = i := by
      intro j' _ h1 h2
      rcases hq_poll k h1 with ⟨e, _⟩ | ⟨t, ht, hr, _⟩
      · exact h.p1 k j' i h2 e
      · obtain ⟨t2, ht2, hr2, _⟩ := h.p2 k j' h2
        cases ht.symm.trans ht2; rw [hr] at hr2; cases hr2
    by_cases hj : j = i <;> by_cases hj' : j' = i
    · rw [hj, hj']
    · simp only [hj, hj', if_true, if_false] at h1 h2
      exact hj ▸ (hx j' hj' h1 h2).symm
    · simp only [hj, hj', if_true, if_false] at h1 h2
      exact hj' ▸ hx j hj h2 h1
    · simp only [hj, hj', if_false] at h1 h2
      exact h.p1 k j j' h1 h2
  · -- p2: only the end of the poll (`p_fin`) puts the task back
    intro k j hjp
    have hrun : ∀ t, s.tasks[k]? = some t → t.running = true → t.done = false →
        (∀ r ret, f i ≠ .p_fin k r ret) →
        ∃ t', (step K s (f i)).1.tasks[k]? = some t' ∧ t'.running = true ∧ t'.done = false := by
      intro t ht hr hd hne
      obtain ⟨t', ht', hkept⟩ := ev_old K s (f i) k t ht
      rcases hkept.run with ⟨e1, e2⟩ | ⟨r, ret, e1⟩ | ⟨e1, _⟩
      · exact ⟨t', ht', by rw [e1, hr], by rw [e2, hd]⟩
      · exact absurd e1 (hne r ret)
      · rw [hr] at e1; cases e1
    by_cases hj : j = i
    · simp only [hj, if_true] at hjp
      rcases hq_poll k hjp with ⟨e, hne⟩ | ⟨t, ht, hr, hd⟩
      · obtain ⟨t, ht, hr, hd⟩ := h.p2 k i e
        exact hrun t ht hr hd hne
      · exact hd.2
    · simp only [hj, if_false] at hjp
      obtain ⟨t, ht, hr, hd⟩ := h.p2 k j hjp
      exact hrun t ht hr hd fun r ret e1 => hj (h.p1 k j i hjp (by rw [e1]; simp [Pc.inPoll]))
  · -- a returned body: the task has left the queue, or its poller stands at `p_fin`
    intro k t' ht' hv'
    cases ht : s.tasks[k]? with
    | none => obtain ⟨_, b, rfl, _⟩ := ev_new K s (f i) k t' ht' ht; cases hv'
    | some t =>
      obtain ⟨t'', ht'', _, _, hrd, hval⟩ := ev_old K s (f i) k t ht
      rw [ht'] at ht''; cases ht''
      rcases hval with e | ⟨e, _⟩ | ⟨_, e⟩
      · -- the value was there before
        rw [hv'] at e
        rcases h.v k t ht e.symm with hd | ⟨j, ret, hj⟩
        · left
          rcases hrd with ⟨_, e2⟩ | ⟨r, ret, e1⟩ | ⟨_, e2, _⟩
          · rw [e2, hd]
          · obtain ⟨t2, ht2, _, hd2⟩ := h.p2 k i (by rw [e1]; simp [Pc.inPoll])
            rw [ht] at ht2; cases ht2; rw [hd] at hd2; cases hd2
          · rw [hd] at e2; cases e2
        · by_cases hji : j = i
          · subst hji
            left
            rw [hj] at ht'
            exact fin_done K s k true ret t' ht'
          · exact Or.inr ⟨j, ret, by simp only [hji, if_false]; exact hj⟩
      · rw [hv'] at e; cases e
      · -- the body has just returned: the thread goes on to put the future back
        rcases ev_finish K s (f i) k e with ⟨ret, e1⟩ | e1
        · exact Or.inr ⟨i, ret, by simp only [if_true]; exact after_eq ha e1 (by simp)⟩
        · rw [e1] at ht'
          rw [ht] at ht'; cases ht'
          rcases h.v k t' ht hv' with hd | ⟨j, ret, hj⟩
          · exact Or.inl hd
          · by_cases hji : j = i
            · subst hji; rw [hj] at e; simp [Pc.holds] at e
            · exact Or.inr ⟨j, ret, by simp only [hji, if_false]; exact hj⟩

theorem PollInv.init (live : Bool) (progs : List (List Op)) :
    PollInv (St.subscribed live) (Cfg.init (St.subscribed live) progs).pcOf := by
  have hpc := init_pcOf (St.subscribed live) progs
  refine ⟨?_, ?_, ?_⟩
  · intro k j j' h1; rcases hpc j with e | e
    · rw [e] at h1; cases h1
    · rw [entry_inPoll e] at h1; cases h1
  · intro k j h1; rcases hpc j with e | e
    · rw [e] at h1; cases h1
    · rw [entry_inPoll e] at h1; cases h1
  · intro k t ht; cases ht

/-- the task a poll is about to run the body of is armed: kept (checked under the handle) and its body has not
    returned yet (else the task would have left the queue, or its only poller would be putting it back) -/
theorem armed_at_body {s : St} {f : Nat → Pc} {i : Nat} (h : PollInv s f) {k : Nat} {ret : Ret}
    (hp : f i = .p_handle k ret) (hk : (s.task k).keep = true) : s.armed k = true := by
  obtain ⟨t, ht, _, hd⟩ := h.p2 k i (by rw [hp]; simp [Pc.inPoll])
  have e : s.task k = t := by rw [task_eq, ht]; rfl
  rw [e] at hk
  refine (armed_iff _ _).mpr ⟨t, ht, hk, ?_⟩
  cases hv : t.value with
  | false => rfl
  | true =>
    rcases h.v k t ht hv with e1 | ⟨j, ret', e1⟩
    · rw [hd] at e1; cases e1
    · have := h.p1 k j i (by rw [e1]; simp [Pc.inPoll]) (by rw [hp]; simp [Pc.inPoll])
      subst this
      rw [hp] at e1; cases e1


section frame
variable {K : Conf} {s : St} {f : Nat → Pc} {i : Nat}

/-- a step that needs a cell some other thread holds is not enabled -/
theorem blocked_of_held (h : LD s f) {j : Nat} {c : Cell} (hc : c ∈ (f j).holds)
    (hp : (f i).cell = some c) : s.enabled (f i) = false := by
  unfold St.enabled; rw [hp]; exact h.not_free hc

theorem slot_closed (p : Pc) (hn : s.slotOpen = false) : (step K s p).1.slotOpen = false := by
  cases hx : (step K s p).1.slotOpen with
  | false => rfl
  | true => rw [ev_slot _ _ _ hx] at hn; cases hn

theorem unarmed_keep (p : Pc) {k : Nat} (hk : k < s.tasks.length) (hu : s.armed k = false) :
    (step K s p).1.armed k = false := by
  cases hx : (step K s p).1.armed k with
  | false => rfl
  | true =>
    rcases ev_armed _ _ _ _ hx with e | ⟨e, _⟩
    · rw [hu] at e; cases e
    · rw [List.getElem?_eq_getElem hk] at e; cases e

/-- a task stays armed while another thread holds its handle: nobody else can cancel it or end its body -/
theorem armed_kept (ld : LD s f) (he : s.enabled (f i) = true) {j k : Nat} (hj : j ≠ i)
    (hh : Cell.handle k ∈ (f j).holds) (ha : s.armed k = true) : (step K s (f i)).1.armed k = true := by
  obtain ⟨t, ht, hk, hv⟩ := (armed_iff _ _).mp ha
  obtain ⟨t', ht', hkept⟩ := ev_old K s (f i) k t ht
  have hk' : t'.keep = true := by
    rcases hkept.keep with e | ⟨_, e⟩
    · rw [e, hk]
    · rw [blocked_of_held ld hh e] at he; cases he
  refine (armed_iff _ _).mpr ⟨t', ht', hk', ?_⟩
  rcases hkept.value with e | ⟨_, e⟩ | ⟨_, e⟩
  · rw [e, hv]
  · rw [hk'] at e; cases e
  · exact absurd (ld.excl _ _ _ hh e) hj

/-- after `unsubscribe()` has returned -/
structure QuietM (s : St) (f : Nat → Pc) : Prop where
  slot : s.slotOpen = false
  dead : ∀ k, s.armed k = false
  out : ∀ j, Cell.slot ∉ (f j).holds

theorem QuietM.preserved (hq : QuietM s f) {q : Pc} (ha : After (step K s (f i)).2 q) :
    QuietM (step K s (f i)).1 (fun j => if j = i then q else f j) := by
  refine ⟨slot_closed _ hq.slot, fun k => ?_, fun j => ?_⟩
  · cases hx : (step K s (f i)).1.armed k with
    | false => rfl
    | true =>
      rcases ev_armed _ _ _ _ hx with e | ⟨_, e⟩
      · rw [hq.dead k] at e; cases e
      · exact absurd e (hq.out i)
  · by_cases hj : j = i
    · simp only [hj, if_true]
      rcases ha with rfl | ⟨_, hent⟩
      · intro hm
        rcases ev_enter _ _ _ hm with e | e
        · exact hq.out i e
        · rw [hq.slot] at e; cases e
      · rw [isEntry_holds hent]; simp
    · simp only [hj, if_false]; exact hq.out j

theorem entry_inUnsub {q : Pc} (h : q.isEntry = true) : q.inUnsub = false := by
  cases q <;> first | rfl | cases h

theorem inUnsub_holds {q : Pc} (h : q.inUnsub = true) : Cell.slot ∉ q.holds := by
  cases q <;> first | (cases h; done) | simp [Pc.holds]

/-- "Once the source half is closed nobody is inside the slot section" survives a step: `late` is the part of
    `unsubscribe()` behind the source half, entered from `u_slot` (which the slot section keeps out), and the slot it
    closed keeps everybody else out. -/
theorem late_preserved (late : Pc → Bool) (hl : ∀ q, late q = true → q.inUnsub = true) (ld : LD s f)
    (he : s.enabled (f i) = true) {q : Pc} (ha : After (step K s (f i)).2 q)
    (hstep : late (step K s (f i)).2 = true → late (f i) = true ∨ ∃ b, f i = .u_slot b)
    (hclosed : ∀ j, late (f j) = true → s.slotOpen = false)
    (u1 : ∀ j j', late (f j) = true → Cell.slot ∉ (f j').holds) :
    ∀ j j', late (if j = i then q else f j) = true → Cell.slot ∉ (if j' = i then q else f j').holds := by
  intro j j' hlq
  by_cases hj : j = i <;> by_cases hj' : j' = i
  · simp only [hj, hj', if_true] at hlq ⊢; exact inUnsub_holds (hl _ hlq)
  · simp only [hj, hj', if_true, if_false] at hlq ⊢
    rcases ha with rfl | ⟨_, hent⟩
    · rcases hstep hlq with e | ⟨b, e⟩
      · exact u1 i j' e
      · intro hm
        rw [blocked_of_held ld hm (by rw [e]; rfl)] at he; cases he
    · have := hl q hlq; rw [entry_inUnsub hent] at this; cases this
  · simp only [hj, hj', if_true, if_false] at hlq ⊢
    rcases ha with rfl | ⟨_, hent⟩
    · intro hm
      rcases ev_enter _ _ _ hm with e | e
      · exact u1 j i hlq e
      · rw [hclosed j hlq] at e; cases e
    · rw [isEntry_holds hent]; simp
  · simp only [hj, hj', if_false] at hlq ⊢; exact u1 j j' hlq

theorem R_mem (p : Pc) (h : Item.R ∈ (step K s p).1.log) : Item.R ∈ s.log ∨ p = .u_end := by
  rcases ev_log K s p with e | ⟨e, _⟩ | ⟨_, n, e⟩
  · exact .inl (e ▸ h)
  · exact .inr e
  · rw [e] at h
    rcases List.mem_append.mp h with h | h
    · exact .inl h
    · cases List.mem_singleton.mp h

theorem quiet_log (p : Pc) (ql : quietAfterR s.log = true) (hd : p.cell = some .down → Item.R ∉ s.log) :
    quietAfterR (step K s p).1.log = true := by
  rcases ev_log K s p with e | ⟨_, e⟩ | ⟨hc, n, e⟩ <;> rw [e]
  · exact ql
  · rw [quiet_append_R]; exact ql
  · exact quiet_append_n _ _ (hd hc)

end frame

end Rx.Conc.TS
