import RxModel.Subject.ShareLemmas
/-
  Ghost instrumentation of the share model (C01M / C02M): the same deliveries,
  each tagged with the id of the `Subscriber` cell (= the subscription) it went
  through.  States are those of the model itself (`W.step`); only the output is
  refined, and erasing the tags gives the model's output back.
-/
namespace Rx.Share
namespace W

/-- A tagged delivery: cell id, probe label, notification. -/
abbrev IDlv := Nat × Nat × Notif

def eraseId (d : IDlv) : Dlv := (d.2.1, d.2.2)

/-- `broadcast` with cell ids. -/
def bcastI (cells : List (Option Nat)) (obs : List Nat) (n : Notif) : List IDlv :=
  obs.filterMap fun id => ((cells[id]?).join).map fun l => (id, l, n)

/-- Deliveries of `Subject::next / error / complete` on the inner subject. -/
def subjCallI (w : W) (n : Notif) : List IDlv :=
  match (load w.subj).observers with
  | some obs => bcastI w.cells obs n
  | none => []

def coldEmitI (w : W) : List Val → List IDlv
  | [] => subjCallI w .complete
  | v :: r => subjCallI w (.next v) ++ coldEmitI (w.tapCall (.next v)).1 r

def doConnectI (w : W) : List IDlv :=
  match w.cold with
  | some xs => coldEmitI { w with connected := true, srcSubs := w.srcSubs + 1 } xs
  | none => []

def subscribeI (w : W) (k : Nat) : List IDlv :=
  match w.kind with
  | .publish => []
  | .share => if w.connected then [] else doConnectI (w.attach k)

def hotEmitI (w : W) : Notif → List IDlv
  | .next v => if w.hotOpen && w.hotEntry && w.connCell then subjCallI w (.next v) else []
  | t =>
    if w.hotOpen then
      if w.hotEntry && w.connCell then subjCallI w t else []
    else []

def stepI (w : W) : Ev → List IDlv
  | .sub k => subscribeI w k
  | .unsub _ => []
  | .emit n => hotEmitI w n
  | .connect =>
    match w.kind with
    | .publish => if w.connected then [] else doConnectI w
    | .share => []
  | .q => []

/-- All tagged deliveries of a history, in order. -/
def runI : W → List Ev → List IDlv
  | _, [] => []
  | w, e :: r => stepI w e ++ runI (w.step e).1 r

/-- All deliveries of a history, in order. -/
def dlvs (os : List Out) : List Dlv := os.flatMap dlvOf

theorem run_fst_cons (w : W) (e : Ev) (r : List Ev) : (w.run (e :: r)).1 = ((w.step e).1.run r).1 := rfl

theorem runI_append (a b : List Ev) : ∀ w : W, runI w (a ++ b) = runI w a ++ runI (w.run a).1 b := by
  induction a with
  | nil => intro w; rfl
  | cons e r ih => intro w; simp [runI, ih, run_fst_cons]

theorem run_append_fst (a b : List Ev) : ∀ w : W, (w.run (a ++ b)).1 = ((w.run a).1.run b).1 := by
  induction a with
  | nil => intro w; rfl
  | cons e r ih => intro w; simp only [List.cons_append, run_fst_cons, ih]

/-! ### the tagged deliveries in the two forms of a step -/

theorem hotEmitI_eq (w : W) (n : Notif) :
    hotEmitI w n = if w.hotOpen && w.hotEntry && w.connCell then subjCallI w n else [] := by
  cases n with
  | next v => rfl
  | error x => simp only [hotEmitI]; cases w.hotOpen <;> rfl
  | complete => simp only [hotEmitI]; cases w.hotOpen <;> rfl

theorem stepI_fire (w : W) (e : Ev) (h : fires w e = true) : stepI w e = doConnectI (pre w e) := by
  simp only [fires, Bool.and_eq_true, Bool.not_eq_true'] at h
  obtain ⟨hc, ht⟩ := h
  cases e <;> cases hk : w.kind <;> simp [trigger, hk] at ht <;> simp [stepI, subscribeI, hk, hc, pre]

theorem stepI_nofire (w : W) (e : Ev) : fires w e = false →
    stepI w e = (match e with | .emit n => hotEmitI w n | _ => []) := by
  intro h
  cases e with
  | sub k =>
    cases hk : w.kind with
    | publish => simp [stepI, subscribeI, hk]
    | share =>
      have hc : w.connected = true := by simpa [fires, trigger, hk] using h
      simp [stepI, subscribeI, hk, hc]
  | connect =>
    cases hk : w.kind with
    | share => simp [stepI, hk]
    | publish =>
      have hc : w.connected = true := by simpa [fires, trigger, hk] using h
      simp [stepI, hk, hc]
  | unsub k => rfl
  | emit n => rfl
  | q => rfl

/-! ### one traversal of `step`

  Once the event has acted on the slots (`pre`), the rest of a step is a sequence of calls of
  the inner subject (`tapCall`) between updates of control fields.  A relation `T w w' d o`
  between a state, a later state, the tagged deliveries and the printed deliveries in between
  that composes, holds of control updates with no delivery and holds of one `tapCall`, therefore
  holds from `pre w e` to the end of the step. -/
section emits
variable {T : W → W → List IDlv → List Dlv → Prop}
  (comp : ∀ {w w1 w2 d1 d2 o1 o2}, T w w1 d1 o1 → T w1 w2 d2 o2 → T w w2 (d1 ++ d2) (o1 ++ o2))
  (ctl : ∀ w w' : W, w'.subj = w.subj → w'.cells = w.cells → w'.handles = w.handles → T w w' [] [])
  (tap : ∀ w n, T w (w.tapCall n).1 (subjCallI w n) (w.tapCall n).2)
include comp tap in
theorem coldEmit_emits (xs : List Val) : ∀ w : W, T w (w.coldEmit xs).1 (coldEmitI w xs) (w.coldEmit xs).2 := by
  induction xs with
  | nil => intro w; exact tap w _
  | cons v r ih => intro w; exact comp (tap w _) (ih _)

include comp ctl tap

theorem doConnect_emits (w : W) (keep : Bool) :
    T w (w.doConnect keep).1 (doConnectI w) (w.doConnect keep).2 := by
  rcases Option.eq_none_or_eq_some w.cold with hc | ⟨xs, hc⟩
  · have hI : doConnectI w = [] := by simp only [doConnectI, hc]
    rw [doConnect_hot w keep hc, hI]
    exact ctl _ _ rfl rfl rfl
  · have hI : doConnectI w = coldEmitI { w with connected := true, srcSubs := w.srcSubs + 1 } xs := by
      simp only [doConnectI, hc]
    rw [doConnect_cold w keep xs hc, hI]
    exact comp (ctl w { w with connected := true, srcSubs := w.srcSubs + 1 } rfl rfl rfl)
      (coldEmit_emits comp tap xs _)

theorem hotEmit_emits (w : W) (n : Notif) : T w (w.hotEmit n).1 (hotEmitI w n) (w.hotEmit n).2 := by
  rw [hotEmitI_eq]
  cases hw : (w.hotOpen && w.hotEntry && w.connCell) with
  | false =>
    obtain ⟨hd, ho, h, _⟩ := hotEmit_dead w n hw
    rw [hd, h]
    exact ctl _ _ rfl rfl rfl
  | true =>
    simp only [Bool.and_eq_true] at hw
    rw [hotEmit_wired w n hw.1.1 hw.1.2 hw.2]
    cases n.isTerm with
    | false => exact tap w n
    | true => exact comp (ctl w { w with hotOpen := false, connCell := false } rfl rfl rfl) (tap _ n)

theorem step_emits (w : W) (e : Ev) : T (pre w e) (w.step e).1 (stepI w e) (dlvOf (w.step e).2) := by
  cases hf : fires w e with
  | true =>
    obtain ⟨h1, h2⟩ := step_fire w e hf
    rw [h1, h2, stepI_fire w e hf]
    exact doConnect_emits comp ctl tap _ _
  | false =>
    obtain ⟨h1, h2⟩ := step_nofire w e hf
    rw [h1, h2, stepI_nofire w e hf]
    cases e with
    | emit n => exact hotEmit_emits comp ctl tap w n
    | sub k => exact ctl _ _ rfl rfl rfl
    | connect => exact ctl _ _ rfl rfl rfl
    | unsub k => exact ctl _ _ rfl rfl rfl
    | q => exact ctl _ _ rfl rfl rfl

end emits

/-- A relation that every step satisfies (on the events of the history), that composes and holds
    of standing still, holds between the ends of the run, with all tagged deliveries. -/
theorem run_rel {T : W → W → List IDlv → Prop} (refl : ∀ w, T w w [])
    (comp : ∀ {w w1 w2 d1 d2}, T w w1 d1 → T w1 w2 d2 → T w w2 (d1 ++ d2)) (es : List Ev)
    (hstep : ∀ w, ∀ e ∈ es, T w (w.step e).1 (stepI w e)) : ∀ w : W, T w (w.run es).1 (runI w es) := by
  induction es with
  | nil => exact refl
  | cons e r ih =>
    intro w
    exact comp (hstep w e List.mem_cons_self) (ih (fun w e he => hstep w e (List.mem_cons_of_mem _ he)) _)

/-! ### erasure -/

theorem bcastI_erase (cells : List (Option Nat)) (obs : List Nat) (n : Notif) :
    (bcastI cells obs n).map eraseId = broadcast cells obs n := by
  induction obs with
  | nil => rfl
  | cons id r ih =>
    simp only [bcastI, broadcast, List.filterMap_cons] at ih ⊢
    cases h : (cells[id]?).join <;> simp [eraseId, ih]

theorem subjNext_erase (w : W) (v : Val) :
    (subjCallI w (.next v)).map eraseId = (w.subjNext v).2 := by
  simp only [subjCallI, subjNext]
  split <;> simp [*, bcastI_erase]

theorem subjTerminal_erase (w : W) (t : Notif) :
    (subjCallI w t).map eraseId = (w.subjTerminal t).2 := by
  simp only [subjCallI, subjTerminal]
  split <;> simp [*, bcastI_erase]

theorem tapCall_erase (w : W) (n : Notif) : (subjCallI w n).map eraseId = (w.tapCall n).2 := by
  cases n with
  | next v => exact subjNext_erase { w with tap := w.tap + 1 } v
  | error e => exact subjTerminal_erase w _
  | complete => exact subjTerminal_erase w _

theorem stepI_erase (w : W) (e : Ev) : (stepI w e).map eraseId = dlvOf (w.step e).2 :=
  step_emits (T := fun _ _ d o => d.map eraseId = o)
    (fun h1 h2 => by rw [List.map_append, h1, h2]) (fun _ _ _ _ _ => rfl)
    (fun w n => tapCall_erase w n) w e

theorem runI_erase (es : List Ev) : ∀ w : W, (runI w es).map eraseId = dlvs (w.run es).2 := by
  induction es with
  | nil => intro w; rfl
  | cons e r ih =>
    intro w
    simp only [runI, run, dlvs, List.map_append, List.flatMap_cons, stepI_erase]
    rw [ih]; rfl

end W
end Rx.Share
