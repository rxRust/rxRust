import RxModel.Lemmas.MergeAllHistory
/-
  Concat order.  With a concurrency limit of at most one, the tags in the log
  (instance starts and delivered items) never decrease: the output is a
  sequence of blocks, one per instance, in arrival order.
-/
namespace Rx.MergeAll

/-- Tags of the starts and of the delivered items of a log, in order. -/
def tagsL : List Lab → List Nat
  | [] => []
  | .start i :: r => i.tag :: tagsL r
  | .out (.item t _) :: r => t :: tagsL r
  | _ :: r => tagsL r

/-- Tags of the delivered items. -/
def itemTags : List Out → List Nat
  | [] => []
  | .item t _ :: r => t :: itemTags r
  | _ :: r => itemTags r

theorem tagsL_append (a b : List Lab) : tagsL (a ++ b) = tagsL a ++ tagsL b := by
  induction a with
  | nil => rfl
  | cons x r ih =>
    cases x with
    | arrive i => simpa [tagsL] using ih
    | start i => simp [tagsL, ih]
    | out o => cases o <;> simp [tagsL, ih]

theorem itemTags_append (a b : List Out) : itemTags (a ++ b) = itemTags a ++ itemTags b := by
  induction a with
  | nil => rfl
  | cons x r ih => cases x <;> simp [itemTags, ih]

theorem tagsL_itemsL (tag : Nat) (xs : List Val) : tagsL (itemsL tag xs) = xs.map (fun _ => tag) := by
  induction xs with
  | nil => rfl
  | cons x r ih =>
    have : itemsL tag (x :: r) = Lab.out (.item tag x) :: itemsL tag r := rfl
    rw [this]; simp [tagsL, ih]

theorem tagsL_map_items (ts : List (Nat × Nat)) (v : Val) :
    tagsL ((ts.map (fun p => Out.item p.2 v)).map Lab.out) = ts.map (fun p => p.2) := by
  induction ts with
  | nil => rfl
  | cons x r ih => simp only [List.map_cons, tagsL]; rw [ih]

theorem itemTags_outs_sublist (l : List Lab) : (itemTags (outs l)).Sublist (tagsL l) := by
  induction l with
  | nil => exact List.Sublist.slnil
  | cons x r ih =>
    cases x with
    | arrive i => simpa [outs, tagsL] using ih
    | start i => simp only [outs, tagsL]; exact List.Sublist.cons _ ih
    | out o =>
      cases o with
      | item t v => simp only [outs, tagsL, itemTags]; exact List.Sublist.cons_cons _ ih
      | error e => simpa [outs, tagsL, itemTags] using ih
      | complete => simpa [outs, tagsL, itemTags] using ih

/-- `t` is below everything that can still be logged from `s` (queue `q`). -/
def BelowAll (s : St) (q : List Inst) (t : Nat) : Prop :=
  (∀ i ∈ q, t < i.tag) ∧ t < s.arrivals ∧ (∀ p ∈ s.subs, s.dead.contains p.1 = false → t ≤ p.2)

/-- Order facts about queue and subscriptions. -/
structure QS (s : St) (q : List Inst) : Prop where
  sorted : q.Pairwise (fun a b => a.tag < b.tag)
  qlt : ∀ i ∈ q, i.tag < s.arrivals
  slt : ∀ p ∈ s.subs, p.2 < s.arrivals
  lq : ∀ p ∈ s.subs, s.dead.contains p.1 = false → ∀ i ∈ q, p.2 < i.tag

/-- A piece of work seen from the tags: non-decreasing, above everything
    logged before, and what is logged stays below what can still come. -/
structure TagWork (s : St) (q : List Inst) (s' : St) (l : List Lab) : Prop where
  mono : (tagsL l).Pairwise (· ≤ ·)
  bnd : ∀ u ∈ tagsL l, BelowAll s' s'.queue u
  past : ∀ t, BelowAll s q t → (∀ u ∈ tagsL l, t ≤ u) ∧ BelowAll s' s'.queue t

theorem TagWork.comp {s : St} {q : List Inst} {s1 s2 : St} {l1 l2 : List Lab}
    (h1 : TagWork s q s1 l1) (h2 : TagWork s1 s1.queue s2 l2) : TagWork s q s2 (l1 ++ l2) := by
  refine ⟨?_, ?_, ?_⟩
  · rw [tagsL_append, List.pairwise_append]
    exact ⟨h1.mono, h2.mono, fun a ha b hb => (h2.past a (h1.bnd a ha)).1 b hb⟩
  · intro u hu
    rw [tagsL_append, List.mem_append] at hu
    rcases hu with hu | hu
    · exact (h2.past u (h1.bnd u hu)).2
    · exact h2.bnd u hu
  · intro t ht
    have a := h1.past t ht
    have b := h2.past t a.2
    refine ⟨?_, b.2⟩
    intro u hu
    rw [tagsL_append, List.mem_append] at hu
    rcases hu with hu | hu
    · exact a.1 u hu
    · exact b.1 u hu

theorem TagWork.notags {s : St} {q : List Inst} {s' : St} {l : List Lab} (hl : tagsL l = [])
    (hb : ∀ t, BelowAll s q t → BelowAll s' s'.queue t) : TagWork s q s' l :=
  ⟨by rw [hl]; exact List.Pairwise.nil, by rw [hl]; simp, fun t ht => ⟨by rw [hl]; simp, hb t ht⟩⟩

theorem pairwise_block (a : Nat) (xs : List Val) (T : List Nat) (hT : T.Pairwise (· ≤ ·))
    (h : ∀ u ∈ T, a ≤ u) : (a :: (xs.map (fun _ => a) ++ T)).Pairwise (· ≤ ·) := by
  rw [List.pairwise_cons]
  constructor
  · intro u hu
    rw [List.mem_append] at hu
    rcases hu with hu | hu
    · rw [List.mem_map] at hu; obtain ⟨_, _, rfl⟩ := hu; exact Nat.le_refl _
    · exact h u hu
  · rw [List.pairwise_append]
    refine ⟨?_, hT, ?_⟩
    · induction xs with
      | nil => exact List.Pairwise.nil
      | cons x r ih =>
        simp only [List.map_cons, List.pairwise_cons]
        refine ⟨?_, ih⟩
        intro u hu
        rw [List.mem_map] at hu; obtain ⟨_, _, rfl⟩ := hu; exact Nat.le_refl _
    · intro u hu b hb
      rw [List.mem_map] at hu; obtain ⟨_, _, rfl⟩ := hu; exact h b hb

theorem mem_block (a : Nat) (xs : List Val) (T : List Nat) (u : Nat)
    (hu : u ∈ a :: (xs.map (fun _ => a) ++ T)) : u = a ∨ u ∈ T := by
  rw [List.mem_cons, List.mem_append] at hu
  rcases hu with hu | hu | hu
  · exact Or.inl hu
  · rw [List.mem_map] at hu; obtain ⟨_, _, rfl⟩ := hu; exact Or.inl rfl
  · exact Or.inr hu

theorem tagsL_block (i : Inst) (xs : List Val) (tail : List Lab) :
    tagsL (Lab.start i :: (itemsL i.tag xs ++ tail)) =
      i.tag :: (xs.map (fun _ => i.tag) ++ tagsL tail) := by
  simp [tagsL, tagsL_append, tagsL_itemsL]

/-- What `drain` does to the tags when nobody else is live. -/
structure DrainBlk (arr : Nat) (q : List Inst) (s' : St) (l : List Lab) : Prop where
  qs : QS s' s'.queue
  mono : (tagsL l).Pairwise (· ≤ ·)
  src : ∀ u ∈ tagsL l, (∃ i ∈ q, i.tag = u) ∧ BelowAll s' s'.queue u
  past : ∀ t, (∀ i ∈ q, t < i.tag) → t < arr → BelowAll s' s'.queue t

/-- Nobody else is live, and the work list is in arrival order below the arrival counter. -/
structure BlkPre (s : St) (q : List Inst) : Prop where
  nolive : ∀ p ∈ s.subs, s.dead.contains p.1 = true
  sorted : q.Pairwise (fun a b => a.tag < b.tag)
  qlt : ∀ i ∈ q, i.tag < s.arrivals
  slt : ∀ p ∈ s.subs, p.2 < s.arrivals

/-- The shape shared by all exits that stop after `i` and leave the subscriptions alone. -/
theorem DrainBlk.stop {s : St} {i : Inst} {rest : List Inst} (h : BlkPre s (i :: rest)) (s' : St)
    (l : List Lab) (e1 : s'.queue = rest) (e2 : s'.subs = s.subs) (e3 : s'.dead = s.dead)
    (e4 : s'.arrivals = s.arrivals) (htl : ∀ u ∈ tagsL l, u = i.tag)
    (hmono : (tagsL l).Pairwise (· ≤ ·)) : DrainBlk s.arrivals (i :: rest) s' l := by
  have hsort := List.pairwise_cons.mp h.sorted
  have hno : ∀ p ∈ s'.subs, s'.dead.contains p.1 = false → False := fun p hp hd => by
    rw [e2] at hp; rw [e3, h.nolive p hp] at hd; cases hd
  refine ⟨⟨by rw [e1]; exact hsort.2, by rw [e1, e4]; exact fun a ha => h.qlt a (List.mem_cons_of_mem _ ha),
    by rw [e2, e4]; exact h.slt, fun p hp hd => (hno p hp hd).elim⟩, hmono, ?_, ?_⟩
  · intro u hu
    rw [htl u hu]
    exact ⟨⟨i, List.mem_cons_self .., rfl⟩, by rw [e1]; exact hsort.1,
      by rw [e4]; exact h.qlt i (List.mem_cons_self ..), fun p hp hd => (hno p hp hd).elim⟩
  · intro t ht hta
    exact ⟨by rw [e1]; exact fun a ha => ht a (List.mem_cons_of_mem _ ha), by rw [e4]; exact hta,
      fun p hp hd => (hno p hp hd).elim⟩

theorem startTop_blk (f : Bool) (s : St) (i : Inst)
    (hd : ∀ s', BlkPre s' s.queue →
      DrainBlk s'.arrivals s.queue (drain f s' s.queue).1 (drainL f s' s.queue))
    (h : BlkPre s (i :: s.queue)) :
    DrainBlk s.arrivals (i :: s.queue) (startTop f s i).1 (startTopL f s i) := by
  obtain ⟨hi, hr⟩ := List.pairwise_cons.mp h.sorted
  have hno : ∀ p ∈ s.subs, s.dead.contains p.1 = false → False := fun p hp hd => by
    rw [h.nolive p hp] at hd; cases hd
  have hia : i.tag < s.arrivals := h.qlt i (List.mem_cons_self ..)
  have hrl : ∀ a ∈ s.queue, a.tag < s.arrivals := fun a ha => h.qlt a (List.mem_cons_of_mem _ ha)
  refine startTop_cases f s i (P := fun r l => DrainBlk s.arrivals (i :: s.queue) r.1 l)
    (hot := fun j' _ => ?_) (open_ := fun xs _ => ?_) (error := fun xs e _ => ?_) (complete := fun xs _ => ?_)
  · -- the new observer of subject `j'` carries the tag just logged
    have hmem : ∀ {p : Nat × Nat}, p ∈ s.subs ++ [(j', i.tag)] → p ∈ s.subs ∨ p = (j', i.tag) :=
      fun hp => by simpa using hp
    refine ⟨⟨hr, hrl, ?_, ?_⟩, by simp [tagsL], ?_, ?_⟩
    · intro p hp
      rcases hmem hp with hp | rfl
      · exact h.slt p hp
      · exact hia
    · intro p hp hd
      rcases hmem hp with hp | rfl
      · exact (hno p hp hd).elim
      · exact hi
    · intro u hu
      have : u = i.tag := by simpa [tagsL] using hu
      subst this
      refine ⟨⟨i, List.mem_cons_self .., rfl⟩, hi, hia, ?_⟩
      intro p hp hd
      rcases hmem hp with hp | rfl
      · exact (hno p hp hd).elim
      · exact Nat.le_refl _
    · intro t ht hta
      refine ⟨fun a ha => ht a (List.mem_cons_of_mem _ ha), hta, ?_⟩
      intro p hp hd
      rcases hmem hp with hp | rfl
      · exact (hno p hp hd).elim
      · exact Nat.le_of_lt (ht i (List.mem_cons_self ..))
  · refine DrainBlk.stop h _ _ rfl rfl rfl rfl ?_ ?_
    · intro u hu
      rw [← List.append_nil (itemsL i.tag xs), tagsL_block] at hu
      rcases mem_block _ _ _ _ hu with h | h
      · exact h
      · simp [tagsL] at h
    · rw [← List.append_nil (itemsL i.tag xs), tagsL_block]
      exact pairwise_block _ _ _ (by simp [tagsL]) (by simp [tagsL])
  · refine DrainBlk.stop h _ _ rfl rfl rfl rfl ?_ ?_
    · intro u hu
      rw [tagsL_block] at hu
      rcases mem_block _ _ _ _ hu with h | h
      · exact h
      · simp [tagsL] at h
    · rw [tagsL_block]
      exact pairwise_block _ _ _ (by simp [tagsL]) (by simp [tagsL])
  · have := hd { s with started := s.started + 1 } ⟨h.nolive, hr, hrl, h.slt⟩
    have hge : ∀ u ∈ tagsL (drainL f { s with started := s.started + 1 } s.queue), i.tag ≤ u := by
      intro u hu
      obtain ⟨⟨a, ha, rfl⟩, _⟩ := this.src u hu
      exact Nat.le_of_lt (hi a ha)
    refine ⟨this.qs, ?_, ?_, ?_⟩
    · rw [tagsL_block]; exact pairwise_block _ _ _ this.mono hge
    · intro u hu
      rw [tagsL_block] at hu
      rcases mem_block _ _ _ _ hu with h | h
      · subst h
        exact ⟨⟨i, List.mem_cons_self .., rfl⟩, this.past i.tag hi hia⟩
      · obtain ⟨⟨a, ha, hau⟩, hb⟩ := this.src u h
        exact ⟨⟨a, List.mem_cons_of_mem _ ha, hau⟩, hb⟩
    · intro t ht hta
      exact this.past t (fun a ha => ht a (List.mem_cons_of_mem _ ha)) hta

theorem drain_blk (f : Bool) : ∀ q s, BlkPre s q →
    DrainBlk s.arrivals q (drain f s q).1 (drainL f s q) := by
  have nil : ∀ (s : St) {s' : St} {l : List Lab}, BlkPre s [] → s'.queue = [] → s'.subs = s.subs →
      s'.dead = s.dead → s'.arrivals = s.arrivals → tagsL l = [] → DrainBlk s.arrivals [] s' l := by
    intro s s' l h e1 e2 e3 e4 e5
    have hno : ∀ p ∈ s'.subs, s'.dead.contains p.1 = false → False := fun p hp hd => by
      rw [e2] at hp; rw [e3, h.nolive p hp] at hd; cases hd
    exact ⟨⟨by rw [e1]; exact .nil, by rw [e1]; exact nofun, by rw [e2, e4]; exact h.slt,
      fun p hp hd => (hno p hp hd).elim⟩, by rw [e5]; exact .nil, by rw [e5]; exact nofun,
      fun t _ ht => ⟨by rw [e1]; exact nofun, by rw [e4]; exact ht, fun p hp hd => (hno p hp hd).elim⟩⟩
  exact drain_induct f (P := fun s q r l => BlkPre s q → DrainBlk s.arrivals q r.1 l)
    (last := fun s _ _ h => nil s h rfl rfl rfl rfl rfl) (more := fun s _ h => nil s h rfl rfl rfl rfl rfl)
    (stuck := fun s i rest _ h => DrainBlk.stop h _ _ rfl rfl rfl rfl (fun u hu => by simpa [tagsL] using hu)
      (by simp [tagsL]))
    (start := fun s i rest _ ih h =>
      startTop_blk f { s with completed := s.completed + 1, queue := rest } i ih
        ⟨h.nolive, h.sorted, h.qlt, h.slt⟩)

theorem DrainBlk.wk {s : St} {q : List Inst} {s' : St} {l : List Lab}
    (h : DrainBlk s.arrivals q s' l) :
    TagWork s q s' l :=
  ⟨h.mono, fun u hu => (h.src u hu).2, fun t ht =>
    ⟨fun u hu => by
      obtain ⟨⟨a, ha, rfl⟩, _⟩ := h.src u hu
      exact Nat.le_of_lt (ht.1 a ha), h.past t ht.1 ht.2.1⟩⟩

/-- The state invariant for a limit of at most one. -/
structure OneSlotInv (s : St) (d : Nat) : Prop where
  conc : s.concurrent ≤ 1
  g : GInv s
  liv : LiveBound s d
  qs : QS s s.queue

/-- With one slot (`n` taken of `c ≤ 1`), `L` live observers and `p` pending completions:
    nobody is live while a completion is pending or the slot is free. -/
theorem one_slot_free {L p n c : Nat} (h1 : L + p ≤ n) (h2 : n ≤ c) (h3 : c ≤ 1)
    (h : 1 ≤ p ∨ n < c) : L = 0 := by
  omega

/-- With one slot, the live observers split into `b` of the subject that speaks and `a` others:
    at most one speaks. -/
theorem one_slot_split {L n c a b : Nat} (h1 : L + 0 ≤ n) (h2 : n ≤ c) (h3 : c ≤ 1)
    (h : a + b = L) : b ≤ 1 ∧ L ≤ 1 := by
  omega

theorem innerComplete_blk (f : Bool) (s : St) (d : Nat) (h : OneSlotInv s (d + 1)) :
    OneSlotInv (innerComplete f s).1 d ∧ TagWork s s.queue (innerComplete f s).1 (innerCompleteL f s) :=
  innerComplete_cases f s (P := fun r l => OneSlotInv r.1 d ∧ TagWork s s.queue r.1 l)
    (alive := fun _ => by
      -- the slot is taken by the completing observer, so nobody else is live
      have hl0 : live s = 0 := one_slot_free h.liv h.g.le h.conc (Or.inl (Nat.le_add_left 1 d))
      have hb := drain_blk f s.queue s ⟨liveOf_zero hl0, h.qs.sorted, h.qs.qlt, h.qs.slt⟩
      exact ⟨⟨by rw [(drain_same f _ s).conc]; exact h.conc, (drain_fifo f _ s h.g).1,
        drain_liv f d _ s h.liv, hb.qs⟩, hb.wk⟩)
    (dead := fun _ => ⟨⟨h.conc, h.g, Nat.le_trans (Nat.le_succ _) h.liv, h.qs⟩,
      TagWork.notags rfl (fun _ ht => ht)⟩)

theorem completeAll_blk (f : Bool) (ts : List (Nat × Nat)) : ∀ s : St, OneSlotInv s ts.length →
    OneSlotInv (completeAll f s ts).1 0 ∧ TagWork s s.queue (completeAll f s ts).1 (completeAllL f s ts) := by
  induction ts with
  | nil => intro s h; exact ⟨h, TagWork.notags rfl (fun _ ht => ht)⟩
  | cons p r ih =>
    intro s h
    rw [completeAll_cons, completeAllL_cons]
    have h1 := innerComplete_blk f s r.length h
    split
    · exact ⟨⟨h1.1.conc, h1.1.g, Nat.le_trans (Nat.le_add_right _ _) h1.1.liv, h1.1.qs⟩, h1.2⟩
    · have h2 := ih _ h1.1
      exact ⟨h2.1, h1.2.comp h2.2⟩

theorem tagsL_endOut {a0 a : Bool} {x : Out} {w : Prop} {o : List Out} (h : EndOut a0 x w a o)
    (hx : (Lab.out x).isTerm = true) : tagsL (o.map Lab.out) = [] := by
  cases h with
  | none _ => rfl
  | term _ _ => cases x with
    | item _ _ => cases hx
    | _ => rfl

theorem TagWork.weaken {s s0 : St} {q : List Inst} {s' : St} {l : List Lab}
    (hb : ∀ t, BelowAll s q t → BelowAll s0 q t) (h : TagWork s0 q s' l) : TagWork s q s' l :=
  ⟨h.mono, h.bnd, fun t ht => h.past t (hb t ht)⟩

theorem live_unique {subs : List (Nat × Nat)} {dead : List Nat} (h : liveOf subs dead ≤ 1)
    {p p' : Nat × Nat} (hp : p ∈ subs) (hp' : p' ∈ subs) (hd : dead.contains p.1 = false)
    (hd' : dead.contains p'.1 = false) : p = p' := by
  unfold liveOf at h
  have m : p ∈ subs.filter (fun p => !dead.contains p.1) :=
    List.mem_filter.mpr ⟨hp, by show (!dead.contains p.1) = true; rw [hd]; rfl⟩
  have m' : p' ∈ subs.filter (fun p => !dead.contains p.1) :=
    List.mem_filter.mpr ⟨hp', by show (!dead.contains p'.1) = true; rw [hd']; rfl⟩
  generalize subs.filter (fun p => !dead.contains p.1) = F at h m m'
  match F, h, m, m' with
  | [a], _, m, m' =>
    simp only [List.mem_singleton] at m m'
    rw [m, m']
  | _ :: _ :: _, h, _, _ => simp at h

/-- Taking the observers of subject `j` away keeps the order facts and every bound. -/
theorem take_order {s s' : St} {q : List Inst} {j : Nat}
    (e1 : s'.subs = s.subs.filter (fun p => !(p.1 == j))) (e2 : s'.dead = j :: s.dead)
    (e3 : s'.arrivals = s.arrivals) :
    (QS s q → QS s' q) ∧ ∀ t, BelowAll s q t → BelowAll s' q t := by
  have hsub : ∀ p ∈ s'.subs, p ∈ s.subs := fun p hp => by
    rw [e1] at hp; exact (List.mem_filter.mp hp).1
  have hdead : ∀ p : Nat × Nat, s'.dead.contains p.1 = false → s.dead.contains p.1 = false :=
    fun p hp => by
      rw [e2, List.contains_cons, Bool.or_eq_false_iff] at hp
      exact hp.2
  exact ⟨fun h => ⟨h.sorted, e3 ▸ h.qlt, fun p hp => e3 ▸ h.slt p (hsub p hp),
      fun p hp hd => h.lq p (hsub p hp) (hdead p hd)⟩,
    fun t ht => ⟨ht.1, e3 ▸ ht.2.1, fun p hp hd => ht.2.2 p (hsub p hp) (hdead p hd)⟩⟩

theorem stepG_blk (f : Bool) (s : St) (ev : Ev) (h : OneSlotInv s 0) :
    OneSlotInv (stepG f s ev).1 0 ∧ TagWork s s.queue (stepG f s ev).1 (stepL f s ev) := by
  have hq := h.qs
  have hliv : live s + 0 ≤ s.subscribed := h.liv
  have hle := h.g.le; have hconc := h.conc
  have main : QS (stepG f s ev).1 (stepG f s ev).1.queue ∧
      TagWork s s.queue (stepG f s ev).1 (stepL f s ev) := by
    refine stepG_cases f s ev (P := fun r l => QS r.1 r.1.queue ∧ TagWork s s.queue r.1 l)
      (idle := fun _ => ⟨hq, TagWork.notags rfl (fun _ ht => ht)⟩) (lost := fun _ _ _ _ _ => ?_)
      (room := fun k _ _ _ _ hlt => ?_) (full := fun k _ _ _ _ _ => ?_) (outer := fun _ _ _ _ _ hx _ _ ho => ?_)
      (inext := fun j v _ _ hd => ?_) (ierr := fun j _ a _ _ _ _ ho => ?_) (icomp := fun j _ _ hd => ?_) (unsub := fun _ _ => ?_)
    · exact ⟨⟨hq.sorted, fun i hi => Nat.lt_succ_of_lt (hq.qlt i hi),
        fun p hp => Nat.lt_succ_of_lt (hq.slt p hp), hq.lq⟩,
        TagWork.notags rfl (fun t ht => ⟨ht.1, Nat.lt_succ_of_lt ht.2.1, ht.2.2⟩)⟩
    · have hqe : s.queue = [] := Decidable.byContradiction fun hne =>
        Nat.lt_irrefl _ (Nat.lt_of_lt_of_le hlt (h.g.full hne))
      have hl0 : live s = 0 := one_slot_free hliv hle hconc (Or.inr hlt)
      have hb := startTop_blk f
        { s with arrivals := s.arrivals + 1, subscribed := s.subscribed + 1 } ⟨s.arrivals, k⟩
        (drain_blk f _)
        ⟨liveOf_zero hl0, List.pairwise_cons.mpr ⟨fun b hb => (by rw [hqe] at hb; cases hb), hq.sorted⟩,
          fun a ha => by
            rcases List.mem_cons.mp ha with rfl | ha
            · exact Nat.lt_succ_self _
            · exact Nat.lt_succ_of_lt (hq.qlt a ha),
          fun p hp => Nat.lt_succ_of_lt (hq.slt p hp)⟩
      refine ⟨hb.qs, hb.mono, fun u hu => (hb.src u hu).2, fun t ht => ?_⟩
      have hall : ∀ a ∈ (⟨s.arrivals, k⟩ : Inst) :: s.queue, t < a.tag := by
        intro a ha
        rcases List.mem_cons.mp ha with rfl | ha
        · exact ht.2.1
        · exact ht.1 a ha
      refine ⟨fun u hu => ?_, hb.past t hall (Nat.lt_succ_of_lt ht.2.1)⟩
      obtain ⟨⟨a, ha, rfl⟩, _⟩ := hb.src u hu
      exact Nat.le_of_lt (hall a ha)
    · have hmem : ∀ {a : Inst}, a ∈ s.queue ++ [⟨s.arrivals, k⟩] → a ∈ s.queue ∨ a = ⟨s.arrivals, k⟩ :=
        fun ha => by simpa using ha
      refine ⟨⟨?_, ?_, fun p hp => Nat.lt_succ_of_lt (hq.slt p hp), ?_⟩, TagWork.notags rfl ?_⟩
      · rw [List.pairwise_append]
        refine ⟨hq.sorted, by simp, ?_⟩
        intro a ha b hb
        simp only [List.mem_singleton] at hb
        subst hb
        exact hq.qlt a ha
      · intro a ha
        rcases hmem ha with ha | rfl
        · exact Nat.lt_succ_of_lt (hq.qlt a ha)
        · exact Nat.lt_succ_self _
      · intro p hp hd a ha
        rcases hmem ha with ha | rfl
        · exact hq.lq p hp hd a ha
        · exact hq.slt p hp
      · intro t ht
        refine ⟨?_, Nat.lt_succ_of_lt ht.2.1, ht.2.2⟩
        intro a ha
        rcases hmem ha with ha | rfl
        · exact ht.1 a ha
        · exact ht.2.1
    · exact ⟨⟨hq.sorted, hq.qlt, hq.slt, hq.lq⟩,
        TagWork.notags (tagsL_endOut ho (by rcases hx with ⟨_, rfl, _⟩ | ⟨_, _, rfl, _⟩ <;> rfl)) (fun _ ht => ht)⟩
    · refine ⟨hq, ?_⟩
      cases ha : s.alive with
      | false => exact TagWork.notags rfl (fun _ ht => ht)
      | true =>
        simp only [if_true]
        obtain ⟨hlen, hl1⟩ := one_slot_split hliv hle hconc (liveOf_take s.subs s.dead j hd)
        have hlen : (targets s j).length ≤ 1 := hlen
        have hmem : ∀ p ∈ targets s j, p ∈ s.subs ∧ s.dead.contains p.1 = false := by
          intro p hp
          have := List.mem_filter.mp hp
          have hj : p.1 = j := by simpa using this.2
          exact ⟨this.1, by rw [hj]; exact hd⟩
        refine ⟨?_, ?_, ?_⟩
        · rw [tagsL_map_items]
          match hT : targets s j, hlen with
          | [], _ => simp
          | [a], _ => simp
          | _ :: _ :: _, hl => simp at hl
        · intro u hu
          rw [tagsL_map_items, List.mem_map] at hu
          obtain ⟨p, hp, rfl⟩ := hu
          have hp' := hmem p hp
          refine ⟨fun a ha => hq.lq p hp'.1 hp'.2 a ha, hq.slt p hp'.1, ?_⟩
          intro p2 hp2 hd2
          rw [live_unique hl1 hp'.1 hp2 hp'.2 hd2]
          exact Nat.le_refl _
        · intro t ht
          refine ⟨?_, ht⟩
          intro u hu
          rw [tagsL_map_items, List.mem_map] at hu
          obtain ⟨p, hp, rfl⟩ := hu
          have hp' := hmem p hp
          exact ht.2.2 p hp'.1 hp'.2
    · have ht := take_order (s := s) (s' := { s.take j with alive := a }) (q := s.queue) (j := j)
        rfl rfl rfl
      exact ⟨ht.1 hq, TagWork.notags (tagsL_endOut ho rfl) ht.2⟩
    · have ht := take_order (s := s) (s' := s.take j) (q := s.queue) (j := j) rfl rfl rfl
      have := completeAll_blk f (targets s j) (s.take j)
        ⟨hconc, ⟨h.g.le, h.g.full, h.g.cnt⟩,
          (show liveOf (s.subs.filter _) (j :: s.dead) + (targets s j).length ≤ s.subscribed from
            (liveOf_take s.subs s.dead j hd).symm ▸ hliv), ht.1 hq⟩
      exact ⟨this.1.qs, TagWork.weaken (s0 := s.take j) ht.2 this.2⟩
    · exact ⟨⟨hq.sorted, hq.qlt, nofun, nofun⟩, TagWork.notags rfl (fun t ht => ⟨ht.1, ht.2.1, nofun⟩)⟩
  exact ⟨⟨by rw [(stepG_frame f s ev).conc]; exact h.conc, (stepG_fifo f s ev h.g).1,
    stepG_liv f s ev h.liv, main.1⟩, main.2⟩

theorem init_blk (inners : List Inner) (n : Nat) (hn : n ≤ 1) : OneSlotInv (init inners n) 0 :=
  ⟨hn, init_ginv inners n, init_liv inners n, ⟨.nil, nofun, nofun, nofun⟩⟩

theorem runG_blk (f : Bool) : ∀ evs s, OneSlotInv s 0 →
    OneSlotInv (runG f s evs).1 0 ∧ TagWork s s.queue (runG f s evs).1 (runL f s evs) :=
  runG_chain f (R := fun s r l => OneSlotInv s 0 → OneSlotInv r.1 0 ∧ TagWork s s.queue r.1 l)
    (fun _ h => ⟨h, TagWork.notags rfl (fun _ ht => ht)⟩)
    (fun a b h => ⟨(b (a h).1).1, (a h).2.comp (b (a h).1).2⟩) (stepG_blk f)

end Rx.MergeAll
