import RxModel.Lemmas.ChainWorld
import RxModel.Lemmas.SchedStep
/-
  C02 / C17 over the chain (time) model: vocabulary and the invariant of a subscribed,
  not yet unsubscribed world.

  * `Task.live`: the task may still run its body; `Body.level`: the stage a task
    belongs to (`j + 1` for stage `j`, `0` for the source);
  * `Stage.handles`: the task handles a stage holds; `Stage.subH`: the handle of a
    subscribe_on stage; `Stage.n2`: the notifier part of a two-input stage;
  * `Good r a stages s`: every live task is held by a handle of its stage (`own`), and below a
    subscribe_on whose task has not run nothing is subscribed yet (`prist`).
    `r` = the subscribe task whose body is running right now (if any).

  Then how `Good` survives the elementary changes of a world: a pointwise change of the
  tasks (`Good.sched`), a change of one stage possibly together with freshly spawned tasks
  (`Good.stage` and its special cases `stage_adopt`, `stage_same`, `restage`), the two changes
  of the source part (`Good.srcAlive`, `Good.srcTask`).
-/
namespace Rx.T
open Rx

def Task.live (t : Task) : Bool := !t.done && t.keepRunning

def Body.level : Body → Nat
  | .emit j _ => j + 1
  | .debounce j => j + 1
  | .throttle j => j + 1
  | .subscribe j => j + 1
  | .bufTick j => j + 1
  | .tickN j => j + 1
  | .timerSrc _ => 0
  | .tick => 0
  | .futureSrc => 0
  | .streamSrc => 0

def Body.isSub : Body → Bool
  | .subscribe _ => true
  | _ => false

/-- Sources that are driven by a scheduler task. -/
def TSrc.hasTask : TSrc → Bool
  | .hot _ => false
  | .cold _ => false
  | .iterc _ => false
  | _ => true

def TSrc.isHot : TSrc → Bool
  | .hot _ => true
  | _ => false

namespace Stage

/-- The task handles a stage holds. -/
def handles : Stage → List TaskId
  | .op1 _ => []
  | .delay _ _ m => m.getD []
  | .observeOn _ m => m.getD []
  | .subscribeOn _ t => t.toList
  | .debounce _ _ _ h => h.toList
  | .throttle _ _ _ _ h => h.toList
  | .throttleW _ _ _ _ => []
  | .bufTime _ _ _ _ t => t.toList
  | .op2n _ _ _ nt => nt.toList

/-- The handle of a subscribe_on / delay_subscription stage. -/
def subH : Stage → Option TaskId
  | .subscribeOn _ t => t
  | _ => none

def isSubOn : Stage → Bool
  | .subscribeOn _ _ => true
  | _ => false

/-- The second-input part of a two-input stage. -/
def n2 : Stage → Option (TSrc × Bool × Option TaskId)
  | .op2n _ ns na nt => some (ns, na, nt)
  | _ => none

def naOn : Stage → Bool
  | .op2n _ _ na _ => na
  | _ => false

/-- Shape facts of a stage of a not yet unsubscribed chain. -/
def wf : Stage → Prop
  | .delay _ _ m => m.isSome = true
  | .observeOn _ m => m.isSome = true
  | .op2n _ ns _ nt => nt.isSome = true → ns.hasTask = true
  | _ => True

/-- Initial per-subscription state of a stage (what `Driver/SuiteTime.lean` builds,
    with arbitrary operator parameters / cell contents). -/
def Initial : Stage → Prop
  | .op1 _ => True
  | .delay _ _ m => m = some []
  | .observeOn _ m => m = some []
  | .subscribeOn _ t => t = none
  | .debounce _ _ _ h => h = none
  | .throttle _ _ _ _ h => h = none
  | .throttleW _ _ _ _ => False
  | .bufTime _ _ _ _ t => t = none
  | .op2n _ _ na nt => na = false ∧ nt = none

end Stage

/-- The source part of a world. -/
structure Info where
  src : TSrc
  srcTask : Option TaskId
  srcAlive : Bool

def TW.info (w : TW) : Info := ⟨w.src, w.srcTask, w.srcAlive⟩

/-- Task `k` with body `b` is held by a handle of the stage it belongs to. -/
def Owned (a : Info) (stages : List Stage) (k : TaskId) (b : Body) : Prop :=
  match b.level with
  | 0 => a.srcTask = some k
  | j + 1 => ∃ st, stages[j]? = some st ∧ k ∈ st.handles

theorem Owned.zero {a : Info} {stages : List Stage} {k : TaskId} {b : Body}
    (h : Owned a stages k b) (e : b.level = 0) : a.srcTask = some k := by
  unfold Owned at h; rw [e] at h; exact h

theorem Owned.succ {a : Info} {stages : List Stage} {k : TaskId} {b : Body} {j : Nat}
    (h : Owned a stages k b) (e : b.level = j + 1) : ∃ st, stages[j]? = some st ∧ k ∈ st.handles := by
  unfold Owned at h; rw [e] at h; exact h

/-- Nothing below stage `i` (and the source) has been subscribed. -/
def PristineBelow (a : Info) (stages : List Stage) (i : Nat) : Prop :=
  a.srcTask = none ∧ a.srcAlive = false ∧
    ∀ (j : Nat) (st : Stage), j < i → stages[j]? = some st → st.handles = [] ∧ st.naOn = false

/-- The subscribe task `h` has run (or is the one running right now). -/
def ran (r : Option TaskId) (s : Sched) (h : TaskId) : Prop :=
  s.handleClosed h = true ∨ r = some h

/-- Every subscribe_on stage at index ≥ `l` has subscribed its upstream. -/
def Reached (r : Option TaskId) (stages : List Stage) (s : Sched) (l : Nat) : Prop :=
  ∀ (i : Nat) (st : Stage) (h : Nat), l ≤ i → stages[i]? = some st → st.subH = some h → ran r s h

structure Good (r : Option TaskId) (a : Info) (stages : List Stage) (s : Sched) : Prop where
  valueDone : ∀ (k : Nat) (t : Task), s.tasks[k]? = some t → t.hasValue = true → t.done = true
  own : ∀ (k : Nat) (t : Task), s.tasks[k]? = some t → t.live = true → Owned a stages k t.body
  handleTask : ∀ (j : Nat) (st : Stage) (h : Nat), stages[j]? = some st → h ∈ st.handles →
    ∃ t, s.tasks[h]? = some t ∧ t.body.level = j + 1 ∧ t.body.isSub = st.isSubOn
  srcHandle : ∀ (h : Nat), a.srcTask = some h → ∃ t, s.tasks[h]? = some t ∧ t.body.level = 0
  prist : ∀ (i : Nat) (st : Stage) (h : Nat), stages[i]? = some st → st.subH = some h → ¬ ran r s h → PristineBelow a stages i
  wf : ∀ (j : Nat) (st : Stage), stages[j]? = some st → st.wf
  srcWf : a.srcTask.isSome = true → a.src.hasTask = true

/-- Tasks with a `subscribe` body are left alone. -/
def SubKeep (s s' : Sched) : Prop :=
  ∀ (k : Nat) (t : Task), s.tasks[k]? = some t → t.body.isSub = true → s'.tasks[k]? = some t

theorem SubKeep.refl (s : Sched) : SubKeep s s := fun _ _ h _ => h
theorem SubKeep.trans {a b c : Sched} (h1 : SubKeep a b) (h2 : SubKeep b c) : SubKeep a c :=
  fun k t h hb => h2 k t (h1 k t h hb) hb

theorem Reached.mono {r stages s l l'} (h : Reached r stages s l) (hl : l ≤ l') :
    Reached r stages s l' :=
  fun i st hh hi => h i st hh (Nat.le_trans hl hi)

theorem subH_mem_handles {st : Stage} {h} (e : st.subH = some h) : h ∈ st.handles ∧ st.isSubOn = true := by
  cases st with
  | subscribeOn d t => cases e; exact ⟨List.mem_singleton_self h, rfl⟩
  | _ => cases e

theorem handleClosed_iff (s : Sched) (h : TaskId) :
    s.handleClosed h = true ↔ ∃ t, s.tasks[h]? = some t ∧ t.hasValue = true := by
  unfold Sched.handleClosed
  cases s.tasks[h]? <;> simp

/-- The handle of a live task is open: a handle with a value belongs to a finished task. -/
theorem Good.live_open {r a stages s} (g : Good r a stages s) {k : Nat} {t : Task}
    (ht : s.tasks[k]? = some t) (hl : t.live = true) : ¬ s.handleClosed k = true := by
  intro hc
  obtain ⟨t', ht', hv⟩ := (handleClosed_iff s k).1 hc
  rw [ht] at ht'; cases ht'
  simp [Task.live, g.valueDone k t ht hv] at hl

theorem Good.ran_keep {r a stages s s'} (g : Good r a stages s) (hk : SubKeep s s')
    {i : Nat} {st : Stage} {h : Nat} (hs : stages[i]? = some st) (e : st.subH = some h) (hr : ran r s h) : ran r s' h := by
  rcases hr with hr | hr
  · left
    obtain ⟨t, ht, hv⟩ := (handleClosed_iff s h).1 hr
    obtain ⟨t', ht', _, hsub⟩ := g.handleTask i st h hs (subH_mem_handles e).1
    rw [ht] at ht'; cases ht'
    rw [(subH_mem_handles e).2] at hsub
    exact (handleClosed_iff s' h).2 ⟨t, hk h t ht hsub, hv⟩
  · right; exact hr

/-- A live task certifies that every subscribe_on above its stage has run. -/
theorem Good.reached_of_live {r a stages s} (g : Good r a stages s) {k : Nat} {t : Task}
    (ht : s.tasks[k]? = some t) (hl : t.live = true) : Reached r stages s t.body.level := by
  intro i st h hi hs e
  apply Classical.byContradiction
  intro hn
  obtain ⟨h1, _, h3⟩ := g.prist i st h hs e hn
  have ho := g.own k t ht hl
  unfold Owned at ho
  cases hlv : t.body.level with
  | zero => rw [hlv] at ho; simp only at ho; rw [h1] at ho; cases ho
  | succ j =>
    rw [hlv] at ho hi; simp only at ho
    obtain ⟨st', hs', hm⟩ := ho
    rw [(h3 j st' hi hs').1] at hm; cases hm

theorem Good.reached_of_alive {r a stages s} (g : Good r a stages s) (h : a.srcAlive = true) :
    Reached r stages s 0 := by
  intro i st hh _ hs e
  apply Classical.byContradiction
  intro hn
  obtain ⟨_, h2, _⟩ := g.prist i st hh hs e hn
  rw [h] at h2; cases h2

theorem Good.reached_of_na {r a stages s} (g : Good r a stages s) {j : Nat} {st : Stage}
    (hs : stages[j]? = some st) (h : st.naOn = true) : Reached r stages s (j + 1) := by
  intro i st' hh hi hs' e
  apply Classical.byContradiction
  intro hn
  obtain ⟨_, _, h3⟩ := g.prist i st' hh hs' e hn
  rw [(h3 j st hi hs).2] at h; cases h

variable {r : Option TaskId} {a : Info} {stages : List Stage} {s s' : Sched}

def TRel (t t' : Task) : Prop :=
  t'.body = t.body ∧ (t'.live = true → t.live = true) ∧ (t'.hasValue = true → t'.done = true)

structure SRel (s s' : Sched) : Prop where
  len : s'.tasks.length = s.tasks.length
  rel : ∀ (k : Nat) (t : Task), s.tasks[k]? = some t → ∃ t', s'.tasks[k]? = some t' ∧ TRel t t'

theorem SRel.back {s s' : Sched} (h : SRel s s') {k : Nat} {t' : Task} (ht : s'.tasks[k]? = some t') :
    ∃ t, s.tasks[k]? = some t ∧ TRel t t' := by
  have hk : k < s.tasks.length := by rw [← h.len]; exact Sched.get_lt ht
  obtain ⟨t, hteq⟩ : ∃ t, s.tasks[k]? = some t := ⟨s.tasks[k], List.getElem?_eq_getElem hk⟩
  obtain ⟨t'', h1, h2⟩ := h.rel k t hteq
  rw [ht] at h1; cases h1
  exact ⟨t, hteq, h2⟩

theorem Good.sched {r' : Option TaskId}
    (g : Good r a stages s) (h : SRel s s')
    (hran : ∀ (i : Nat) (st : Stage) (h : Nat), stages[i]? = some st → st.subH = some h →
      ran r s h → ran r' s' h) : Good r' a stages s' where
  valueDone := by
    intro k t' ht' hv
    obtain ⟨t, _, h2⟩ := h.back ht'
    exact h2.2.2 hv
  own := by
    intro k t' ht' hl
    obtain ⟨t, ht, h2⟩ := h.back ht'
    rw [h2.1]; exact g.own k t ht (h2.2.1 hl)
  handleTask := by
    intro j st hh hs hm
    obtain ⟨t, ht, h1, h2⟩ := g.handleTask j st hh hs hm
    obtain ⟨t', ht', h3⟩ := h.rel hh t ht
    exact ⟨t', ht', by rw [h3.1]; exact h1, by rw [h3.1]; exact h2⟩
  srcHandle := by
    intro hh e
    obtain ⟨t, ht, h1⟩ := g.srcHandle hh e
    obtain ⟨t', ht', h3⟩ := h.rel hh t ht
    exact ⟨t', ht', by rw [h3.1]; exact h1⟩
  prist := by
    intro i st hh hs e hn
    exact g.prist i st hh hs e (fun hr => hn (hran i st hh hs e hr))
  wf := g.wf
  srcWf := g.srcWf

/-- `hasValue` is never cleared. -/
def HVMono (s s' : Sched) : Prop :=
  ∀ (k : Nat) (t : Task), s.tasks[k]? = some t → t.hasValue = true →
    ∃ t', s'.tasks[k]? = some t' ∧ t'.hasValue = true

theorem ran_mono {r : Option TaskId} {s s' : Sched} (h : HVMono s s') {k : Nat} (hr : ran r s k) :
    ran r s' k := by
  rcases hr with hr | hr
  · left
    obtain ⟨t, ht, hv⟩ := (handleClosed_iff s k).1 hr
    exact (handleClosed_iff s' k).2 (h k t ht hv)
  · right; exact hr

theorem Good.sched_mono (g : Good r a stages s) (h : SRel s s') (hm : HVMono s s') : Good r a stages s' :=
  g.sched h (fun _ _ _ _ _ hr => ran_mono hm hr)

theorem Good.of_tasks_eq (g : Good r a stages s) (e : s'.tasks = s.tasks) : Good r a stages s' := by
  apply g.sched_mono
  · exact ⟨by rw [e], fun k t ht => ⟨t, by rw [e]; exact ht, rfl, id, g.valueDone k t ht⟩⟩
  · intro k t ht hv; exact ⟨t, by rw [e]; exact ht, hv⟩

theorem SRel.setTask {s : Sched} {k : Nat} {t t' : Task} (ht : s.tasks[k]? = some t)
    (hr : TRel t t') (hv : ∀ (j : Nat) (u : Task), s.tasks[j]? = some u → u.hasValue = true → u.done = true) :
    SRel s (s.setTask k t') := by
  refine ⟨by simp, ?_⟩
  intro j u hu
  by_cases e : j = k
  · subst e
    rw [ht] at hu; cases hu
    exact ⟨t', Sched.setTask_get_self _ _ _ _ ht, hr⟩
  · exact ⟨u, by rw [Sched.setTask_get_ne _ _ _ _ e]; exact hu, rfl, id, hv j u hu⟩

theorem HVMono.setTask {s : Sched} {k : Nat} {t t' : Task} (ht : s.tasks[k]? = some t)
    (hr : t.hasValue = true → t'.hasValue = true) : HVMono s (s.setTask k t') := by
  intro j u hu hv
  by_cases e : j = k
  · subst e
    rw [ht] at hu; cases hu
    exact ⟨t', Sched.setTask_get_self _ _ _ _ ht, hr hv⟩
  · exact ⟨u, by rw [Sched.setTask_get_ne _ _ _ _ e]; exact hu, hv⟩

theorem PristineBelow.of_low {a : Info} {stages stages' : List Stage} {i : Nat}
    (h : PristineBelow a stages i) (hl : ∀ j, j < i → stages'[j]? = stages[j]?) :
    PristineBelow a stages' i :=
  ⟨h.1, h.2.1, fun j st hj hs => h.2.2 j st hj (by rw [← hl j hj]; exact hs)⟩

theorem PristineBelow.mono {a : Info} {stages : List Stage} {i i' : Nat}
    (h : PristineBelow a stages i) (hl : i' ≤ i) : PristineBelow a stages i' :=
  ⟨h.1, h.2.1, fun j st hj hs => h.2.2 j st (Nat.lt_of_lt_of_le hj hl) hs⟩

theorem append_get_cases {α} (l new : List α) {k : Nat} {t : α} (h : (l ++ new)[k]? = some t) :
    l[k]? = some t ∨ (l.length ≤ k ∧ new[k - l.length]? = some t) := by
  by_cases hk : k < l.length
  · left; rw [List.getElem?_append_left hk] at h; exact h
  · right
    have hk' : l.length ≤ k := Nat.le_of_not_lt hk
    rw [List.getElem?_append_right hk'] at h
    exact ⟨hk', h⟩

theorem Good.stage {stages' : List Stage}
    {j : Nat} {st st1 : Stage} {new : List Task}
    (g : Good r a stages s)
    (hj : stages[j]? = some st) (hj' : stages'[j]? = some st1)
    (hne : ∀ i, i ≠ j → stages'[i]? = stages[i]?)
    (hs : s'.tasks = s.tasks ++ new)
    (hnew : ∀ t ∈ new, t.done = false ∧ t.hasValue = false ∧ t.body.level = j + 1 ∧
      t.body.isSub = st1.isSubOn)
    (hnewown : ∀ m, m < new.length → s.tasks.length + m ∈ st1.handles)
    (hsub : ∀ h : Nat, h ∈ st1.handles → h ∈ st.handles ∨ (s.tasks.length ≤ h ∧ h < s.tasks.length + new.length))
    (hkeep : ∀ h : Nat, h ∈ st.handles → ∀ t : Task, s.tasks[h]? = some t → t.live = true → h ∈ st1.handles)
    (hsubOn : st1.isSubOn = st.isSubOn)
    (hwf : st1.wf)
    (hprist : (st.handles = [] ∧ st.naOn = false → st1.handles = [] ∧ st1.naOn = false) ∨
      Reached r stages s (j + 1))
    (hsubH : st1.subH = st.subH ∨ PristineBelow a stages j) :
    Good r a stages' s' := by
  have f1 : ∀ (k : Nat) (t : Task), s.tasks[k]? = some t → s'.tasks[k]? = some t := by
    intro k t h; rw [hs]; exact append_get_left _ _ h
  have f2 : ∀ (k : Nat) (t : Task), s'.tasks[k]? = some t →
      s.tasks[k]? = some t ∨ (s.tasks.length ≤ k ∧ new[k - s.tasks.length]? = some t) := by
    intro k t h; rw [hs] at h; exact append_get_cases _ _ h
  have fran : ∀ h, ran r s h → ran r s' h := by
    intro h hr
    apply ran_mono (s := s) _ hr
    intro k t ht hv; exact ⟨t, f1 k t ht, hv⟩
  refine { valueDone := ?valueDone, own := ?own, handleTask := ?handleTask, srcHandle := ?srcHandle,
           prist := ?prist, wf := ?wf, srcWf := g.srcWf }
  case valueDone =>
    intro k t ht hv
    rcases f2 k t ht with h | ⟨_, h⟩
    · exact g.valueDone k t h hv
    · have := (hnew t (List.mem_of_getElem? h)).2.1
      rw [this] at hv; cases hv
  case own =>
    intro k t ht hl
    rcases f2 k t ht with h | ⟨hk, h⟩
    · have ho := g.own k t h hl
      unfold Owned at ho ⊢
      cases hlv : t.body.level with
      | zero => rw [hlv] at ho; exact ho
      | succ i =>
        rw [hlv] at ho; simp only at ho ⊢
        obtain ⟨st0, hs0, hm⟩ := ho
        by_cases e : i = j
        · subst e
          rw [hj] at hs0; cases hs0
          exact ⟨st1, hj', hkeep k hm t h hl⟩
        · exact ⟨st0, by rw [hne i e]; exact hs0, hm⟩
    · have hn := hnew t (List.mem_of_getElem? h)
      unfold Owned
      rw [hn.2.2.1]; simp only
      refine ⟨st1, hj', ?_⟩
      have hlt : k - s.tasks.length < new.length := Sched.get_lt h
      have := hnewown (k - s.tasks.length) hlt
      have e : s.tasks.length + (k - s.tasks.length) = k := Nat.add_sub_cancel' hk
      rw [e] at this; exact this
  case handleTask =>
    intro i sti h hsi hm
    by_cases e : i = j
    · subst e
      rw [hj'] at hsi; cases hsi
      rcases hsub h hm with h1 | ⟨h1, h2⟩
      · obtain ⟨t, ht, hl, hb⟩ := g.handleTask i st h hj h1
        exact ⟨t, f1 h t ht, hl, by rw [hsubOn]; exact hb⟩
      · have hlt : h - s.tasks.length < new.length := Nat.sub_lt_left_of_lt_add h1 h2
        refine ⟨new[h - s.tasks.length], ?_, ?_⟩
        · rw [hs, List.getElem?_append_right h1]; exact List.getElem?_eq_getElem hlt
        · have := hnew _ (List.getElem_mem hlt)
          exact ⟨this.2.2.1, this.2.2.2⟩
    · rw [hne i e] at hsi
      obtain ⟨t, ht, hl, hb⟩ := g.handleTask i sti h hsi hm
      exact ⟨t, f1 h t ht, hl, hb⟩
  case srcHandle =>
    intro h e
    obtain ⟨t, ht, hl⟩ := g.srcHandle h e
    exact ⟨t, f1 h t ht, hl⟩
  case prist =>
    intro i sti h hsi e hn
    have hn' : ¬ ran r s h := fun hr => hn (fran h hr)
    by_cases ei : i = j
    · subst ei
      rw [hj'] at hsi; cases hsi
      have hp : PristineBelow a stages i := by
        rcases hsubH with h1 | h1
        · exact g.prist i st h hj (by rw [← h1]; exact e) hn'
        · exact h1
      exact hp.of_low (fun j' hj'' => hne j' (Nat.ne_of_lt hj''))
    · rw [hne i ei] at hsi
      have hp := g.prist i sti h hsi e hn'
      refine ⟨hp.1, hp.2.1, ?_⟩
      intro j' st' hj'' hs'
      by_cases ej : j' = j
      · subst ej
        rw [hj'] at hs'; cases hs'
        rcases hprist with h1 | h1
        · exact h1 (hp.2.2 j' st hj'' hj)
        · exact absurd (h1 i sti h hj'' hsi e) hn'
      · rw [hne j' ej] at hs'
        exact hp.2.2 j' st' hj'' hs'
  case wf =>
    intro i sti hsi
    by_cases e : i = j
    · subst e; rw [hj'] at hsi; cases hsi; exact hwf
    · rw [hne i e] at hsi; exact g.wf i sti hsi

theorem Good.srcAlive (g : Good r a stages s) (b : Bool) (hb : b = false ∨ Reached r stages s 0) :
    Good r ⟨a.src, a.srcTask, b⟩ stages s where
  valueDone := g.valueDone
  own := g.own
  handleTask := g.handleTask
  srcHandle := g.srcHandle
  prist := by
    intro i st h hs e hn
    have hp := g.prist i st h hs e hn
    refine ⟨hp.1, ?_, hp.2.2⟩
    rcases hb with hb | hb
    · exact hb
    · exact absurd (hb i st h (Nat.zero_le _) hs e) hn
  wf := g.wf
  srcWf := g.srcWf

theorem Good.srcTask {t : Task}
    (g : Good r a stages s) (hs : s'.tasks = s.tasks ++ [t])
    (hd : t.done = false) (hv : t.hasValue = false) (hl : t.body.level = 0)
    (hnone : a.srcTask = none) (hsrc : a.src.hasTask = true) (hr : Reached r stages s 0) :
    Good r ⟨a.src, some s.tasks.length, a.srcAlive⟩ stages s' := by
  have f1 : ∀ (k : Nat) (u : Task), s.tasks[k]? = some u → s'.tasks[k]? = some u := by
    intro k u h; rw [hs]; exact append_get_left _ _ h
  have f2 : ∀ (k : Nat) (u : Task), s'.tasks[k]? = some u →
      s.tasks[k]? = some u ∨ (k = s.tasks.length ∧ u = t) := by
    intro k u h; rw [hs] at h; exact snoc_get_cases _ _ h
  refine { valueDone := ?valueDone, own := ?own, handleTask := ?handleTask, srcHandle := ?srcHandle,
           prist := ?prist, wf := g.wf, srcWf := fun _ => hsrc }
  case valueDone =>
    intro k u hu hvu
    rcases f2 k u hu with h | ⟨_, rfl⟩
    · exact g.valueDone k u h hvu
    · rw [hv] at hvu; cases hvu
  case own =>
    intro k u hu hlu
    rcases f2 k u hu with h | ⟨rfl, rfl⟩
    · -- an old live task belongs to a stage: the source had no task
      have ho := g.own k u h hlu
      cases hlv : u.body.level with
      | zero => have := ho.zero hlv; rw [hnone] at this; cases this
      | succ i => unfold Owned at ho ⊢; rw [hlv] at ho ⊢; exact ho
    · unfold Owned; rw [hl]
  case handleTask =>
    intro j st h hsj hm
    obtain ⟨u, hu, h1, h2⟩ := g.handleTask j st h hsj hm
    exact ⟨u, f1 h u hu, h1, h2⟩
  case srcHandle =>
    intro h e
    cases e
    exact ⟨t, by rw [hs]; simp, hl⟩
  case prist =>
    intro i st h hsi e hn
    refine absurd (ran_mono (s := s) ?_ (hr i st h (Nat.zero_le _) hsi e)) hn
    intro k u ht hv; exact ⟨u, f1 k u ht, hv⟩

theorem set_get_self {α} (l : List α) (j : Nat) (x y : α) (h : l[j]? = some x) :
    (l.set j y)[j]? = some y := by
  rw [List.getElem?_set_self (Sched.get_lt h)]

theorem Good.stage_spawn {j : Nat} {st st1 : Stage} {t : Task}
    (g : Good r a stages s)
    (hj : stages[j]? = some st)
    (hs : s'.tasks = s.tasks ++ [t])
    (hd : t.done = false) (hv : t.hasValue = false) (hl : t.body.level = j + 1)
    (hb : t.body.isSub = st1.isSubOn)
    (hown : s.tasks.length ∈ st1.handles)
    (hsub : ∀ h : Nat, h ∈ st1.handles → h ∈ st.handles ∨ h = s.tasks.length)
    (hkeep : ∀ h : Nat, h ∈ st.handles → ∀ t : Task, s.tasks[h]? = some t → t.live = true → h ∈ st1.handles)
    (hsubOn : st1.isSubOn = st.isSubOn)
    (hwf : st1.wf)
    (hr : Reached r stages s (j + 1))
    (hsubH : st1.subH = st.subH ∨ PristineBelow a stages j) :
    Good r a (stages.set j st1) s' := by
  refine g.stage (new := [t]) hj (set_get_self _ _ _ _ hj) (fun i hi => set_get_of_ne _ _ _ _ (Ne.symm hi)) hs
    ?_ ?_ ?_ hkeep hsubOn hwf (Or.inr hr) hsubH
  · intro t' ht'
    simp only [List.mem_singleton] at ht'; subst ht'
    exact ⟨hd, hv, hl, hb⟩
  · intro m hm
    have : m = 0 := by simpa using hm
    subst this; exact hown
  · intro h hm
    rcases hsub h hm with h1 | h1
    · exact Or.inl h1
    · right; subst h1; simp

theorem Good.stage_adopt {j : Nat} {st st1 : Stage} {t : Task}
    (g : Good r a stages s) (hj : stages[j]? = some st) (hs : s'.tasks = s.tasks ++ [t])
    (hd : t.done = false) (hv : t.hasValue = false) (hl : t.body.level = j + 1)
    (hb : t.body.isSub = st1.isSubOn) (hh : st1.handles = st.handles ++ [s.tasks.length])
    (hsubOn : st1.isSubOn = st.isSubOn) (hwf : st1.wf) (hr : Reached r stages s (j + 1))
    (hsubH : st1.subH = st.subH ∨ PristineBelow a stages j) :
    Good r a (stages.set j st1) s' :=
  g.stage_spawn hj hs hd hv hl hb (by rw [hh]; simp)
    (fun h hm => by rw [hh, List.mem_append, List.mem_singleton] at hm; exact hm)
    (fun h hm _ _ _ => by rw [hh]; exact List.mem_append_left _ hm) hsubOn hwf hr hsubH

/-- One stage changes, the scheduler does not: handles may be dropped if their task is dead. -/
theorem Good.stage_same {j : Nat} {st st1 : Stage}
    (g : Good r a stages s)
    (hj : stages[j]? = some st)
    (hsub : ∀ h : Nat, h ∈ st1.handles → h ∈ st.handles)
    (hkeep : ∀ h : Nat, h ∈ st.handles → ∀ t : Task, s.tasks[h]? = some t → t.live = true → h ∈ st1.handles)
    (hsubOn : st1.isSubOn = st.isSubOn)
    (hwf : st1.wf)
    (hprist : (st.handles = [] ∧ st.naOn = false → st1.handles = [] ∧ st1.naOn = false) ∨
      Reached r stages s (j + 1))
    (hsubH : st1.subH = st.subH) :
    Good r a (stages.set j st1) s :=
  g.stage (new := []) hj (set_get_self _ _ _ _ hj) (fun _ hi => set_get_of_ne _ _ _ _ (Ne.symm hi)) (by simp)
    (by simp) (by simp) (fun h hm => Or.inl (hsub h hm)) hkeep hsubOn hwf hprist (Or.inl hsubH)

theorem Good.restage {j : Nat} {st st1 : Stage} (g : Good r a stages s) (hj : stages[j]? = some st)
    (hh : st1.handles = st.handles) (hs : st1.subH = st.subH) (hi : st1.isSubOn = st.isSubOn)
    (hn : st1.naOn = true → st.naOn = true) (hwf : st.wf → st1.wf) :
    Good r a (stages.set j st1) s := by
  refine g.stage_same hj (fun h hm => hh ▸ hm) (fun h hm _ _ _ => hh ▸ hm) hi (hwf (g.wf j st hj))
    (Or.inl fun h => ⟨hh.trans h.1, ?_⟩) hs
  cases e : st1.naOn with
  | false => rfl
  | true => rw [h.2] at hn; exact absurd (hn e) (by simp)

theorem scheduleOnce_tasks (s : Sched) (b : Body) (d : Option Nat) :
    (s.scheduleOnce b d).1.tasks = s.tasks ++ [{ body := b, outerDelay := d }] := rfl
theorem scheduleOnce_id (s : Sched) (b : Body) (d : Option Nat) :
    (s.scheduleOnce b d).2 = s.tasks.length := rfl

theorem SubKeep.of_append {s s' : Sched} {new : List Task} (h : s'.tasks = s.tasks ++ new) :
    SubKeep s s' := by
  intro k t ht _; rw [h]; exact append_get_left _ _ ht

end Rx.T
