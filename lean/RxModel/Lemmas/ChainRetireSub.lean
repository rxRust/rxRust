import RxModel.Lemmas.ChainRetireExec
import RxModel.Lemmas.ChainWFMain
/-
  C16 over the chain model: once the source has been subscribed no further source-level task
  (`interval_task`, `timer_task`, FutureTask, stream driver) is spawned.  Uses the invariant `WInv` of C01C:
  while the source is subscribed no subscribing task is live, and `sub` happens once.
-/
namespace Rx.T
open Rx

/-- Tasks persist; every source-level task of `s'` was already in `s`. -/
structure NoNew (s s' : Sched) : Prop where
  fwd : Fwd s s'
  old : ∀ (k : Nat) (t' : Task), s'.tasks[k]? = some t' → t'.body.isSrc = true → k < s.tasks.length

theorem NoNew.refl (s : Sched) : NoNew s s := ⟨Fwd.refl s, fun _ _ h _ => Sched.get_lt h⟩

theorem Fwd.back {s s' : Sched} (h : Fwd s s') {k : Nat} {t' : Task} (ht' : s'.tasks[k]? = some t')
    (hk : k < s.tasks.length) : ∃ t : Task, s.tasks[k]? = some t ∧ t'.body = t.body := by
  obtain ⟨t2, h2, hb, _⟩ := h k _ (List.getElem?_eq_getElem hk)
  rw [ht'] at h2; cases h2
  exact ⟨_, List.getElem?_eq_getElem hk, hb⟩

theorem NoNew.trans {a b c : Sched} (h1 : NoNew a b) (h2 : NoNew b c) : NoNew a c := by
  refine ⟨h1.fwd.trans h2.fwd, ?_⟩
  intro k t'' h'' hs
  have hk := h2.old k t'' h'' hs
  obtain ⟨t', h', hb⟩ := h2.fwd.back h'' hk
  exact h1.old k t' h' (by rw [← hb]; exact hs)

theorem NoNew.of_frame {s s' : Sched} (f : Frame false s s') : NoNew s s' := by
  refine ⟨Fwd.of_frame f, ?_⟩
  intro k t' h' hs
  cases hk : s.tasks[k]? with
  | some t => exact Sched.get_lt hk
  | none => exact absurd (f.fresh k t' h' hk hs) (by simp)

theorem NoNew.of_len {s s' : Sched} (hf : Fwd s s') (hl : s'.tasks.length = s.tasks.length) : NoNew s s' :=
  ⟨hf, fun _ _ h _ => by rw [← hl]; exact Sched.get_lt h⟩

theorem pollTask_nonew {w : TW} (hI : WI w) (hW : WInv none w) (hs : w.srcSubscribed = true) (k : TaskId) :
    NoNew w.sched (w.pollTask k).sched := by
  obtain ⟨a, w1, s2, e, hp, heq, _, ha⟩ := pollTask_shape hI k
  rw [heq]
  -- while the source is subscribed no subscribing task is live
  have hf : a = false := by
    cases a with
    | false => rfl
    | true =>
      obtain ⟨t, ht, hd, hb⟩ := ha rfl
      obtain ⟨up, _, hsrc⟩ := hW
      cases hsrc.subd hs k t.body ⟨t, ht, hd, rfl⟩ hb
  subst hf
  have h0 := pollPre_touch w.sched k
  exact ((NoNew.of_len h0.fwd h0.len).trans (NoNew.of_frame e.sch.frame)).trans
    (NoNew.of_len hp.touch.fwd hp.touch.len)

/-- What is carried along a history once the source is subscribed. -/
structure Subscribed (w : TW) : Prop where
  wi : WI w
  winv : WInv none w
  sub : w.srcSubscribed = true

theorem moves_sub : Moves Subscribed (fun w w' => NoNew w.sched w'.sched) := by
  have ev : ∀ {w : TW} (e : TW.Ev), Subscribed w → Subscribed (w.step e) := fun e h =>
    ⟨(step_ok h.wi e).1, TW.step_inv h.winv e, (step_ok h.wi e).2.sub h.sub⟩
  exact {
    refl := fun w => NoNew.refl _
    trans := NoNew.trans
    poll := fun w k h =>
      ⟨⟨(pollTask_ok h.wi k).1, TW.pollTask_inv h.winv k, (pollTask_ok h.wi k).2.sub h.sub⟩,
        pollTask_nonew h.wi h.winv h.sub k⟩
    fire := fun w tm h =>
      ⟨⟨h.wi.fire tm, h.winv.le _ (Sched.Ext.fire _ tm).le, h.sub⟩, NoNew.of_len (Fwd.fire _ _) (by simp)⟩
    adv := fun w d h => ⟨ev _ h, NoNew.of_len (Fwd.of_tasks rfl) rfl⟩
    sub := fun w h => by
      refine ⟨ev _ h, ?_⟩
      -- the source is subscribed, hence `sub` has happened: a no-op
      obtain ⟨up, _, hsrc⟩ := h.winv
      have hsubd : w.subscribed = true := by
        cases hx : w.subscribed with
        | true => rfl
        | false =>
          have := (hsrc.unsubd hx).1
          rw [h.sub] at this; cases this
      rw [TW.step_sub, if_pos hsubd]
      exact NoNew.refl _
    emit := fun w i n h => ⟨ev _ h, NoNew.of_frame (step_emit_eff w i n).sch.frame⟩
    unsub := fun w h => ⟨ev _ h, NoNew.of_frame (step_unsub_eff w).sch.frame⟩ }

theorem reach_winv (src : TSrc) (stages : List Stage) (hs : ∀ st ∈ stages, st.Initial)
    (evs : List TW.Ev) : WInv none ((TW.start src stages).runEvs evs) :=
  TW.fold_inv evs (TW.init_inv src stages (fun st h => (hs st h).ok))

end Rx.T
