import RxModel.Lemmas.ChainFifoSubDisc
/-
  C07 over chains with several time stages: the world-level moves and one pass of the FIFO executor.

  * `TW.push_zeroF`, `TW.push_stepF`, `TW.setStage_stepF`, `TW.runBody_stepF`: the source hands
    notifications to stage 0; a stage changes its state (and emits); the body of a stage task
    (for the slot call of the mover at position `j` the notification must be the head of the
    pending list of `j`);
  * `DynF kd E w`: the part of the world invariant the executor works on — every task is a
    once-task of a stage, the movers sit where `kd` says, the FIFO discipline `Disc` holds
    for every mover, and the ghost histories are consistent;
  * `Rdy l s`: the in-pass invariant of `pollAll l` — every task that is woken and not
    finished is still in the list, or was spawned after everything in the list;
  * `pollTask_inv`: polling the head of the list keeps both; when the poll runs the slot
    call of a mover, the task is the FIRST pending one of that mover (`first_of_run`).
-/
namespace Rx.T
open Rx Rx.Spec

variable {kd : Nat → Option (Option Nat)}

/-- The fields no executor move touches. -/
def StatEq (w w' : TW) : Prop :=
  w'.src = w.src ∧ w'.subscribed = w.subscribed ∧ w'.srcSubscribed = w.srcSubscribed ∧
    w'.terminated = w.terminated

theorem StatEq.refl (w : TW) : StatEq w w := ⟨rfl, rfl, rfl, rfl⟩

theorem StatEq.trans {a b c : TW} (h1 : StatEq a b) (h2 : StatEq b c) : StatEq a c :=
  ⟨h2.1.trans h1.1, h2.2.1.trans h1.2.1, h2.2.2.1.trans h1.2.2.1, h2.2.2.2.trans h1.2.2.2⟩

namespace TW

theorem push_zeroF (w : TW) (ns : List Notif) (hk : Kinds kd 0 w.stages) :
    Frame kd 0 w.sched (w.push 0 ns).sched ∧ Kinds kd 0 (w.push 0 ns).stages ∧
      ∀ up, ChainF (pendOf w.sched) 0 up w.stages w.log →
        ChainF (pendOf (w.push 0 ns).sched) 0 (up ++ ns) (w.push 0 ns).stages (w.push 0 ns).log := by
  have hf := cascade_frame (kd := kd) w.stages 0 ns w.sched hk
  rw [push_eq]
  exact ⟨hf.1, hk.of_map hf.2, fun up h => (cascade_subF w.stages 0 ns w.sched up w.log h).1⟩

theorem push_stepF (w : TW) (j : Nat) (st st' : Stage) (ns : List Notif)
    (hj : w.stages[j]? = some st) (hdl : dlOf st' = dlOf st) (hk : Kinds kd 0 w.stages) :
    Frame kd (j + 1) w.sched ((w.setStage j st').push (j + 1) ns).sched ∧
      Kinds kd 0 ((w.setStage j st').push (j + 1) ns).stages ∧
      ∀ up (P' : Nat → List Notif), ChainF (pendOf w.sched) 0 up w.stages w.log →
        (∀ i, (P' i).Sublist (pend i ((w.setStage j st').push (j + 1) ns).sched)) →
        (∀ inp out, SubF (pend j w.sched) st inp out → SubF (P' j) st' inp (out ++ ns)) →
        ChainF P' 0 up ((w.setStage j st').push (j + 1) ns).stages ((w.setStage j st').push (j + 1) ns).log := by
  have hlt : j < w.stages.length := Sched.get_lt hj
  have hd : (w.stages.set j st').drop (j + 1) = w.stages.drop (j + 1) := by
    rw [List.drop_set]; simp
  have ht : (w.stages.set j st').take (j + 1) = w.stages.take j ++ [st'] :=
    take_succ_set _ j st' hlt
  have hf := cascade_frame (kd := kd) (w.stages.drop (j + 1)) (j + 1) ns w.sched (hk.drop (j + 1))
  have hc := cascade_subF (w.stages.drop (j + 1)) (j + 1) ns w.sched
  rw [push_eq]
  simp only [setStage_stages, hd, ht, List.append_assoc, List.singleton_append]
  have hsched : (w.setStage j st').sched = w.sched := rfl
  have hlog : (w.setStage j st').log = w.log := rfl
  rw [hsched, hlog]
  refine ⟨hf.1, ?_, ?_⟩
  · refine hk.of_map ?_
    conv => rhs; rw [split_at hj]
    simp only [List.map_append, List.map_cons, hdl]
    congr 2
    exact hf.2
  · intro up P' h hP' hok
    refine ChainF.modify (P := pendOf w.sched) h hj ?_ hok ?_
    · intro i hi
      exact (hP' i).trans (hf.1.pwLe i (by omega)).sublist
    · intro out hpost
      exact (hc out w.log hpost).1.anti (fun i _ => hP' i)

theorem setStage_stepF (w : TW) (j : Nat) (st st' : Stage)
    (hj : w.stages[j]? = some st) (hdl : dlOf st' = dlOf st) (hk : Kinds kd 0 w.stages) :
    Kinds kd 0 (w.setStage j st').stages ∧
      ∀ up (P' : Nat → List Notif), ChainF (pendOf w.sched) 0 up w.stages w.log →
        (∀ i, (P' i).Sublist (pend i w.sched)) →
        (∀ inp out, SubF (pend j w.sched) st inp out → SubF (P' j) st' inp out) →
        ChainF P' 0 up (w.setStage j st').stages w.log := by
  have hlt : j < w.stages.length := Sched.get_lt hj
  have e : w.stages.set j st' = w.stages.take j ++ st' :: w.stages.drop (j + 1) := by
    rw [List.set_eq_take_append_cons_drop, if_pos hlt]
  rw [setStage_stages, e]
  constructor
  · refine hk.of_map ?_
    conv => rhs; rw [split_at hj]
    simp only [List.map_append, List.map_cons, hdl]
  · intro up P' h hP' hok
    refine ChainF.modify (P := pendOf w.sched) (ns := []) h hj (fun i _ => hP' i)
      (fun inp out ho => by simpa using hok inp out ho) ?_
    intro out hpost
    simpa using hpost.anti (fun i _ => hP' i)

end TW

theorem StatEq.push {w w' : TW} (h : StatEq w w') (j : Nat) (ns : List Notif) : StatEq w (w'.push j ns) := h

theorem StatEq.setStage {w w' : TW} (h : StatEq w w') (j : Nat) (st : Stage) : StatEq w (w'.setStage j st) := h

theorem StatEq.ite {w a b : TW} {c : Prop} [Decidable c] (ha : StatEq w a) (hb : StatEq w b) :
    StatEq w (if c then a else b) := by
  split <;> assumption

theorem TW.runBody_static (w : TW) (b : Body) (hb : b.rate = true) : StatEq w (w.runBody b) := by
  cases b with
  | emit j n =>
    rw [TW.runBody_emit]
    cases w.stages[j]? with
    | none => exact StatEq.refl w
    | some st =>
      cases st with
      | delay d alive m =>
        exact StatEq.ite ((StatEq.ite ((StatEq.refl w).setStage _ _) (StatEq.refl w)).push _ _) (StatEq.refl w)
      | observeOn alive m =>
        exact StatEq.ite ((StatEq.ite ((StatEq.refl w).setStage _ _) (StatEq.refl w)).push _ _) (StatEq.refl w)
      | _ => exact StatEq.refl w
  | debounce j =>
    rw [TW.runBody_debounce]
    cases w.stages[j]? with
    | none => exact StatEq.refl w
    | some st =>
      cases st with
      | debounce d alive tr h =>
        cases tr with
        | none => exact StatEq.refl w
        | some v => exact StatEq.ite (((StatEq.refl w).setStage _ _).push _ _) ((StatEq.refl w).setStage _ _)
      | _ => exact StatEq.refl w
  | throttle j =>
    rw [TW.runBody_throttle]
    cases w.stages[j]? with
    | none => exact StatEq.refl w
    | some st =>
      cases st with
      | throttle d e alive tr h =>
        cases tr with
        | none => exact StatEq.refl w
        | some v => exact StatEq.ite (((StatEq.refl w).setStage _ _).push _ _) ((StatEq.refl w).setStage _ _)
      | _ => exact StatEq.refl w
  | _ => cases hb

namespace TW

/-- What the body `b` of a stage task does to the invariant's parts: the scheduler frame, the kinds, the pending
    lists up to the mover's position, and the ghost histories (provided, for a slot call, that the notification
    is the head of its mover's pending list). -/
def BodyStep (kd : Nat → Option (Option Nat)) (b : Body) (w w' : TW) : Prop :=
  Frame kd 0 w.sched w'.sched ∧ Kinds kd 0 w'.stages ∧
    (∀ j n, b = .emit j n → ∀ i, i ≤ j → PwLe i w.sched w'.sched) ∧
    ∀ up (P' : Nat → List Notif), ChainF (pendOf w.sched) 0 up w.stages w.log →
      (∀ i, (P' i).Sublist (pend i w'.sched)) →
      (∀ j n dl, b = .emit j n → kd j = some dl →
        ∃ rest, pend j w.sched = n :: rest ∧ (P' j).Sublist rest) →
      ChainF P' 0 up w'.stages w'.log

theorem BodyStep.refl (b : Body) (w : TW) (hk : Kinds kd 0 w.stages) : BodyStep kd b w w :=
  ⟨Frame.refl _ _, hk, fun _ _ _ _ _ => PwLe.refl _ _, fun _ _ h hP' _ => h.anti (fun i _ => hP' i)⟩

/-- The slot call of a mover: the notification leaves the pending list and goes downstream. -/
theorem mover_step (w : TW) (j : Nat) (n : Notif) (st st' : Stage) (hj : w.stages[j]? = some st)
    (hm : st.isMover = true) (hm' : st'.isMover = true)
    (hdl : dlOf st' = dlOf st) (hk : Kinds kd 0 w.stages) :
    BodyStep kd (.emit j n) w ((w.setStage j st').push (j + 1) [n]) := by
  obtain ⟨hf, hkk, hc⟩ := push_stepF (kd := kd) w j st st' [n] hj hdl hk
  refine ⟨hf.mono (Nat.zero_le _), hkk, ?_, ?_⟩
  · intro j' n' e i hi
    cases e
    exact hf.pwLe i (by omega)
  · intro up P' h hP' hfirst
    have hkj : kd j = dlOf st := by
      have := hk j st hj
      simpa using this.symm
    obtain ⟨dl, hdl'⟩ : ∃ dl, kd j = some dl := by
      cases st <;> first | exact ⟨_, hkj⟩ | cases hm
    obtain ⟨rest, hp, hr⟩ := hfirst j n dl rfl hdl'
    refine hc up P' h hP' ?_
    intro inp out hs
    have key : (items out ++ items (pend j w.sched)).Sublist (items inp) →
        (items (out ++ [n]) ++ items (P' j)).Sublist (items inp) := by
      intro hs
      rw [hp] at hs
      have e : items (n :: rest) = items [n] ++ items rest := by
        rw [← items_append]; rfl
      rw [e, ← List.append_assoc, ← items_append] at hs
      exact (List.Sublist.append (List.Sublist.refl _) (items_sublist hr)).trans hs
    cases st <;> first | (cases hm; done) | (cases st' <;> first | (cases hm'; done) | exact key hs)

/-- The slot is empty: the notification is dropped. -/
theorem mover_drop (w : TW) (j : Nat) (n : Notif) (hk : Kinds kd 0 w.stages) :
    BodyStep kd (.emit j n) w w := by
  refine ⟨Frame.refl _ _, hk, fun _ _ _ i _ => PwLe.refl _ _, ?_⟩
  intro up P' h hP' _
  exact h.anti (fun i _ => hP' i)

/-- debounce_task / throttle_task: the stage at `j` hands on its trailing value `v` (if its slot is alive)
    and forgets it. -/
theorem trailing_step (w : TW) (b : Body) (hb : ∀ j n, b ≠ .emit j n) (j : Nat) (st st' : Stage) (v : Val)
    (hj : w.stages[j]? = some st) (hdl : dlOf st' = dlOf st) (hk : Kinds kd 0 w.stages)
    (hs : ∀ p inp out, SubF p st inp out → (items out ++ [v]).Sublist (items inp))
    (hs' : ∀ p inp out, (items out).Sublist (items inp) → SubF p st' inp out) (alive : Bool) :
    BodyStep kd b w (if alive then (w.setStage j st').push (j + 1) [.next v] else w.setStage j st') := by
  cases alive with
  | true =>
    obtain ⟨hf, hkk, hc⟩ := push_stepF (kd := kd) w j st st' [.next v] hj hdl hk
    refine ⟨hf.mono (Nat.zero_le _), hkk, (fun j n e => absurd e (hb j n)), ?_⟩
    intro up P' hch hP' _
    refine hc up P' hch hP' (fun inp out h => hs' _ _ _ ?_)
    simpa [items_append, items] using hs _ _ _ h
  | false =>
    obtain ⟨hkk, hc⟩ := setStage_stepF (kd := kd) w j st st' hj hdl hk
    refine ⟨Frame.refl _ _, hkk, (fun j n e => absurd e (hb j n)), ?_⟩
    intro up P' hch hP' _
    exact hc up P' hch hP' (fun inp out h => hs' _ _ _ (sub_left (hs _ _ _ h)))

theorem runBody_stepF (w : TW) (b : Body) (hb : b.rate = true) (hk : Kinds kd 0 w.stages) :
    BodyStep kd b w (w.runBody b) := by
  cases b with
  | emit j n =>
    rw [runBody_emit]
    split
    · next d alive multi hj =>
      split
      · cases hn : n.isTerm with
        | true => exact mover_step w j n _ _ hj rfl rfl rfl hk
        | false =>
          have := mover_step (kd := kd) w j n _ (.delay d alive multi) hj rfl rfl rfl hk
          rwa [setStage_same w j _ hj] at this
      · exact mover_drop w j n hk
    · next alive multi hj =>
      split
      · cases hn : n.isTerm with
        | true => exact mover_step w j n _ _ hj rfl rfl rfl hk
        | false =>
          have := mover_step (kd := kd) w j n _ (.observeOn alive multi) hj rfl rfl rfl hk
          rwa [setStage_same w j _ hj] at this
      · exact mover_drop w j n hk
    · exact mover_drop w j n hk
  | debounce j =>
    rw [runBody_debounce]
    split
    · next d alive v h hj =>
      exact trailing_step w _ (fun _ _ e => by cases e) j _ (.debounce d alive none h) v hj rfl hk
        (fun _ _ _ h => h) (fun _ inp out h => show (items out ++ []).Sublist (items inp) by rwa [List.append_nil]) alive
    · exact BodyStep.refl _ w hk
  | throttle j =>
    rw [runBody_throttle]
    split
    · next d e alive v h hj =>
      exact trailing_step w _ (fun _ _ e => by cases e) j _ (.throttle d e alive none h) v hj rfl hk
        (fun _ _ _ h => h) (fun _ inp out h => show (items out ++ []).Sublist (items inp) by rwa [List.append_nil]) alive
    · exact BodyStep.refl _ w hk
  | _ => cases hb

end TW

theorem rate_not_async {b : Body} (h : b.rate = true) : b.isAsync = false := by
  cases b <;> first | rfl | (simp [Body.rate] at h)

theorem pollPost_once (w : TW) (k : TaskId) (s1 : Sched) (b : Body) (hb : b.rate = true) :
    pollPost w k (s1, .runOnce b) =
      { ({ w with sched := s1 } : TW).runBody b with
          sched := (({ w with sched := s1 } : TW).runBody b).sched.finishOnce k } := by
  simp only [pollPost, rate_not_async hb, Bool.false_eq_true, if_false]

theorem PwLe.finishOnce_both {i : Nat} {s s' : Sched} (h : PwLe i s s') (k : TaskId) :
    PwLe i (s.finishOnce k) (s'.finishOnce k) := by
  intro k' t' n hk' he
  by_cases e : k' = k
  · subst e
    cases hs : s'.tasks[k']? with
    | none =>
      have := Sched.get_lt hk'
      rw [Sched.finishOnce_length] at this
      rw [List.getElem?_eq_none_iff] at hs
      omega
    | some t0 =>
      rw [Sched.finishOnce_get_self _ _ _ hs] at hk'
      cases hk'
      have := (Elig_eq_some.mp he).2.1
      simp at this
  · rw [Sched.finishOnce_get_ne _ _ _ e] at hk'
    obtain ⟨t, ht, het⟩ := h k' t' n hk' he
    exact ⟨t, by rw [Sched.finishOnce_get_ne _ _ _ e]; exact ht, het⟩

variable {E : List Val}

structure DynF (kd : Nat → Option (Option Nat)) (E : List Val) (w : TW) : Prop where
  good : GoodS w.sched
  kinds : Kinds kd 0 w.stages
  disc : ∀ j dl, kd j = some dl → Disc j dl w.sched
  chain : ∃ up, (items up).Sublist E ∧ ChainF (pendOf w.sched) 0 up w.stages w.log

def Rdy (l : List Nat) (s : Sched) : Prop :=
  (∀ x ∈ l, x < s.tasks.length) ∧
    ∀ (k : Nat) t, s.tasks[k]? = some t → t.woken = true → t.done = false → k ∈ l ∨ ∀ x ∈ l, x < k

theorem Rdy.not_before {k : Nat} {r : List Nat} {s : Sched} (R : Rdy (k :: r) s)
    (hp : (k :: r).Pairwise (· < ·)) {k' : Nat} {t' : Task} (hlt : k' < k) (hk' : s.tasks[k']? = some t')
    (hd : t'.done = false) (hw : t'.woken = true) : False := by
  rcases R.2 k' t' hk' hw hd with h | h
  · rcases List.mem_cons.mp h with h | h
    · omega
    · have := (List.pairwise_cons.mp hp).1 k' h; omega
  · have := h k (List.mem_cons_self ..); omega

theorem Rdy.skip {k : Nat} {r : List Nat} {s : Sched} (R : Rdy (k :: r) s)
    (h : ∀ t, s.tasks[k]? = some t → t.done = true) : Rdy r s := by
  refine ⟨fun x hx => R.1 x (List.mem_cons_of_mem _ hx), ?_⟩
  intro k' t' hk' hw hd
  rcases R.2 k' t' hk' hw hd with h' | h'
  · rcases List.mem_cons.mp h' with e | h'
    · subst e; rw [h t' hk'] at hd; cases hd
    · exact Or.inl h'
  · exact Or.inr (fun x hx => h' x (List.mem_cons_of_mem _ hx))

theorem Rdy.next {k : Nat} {r : List Nat} {s s' : Sched} (R : Rdy (k :: r) s)
    (hlen : s.tasks.length ≤ s'.tasks.length)
    (h : ∀ (k' : Nat) t', s'.tasks[k']? = some t' → t'.woken = true → t'.done = false →
      (k' ≠ k ∧ ∃ t, s.tasks[k']? = some t ∧ t.woken = true ∧ t.done = false) ∨ s.tasks.length ≤ k') :
    Rdy r s' := by
  refine ⟨fun x hx => Nat.lt_of_lt_of_le (R.1 x (List.mem_cons_of_mem _ hx)) hlen, ?_⟩
  intro k' t' hk' hw hd
  rcases h k' t' hk' hw hd with ⟨hne, t, ht, htw, htd⟩ | hge
  · rcases R.2 k' t ht htw htd with h' | h'
    · rcases List.mem_cons.mp h' with e | h'
      · exact absurd e hne
      · exact Or.inl h'
    · exact Or.inr (fun x hx => h' x (List.mem_cons_of_mem _ hx))
  · exact Or.inr (fun x hx => Nat.lt_of_lt_of_le (R.1 x (List.mem_cons_of_mem _ hx)) hge)

theorem ready_rdy (s : Sched) :
    (s.liveTasks.filter fun k => match s.tasks[k]? with | some t => t.woken | none => false).Pairwise (· < ·) ∧
      Rdy (s.liveTasks.filter fun k => match s.tasks[k]? with | some t => t.woken | none => false) s := by
  refine ⟨?_, ?_, ?_⟩
  · unfold Sched.liveTasks
    exact (List.pairwise_lt_range.filter _).filter _
  · intro x hx
    have := (List.mem_filter.mp hx).1
    unfold Sched.liveTasks at this
    exact List.mem_range.mp (List.mem_filter.mp this).1
  · intro k t hk hw hd
    refine Or.inl (List.mem_filter.mpr ⟨?_, by simp [hk, hw]⟩)
    unfold Sched.liveTasks
    exact List.mem_filter.mpr ⟨List.mem_range.mpr (Sched.get_lt hk), by simp [hk, hd]⟩

theorem first_of_run {j : Nat} {dl : Option Nat} {s : Sched} {k : Nat} {r : List Nat} {t : Task}
    (Dj : Disc j dl s) (R : Rdy (k :: r) s) (hp : (k :: r).Pairwise (· < ·))
    (hk : s.tasks[k]? = some t) (hE : IsE j t) (hod : t.outerDelay = none) (hor : s.outerReady t) :
    ∀ (k' : Nat) t', k' < k → s.tasks[k']? = some t' → Elig j t' = none := by
  intro k' t' hlt hk'
  cases he : Elig j t' with
  | none => rfl
  | some m =>
    exfalso
    have E' := IsE_of_elig he
    rcases Dj.d1 k' t' hk' E' with ⟨_, _, f3⟩ | ⟨_, tm', tr', d, a2, a3, _, _, a6, _, a8⟩
    · exact R.not_before hp hlt hk' E'.2.1 f3
    · rcases Dj.d1 k t hk hE with ⟨_, f2, _⟩ | ⟨_, tm, tr, _, b2, b3, _⟩
      · rw [a6, hod] at f2; cases f2
      · have hf : tr.fired = true := by
          have := hor tm b2
          simpa [Sched.timerFired, b3] using this
        obtain ⟨tm1, tr1, g1, g2, _, g4⟩ := Dj.d2 k' k t' t tm tr hlt hk' hk E' hE b2 b3
        rw [a2] at g1; cases g1
        rw [a3] at g2; cases g2
        exact R.not_before hp hlt hk' E'.2.1 (a8 (g4 hf))

theorem Disc.set_quiet {j : Nat} {dl : Option Nat} {s s' : Sched} {k : Nat} {t t1 : Task}
    (D : Disc j dl s) (hk : s.tasks[k]? = some t) (hself : s'.tasks[k]? = some t1)
    (hne : ∀ k', k' ≠ k → s'.tasks[k']? = s.tasks[k']?) (hnow : s.now ≤ s'.now) (htm : TimersLe s s')
    (h1 : IsE j t1 → IsE j t ∧ t1.outerDelay = t.outerDelay ∧ t1.outerTimer = t.outerTimer ∧
      (t.woken = true → t1.woken = true ∨ ∃ tm, t.outerTimer = some tm ∧ s.timerFired tm = false)) :
    Disc j dl s' := by
  refine D.of_sub hnow htm ?_
  intro k' t' hk' hE'
  by_cases e : k' = k
  · subst e
    rw [hself] at hk'; cases hk'
    obtain ⟨a, b, c, d⟩ := h1 hE'
    exact Or.inl ⟨t, hk, a, b, c, d⟩
  · rw [hne k' e] at hk'
    exact Or.inl ⟨t', hk', hE', rfl, rfl, fun h => Or.inl h⟩

theorem DynF.set_quiet {w : TW} {k : Nat} {r : List Nat} {s' : Sched} {t t1 : Task}
    (D : DynF kd E w) (R : Rdy (k :: r) w.sched)
    (hk : w.sched.tasks[k]? = some t) (htasks : s'.tasks = w.sched.tasks.set k t1)
    (hb : t1.body = t.body) (hr : t1.rep = t.rep)
    (hel : ∀ i n, Elig i t1 = some n → Elig i t = some n)
    (hwd : t1.woken = true → t1.done = false → False)
    (hdisc : ∀ j dl, kd j = some dl → Disc j dl s') :
    DynF kd E { w with sched := s' } ∧ Rdy r s' ∧ StatEq w { w with sched := s' } := by
  have hlt := Sched.get_lt hk
  have hself : s'.tasks[k]? = some t1 := by rw [htasks]; simp [hlt]
  have hne : ∀ k', k' ≠ k → s'.tasks[k']? = w.sched.tasks[k']? := by
    intro k' e; rw [htasks, List.getElem?_set_ne (Ne.symm e)]
  refine ⟨⟨?_, D.kinds, hdisc, ?_⟩, ?_, StatEq.refl _⟩
  · refine D.good.of_pw (fun k' t' hk' => ?_)
    by_cases e : k' = k
    · subst e; rw [hself] at hk'; cases hk'; exact Or.inl ⟨t, hk, hb, hr⟩
    · rw [hne k' e] at hk'; exact Or.inl ⟨t', hk', rfl, rfl⟩
  · obtain ⟨up, hup, hch⟩ := D.chain
    refine ⟨up, hup, hch.anti (fun i _ => PwLe.sublist ?_)⟩
    intro k' t' n hk' he
    by_cases e : k' = k
    · subst e; rw [hself] at hk'; cases hk'; exact ⟨t, hk, hel i n he⟩
    · rw [hne k' e] at hk'; exact ⟨t', hk', he⟩
  · refine R.next (by rw [htasks]; simp) ?_
    intro k' t' hk' hw hd
    by_cases e : k' = k
    · subst e; rw [hself] at hk'; cases hk'; exact (hwd hw hd).elim
    · rw [hne k' e] at hk'; exact Or.inl ⟨e, t', hk', hw, hd⟩

theorem Sched.finishOnce_timers (s : Sched) (k : TaskId) : (s.finishOnce k).timers = s.timers := by
  unfold Sched.finishOnce; split <;> rfl

theorem DynF.once {w : TW} {k : Nat} {r : List Nat} {t : Task}
    (D : DynF kd E w) (R : Rdy (k :: r) w.sched) (hp : (k :: r).Pairwise (· < ·))
    (hk : w.sched.tasks[k]? = some t) (hd : t.done = false) (hkr : t.keepRunning = true)
    (hod : t.outerDelay = none) (hor : w.sched.outerReady t) :
    DynF kd E (pollPost w k (w.sched.setTask k { t with woken := false, outerTimer := none }, .runOnce t.body)) ∧
      Rdy r (pollPost w k (w.sched.setTask k { t with woken := false, outerTimer := none }, .runOnce t.body)).sched ∧
      StatEq w (pollPost w k (w.sched.setTask k { t with woken := false, outerTimer := none }, .runOnce t.body)) := by
  have hb : t.body.rate = true := (D.good k t hk).2
  rw [pollPost_once _ _ _ _ hb]
  generalize hs1 : w.sched.setTask k { t with woken := false, outerTimer := none } = s1
  have hs1k : s1.tasks[k]? = some { t with woken := false, outerTimer := none } := by
    rw [← hs1]; exact Sched.setTask_get_self _ _ _ _ hk
  have hs1ne : ∀ k', k' ≠ k → s1.tasks[k']? = w.sched.tasks[k']? := by
    intro k' e; rw [← hs1]; exact Sched.setTask_get_ne _ _ _ _ e
  have hs1len : s1.tasks.length = w.sched.tasks.length := by rw [← hs1]; simp
  have hs1now : s1.now = w.sched.now := by rw [← hs1]; rfl
  have hs1tm : s1.timers = w.sched.timers := by rw [← hs1]; rfl
  have good1 : GoodS s1 := by rw [← hs1]; exact D.good.setTask k t _ hk rfl rfl
  obtain ⟨hf, hkk, hpw, hc⟩ := TW.runBody_stepF (kd := kd) ({ w with sched := s1 } : TW) t.body hb D.kinds
  have hstat := TW.runBody_static ({ w with sched := s1 } : TW) t.body hb
  generalize (({ w with sched := s1 } : TW).runBody t.body) = w2 at hf hkk hpw hc hstat ⊢
  replace hf : Frame kd 0 s1 w2.sched := hf
  -- task `k` after the body and after `finishOnce`
  obtain ⟨t2, hs2k, _⟩ := hf.old k _ hs1k
  have hs3k := Sched.finishOnce_get_self _ _ _ hs2k
  have hs3ne : ∀ k', k' ≠ k → (w2.sched.finishOnce k).tasks[k']? = w2.sched.tasks[k']? :=
    fun k' e => Sched.finishOnce_get_ne _ _ _ e
  -- a task of the final scheduler that is not finished: an old one (≠ k) or a new one
  have classify : ∀ (k' : Nat) t', (w2.sched.finishOnce k).tasks[k']? = some t' → t'.done = false →
      (k' ≠ k ∧ ∃ t0, w.sched.tasks[k']? = some t0 ∧ Task.Keeps t0 t') ∨
      (w.sched.tasks.length ≤ k' ∧ Task.New kd 0 t') := by
    intro k' t' hk' hd'
    have hne : k' ≠ k := by
      intro e; subst e
      rw [hs3k] at hk'; cases hk'; simp at hd'
    rw [hs3ne k' hne] at hk'
    rcases hf.classify hk' with ⟨t0, ht0, hkeep⟩ | ⟨hge, hnew⟩
    · exact Or.inl ⟨hne, t0, by rw [← hs1ne k' hne]; exact ht0, hkeep⟩
    · exact Or.inr ⟨by rw [← hs1len]; exact hge, hnew⟩
  refine ⟨⟨?_, hkk, ?_, ?_⟩, ?_, ?_⟩
  · exact (good1.frame hf).finishOnce k
  · intro j dl hkd
    refine (D.disc j dl hkd).of_sub ?_ ?_ ?_
    · show w.sched.now ≤ (w2.sched.finishOnce k).now
      rw [Sched.finishOnce_now, hf.now, hs1now]; exact Nat.le_refl _
    · exact TimersLe.of_eq (by
        show (w2.sched.finishOnce k).timers = w.sched.timers
        rw [Sched.finishOnce_timers, hf.timers, hs1tm])
    · intro k' t' hk' hE'
      rcases classify k' t' hk' hE'.2.1 with ⟨_, t0, ht0, a1, a2, a3, a4, a5, _, a7⟩ | ⟨hge, b1, b2, b3, _, _, b6⟩
      · refine Or.inl ⟨t0, ht0, ?_, a4, a5, fun h => Or.inl (a3.trans h)⟩
        obtain ⟨⟨n, hn⟩, e2, e3⟩ := hE'
        exact ⟨⟨n, a1 ▸ hn⟩, a2 ▸ e2, a7 e3⟩
      · refine Or.inr ⟨hge, b3, ?_, b2⟩
        obtain ⟨⟨n, hn⟩, _⟩ := hE'
        have := (b6 j n hn).2
        rw [hkd] at this
        exact (Option.some.inj this).symm
  · obtain ⟨up, hup, hch⟩ := D.chain
    refine ⟨up, hup, ?_⟩
    have hch1 : ChainF (pendOf s1) 0 up w.stages w.log := by
      refine hch.anti (fun i _ => PwLe.sublist ?_)
      rw [← hs1]
      exact PwLe.setTask i w.sched k t _ hk (fun n hn => by
        rw [← hn]; exact (Elig_congr rfl rfl rfl).symm)
    refine hc up (pendOf (w2.sched.finishOnce k)) hch1 (fun i => (PwLe.finishOnce i w2.sched k).sublist) ?_
    intro j n dl e hkd
    show ∃ rest, pend j s1 = n :: rest ∧ (pend j (w2.sched.finishOnce k)).Sublist rest
    have hE : IsE j t := ⟨⟨n, e⟩, hd, hkr⟩
    have hfirst := first_of_run (D.disc j dl hkd) R hp hk hE hod hor
    refine ⟨pend j (s1.finishOnce k), ?_, ((hpw j n e j (Nat.le_refl j)).finishOnce_both k).sublist⟩
    refine pend_finish_first j s1 k _ n hs1k (Elig_eq_some.mpr ⟨e, hd, hkr⟩) ?_
    intro k' t' hlt hk'
    rw [hs1ne k' (by omega)] at hk'
    exact hfirst k' t' hlt hk'
  · refine R.next ?_ ?_
    · show w.sched.tasks.length ≤ (w2.sched.finishOnce k).tasks.length
      rw [Sched.finishOnce_length, ← hs1len]; exact hf.len
    · intro k' t' hk' hw hd'
      rcases classify k' t' hk' hd' with ⟨hne, t0, ht0, _, a2, a3, _⟩ | ⟨hge, _⟩
      · exact Or.inl ⟨hne, t0, ht0, a3 ▸ hw, a2 ▸ hd'⟩
      · exact Or.inr hge
  · exact hstat

theorem pollTask_inv {w : TW} {k : Nat} {r : List Nat} (D : DynF kd E w) (R : Rdy (k :: r) w.sched)
    (hp : (k :: r).Pairwise (· < ·)) :
    DynF kd E (w.pollTask k) ∧ Rdy r (w.pollTask k).sched ∧ StatEq w (w.pollTask k) := by
  rw [pollTask_eq]
  have same : DynF kd E (pollPost w k (w.sched, .none)) ∧ StatEq w (pollPost w k (w.sched, .none)) :=
    ⟨⟨D.good, D.kinds, D.disc, D.chain⟩, StatEq.refl _⟩
  refine Sched.pollPre_elim w.sched k
    (motive := fun x => DynF kd E (pollPost w k x) ∧ Rdy r (pollPost w k x).sched ∧ StatEq w (pollPost w k x))
    ?_ ?_ ?_ ?_ ?_ ?_ ?_ ?_
  · intro hn
    exact ⟨same.1, R.skip (fun t ht => by rw [hn] at ht; cases ht), same.2⟩
  · intro t ht hd
    exact ⟨same.1, R.skip (fun t' ht' => by rw [ht] at ht'; cases ht'; exact hd), same.2⟩
  · -- cancelled
    intro t ht hd hkr
    refine D.set_quiet (t1 := { t with woken := false, done := true }) R ht rfl rfl rfl ?_
      (fun _ h => by simp at h) ?_
    · intro i n hn; have := (Elig_eq_some.mp hn).2.1; simp at this
    · intro j dl hkd
      refine (D.disc j dl hkd).set_quiet ht (Sched.setTask_get_self _ _ _ _ ht)
        (fun k' e => Sched.setTask_get_ne _ _ _ _ e) (Nat.le_refl _) (TimersLe.of_eq rfl) ?_
      intro hE; have := hE.2.1; simp at this
  · -- the delay timer is armed
    intro t d ht hd hkr hod
    refine D.set_quiet
      (t1 := { t with woken := false, outerDelay := none, outerTimer := some w.sched.timers.length })
      R ht (by simp [Sched.setTask]) rfl rfl ?_ (fun h => by simp at h) ?_
    · intro i n hn; rw [← hn]; exact (Elig_congr rfl rfl rfl).symm
    · intro j dl hkd
      by_cases hE : IsE j t
      · exact (D.disc j dl hkd).arm ht hE hod
          (fun k' t' hlt hk' hd' hw' => R.not_before hp hlt hk' hd' hw')
      · refine (D.disc j dl hkd).set_quiet (s' := armS w.sched k d _) ht (armS_get_self _ _ _ _ _ ht)
          (fun k' e => armS_get_ne _ _ _ _ _ e) (by rw [armS_now]; exact Nat.le_refl _)
          (armS_timersLe _ _ _ _) ?_
        intro hE'
        exact absurd (hE'.congr (t' := t) rfl rfl rfl) hE
  · -- still waiting for the delay timer
    intro t tm ht hd hkr hod hot hf
    refine D.set_quiet (t1 := { t with woken := false })
      R ht (by simp [Sched.setTask]) rfl rfl ?_ (fun h => by simp at h) ?_
    · intro i n hn; rw [← hn]; exact (Elig_congr rfl rfl rfl).symm
    · intro j dl hkd
      refine (D.disc j dl hkd).set_quiet ht
        (Sched.setTask_get_self _ _ _ t (by simpa using ht))
        (fun k' e => by rw [Sched.setTask_get_ne _ _ _ _ e]; simp) (by simp)
        (by
          intro i tr hi
          obtain ⟨tr', h1, h2⟩ := TimersLe.registerTimer w.sched tm i tr hi
          exact ⟨tr', by simpa using h1, h2⟩) ?_
      intro hE'
      exact ⟨hE'.congr (t' := t) rfl rfl rfl, rfl, rfl, fun _ => Or.inr ⟨tm, hot, hf⟩⟩
  · -- the body runs
    intro t ht hd hkr hod hor _
    exact D.once R hp ht hd hkr hod hor
  · intro t fur iv seq ht _ _ _ _ hrep _
    rw [(D.good k t ht).1] at hrep; cases hrep
  · intro t fur iv seq ht _ _ _ _ hrep _
    rw [(D.good k t ht).1] at hrep; cases hrep

theorem pollAll_inv : ∀ (l : List Nat) (w : TW), l.Pairwise (· < ·) → Rdy l w.sched → DynF kd E w →
    DynF kd E (w.pollAll l) ∧ StatEq w (w.pollAll l) := by
  intro l
  induction l with
  | nil => intro w _ _ D; exact ⟨D, StatEq.refl _⟩
  | cons k r ih =>
    intro w hp R D
    have hpr : r.Pairwise (· < ·) := (List.pairwise_cons.mp hp).2
    cases ht : w.sched.tasks[k]? with
    | none =>
      have e : w.pollAll (k :: r) = w.pollAll r := by simp [TW.pollAll_cons, ht]
      rw [e]
      exact ih w hpr (R.skip (fun t h => by rw [ht] at h; cases h)) D
    | some t =>
      cases hd : t.done with
      | true =>
        have e : w.pollAll (k :: r) = w.pollAll r := by simp [TW.pollAll_cons, ht, hd]
        rw [e]
        exact ih w hpr (R.skip (fun t' h => by rw [ht] at h; cases h; exact hd)) D
      | false =>
        rw [TW.pollAll_cons_live w k r t ht hd]
        obtain ⟨D1, R1, S1⟩ := pollTask_inv D R hp
        obtain ⟨D2, S2⟩ := ih _ hpr R1 D1
        exact ⟨D2, S1.trans S2⟩

theorem DynF.fired {w : TW} {s' : Sched} (D : DynF kd E w)
    (h : Fired (fun tm => ∃ tr, w.sched.timers[tm]? = some tr ∧ tr.fired = false ∧ tr.due ≤ w.sched.now)
      w.sched s') : DynF kd E { w with sched := s' } := by
  have back : ∀ (k : Nat) t', s'.tasks[k]? = some t' → ∃ t, w.sched.tasks[k]? = some t ∧
      t'.body = t.body ∧ t'.done = t.done ∧ t'.keepRunning = t.keepRunning ∧ t'.rep = t.rep := by
    intro k t' hk'
    have := Sched.get_lt hk'
    rw [h.len] at this
    obtain ⟨t2, b1, b2, b3, b4, _, _, b7, _⟩ := h.tasks k _ (List.getElem?_eq_getElem this)
    rw [hk'] at b1; cases b1
    exact ⟨_, List.getElem?_eq_getElem this, b2, b3, b4, b7⟩
  refine ⟨?_, D.kinds, fun j dl hkd => (D.disc j dl hkd).fired h, ?_⟩
  · refine D.good.of_pw (fun k t' hk' => ?_)
    obtain ⟨t, ht, e1, _, _, e4⟩ := back k t' hk'
    exact Or.inl ⟨t, ht, e1, e4⟩
  · obtain ⟨up, hup, hch⟩ := D.chain
    refine ⟨up, hup, hch.anti (fun i _ => PwLe.sublist ?_)⟩
    intro k t' n hk' he
    obtain ⟨t, ht, e1, e2, e3, _⟩ := back k t' hk'
    exact ⟨t, ht, by rw [← he]; exact (Elig_congr e1 e2 e3).symm⟩

theorem runLoop_inv : ∀ (fuel : Nat) (w : TW), DynF kd E w →
    DynF kd E (TW.runLoop fuel w) ∧ StatEq w (TW.runLoop fuel w) := by
  intro fuel
  induction fuel with
  | zero => intro w D; exact ⟨D, StatEq.refl _⟩
  | succ f ih =>
    intro w D
    rw [TW.runLoop_succ]
    dsimp only
    have D1 : DynF kd E { w with sched := w.sched.dueTimers.foldl Sched.fire w.sched } :=
      D.fired (fireAll_fired w.sched)
    split
    · exact ⟨D1, StatEq.refl _⟩
    · obtain ⟨hp, R⟩ := ready_rdy (w.sched.dueTimers.foldl Sched.fire w.sched)
      obtain ⟨D2, S2⟩ := pollAll_inv _ _ hp R D1
      obtain ⟨D3, S3⟩ := ih _ D2
      exact ⟨D3, StatEq.trans (StatEq.trans (StatEq.refl _) S2) S3⟩

end Rx.T
