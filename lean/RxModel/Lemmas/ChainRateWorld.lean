import RxModel.Lemmas.ChainWFWorld
import RxModel.Lemmas.ChainTraverse
/-
  C09 (chain model): single-stage worlds `hot 0 → rate-limiting stage → probe`, and the
  invariant scheme over them.

  Closed forms of `push`, `runBody`, `runTick`, `unsubFrom` and of an emission of
  subject 0 on such worlds (the fuel of `cascade` is more than enough for one
  stage and one notification).

  A world is described by the stage, the probe log, the subject's slot
  (`srcAlive`) and whether subject 0 has terminated.  The ghost state of a history
  is `(E, T)`: the items subject 0 has emitted before its first terminal, and
  whether that terminal has been emitted.  A predicate `P stage log E srcAlive T`
  that is closed under the six stage-level moves of `RateSpec` is an invariant of
  EVERY event list (any emissions, clock advances, `fire`/`poll` in any order,
  `run`, `unsub`), whatever the scheduler state is — only "all task bodies are
  benign" is needed from the scheduler.
-/
namespace Rx.T
open Rx

/-- debounce, throttle (both phases), buffer_with_time / buffer_with_count_and_time. -/
def Stage.isRate : Stage → Bool
  | .debounce _ _ _ _ => true
  | .throttle _ _ _ _ _ => true
  | .throttleW _ _ _ _ => true
  | .bufTime _ _ _ _ _ => true
  | _ => false

/-- One notification from the source entering the (only) stage: `onNotif`, the
    emission reaches the probe, then `afterEmit`. -/
def Stage.feed (st : Stage) (n : Notif) (s : Sched) : Stage × List Notif × Sched :=
  ((st.onNotif 0 n s).1.afterEmit 0 (st.onNotif 0 n s).2.2 |>.1,
   (st.onNotif 0 n s).2.1,
   (st.onNotif 0 n s).1.afterEmit 0 (st.onNotif 0 n s).2.2 |>.2)

/-- What the stage's own task does to it when its body runs: the stage afterwards
    and what goes to the probe. -/
def Stage.bodyStep : Stage → Stage × List Notif
  | .debounce d alive (some v) h => (.debounce d alive none h, if alive then [.next v] else [])
  | .throttle d e alive (some v) h => (.throttle d e alive none h, if alive then [.next v] else [])
  | .bufTime d cnt true data t => (.bufTime d cnt true [] t, flushBuf data)
  | st => (st, [])

/-- The stage after `unsubscribe()` of the chain's handle. -/
def Stage.unsubbed : Stage → Stage
  | .debounce d alive tr _ => .debounce d alive tr none
  | .throttle d e alive tr _ => .throttle d e alive tr none
  | st => st

theorem Stage.feed_rate (st : Stage) (hr : st.isRate = true) (n : Notif) (s : Sched) :
    (st.feed n s).1.isRate = true := by
  unfold Stage.feed
  fun_cases Stage.onNotif st 0 n s
  all_goals first | rfl | cases hr | ((repeat' split) <;> rfl)

theorem Stage.feed_ext (st : Stage) (n : Notif) (s : Sched) : s.Ext (st.feed n s).2.2 :=
  (st.onNotif_ext 0 n s).trans (Stage.afterEmit_ext _ 0 _)

theorem Stage.bodyStep_rate (st : Stage) (hr : st.isRate = true) : st.bodyStep.1.isRate = true := by
  unfold Stage.bodyStep
  split <;> first | rfl | exact hr

theorem Stage.unsubbed_rate (st : Stage) (hr : st.isRate = true) : st.unsubbed.isRate = true := by
  unfold Stage.unsubbed
  split <;> first | rfl | exact hr

namespace TW

theorem push_feed (w : TW) (st : Stage) (h : w.stages = [st]) (n : Notif) :
    w.push 0 [n] = { w with sched := (st.feed n w.sched).2.2, stages := [(st.feed n w.sched).1],
                            log := w.log ++ (st.feed n w.sched).2.1 } :=
  push_zero w st n h

theorem setStage_zero (w : TW) (st st' : Stage) (h : w.stages = [st]) :
    w.setStage 0 st' = { w with stages := [st'] } := by
  simp [TW.setStage, h]

theorem setStage_push_one (w : TW) (st st' : Stage) (h : w.stages = [st]) (ns : List Notif) :
    (w.setStage 0 st').push 1 ns = { w with stages := [st'], log := w.log ++ ns } := by
  rw [setStage_zero w st st' h, push_one _ st' _ rfl]

theorem deliverNotifiers_rate (w : TW) (st : Stage) (h : w.stages = [st]) (hr : st.isRate = true)
    (i : Nat) (n : Notif) : deliverNotifiers w i n w.stages.length = w := by
  rw [h]
  show deliverNotifiers w i n (0 + 1) = w
  rw [deliverNotifiers_succ]
  have e : (deliverNotifiers w i n 0).stages[0]? = some st := by
    show w.stages[0]? = some st
    rw [h]; rfl
  split
  · next hj => rw [e] at hj; cases hj; cases hr
  · rfl

/-- A benign body on a single-stage world of a rate-limiting stage either does
    nothing or performs `bodyStep`. -/
theorem runBody_rate (w : TW) (st : Stage) (h : w.stages = [st]) (hr : st.isRate = true)
    (b : Body) (hb : b.benign = true) :
    w.runBody b = w ∨
    w.runBody b = { w with stages := [st.bodyStep.1], log := w.log ++ st.bodyStep.2 } := by
  have trailing : ∀ (st' : Stage) (alive : Bool) (v : Val),
      (if alive = true then (w.setStage 0 st').push 1 [.next v] else w.setStage 0 st') =
        { w with stages := [st'], log := w.log ++ if alive = true then [.next v] else [] } := by
    intro st' alive v
    cases alive with
    | true => exact setStage_push_one w st st' h _
    | false => rw [setStage_zero w st st' h]; simp
  cases b with
  | emit j n =>
    left
    rw [runBody_emit, h]
    cases j with
    | zero => cases st <;> first | rfl | cases hr
    | succ j => rfl
  | debounce j =>
    rw [runBody_debounce, h]
    cases j with
    | succ j => left; rfl
    | zero =>
      cases st with
      | debounce d alive tr hd =>
        cases tr with
        | none => left; rfl
        | some v => right; exact trailing _ alive v
      | _ => left; rfl
  | throttle j =>
    rw [runBody_throttle, h]
    cases j with
    | succ j => left; rfl
    | zero =>
      cases st with
      | throttle d e alive tr hd =>
        cases tr with
        | none => left; rfl
        | some v => right; exact trailing _ alive v
      | _ => left; rfl
  | subscribe j => cases hb
  | timerSrc v => cases hb
  | futureSrc => cases hb
  | streamSrc => cases hb
  | _ => left; rfl

theorem runTick_rate (w : TW) (st : Stage) (h : w.stages = [st]) (hr : st.isRate = true)
    (b : Body) (hb : b.benign = true) (seq : Nat) :
    (w.runTick b seq).1 = w ∨
    (w.runTick b seq).1 = { w with stages := [st.bodyStep.1], log := w.log ++ st.bodyStep.2 } := by
  cases b with
  | tick => cases hb
  | tickN j =>
    left
    rw [runTick_tickN, h]
    cases j with
    | zero => cases st <;> first | rfl | cases hr
    | succ j => rfl
  | bufTick j =>
    rw [runTick_bufTick, h]
    cases j with
    | succ j => left; rfl
    | zero =>
      cases st with
      | bufTime d cnt alive data t =>
        cases alive with
        | false => left; rfl
        | true => right; exact setStage_push_one w _ _ h _
      | _ => left; rfl
  | _ => left; rfl

/-- `unsubscribe()` of the handle: the subject's slot is emptied, the stage's task
    handle (if any) is cancelled, the stage forgets its handler. -/
theorem unsubFrom_rate (w : TW) (st : Stage) (h : w.stages = [st]) (hr : st.isRate = true)
    (hsrc : w.srcTask = none) :
    ∃ s' : Sched, w.sched.Ext s' ∧
      unsubFrom w w.stages.length = { w with srcAlive := false, sched := s', stages := [st.unsubbed] } := by
  cases w
  dsimp only at h hsrc
  subst h hsrc
  cases st with
  | debounce d alive tr hd => exact ⟨_, Sched.Ext.cancelOpt _ hd, rfl⟩
  | throttle d e alive tr hd => exact ⟨_, Sched.Ext.cancelOpt _ hd, rfl⟩
  | throttleW d e alive tr => exact ⟨_, Sched.Ext.refl _, rfl⟩
  | bufTime d cnt alive data t =>
    cases t with
    | none => exact ⟨_, Sched.Ext.refl _, rfl⟩
    | some k => exact ⟨_, Sched.Ext.cancel _ k, rfl⟩
  | _ => cases hr

/-! An emission of subject `i` on worlds over `hot 0` whose source is subscribed. -/

theorem emitSrc_next (w w1 : TW) (hsrc : w.src = .hot 0) (hss : w.srcSubscribed = true) (i : Nat) (v : Val) :
    emitSrc w w1 i (.next v) = if i = 0 ∧ w.srcAlive = true then w1.push 0 [.next v] else w1 := by
  unfold emitSrc
  rw [hsrc, hss]
  by_cases hi : i = 0 <;> cases w.srcAlive <;> simp [hi]

theorem emitSrc_term (w w1 : TW) (hsrc : w.src = .hot 0) (hss : w.srcSubscribed = true) (i : Nat) (n : Notif)
    (hn : n.isTerm = true) :
    emitSrc w w1 i n =
      if i = 0 ∧ w.srcAlive = true then ({ w1 with srcAlive := false } : TW).push 0 [n] else w1 := by
  unfold emitSrc
  rw [hsrc, hss]
  cases n with
  | next v => cases hn
  | _ => by_cases hi : i = 0 <;> cases w.srcAlive <;> simp [hi]

end TW

/-- Items subject 0 emits, up to its first terminal. -/
def itemsEmitted : List TW.Ev → List Val
  | [] => []
  | .emit i n :: r =>
      if i = 0 then (match n with | .next v => v :: itemsEmitted r | _ => []) else itemsEmitted r
  | _ :: r => itemsEmitted r

/-- Ghost step: `(E, T)`. -/
def ghost (g : List Val × Bool) : TW.Ev → List Val × Bool
  | .emit i n =>
      if i = 0 ∧ g.2 = false then (match n with | .next v => (g.1 ++ [v], false) | _ => (g.1, true))
      else g
  | _ => g

theorem ghost_fold_true (E : List Val) (evs : List TW.Ev) : evs.foldl ghost (E, true) = (E, true) := by
  induction evs with
  | nil => rfl
  | cons e r ih => cases e <;> simpa [ghost] using ih

theorem ghost_fold_false (E : List Val) (evs : List TW.Ev) :
    (evs.foldl ghost (E, false)).1 = E ++ itemsEmitted evs := by
  induction evs generalizing E with
  | nil => simp [itemsEmitted]
  | cons e r ih =>
    cases e with
    | emit i n =>
      by_cases hi : i = 0
      · subst hi
        cases n with
        | next v => simp [ghost, itemsEmitted, ih]
        | error e => simp [ghost, itemsEmitted, ghost_fold_true]
        | complete => simp [ghost, itemsEmitted, ghost_fold_true]
      · simp [ghost, itemsEmitted, hi, ih]
    | _ => simpa [ghost, itemsEmitted] using ih E

theorem ghost_next (E : List Val) (v : Val) : ghost (E, false) (.emit 0 (.next v)) = (E ++ [v], false) := by
  simp [ghost]

theorem ghost_term (E : List Val) (n : Notif) (hn : n.isTerm = true) :
    ghost (E, false) (.emit 0 n) = (E, true) := by
  cases n <;> simp_all [ghost, Notif.isTerm]

/-- An emission of another subject, or after the first terminal of subject 0. -/
theorem ghost_other (E : List Val) (T : Bool) (i : Nat) (n : Notif) (h : i ≠ 0 ∨ T = true) :
    ghost (E, T) (.emit i n) = (E, T) := by
  rcases h with h | h <;> simp [ghost, h]

abbrev RatePred := Stage → List Notif → List Val → Bool → Bool → Prop

/-- Closure of a predicate under the stage-level moves. -/
structure RateSpec (P : RatePred) : Prop where
  /-- an item arrives from the live, unterminated subject -/
  next : ∀ st log E v s, P st log E true false →
    P (st.feed (.next v) s).1 (log ++ (st.feed (.next v) s).2.1) (E ++ [v]) true false
  /-- the unterminated subject emits an item after `unsub` -/
  skip : ∀ st log E v, P st log E false false → P st log (E ++ [v]) false false
  /-- the terminal of the live subject arrives at the stage — finished or not: the subject hands its
      terminal to every subscriber whose slot is full -/
  term : ∀ st log E n s, n.isTerm = true → P st log E true false →
    P (st.feed n s).1 (log ++ (st.feed n s).2.1) E false true
  /-- the terminal of the subject is not delivered (`unsub` before: the slot is empty) -/
  termDead : ∀ st log E, P st log E false false → P st log E false true
  /-- `unsub` -/
  unsub : ∀ st log E a T, P st log E a T → P st.unsubbed log E false T
  /-- the stage's task body runs -/
  body : ∀ st log E a T, P st log E a T → P st.bodyStep.1 (log ++ st.bodyStep.2) E a T

/-- The invariant on worlds. -/
structure Inv (P : RatePred) (E : List Val) (T : Bool) (w : TW) : Prop where
  src : w.src = .hot 0
  srcTask : w.srcTask = none
  subscribed : w.subscribed = true
  srcSubscribed : w.srcSubscribed = true
  term : w.terminated.contains 0 = T
  benign : w.sched.Benign
  stage : ∃ st, w.stages = [st] ∧ st.isRate = true ∧ P st w.log E w.srcAlive T

namespace TW

/-- Polling a task keeps what scheduler moves among benign tasks and the benign bodies keep. -/
theorem pollTask_benign {I : TW → Prop} (hB : ∀ w, I w → w.sched.Benign)
    (hs : ∀ w s', I w → w.sched.Le s' → I { w with sched := s' })
    (hb : ∀ w b, I w → b.benign = true → I (w.runBody b))
    (ht : ∀ w b seq, I w → b.benign = true → I (w.runTick b seq).1)
    (w : TW) (k : TaskId) (h : I w) : I (w.pollTask k) := by
  have hlive := Sched.pollPre_live w.sched k
  have I1 : I { w with sched := (w.sched.pollPre k).1 } := hs w _ h (Sched.Le.pollPre w.sched k)
  have benign : ∀ b, (w.sched.pollPre k).1.Live k b → b.benign = true := by
    rintro b ⟨t, ht, _, rfl⟩
    exact hB _ I1 t (List.mem_of_getElem? ht)
  -- a benign body is not one of the async drivers
  have sync : ∀ b, (w.sched.pollPre k).2 = .runOnce b → b.isAsync = true → False := by
    intro b hp hb
    have := benign b (hlive.1 b hp)
    cases b <;> first | (cases hb; done) | (cases this; done)
  exact pollTask_cases w k (idle := fun _ => I1)
    (once := fun b hp _ => hs _ _ (hb _ b I1 (benign b (hlive.1 b hp))) (Sched.Le.finishOnce _ k))
    (pending := fun b _ _ hp hb _ => (sync b hp hb).elim)
    (ready := fun b _ _ hp hb _ _ => (sync b hp hb).elim)
    (again := fun b seq hp _ =>
      hs _ _ (ht _ b seq I1 (benign b (hlive.2 b seq hp))) (Sched.Ext.continueRepeat _ k).le)
    (last := fun b seq hp _ => hs _ _ (ht _ b seq I1 (benign b (hlive.2 b seq hp))) (Sched.Le.finishOnce _ k))

end TW

variable {P : RatePred} {E : List Val} {T : Bool} {w : TW}

theorem Inv.setSched (I : Inv P E T w) (s' : Sched) (hs : w.sched.Le s') :
    Inv P E T { w with sched := s' } :=
  ⟨I.src, I.srcTask, I.subscribed, I.srcSubscribed, I.term, hs.benign I.benign, I.stage⟩

theorem Inv.bodyStep (S : RateSpec P) (I : Inv P E T w) (st : Stage) (h : w.stages = [st]) :
    Inv P E T { w with stages := [st.bodyStep.1], log := w.log ++ st.bodyStep.2 } := by
  obtain ⟨st', h', hr, hP⟩ := I.stage
  rw [h] at h'; cases h'
  exact ⟨I.src, I.srcTask, I.subscribed, I.srcSubscribed, I.term, I.benign,
    _, rfl, st.bodyStep_rate hr, S.body _ _ _ _ _ hP⟩

theorem Inv.runBody (S : RateSpec P) (I : Inv P E T w) (b : Body) (hb : b.benign = true) :
    Inv P E T (w.runBody b) := by
  obtain ⟨st, h, hr, _⟩ := I.stage
  rcases TW.runBody_rate w st h hr b hb with e | e <;> rw [e]
  · exact I
  · exact I.bodyStep S st h

theorem Inv.runTick (S : RateSpec P) (I : Inv P E T w) (b : Body) (hb : b.benign = true) (seq : Nat) :
    Inv P E T (w.runTick b seq).1 := by
  obtain ⟨st, h, hr, _⟩ := I.stage
  rcases TW.runTick_rate w st h hr b hb seq with e | e <;> rw [e]
  · exact I
  · exact I.bodyStep S st h

theorem Inv.pollTask (S : RateSpec P) (I : Inv P E T w) (k : TaskId) : Inv P E T (w.pollTask k) :=
  TW.pollTask_benign (I := Inv P E T) (fun _ I => I.benign) (fun _ s' I h => I.setSched s' h)
    (fun _ b I hb => I.runBody S b hb) (fun _ b seq I hb => I.runTick S b hb seq) w k I

/-- Subject 0 hands `n` to the stage. -/
theorem Inv.push {E' : List Val} {T' : Bool} (w' : TW) (st : Stage) (h : w'.stages = [st])
    (hr : st.isRate = true) (n : Notif) (h1 : w'.src = .hot 0) (h2 : w'.srcTask = none)
    (h3 : w'.subscribed = true) (h4 : w'.srcSubscribed = true) (hT : w'.terminated.contains 0 = T')
    (hb : w'.sched.Benign)
    (hP : P (st.feed n w'.sched).1 (w'.log ++ (st.feed n w'.sched).2.1) E' w'.srcAlive T') :
    Inv P E' T' (w'.push 0 [n]) ∧ TW.deliverNotifiers (w'.push 0 [n]) 0 n (w'.push 0 [n]).stages.length =
      w'.push 0 [n] := by
  rw [TW.push_feed w' st h]
  exact ⟨⟨h1, h2, h3, h4, hT, (st.feed_ext n w'.sched).benign hb, _, rfl, st.feed_rate hr n w'.sched, hP⟩,
    TW.deliverNotifiers_rate _ _ rfl (st.feed_rate hr n w'.sched) 0 n⟩

/-- An emission the stage does not see: at most subject `i` is marked as terminated (`b`). -/
theorem Inv.emit_unseen (I : Inv P E T w) (i : Nat) (n : Notif) {E' : List Val} {T' : Bool} (b : Bool)
    (hT : (if b = true then { w with terminated := i :: w.terminated } else w).terminated.contains 0 = T')
    (hP : ∀ st, w.stages = [st] → P st w.log E' w.srcAlive T') :
    Inv P E' T' (TW.deliverNotifiers (if b = true then { w with terminated := i :: w.terminated } else w) i n
      (if b = true then { w with terminated := i :: w.terminated } else w).stages.length) := by
  obtain ⟨st, h, hr, _⟩ := I.stage
  cases b
  · rw [if_neg Bool.false_ne_true, TW.deliverNotifiers_rate w st h hr]
    exact ⟨I.src, I.srcTask, I.subscribed, I.srcSubscribed, hT, I.benign, st, h, hr, hP st h⟩
  · rw [if_pos rfl, TW.deliverNotifiers_rate { w with terminated := i :: w.terminated } st h hr]
    exact ⟨I.src, I.srcTask, I.subscribed, I.srcSubscribed, hT, I.benign, st, h, hr, hP st h⟩

theorem Notif.eq_next_of_not_term {n : Notif} (hn : n.isTerm = false) : ∃ v, n = .next v := by
  cases n <;> first | exact ⟨_, rfl⟩ | cases hn

/-- Subject 0, unterminated and holding its slot, emits: the stage is fed (`S.next` / `S.term`). -/
theorem Inv.emit_live (S : RateSpec P) (I : Inv P E false w) (ha : w.srcAlive = true) (n : Notif) :
    Inv P (ghost (E, false) (.emit 0 n)).1 (ghost (E, false) (.emit 0 n)).2
      (TW.deliverNotifiers
        (TW.emitSrc w (if n.isTerm = true then { w with terminated := 0 :: w.terminated } else w) 0 n) 0 n
        (TW.emitSrc w (if n.isTerm = true then { w with terminated := 0 :: w.terminated } else w) 0 n).stages.length) := by
  obtain ⟨st, h, hr, hP⟩ := I.stage
  rw [ha] at hP
  cases hn : n.isTerm with
  | false =>
    obtain ⟨v, rfl⟩ := Notif.eq_next_of_not_term hn
    rw [if_neg Bool.false_ne_true, TW.emitSrc_next w w I.src I.srcSubscribed, if_pos ⟨rfl, ha⟩, ghost_next]
    have I' := Inv.push w st h hr (.next v) I.src I.srcTask I.subscribed I.srcSubscribed I.term
      I.benign (by rw [ha]; exact S.next _ _ _ v w.sched hP)
    rw [I'.2]; exact I'.1
  | true =>
    rw [if_pos rfl, TW.emitSrc_term w _ I.src I.srcSubscribed 0 n hn, if_pos ⟨rfl, ha⟩, ghost_term E n hn]
    have I' := Inv.push { w with terminated := 0 :: w.terminated, srcAlive := false } st h hr n
      I.src I.srcTask I.subscribed I.srcSubscribed (T' := true) (by simp) I.benign
      (S.term _ _ _ n w.sched hn hP)
    rw [I'.2]; exact I'.1

/-- Subject 0, unterminated, emits after `unsub` has emptied its slot (`S.skip` / `S.termDead`). -/
theorem Inv.emit_dead (S : RateSpec P) (I : Inv P E false w) (ha : w.srcAlive = false) (n : Notif) :
    Inv P (ghost (E, false) (.emit 0 n)).1 (ghost (E, false) (.emit 0 n)).2
      (TW.deliverNotifiers
        (TW.emitSrc w (if n.isTerm = true then { w with terminated := 0 :: w.terminated } else w) 0 n) 0 n
        (TW.emitSrc w (if n.isTerm = true then { w with terminated := 0 :: w.terminated } else w) 0 n).stages.length) := by
  have hi : ¬ (0 = 0 ∧ w.srcAlive = true) := by rw [ha]; exact fun h => Bool.false_ne_true h.2
  have hP : ∀ st, w.stages = [st] → P st w.log E false false := by
    intro st h
    obtain ⟨st', h', _, hP⟩ := I.stage
    rw [h] at h'; cases h'; rw [ha] at hP; exact hP
  cases hn : n.isTerm with
  | false =>
    obtain ⟨v, rfl⟩ := Notif.eq_next_of_not_term hn
    rw [TW.emitSrc_next w _ I.src I.srcSubscribed, if_neg hi, ghost_next]
    exact I.emit_unseen 0 _ false I.term (fun st h => by rw [ha]; exact S.skip _ _ _ v (hP st h))
  | true =>
    rw [TW.emitSrc_term w _ I.src I.srcSubscribed 0 n hn, if_neg hi, ghost_term E n hn]
    exact I.emit_unseen 0 _ true (by simp) (fun st h => by rw [ha]; exact S.termDead _ _ _ (hP st h))

/-- Another subject emits. -/
theorem Inv.emit_other (I : Inv P E T w) (i : Nat) (h0 : i ≠ 0) (n : Notif) :
    Inv P E T
      (TW.deliverNotifiers
        (TW.emitSrc w (if n.isTerm = true then { w with terminated := i :: w.terminated } else w) i n) i n
        (TW.emitSrc w (if n.isTerm = true then { w with terminated := i :: w.terminated } else w) i n).stages.length) := by
  have hi : ¬ (i = 0 ∧ w.srcAlive = true) := fun h => h0 h.1
  have e : TW.emitSrc w (if n.isTerm = true then { w with terminated := i :: w.terminated } else w) i n =
      (if n.isTerm = true then { w with terminated := i :: w.terminated } else w) := by
    cases hn : n.isTerm with
    | false =>
      obtain ⟨v, rfl⟩ := Notif.eq_next_of_not_term hn
      rw [TW.emitSrc_next w _ I.src I.srcSubscribed, if_neg hi]
    | true => rw [TW.emitSrc_term w _ I.src I.srcSubscribed i n hn, if_neg hi]
  rw [e]
  refine I.emit_unseen i n n.isTerm ?_ (fun st h => ?_)
  · rw [← I.term]
    split
    · rw [List.contains_cons, show (0 == i) = false by simpa using Ne.symm h0]; rfl
    · rfl
  · obtain ⟨st', h', _, hP⟩ := I.stage
    rw [h] at h'; cases h'; exact hP

/-- An emission: ignored (the subject has terminated), of another subject, or of subject 0 with its slot
    full or empty. -/
theorem Inv.emit (S : RateSpec P) (I : Inv P E T w) (i : Nat) (n : Notif) :
    Inv P (ghost (E, T) (.emit i n)).1 (ghost (E, T) (.emit i n)).2 (w.step (.emit i n)) := by
  rw [TW.step_emit]
  split
  · next hc =>
    rw [ghost_other E T i n (by
      by_cases hi : i = 0
      · subst hi; exact Or.inr (I.term ▸ hc)
      · exact Or.inl hi)]
    exact I
  · next hc =>
    by_cases h0 : i = 0
    · subst h0
      have hT : T = false := by rw [← I.term]; simpa using hc
      subst hT
      rcases Bool.eq_false_or_eq_true w.srcAlive with ha | ha
      · exact I.emit_live S ha n
      · exact I.emit_dead S ha n
    · rw [ghost_other E T i _ (Or.inl h0)]
      exact I.emit_other i h0 n

theorem Inv.unsub (S : RateSpec P) (I : Inv P E T w) : Inv P E T (w.step .unsub) := by
  obtain ⟨st, h, hr, hP⟩ := I.stage
  rw [TW.step_unsub, I.subscribed, Bool.true_and]
  split
  · obtain ⟨s', hs', e⟩ := TW.unsubFrom_rate w st h hr I.srcTask
    rw [e]
    exact ⟨I.src, I.srcTask, I.subscribed, I.srcSubscribed, I.term, hs'.benign I.benign,
      _, rfl, st.unsubbed_rate hr, S.unsub _ _ _ _ _ hP⟩
  · exact I

theorem Inv.sub (I : Inv P E T w) : Inv P E T (w.step .sub) := by
  rw [TW.step_sub, I.subscribed, if_pos rfl]; exact I

theorem Inv.step (S : RateSpec P) (I : Inv P E T w) (ev : TW.Ev) :
    Inv P (ghost (E, T) ev).1 (ghost (E, T) ev).2 (w.step ev) := by
  cases ev with
  | emit i n => exact I.emit S i n
  | _ =>
    exact TW.step_keeps' (P := Inv P E T) (fun _ k I => I.pollTask S k)
      (fun _ tm I => I.setSched _ (Sched.Ext.fire _ tm).le) (fun _ I => I.sub) (fun _ I => I.unsub S)
      (fun _ _ I => I.setSched _ (Sched.Ext.of_tasks rfl).le) w _ nofun I

theorem Inv.fold (S : RateSpec P) (evs : List TW.Ev) (g : List Val × Bool) (w : TW)
    (I : Inv P g.1 g.2 w) :
    Inv P (evs.foldl ghost g).1 (evs.foldl ghost g).2 (evs.foldl TW.step w) := by
  induction evs generalizing g w with
  | nil => exact I
  | cons e r ih => exact ih _ _ (I.step S e)

theorem Inv.run (S : RateSpec P) (w : TW) (I : Inv P [] false w) (evs : List TW.Ev) :
    ∃ T, Inv P (itemsEmitted evs) T (evs.foldl TW.step w) := by
  have := Inv.fold S evs ([], false) w I
  rw [ghost_fold_false] at this
  exact ⟨_, by simpa using this⟩

/-- The single-stage world over `hot 0`, subscribed, then driven by `evs`. -/
def rateRun (st : Stage) (evs : List TW.Ev) : TW :=
  evs.foldl TW.step (TW.step { src := .hot 0, stages := [st] } .sub)

end Rx.T
