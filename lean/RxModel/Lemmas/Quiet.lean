import RxModel.Lemmas.PipeWF
/-
  Silence after unsubscription / closure (helper lemmas for C02 and C17).
-/
namespace Rx
open Node

namespace Node

/-- Every source side has been subscribed. -/
def allStarted : Node → Bool
  | hot _ _ => true
  | cold _ started _ => started
  | n1 _ c => c.allStarted
  | startWith _ started c => started && c.allStarted
  | n2 _ a b => a.allStarted && b.allStarted

/-- No upstream handle can reach the observers any more: every subscriber slot
    at a leaf is empty (and every cold source has already run). -/
def quiet : Node → Bool
  | hot _ alive => !alive
  | cold _ started _ => started
  | n1 _ c => c.quiet
  | startWith _ started c => started && c.quiet
  | n2 _ a b => a.quiet && b.quiet

/-- Induction along a delivery: a relation between a tree and the result of `deliver` holds
    if it holds where the path does not fit (nothing happens), at a subscriber slot, and is
    carried root-wards through each kind of inner node. -/
theorem deliver_ind {Q : Node → Node × List Notif → Prop}
    (same : ∀ nd, Q nd (nd, []))
    (hot : ∀ i al df n, Q (hot i al) (hot i (hotDeliver df al n).1, (hotDeliver df al n).2))
    (n1 : ∀ st c r, Q c r → Q (n1 st c) (n1 (st.run r.2).1 r.1, (st.run r.2).2))
    (startWith : ∀ vs c r, Q c r → Q (startWith vs true c) (startWith vs true r.1, r.2))
    (n2a : ∀ st a b r, Q a r → Q (n2 st a b) (n2 (st.run .a r.2).1 r.1 b, (st.run .a r.2).2))
    (n2b : ∀ st a b r, Q b r → Q (n2 st a b) (n2 (st.run .b r.2).1 a r.1, (st.run .b r.2).2))
    (nd : Node) (p : Path) (df : Bool) (n : Notif) : Q nd (nd.deliver p df n) := by
  fun_induction Node.deliver nd p df n with
  -- the clauses of `Node.deliver`, in its order: a hot leaf at the end of the path
  | case1 i al df n al' o h => simpa only [h] using hot i al df n
  -- `n1` below `.down`
  | case4 st c p df n c' o h st' o' h' ih => rw [h] at ih; simpa only [h'] using n1 st c _ ih
  -- a started `startWith` below `.down`
  | case6 vs c p df n c' o h ih => rw [h] at ih; exact startWith vs c _ ih
  -- `n2` below `.left`, then below `.right`
  | case9 st a b p df n c' o h st' o' h' ih => rw [h] at ih; simpa only [h'] using n2a st a b _ ih
  | case10 st a b p df n c' o h st' o' h' ih => rw [h] at ih; simpa only [h'] using n2b st a b _ ih
  -- everywhere else the path does not fit the tree
  | _ => exact same _

end Node

@[simp] theorem St1.run_nil' (s : St1) : s.run [] = (s, []) := rfl
@[simp] theorem St2.run_nil' (s : St2) (sd : Side) : s.run sd [] = (s, []) := rfl

theorem and_mono {a b a' b' : Bool} (f : a = true → a' = true) (g : b = true → b' = true)
    (h : (a && b) = true) : (a' && b') = true :=
  Bool.and_eq_true_iff.mpr ⟨f (Bool.and_eq_true_iff.mp h).1, g (Bool.and_eq_true_iff.mp h).2⟩

theorem quiet_start (nd : Node) (h : nd.quiet = true) : nd.start = (nd, []) := by
  induction nd with
  | hot i al => rfl
  | cold s st al => cases h; rfl
  | n1 st c ih => show (n1 (st.run c.start.2).1 c.start.1, (st.run c.start.2).2) = _; rw [ih h]; rfl
  | startWith vs st c ih =>
    obtain ⟨rfl, hc⟩ := Bool.and_eq_true_iff.mp h
    show (startWith vs true c.start.1, c.start.2) = _; rw [ih hc]
  | n2 st a b iha ihb =>
    obtain ⟨ha, hb⟩ := Bool.and_eq_true_iff.mp h
    obtain ⟨tl, h0, e⟩ := n2_start st a b
    rw [e, h0 (by rw [iha ha]) (by rw [ihb hb]), iha ha, ihb hb]; rfl

theorem quiet_deliver (nd : Node) (p : Path) (df : Bool) (n : Notif) (h : nd.quiet = true) :
    nd.deliver p df n = (nd, []) := by
  revert h
  refine deliver_ind (Q := fun nd r => nd.quiet = true → r = (nd, [])) ?_ ?_ ?_ ?_ ?_ ?_ nd p df n
  · exact fun _ _ => rfl
  · intro i al df n h
    cases al with
    | true => cases h
    | false => cases n <;> rfl
  · intro st c r ih h; rw [ih h]; rfl
  · intro vs c r ih h; rw [ih (Bool.and_eq_true_iff.mp h).2]
  · intro st a b r ih h; rw [ih (Bool.and_eq_true_iff.mp h).1]; rfl
  · intro st a b r ih h; rw [ih (Bool.and_eq_true_iff.mp h).2]; rfl

theorem quiet_allStarted (nd : Node) (h : nd.quiet = true) : nd.allStarted = true := by
  induction nd with
  | hot i al => rfl
  | cold s st al => exact h
  | n1 st c ih => exact ih h
  | startWith vs st c ih => exact and_mono id ih h
  | n2 st a b iha ihb => exact and_mono iha ihb h

theorem allStarted_start (nd : Node) : nd.start.1.allStarted = true := by
  induction nd with
  | hot i al => rfl
  | cold s st al => cases st <;> rfl
  | n1 st c ih => exact ih
  | startWith vs st c ih => cases st <;> exact ih
  | n2 st a b iha ihb =>
    obtain ⟨tl, _, e⟩ := n2_start st a b
    rw [e]; exact Bool.and_eq_true_iff.mpr ⟨iha, ihb⟩

theorem allStarted_deliver (nd : Node) (p : Path) (df : Bool) (n : Notif)
    (h : nd.allStarted = true) : (nd.deliver p df n).1.allStarted = true := by
  revert h
  refine deliver_ind (Q := fun nd r => nd.allStarted = true → r.1.allStarted = true)
    ?_ ?_ ?_ ?_ ?_ ?_ nd p df n
  · exact fun _ h => h
  · exact fun _ _ _ _ _ => rfl
  · exact fun _ _ _ ih => ih
  · exact fun _ _ _ ih => ih
  · exact fun _ _ _ _ ih => and_mono ih id
  · exact fun _ _ _ _ ih => and_mono id ih

theorem allStarted_unsub (nd : Node) (h : nd.allStarted = true) : nd.unsub.allStarted = true := by
  induction nd with
  | hot i al => rfl
  | cold s st al => cases s <;> exact h
  | n1 st c ih => exact ih h
  | startWith vs st c ih => exact and_mono id ih h
  | n2 st a b iha ihb => exact and_mono iha ihb h

theorem allStarted_runActs (nd : Node) (acts : List Act) (h : nd.allStarted = true) :
    (nd.runActs acts).1.allStarted = true := by
  induction acts generalizing nd with
  | nil => exact h
  | cons a r ih =>
    cases a with
    | start => exact ih _ (allStarted_start nd)
    | deliver p df n => exact ih _ (allStarted_deliver nd p df n h)
    | unsub => exact ih _ (allStarted_unsub nd h)

theorem World.root_started (p : Pipe) (es : List Ext) (nd : Node)
    (h : ((World.init p).run es).1.root = some nd) : nd.allStarted = true := by
  rcases World.run_unsubscribed (World.init p) rfl es with ⟨h0, _⟩ | ⟨acts, h1, _⟩
  · rw [h0] at h; cases h
  · rw [h1] at h; cases h
    exact allStarted_runActs _ acts (allStarted_start _)

theorem closed_quiet (nd : Node) (hs : nd.allStarted = true) (hc : nd.isClosed = true) :
    nd.quiet = true := by
  induction nd with
  | hot i al => exact hc
  | cold s st al => exact hs
  | n1 st c ih => exact ih hs hc
  | startWith vs st c ih =>
    obtain ⟨h1, h2⟩ := Bool.and_eq_true_iff.mp hs
    exact Bool.and_eq_true_iff.mpr ⟨h1, ih h2 hc⟩
  | n2 st a b iha ihb =>
    obtain ⟨sa, sb⟩ := Bool.and_eq_true_iff.mp hs
    obtain ⟨ca, cb⟩ := Bool.and_eq_true_iff.mp hc
    exact Bool.and_eq_true_iff.mpr ⟨iha sa ca, ihb sb cb⟩

theorem isClosed_unsub (nd : Node) : nd.unsub.isClosed = true := by
  induction nd with
  | hot i al => rfl
  | cold s st al => cases s <;> rfl
  | n1 st c ih => exact ih
  | startWith vs st c ih => exact ih
  | n2 st a b iha ihb => exact Bool.and_eq_true_iff.mpr ⟨iha, ihb⟩

theorem isClosed_start (nd : Node) (h : nd.isClosed = true) : nd.start.1.isClosed = true := by
  induction nd with
  | hot i al => exact h
  | cold s st al =>
    cases st with
    | true => exact h
    | false =>
      cases s with
      | create sc => cases al with
        | true => cases h
        | false => rfl
      | _ => rfl
  | n1 st c ih => exact ih h
  | startWith vs st c ih => cases st <;> exact ih h
  | n2 st a b iha ihb =>
    obtain ⟨tl, _, e⟩ := n2_start st a b
    rw [e]; exact and_mono iha ihb h

theorem isClosed_deliver (nd : Node) (p : Path) (df : Bool) (n : Notif) (h : nd.isClosed = true) :
    (nd.deliver p df n).1.isClosed = true := by
  revert h
  refine deliver_ind (Q := fun nd r => nd.isClosed = true → r.1.isClosed = true)
    ?_ ?_ ?_ ?_ ?_ ?_ nd p df n
  · exact fun _ h => h
  · intro i al df n h
    cases al with
    | true => cases h
    | false => cases n <;> rfl
  · exact fun _ _ _ ih => ih
  · exact fun _ _ _ ih => ih
  · exact fun _ _ _ _ ih => and_mono ih id
  · exact fun _ _ _ _ ih => and_mono id ih

theorem isClosed_runActs (nd : Node) (acts : List Act) (h : nd.isClosed = true) :
    (nd.runActs acts).1.isClosed = true := by
  induction acts generalizing nd with
  | nil => exact h
  | cons a r ih =>
    cases a with
    | start => exact ih _ (isClosed_start nd h)
    | deliver p df n => exact ih _ (isClosed_deliver nd p df n h)
    | unsub => exact ih _ (isClosed_unsub nd)

theorem unsub_quiet (nd : Node) (h : nd.allStarted = true) : nd.unsub.quiet = true :=
  closed_quiet _ (allStarted_unsub nd h) (isClosed_unsub nd)

theorem quiet_runActs (nd : Node) (acts : List Act) (h : nd.quiet = true) :
    (nd.runActs acts).2 = [] := by
  induction acts generalizing nd with
  | nil => rfl
  | cons a r ih =>
    rw [runActs_cons]
    cases a with
    | start => show (nd.start.2 ++ (nd.start.1.runActs r).2) = []; rw [quiet_start nd h]; exact ih nd h
    | deliver p df n =>
      show ((nd.deliver p df n).2 ++ ((nd.deliver p df n).1.runActs r).2) = []
      rw [quiet_deliver nd p df n h]; exact ih nd h
    | unsub => exact ih _ (unsub_quiet nd (quiet_allStarted nd h))

end Rx
