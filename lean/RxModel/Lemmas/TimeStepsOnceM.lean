import RxModel.Lemmas.TimeStepsMulti
import RxModel.Lemmas.TimeStepsCount
/-
  delay / observe_on on threads never deliver an item more often than it was emitted (Props/C07S.lean).  The same
  token argument as Lemmas/TimeStepsOnce.lean; here an item that has passed the operator sits in the TASK scheduled
  for it (armed: `keep_running` and not yet run) until that task's body hands it to the downstream.
-/
namespace Rx.Conc.TS
open Rx

/-- the task still owes the delivery of `v` -/
def owes (v : Val) (t : Task) : Bool := t.body == .emit (.next v) && t.keep && !t.value

/-- the item `v` in the shared state: in armed tasks, and as often as it stands in the log -/
def tokM (v : Val) (s : St) : Nat := s.tasks.countP (owes v) + s.log.count (.n (.next v))

/-- the item `v` in the hands of a thread -/
def tokPM (v : Val) : Pc → Nat
  | .sj_load n | .sj_chamber n | .sj_obs n | .dl_retain n => if n = .next v then 1 else 0
  | .sj_slot x => if x = v then 1 else 0
  | _ => 0

theorem countP_updT_le (p : Task → Bool) (ts : List Task) (k : Nat) (f : Task → Task)
    (hf : ∀ t, p (f t) = true → p t = true) : (updT ts k f).countP p ≤ ts.countP p := by
  unfold updT
  cases h : ts[k]? with
  | none => exact Nat.le_refl _
  | some t =>
    simp only []
    induction ts generalizing k with
    | nil => simp at h
    | cons a r ih =>
      cases k with
      | zero =>
        simp only [List.getElem?_cons_zero, Option.some.injEq] at h
        subst h
        simp only [List.set_cons_zero, List.countP_cons]
        by_cases e : p (f a) = true
        · simp [e, hf a e]
        · have : p (f a) = false := by simpa using e
          simp only [this, Bool.false_eq_true, if_false]; split <;> omega
      | succ n =>
        simp only [List.getElem?_cons_succ] at h
        simp only [List.set_cons_succ, List.countP_cons]
        have := ih n h
        omega

theorem countP_updT_drop (p : Task → Bool) (ts : List Task) (k : Nat) (f : Task → Task) (t : Task)
    (h : ts[k]? = some t) (h1 : p t = true) (h2 : p (f t) = false) :
    (updT ts k f).countP p + 1 = ts.countP p := by
  unfold updT
  simp only [h]
  induction ts generalizing k with
  | nil => simp at h
  | cons a r ih =>
    cases k with
    | zero =>
      simp only [List.getElem?_cons_zero, Option.some.injEq] at h
      subst h
      simp only [List.set_cons_zero, List.countP_cons, h1, h2, if_true, Bool.false_eq_true, if_false]
    | succ n =>
      simp only [List.getElem?_cons_succ] at h
      simp only [List.set_cons_succ, List.countP_cons]
      have := ih n h
      omega

theorem tokM_upd_le (v : Val) (s : St) (k : Nat) (f : Task → Task)
    (hf : ∀ t, owes v (f t) = true → owes v t = true) : tokM v (s.upd k f) ≤ tokM v s := by
  unfold tokM St.upd
  have := countP_updT_le (owes v) s.tasks k f hf
  simp only []; omega

theorem tokM_spawn (v : Val) (s : St) (d : Option Nat) (b : Body) :
    tokM v (s.spawn d b).1 = tokM v s + (if b = .emit (.next v) then 1 else 0) := by
  unfold tokM St.spawn
  simp only [List.countP_append, List.countP_cons, List.countP_nil, owes]
  by_cases h : b = .emit (.next v)
  · subst h; simp; omega
  · have : (b == Body.emit (Notif.next v)) = false := by simpa using h
    simp [this, h]

theorem tokM_deliver_le (v : Val) (s : St) (n : Notif) :
    tokM v (s.deliver n) ≤ tokM v s + (if n = .next v then 1 else 0) := by
  unfold tokM
  rw [deliver_tasks]
  have := deliver_count_le s n v
  omega

@[simp] theorem tokM_setHeld (v : Val) (s : St) (i : Tid) (cells : List Cell) :
    tokM v (s.setHeld i cells) = tokM v s := rfl

@[simp] theorem tokM_fireTimer (v : Val) (s : St) (j : Nat) : tokM v (s.fireTimer j) = tokM v s := by
  rw [fireTimer_frame]; rfl

@[simp] theorem tokM_foldl_fireTimer (v : Val) (l : List Nat) (s : St) :
    tokM v (l.foldl St.fireTimer s) = tokM v s := by
  rw [foldl_fire_frame]; rfl

theorem owes_cancel (v : Val) (t : Task) : owes v (cancel t) = false := by simp [owes, cancel]
theorem owes_finished (v : Val) (t : Task) : owes v (finished t) = false := by simp [owes, finished]

theorem tokM_beginPoll_le (v : Val) (s : St) (k : Nat) : tokM v (s.beginPoll k) ≤ tokM v s := by
  unfold St.beginPoll
  exact tokM_upd_le v _ k _ (fun t h => by simpa [owes] using h)

@[simp] theorem tokPM_retPc (v : Val) (r : Ret) : tokPM v (retPc r) = 0 := by cases r <;> rfl
@[simp] theorem tokPM_uSecond (K : Conf) (v : Val) (b : Bool) : tokPM v (uSecond K b) = 0 := by
  unfold uSecond; split <;> rfl
@[simp] theorem tokPM_uAfter (v : Val) (b : Bool) : tokPM v (uAfter b) = 0 := by
  unfold uAfter; split <;> rfl

/-- delay or observe_on -/
theorem nextEntry_M {K : Conf} (hM : K.kind.isM = true) (x : Val) : nextEntry K x = .dl_retain (.next x) := by
  unfold nextEntry; cases hk : K.kind <;> simp_all [Kind.isM]

theorem tokPM_termEntry {K : Conf} (hM : K.kind.isM = true) (v : Val) (t : Notif) (ht : t.isTerm = true) :
    tokPM v (termEntry K t) = 0 := by
  unfold termEntry
  cases t <;> simp [Notif.isTerm] at ht <;> cases hk : K.kind <;> simp_all [Kind.isM, tokPM]

theorem tokM_cancel_le (v : Val) (s : St) (k : Nat) : tokM v (s.upd k cancel) ≤ tokM v s :=
  tokM_upd_le v s k cancel fun t h => by rw [owes_cancel] at h; cases h

/-- the task that owed `v` pays: the delivery appears in the log, the task owes nothing any more -/
theorem tokM_pay (v : Val) (s : St) (k : Nat) (n : Notif) (t : Task) (ht : s.tasks[k]? = some t)
    (hb : t.body = .emit n) (hk : t.keep = true) (hv : t.value = false) :
    tokM v ((s.deliver n).upd k finished) ≤ tokM v s := by
  have hd := tokM_deliver_le v s n
  by_cases e : n = .next v
  · subst e
    have ho : owes v t = true := by simp [owes, hb, hk, hv]
    have h1 : ((s.deliver (.next v)).tasks)[k]? = some t := by rw [deliver_tasks]; exact ht
    have := countP_updT_drop (owes v) (s.deliver (.next v)).tasks k finished t h1 ho (owes_finished v t)
    simp only [if_true] at hd
    have e1 : tokM v ((s.deliver (.next v)).upd k finished) =
        (updT (s.deliver (.next v)).tasks k finished).countP (owes v) +
          (s.deliver (.next v)).log.count (.n (.next v)) := rfl
    have e2 : tokM v (s.deliver (.next v)) =
        (s.deliver (.next v)).tasks.countP (owes v) + (s.deliver (.next v)).log.count (.n (.next v)) := rfl
    omega
  · have := tokM_upd_le v (s.deliver n) k finished (fun t h => by rw [owes_finished] at h; cases h)
    simp only [e, if_false] at hd
    omega

/-- **One step never multiplies an item (delay / observe_on).** -/
theorem step_tokM {K : Conf} (hM : K.kind.isM = true) (v : Val) (s : St) (p : Pc) (hok : p.okM = true)
    (hA : ∀ k n ret, p = .p_emit k n ret →
      ∃ t, s.tasks[k]? = some t ∧ t.body = .emit n ∧ t.keep = true ∧ t.value = false) :
    tokM v (step K s p).1 + tokPM v (step K s p).2 ≤ tokM v s + tokPM v p := by
  revert hok hA
  induction p using step_elim K s <;> intro hok hA
  case fire_due => rw [tokM_fireTimer]; exact Nat.le_refl _
  case run_round => exact Nat.le_of_eq (congrArg (· + 0) (tokM_foldl_fireTimer v s.dueTimers s) :)
  case p_begin_live | run_polls_live => exact tokM_beginPoll_le v s _
  case p_fin => rw [tokPM_retPc]; exact tokM_upd_le v s _ _ fun t h => by simpa [owes] using h
  case p_handle_first => exact tokM_upd_le v { s with timers := _ } _ _ fun t h => by simpa [owes] using h
  case p_handle_body => split <;> exact Nat.le_refl _
  case u_end => simp [tokM, tokPM]
  case sj_obs_next x => split <;> simp only [tokPM, Notif.next.injEq] <;> first | exact Nat.le_refl _ | exact Nat.le_add_right _ _
  case sj_slot x => rw [nextEntry_M hM]; split <;> simp only [tokPM, Notif.next.injEq] <;> first | exact Nat.le_refl _ | exact Nat.le_add_right _ _
  case sj_tslot_open t _ =>
    have : tokPM v (termEntry K t) = 0 := by
      cases t
      · rfl
      · exact tokPM_termEntry hM v _ rfl
      · exact tokPM_termEntry hM v _ rfl
    rw [this]; exact Nat.le_refl _
  case dl_retain n => rw [tokM_spawn]; simp only [tokPM, Body.emit.injEq]; exact Nat.le_refl _
  case p_emit k n ret =>
    obtain ⟨t, ht, hb, hk, hv⟩ := hA k n ret rfl
    exact tokM_pay v s k n t ht hb hk hv
  case te_down e => have := tokM_deliver_le v s (.error e); split <;> simpa [tokPM] using this
  case dl_late => exact tokM_cancel_le v s _
  case u_mc_last | u_mc_more => first | exact tokM_cancel_le v s _ | (rw [tokPM_uAfter]; exact tokM_cancel_le v s _)
  all_goals
    first
    | (cases hok; done)
    | exact Nat.le_refl _
    | exact Nat.le_add_right _ _
    | (simp only [tokPM_uAfter]; exact Nat.le_refl _)
    | (split <;> first | exact Nat.le_refl _ | exact Nat.le_add_right _ _ |
        (simp only [tokPM_uSecond, tokPM_uAfter]; exact Nat.le_refl _))

/-! ### the task a poller is about to run carries the notification it was scheduled for -/

structure BInv (s : St) (f : Nat → Pc) : Prop where
  pe : ∀ j k n ret, f j = .p_emit k n ret → ∃ t, s.tasks[k]? = some t ∧ t.body = .emit n

theorem task_body_some (s : St) (k : Nat) (n : Notif) (h : (s.task k).body = .emit n) :
    ∃ t, s.tasks[k]? = some t ∧ t.body = .emit n := by
  rw [task_eq] at h
  cases e : s.tasks[k]? with
  | none => rw [e] at h; cases h
  | some t => rw [e] at h; exact ⟨t, rfl, h⟩

theorem step_to_p_emit (K : Conf) (s : St) (p : Pc) (k : Nat) (n : Notif) (ret : Ret)
    (h : (step K s p).2 = .p_emit k n ret) :
    (step K s p).1 = s ∧ (s.task k).body = .emit n := by
  revert h
  induction p using step_elim K s
  case p_handle_body =>
    intro h
    simp only at h
    split at h
    · cases h
    · next e => cases h; exact ⟨rfl, e⟩
  all_goals
    intro h
    first
    | cases h
    | (simp only [nextEntry, termEntry, afterTrail, thOver, uSecond, uAfter, retPc] at h; (repeat' split at h) <;> cases h)

theorem BInv.preserved (K : Conf) {s : St} {f : Nat → Pc} (h : BInv s f) (i : Nat) (q : Pc)
    (ha : After (step K s (f i)).2 q) :
    BInv ((step K s (f i)).1.setHeld i q.holds) (fun j => if j = i then q else f j) := by
  refine ⟨?_⟩
  intro j k n ret hq
  show ∃ t, (step K s (f i)).1.tasks[k]? = some t ∧ t.body = .emit n
  by_cases hj : j = i
  · simp only [hj, if_true] at hq
    rcases ha with e | ⟨_, e⟩
    · rw [e] at hq
      obtain ⟨e1, e2⟩ := step_to_p_emit K s (f i) k n ret hq
      rw [e1]; exact task_body_some s k n e2
    · rw [hq] at e; cases e
  · simp only [hj, if_false] at hq
    obtain ⟨t, ht, hb⟩ := h.pe j k n ret hq
    obtain ⟨t', ht', hkept⟩ := ev_old K s (f i) k t ht
    exact ⟨t', ht', hkept.body.trans hb⟩

theorem BInv.init (s : St) (progs : List (List Op)) : BInv s (Cfg.init s progs).pcOf := by
  refine ⟨?_⟩
  intro j k n ret hq
  rcases init_pcOf s progs j with e | e
  · rw [e] at hq; cases hq
  · rw [hq] at e; cases e

/-! ### counting over the threads -/

def PhiM (v : Val) (c : Cfg) : Nat := Count (tokM v) (tokPM v) v c

theorem tokPM_entry (v : Val) (op : Op) : tokPM v op.entry = if op = .emit (.next v) then 1 else 0 := by
  cases op <;> simp [Op.entry, tokPM]

/-- delay / observe_on, the order of the code: along every schedule the places an item is in never become more. -/
theorem PhiM_exec {K : Conf} (hK : MConf K) (v : Val) (live : Bool) (progs : List (List Op)) (sched : List Nat) :
    PhiM v (exec K (Cfg.init (St.subscribed live) progs) sched) ≤ (progs.map (pend v)).sum := by
  refine (exec_induction K
    (fun c => (MInv c.st c.pcOf ∧ BInv c.st c.pcOf) ∧ PhiM v c ≤ (progs.map (pend v)).sum)
    (fun c i h => ⟨?_, Nat.le_trans ?_ h.2⟩) sched _ ⟨⟨MInv.init live progs, BInv.init _ progs⟩, ?_⟩).2
  · exact view_step K (fun s f => MInv s f ∧ BInv s f)
      (fun _ _ i q h he ha => ⟨h.1.preserved hK i q he ha, h.2.preserved K i q ha⟩) c i h.1
  · refine count_sched1 rfl (tokPM_entry v) (fun _ _ _ => rfl) K c i
      (step_tokM hK.kind v c.st _ (h.1.1.dd.ok i) fun k n ret e => ?_)
    -- the task a poller is about to run is armed and carries the notification it was scheduled for
    have ha := h.1.1.dd.as i
    rw [e] at ha
    obtain ⟨t1, ht1, hk, hv⟩ := (armed_iff _ _).mp ha
    obtain ⟨t2, ht2, hb2⟩ := h.1.2.pe i k n ret e
    cases ht1.symm.trans ht2
    exact ⟨t1, ht1, hb2, hk, hv⟩
  · exact Nat.le_of_eq (count_init rfl (tokPM_entry v) _ rfl progs)

end Rx.Conc.TS
