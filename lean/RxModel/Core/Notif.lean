/-
  Core data of the rxRust model: values, notifications, well-formed streams.
  Core Lean only (no Mathlib): everything here is linked into `rxdriver`.
-/
namespace Rx

/-- Items carried by streams.  Collections are cons-lists so that `DecidableEq`
    can be derived; `obs k` names the k-th inner observable of a case. -/
inductive Val where
  | int (i : Int)
  | bool (b : Bool)
  | unit
  | pair (a b : Val)
  | nil
  | cons (h t : Val)
  | none
  | some (v : Val)
  | obs (k : Nat)
  deriving DecidableEq, Repr, Inhabited

abbrev Err := Int

/-- One call on an observer: `next v`, `error e`, `complete`. -/
inductive Notif where
  | next (v : Val)
  | error (e : Err)
  | complete
  deriving DecidableEq, Repr, Inhabited

namespace Notif
def isTerm : Notif → Bool
  | .next _ => false
  | _ => true

def isNext : Notif → Bool
  | .next _ => true
  | _ => false
end Notif

/-- Encode a Lean list as a `Val` cons-list (what `Vec<Item>` becomes). -/
def Val.ofList : List Val → Val
  | [] => .nil
  | x :: xs => .cons x (Val.ofList xs)

/-- Items of a notification sequence. -/
def items : List Notif → List Val
  | [] => []
  | .next v :: r => v :: items r
  | _ :: r => items r

/-- Well-formed stream: items, then at most one terminal, then nothing. -/
def WF : List Notif → Prop
  | [] => True
  | .next _ :: r => WF r
  | _ :: r => r = []

def decWF : (s : List Notif) → Decidable (WF s)
  | [] => isTrue trivial
  | .next _ :: r => decWF r
  | .error _ :: r => (inferInstance : Decidable (r = []))
  | .complete :: r => (inferInstance : Decidable (r = []))

instance : DecidablePred WF := decWF

/-- A stream that has seen its terminal. -/
def terminated : List Notif → Bool
  | [] => false
  | .next _ :: r => terminated r
  | _ :: _ => true

/-- What an `Option` slot lets through: everything up to and including the first
    terminal. -/
def gate : List Notif → List Notif
  | [] => []
  | .next v :: r => .next v :: gate r
  | t :: _ => [t]

/-- Canonical well-formed stream: items then an optional terminal. -/
def mk (xs : List Val) (t : Option Notif) : List Notif :=
  xs.map Notif.next ++ (match t with | some n => [n] | none => [])

/-- The terminal part of a canonical stream. -/
def termL : Option Notif → List Notif
  | some n => [n]
  | none => []

theorem mk_eq (xs : List Val) (t : Option Notif) : mk xs t = xs.map Notif.next ++ termL t := by
  cases t <;> rfl

theorem valid_cases {t : Option Notif} (h : ∀ n, t = some n → n.isTerm = true) :
    t = none ∨ t = some .complete ∨ ∃ e, t = some (.error e) := by
  cases t with
  | none => exact Or.inl rfl
  | some n =>
    cases n with
    | next v => simp [Notif.isTerm] at h
    | error e => exact Or.inr (Or.inr ⟨e, rfl⟩)
    | complete => exact Or.inr (Or.inl rfl)

@[simp] theorem WF_nil : WF [] := trivial
@[simp] theorem WF_next_cons (v : Val) (r : List Notif) : WF (.next v :: r) ↔ WF r := Iff.rfl
@[simp] theorem WF_error_cons (e : Err) (r : List Notif) : WF (.error e :: r) ↔ r = [] := Iff.rfl
@[simp] theorem WF_complete_cons (r : List Notif) : WF (.complete :: r) ↔ r = [] := Iff.rfl

theorem WF_single (n : Notif) : WF [n] := by cases n <;> simp

theorem WF_gate (s : List Notif) : WF (gate s) := by
  induction s with
  | nil => simp [gate]
  | cons n r ih => cases n <;> simp [gate, ih]

theorem gate_of_WF {s : List Notif} (h : WF s) : gate s = s := by
  induction s with
  | nil => rfl
  | cons n r ih => cases n <;> simp_all [gate]

theorem WF_nexts (xs : List Val) : WF (xs.map Notif.next) := by
  induction xs with
  | nil => simp
  | cons x xs ih => simpa using ih

theorem WF_nexts_append (xs : List Val) (s : List Notif) :
    WF (xs.map Notif.next ++ s) ↔ WF s := by
  induction xs with
  | nil => simp
  | cons x xs ih => simpa using ih

theorem WF_append {a b : List Notif} (ha : WF a) (hna : terminated a = false) (hb : WF b) :
    WF (a ++ b) := by
  induction a with
  | nil => simpa using hb
  | cons n r ih => cases n <;> simp_all [terminated]

theorem terminated_append (a b : List Notif) :
    terminated (a ++ b) = (terminated a || terminated b) := by
  induction a with
  | nil => simp [terminated]
  | cons n r ih => cases n <;> simp [terminated, ih]

theorem WF_append_iff (a b : List Notif) :
    WF (a ++ b) ↔ WF a ∧ (terminated a = true → b = []) ∧ WF b := by
  induction a with
  | nil => simp [terminated]
  | cons n r ih =>
    cases n
    case next v => simpa [terminated] using ih
    -- a terminal at the head: both sides say that nothing follows it
    all_goals
      simp only [List.cons_append, WF_error_cons, WF_complete_cons, List.append_eq_nil_iff, terminated]
      constructor
      · rintro ⟨rfl, rfl⟩; simp
      · rintro ⟨rfl, h, _⟩; simp [h]

theorem WF_mk (xs : List Val) (t : Option Notif) (ht : ∀ n, t = some n → n.isTerm = true) :
    WF (mk xs t) := by
  unfold mk
  rw [WF_nexts_append]
  cases t with
  | none => simp
  | some n => exact WF_single n

/-- Every well-formed stream is canonical. -/
theorem WF_iff_mk (s : List Notif) :
    WF s ↔ ∃ xs t, (∀ n, t = some n → n.isTerm = true) ∧ s = mk xs t := by
  constructor
  · intro h
    induction s with
    | nil => exact ⟨[], none, by simp, rfl⟩
    | cons n r ih =>
      cases n with
      | next v =>
        obtain ⟨xs, t, ht, rfl⟩ := ih h
        exact ⟨v :: xs, t, ht, by simp [mk]⟩
      | error e =>
        simp at h; subst h
        exact ⟨[], some (.error e), by simp [Notif.isTerm], by simp [mk]⟩
      | complete =>
        simp at h; subst h
        exact ⟨[], some .complete, by simp [Notif.isTerm], by simp [mk]⟩
  · rintro ⟨xs, t, ht, rfl⟩
    exact WF_mk xs t ht

theorem items_append (a b : List Notif) : items (a ++ b) = items a ++ items b := by
  induction a with
  | nil => rfl
  | cons n r ih => cases n <;> simp [items, ih]

@[simp] theorem items_nexts (xs : List Val) : items (xs.map Notif.next) = xs := by
  induction xs with
  | nil => rfl
  | cons x xs ih => simp [items, ih]

@[simp] theorem terminated_nexts (xs : List Val) : terminated (xs.map Notif.next) = false := by
  induction xs with
  | nil => rfl
  | cons x xs ih => simp [terminated, ih]

end Rx
