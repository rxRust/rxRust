import RxModel.Core.Notif
/-
  C14 — conversions and completion status (sequential part).

  Transcription of
    src/ops/future.rs           ObservableFuture / ObservableFutureObserver
    src/ops/stream.rs           ObservableStream / ObservableStreamObserver
    src/ops/collect.rs          CollectObserver (in front of a to_future observer)
    src/ops/complete_status.rs  CompleteStatus / StatusObserver / StatusFuture
  plus the part of futures-channel 0.3 `mpsc::unbounded` they rely on
  (single sender, one thread) and the hot `Subject` source that holds the
  observer in a `Subscriber` slot (src/subject.rs, src/subscriber.rs).

  `Model.code` is the code as it is in /repo; `Model.fixed` the repaired code
  (to_future: `error` sends like `complete`; to_stream: a drained, closed
  channel ends the stream).  The two differ in exactly the two places marked
  FIX below; everything else is shared.  `namespace Fixed` (end of file) names
  the repaired instances.
-/
namespace Rx.Conv

/-- Which transcription runs: the code as it is, or the repaired code. -/
inductive Model where
  | code
  | fixed
  deriving DecidableEq, Repr, Inhabited

/-- Generic "run a step function over a list of events". -/
def runM {σ ε ω : Type} (step : σ → ε → σ × ω) : σ → List ε → σ × List ω
  | s, [] => (s, [])
  | s, e :: r =>
    let (s1, o) := step s e
    let (s2, os) := runM step s1 r
    (s2, o :: os)

theorem runM_append {σ ε ω : Type} (step : σ → ε → σ × ω) (s : σ) (a b : List ε) :
    runM step s (a ++ b) =
      ((runM step (runM step s a).1 b).1, (runM step s a).2 ++ (runM step (runM step s a).1 b).2) := by
  induction a generalizing s with
  | nil => simp [runM]
  | cons e r ih => simp [runM, ih]

/-! ## futures::channel::mpsc::unbounded, one sender, seen from one thread -/

/-- `UnboundedInner` + the receiver's `inner: Option<Arc<..>>`. -/
structure Chan (α : Type) where
  queue : List α := []
  /-- `state.is_open` -/
  isOpen : Bool := true
  /-- `UnboundedReceiver.inner.is_some()` -/
  rxInner : Bool := true
  /-- `recv_task` (AtomicWaker) holds a registered waker -/
  parked : Bool := false
  /-- ghost: how often the registered waker has been woken -/
  wakes : Nat := 0
  /-- ghost: an `unbounded_send` returned `Err` (the observers `.expect` it: panic) -/
  sendFailed : Bool := false
  deriving Repr

namespace Chan
variable {α : Type}

/-- `AtomicWaker::wake`: takes the waker, if any, and wakes it. -/
def wake (c : Chan α) : Chan α :=
  if c.parked then { c with parked := false, wakes := c.wakes + 1 } else c

/-- `UnboundedSender::unbounded_send`: `inc_num_messages` fails when `!is_open`;
    else push and `recv_task.wake()`. -/
def send (c : Chan α) (m : α) : Chan α :=
  if c.isOpen then ({ c with queue := c.queue ++ [m] }).wake else { c with sendFailed := true }

/-- `let _ = sender.unbounded_send(m)`: the terminal paths of the observers ignore a receiver that
    is gone (after `fix: a dropped future/stream cannot make a terminal panic`). -/
def trySend (c : Chan α) (m : α) : Chan α :=
  if c.isOpen then ({ c with queue := c.queue ++ [m] }).wake else c

/-- `close_channel()`, and also the drop of the last sender: `set_closed`, wake. -/
def closeTx (c : Chan α) : Chan α := ({ c with isOpen := false }).wake

/-- `UnboundedReceiver::close`. -/
def closeRx (c : Chan α) : Chan α := if c.rxInner then { c with isOpen := false } else c

/-- `UnboundedReceiver::next_message`; `none` = `Poll::Pending`. -/
def nextMessage (c : Chan α) : Chan α × Option (Option α) :=
  if c.rxInner then
    match c.queue with
    | m :: q => ({ c with queue := q }, some (some m))
    | [] => if c.isOpen then (c, none) else ({ c with rxInner := false }, some none)
  else (c, some none)

/-- `Stream::poll_next` of the receiver (what `receiver.next().poll_unpin(cx)` runs). -/
def pollNext (c : Chan α) : Chan α × Option (Option α) :=
  match c.nextMessage with
  | (c1, some (some m)) => (c1, some (some m))
  | (c1, some none) => ({ c1 with rxInner := false }, some none)
  | (c1, none) => ({ c1 with parked := true } : Chan α).nextMessage

/-! ### equations of the channel -/

@[simp] theorem wake_queue (c : Chan α) : c.wake.queue = c.queue := by unfold wake; split <;> rfl
@[simp] theorem wake_isOpen (c : Chan α) : c.wake.isOpen = c.isOpen := by unfold wake; split <;> rfl
@[simp] theorem wake_rxInner (c : Chan α) : c.wake.rxInner = c.rxInner := by unfold wake; split <;> rfl

/-- `poll_next` on a live receiver with a message waiting. -/
theorem pollNext_cons (c : Chan α) (m : α) (q : List α) (h1 : c.rxInner = true) (h2 : c.queue = m :: q) :
    c.pollNext = ({ c with queue := q }, some (some m)) := by
  simp [pollNext, nextMessage, h1, h2]

/-- … with nothing waiting on an open channel: the waker is registered. -/
theorem pollNext_pending (c : Chan α) (h1 : c.rxInner = true) (h2 : c.queue = []) (h3 : c.isOpen = true) :
    c.pollNext = ({ c with parked := true }, none) := by
  simp [pollNext, nextMessage, h1, h2, h3]

/-- … drained and closed, or released already: the receiver is released. -/
theorem pollNext_closed (c : Chan α) (h2 : c.queue = []) (h3 : c.isOpen = false) :
    c.pollNext = ({ c with rxInner := false }, some none) := by
  cases h1 : c.rxInner <;> simp [pollNext, nextMessage, h1, h2, h3]

end Chan

/-- External events of suite `convert`. -/
inductive Ev where
  | emit (n : Notif)     -- the hot source subject is called
  | poll                 -- the future / stream is polled once
  | qStatus              -- CompleteStatus::{is_closed,is_completed,error_occur}
  deriving DecidableEq, Repr, Inhabited

/-! ## to_future -/

/-- `Message<T,E> = Result<Result<T,E>, ObservableError>`. -/
inductive FMsg where
  | ok (v : Val)          -- Ok(Ok v)
  | err (e : Err)         -- Ok(Err e)
  | empty                 -- Err(ObservableError::Empty)
  | multiple              -- Err(ObservableError::MultipleValues)
  deriving DecidableEq, Repr, Inhabited

/-- `send_observable_value`: record the first value, or `MultipleValues`. -/
def sendObservableValue (last : Option FMsg) (x : FMsg) : Option FMsg :=
  match last with
  | some _ => some .multiple
  | none => some x

/-- `ObservableFutureObserver::complete` (then `self` is dropped: the sender's drop closes again). -/
def futComplete (last : Option FMsg) (c : Chan FMsg) : Chan FMsg :=
  ((c.trySend (last.getD .empty)).closeTx).closeTx

/-- `ObservableFutureObserver::error`.  Code: records, sends nothing, `self` is dropped
    (the drop of the only sender closes the channel).  FIX: then resolve as `complete` does. -/
def futError (m : Model) (last : Option FMsg) (e : Err) (c : Chan FMsg) : Chan FMsg :=
  match m with
  | .code => c.closeTx
  | .fixed => futComplete (sendObservableValue last (.err e)) c

/-- What one event prints for the future kinds. -/
inductive FOut where
  | woke (k : Nat)             -- emit: how often the waker was woken during the event
  | pending
  | ready (r : FMsg)
  | na                         -- event not applicable to this kind
  deriving DecidableEq, Repr, Inhabited

/-- `ObservableFuture::poll`. -/
def futPoll (c : Chan FMsg) : Chan FMsg × FOut :=
  match c.pollNext with
  | (c1, some (some msg)) => (c1, .ready msg)
  | (c1, some none) => (c1, .pending)        -- `None => Poll::Pending`
  | (c1, none) => (c1, .pending)             -- `ready!`

/-- hot `Subject` → `Subscriber` slot → `ObservableFutureObserver` → channel → `ObservableFuture`. -/
structure FutW where
  /-- the source subject's `observers` is `Some` -/
  srcOpen : Bool := true
  /-- the `Subscriber` slot: `Some(observer)` with the observer's `last_value` -/
  obs : Option (Option FMsg) := some none
  chan : Chan FMsg := {}
  deriving Repr

namespace FutW

/-- The source subject is called with `n`. -/
def emit (m : Model) (w : FutW) : Notif → FutW
  | .next v =>
    if w.srcOpen then
      match w.obs with
      | some last => { w with obs := some (sendObservableValue last (.ok v)) }
      | none => w
    else w
  | .error e =>
    if w.srcOpen then
      match w.obs with
      | some last =>
        -- every entry of the subject is handed the terminal, also one whose `is_finished()`
        -- (= `sender.is_closed()`) is true: no `p_is_closed()` filter since `fix: Subject::error/
        -- complete hand the terminal to every subscriber`
        { srcOpen := false, obs := none, chan := futError m last e w.chan }
      | none => { w with srcOpen := false }
    else w
  | .complete =>
    if w.srcOpen then
      match w.obs with
      | some last => { srcOpen := false, obs := none, chan := futComplete last w.chan }
      | none => { w with srcOpen := false }
    else w

def step (m : Model) (w : FutW) : Ev → FutW × FOut
  | .emit n =>
    let w' := w.emit m n
    (w', .woke (w'.chan.wakes - w.chan.wakes))
  | .poll =>
    let (c, o) := futPoll w.chan
    ({ w with chan := c }, o)
  | .qStatus => (w, .na)

def run (m : Model) : FutW → List Ev → FutW × List FOut := runM (step m)

end FutW

/-! ## collect → to_future -/

/-- hot `Subject` → slot → `CollectObserver{collection, observer = ObservableFutureObserver}`.
    Items are `Vec<Val>`, printed as a `Val` list. -/
structure CFW where
  srcOpen : Bool := true
  /-- slot: `Some((collection, last_value))` -/
  obs : Option (List Val × Option FMsg) := some ([], none)
  chan : Chan FMsg := {}
  deriving Repr

namespace CFW

def emit (m : Model) (w : CFW) : Notif → CFW
  | .next v =>
    if w.srcOpen then
      match w.obs with
      | some (coll, last) => { w with obs := some (coll ++ [v], last) }   -- `collection.extend(Some(value))`
      | none => w
    else w
  | .error e =>
    if w.srcOpen then
      match w.obs with
      | some (_, last) => { srcOpen := false, obs := none, chan := futError m last e w.chan }
      | none => { w with srcOpen := false }
    else w
  | .complete =>
    if w.srcOpen then
      match w.obs with
      | some (coll, last) =>
        -- `observer.next(collection); observer.complete()`
        { srcOpen := false, obs := none,
          chan := futComplete (sendObservableValue last (.ok (Val.ofList coll))) w.chan }
      | none => { w with srcOpen := false }
    else w

def step (m : Model) (w : CFW) : Ev → CFW × FOut
  | .emit n =>
    let w' := w.emit m n
    (w', .woke (w'.chan.wakes - w.chan.wakes))
  | .poll =>
    let (c, o) := futPoll w.chan
    ({ w with chan := c }, o)
  | .qStatus => (w, .na)

def run (m : Model) : CFW → List Ev → CFW × List FOut := runM (step m)

end CFW

/-! ## to_stream -/

/-- `Result<T,E>` item of the stream. -/
inductive SItem where
  | ok (v : Val)
  | err (e : Err)
  deriving DecidableEq, Repr, Inhabited

/-- `enum Message { Item(Result<T,E>), Complete }`. -/
inductive SMsg where
  | item (x : SItem)
  | complete
  deriving DecidableEq, Repr, Inhabited

inductive SOut where
  | woke (k : Nat)
  | pending
  | yield (x : Option SItem)     -- `Ready(Some x)` / `Ready(None)`
  | na
  deriving DecidableEq, Repr, Inhabited

/-- `ObservableStream::poll_next`.  FIX: a drained closed channel ends the stream. -/
def strPoll (m : Model) (c : Chan SMsg) : Chan SMsg × SOut :=
  match c.pollNext with
  | (c1, some (some (.item x))) => (c1, .yield (some x))
  | (c1, some (some .complete)) => (c1.closeRx, .yield none)
  | (c1, some none) => (c1, match m with | .code => .pending | .fixed => .yield none)
  | (c1, none) => (c1, .pending)

structure StrW where
  srcOpen : Bool := true
  /-- the `Subscriber` slot holds the observer (whose only field is the sender) -/
  obs : Bool := true
  chan : Chan SMsg := {}
  deriving Repr

namespace StrW

def emit (w : StrW) : Notif → StrW
  | .next v =>
    if w.srcOpen && w.obs then { w with chan := w.chan.send (.item (.ok v)) } else w
  | .error e =>
    if w.srcOpen then
      if w.obs then
        -- `let _ = unbounded_send(Item(Err(e)))`, then the observer (its sender) is dropped
        { srcOpen := false, obs := false, chan := (w.chan.trySend (.item (.err e))).closeTx }
      else { w with srcOpen := false }
    else w
  | .complete =>
    if w.srcOpen then
      if w.obs then
        { srcOpen := false, obs := false, chan := (w.chan.trySend .complete).closeTx }
      else { w with srcOpen := false }
    else w

def step (m : Model) (w : StrW) : Ev → StrW × SOut
  | .emit n =>
    let w' := w.emit n
    (w', .woke (w'.chan.wakes - w.chan.wakes))
  | .poll =>
    let (c, o) := strPoll m w.chan
    ({ w with chan := c }, o)
  | .qStatus => (w, .na)

def run (m : Model) : StrW → List Ev → StrW × List SOut := runM (step m)

end StrW

/-! ## complete_status -/

inductive StOut where
  | out (ns : List Notif)                         -- what the downstream probe received
  | pending
  | ready
  | status (closed completed error : Bool)
  deriving DecidableEq, Repr, Inhabited

/-- hot `Subject` → slot → `StatusObserver{observer = probe, status}`; `StatusFuture(status)`. -/
structure StatW where
  srcOpen : Bool := true
  obs : Bool := true
  /-- `CompleteStatus.flag`: 0 running, 1 completed, -1 error -/
  flag : Int := 0
  /-- `CompleteStatus.waker` holds a registered waker -/
  parked : Bool := false
  wakes : Nat := 0
  deriving Repr, DecidableEq

namespace StatW

def wake (w : StatW) : StatW :=
  if w.parked then { w with parked := false, wakes := w.wakes + 1 } else w

@[simp] theorem wake_srcOpen (w : StatW) : w.wake.srcOpen = w.srcOpen := by unfold wake; split <;> rfl
@[simp] theorem wake_obs (w : StatW) : w.wake.obs = w.obs := by unfold wake; split <;> rfl
@[simp] theorem wake_flag (w : StatW) : w.wake.flag = w.flag := by unfold wake; split <;> rfl

def emit (w : StatW) : Notif → StatW × List Notif
  | .next v => if w.srcOpen && w.obs then (w, [.next v]) else (w, [])
  | .error e =>
    if w.srcOpen then
      if w.obs then
        -- `observer.error(err); flag.store(-1); waker.wake()`
        (({ w with srcOpen := false, obs := false, flag := -1 } : StatW).wake, [.error e])
      else ({ w with srcOpen := false }, [])
    else (w, [])
  | .complete =>
    if w.srcOpen then
      if w.obs then
        (({ w with srcOpen := false, obs := false, flag := 1 } : StatW).wake, [.complete])
      else ({ w with srcOpen := false }, [])
    else (w, [])

def isClosed (w : StatW) : Bool := w.flag != 0
def isCompleted (w : StatW) : Bool := decide (w.flag > 0)
def errorOccur (w : StatW) : Bool := decide (w.flag < 0)

def step (w : StatW) : Ev → StatW × StOut
  | .emit n =>
    let (w', o) := w.emit n
    (w', .out o)
  | .poll =>
    -- `StatusFuture::poll`
    if w.isClosed then (w, .ready) else ({ w with parked := true }, .pending)
  | .qStatus => (w, .status w.isClosed w.isCompleted w.errorOccur)

def run : StatW → List Ev → StatW × List StOut := runM step

end StatW

/-! ## The repaired code -/
namespace Fixed
def futRun := FutW.run .fixed
def cfRun := CFW.run .fixed
def strRun := StrW.run .fixed
end Fixed

-- The code as it is in /repo.
namespace Code
def futRun := FutW.run .code
def cfRun := CFW.run .code
def strRun := StrW.run .code
end Code

end Rx.Conv
