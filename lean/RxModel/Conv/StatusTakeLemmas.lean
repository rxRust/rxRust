import RxModel.Conv.StatusTake
/-
  The `complete_status` + cutter world (RxModel/Conv/StatusTake.lean): when each cutter has
  finished by itself, the invariant `TInv` that ties the world to the source's own history, and
  what a terminal does to a parked waiter.
-/
namespace Rx.Conv
open Ref

/-! ## the cutter -/

/-- Induction from the right end of a list. -/
theorem list_snoc_induction {α : Type} {P : List α → Prop} (h0 : P [])
    (hs : ∀ xs x, P xs → P (xs ++ [x])) : ∀ xs, P xs := by
  intro xs
  have h : ∀ ys : List α, P ys.reverse := by
    intro ys
    induction ys with
    | nil => simpa using h0
    | cons y r ih => simpa using hs _ y ih
  simpa using h xs.reverse

theorem Cutter.after_snoc (c : Cutter) (xs : List Val) (v : Val) :
    c.after (xs ++ [v]) = (c.next (c.after xs) v).1 := by
  simp [Cutter.after, List.foldl_append]

theorem Cutter.doneOn_id (xs : List Val) : Cutter.id.doneOn xs = false := rfl

/-- One more item: with `k` items so far `hits = min k n`, and the observer is gone iff `n ≥ 1`
    and `k ≥ n`; three regimes (`k + 1 < n`, the completing item `k + 1 = n`, `n ≤ k`). -/
theorem Cutter.take_next (n k : Nat) (v : Val) :
    ((Cutter.take n).next { live := !(decide (0 < n) && decide (n ≤ k)), hits := min k n } v).1 =
      { live := !(decide (0 < n) && decide (n ≤ k + 1)), hits := min (k + 1) n } := by
  rcases Nat.lt_trichotomy (k + 1) n with h | h | h
  · have c1 : k < n := Nat.lt_of_succ_lt h
    simp [Cutter.next, Nat.min_eq_left (Nat.le_of_lt c1), Nat.min_eq_left (Nat.le_of_lt h),
      Nat.not_le.2 c1, Nat.not_le.2 h, c1, Nat.ne_of_lt h]
  · subst h
    simp [Cutter.next, Nat.min_eq_left (Nat.le_succ k)]
  · have hle : n ≤ k := Nat.le_of_lt_succ h
    simp [Cutter.next, Nat.min_eq_right hle, Nat.min_eq_right (Nat.le_succ_of_le hle), hle,
      Nat.le_succ_of_le hle]

/-- State of `take n` after `xs`: `hits = min |xs| n`, and the observer is gone iff `n ≥ 1` items came. -/
theorem Cutter.after_take (n : Nat) (xs : List Val) :
    (Cutter.take n).after xs =
      { live := !(decide (0 < n) && decide (n ≤ xs.length)), hits := min xs.length n } := by
  induction xs using list_snoc_induction with
  | h0 => cases n <;> simp [Cutter.after]
  | hs xs v ih => rw [Cutter.after_snoc, ih, Cutter.take_next, List.length_append]; rfl

/-- `take n` has finished the downstream by itself iff `n ≥ 1` and at least `n` items have arrived. -/
theorem Cutter.doneOn_take (n : Nat) (xs : List Val) :
    (Cutter.take n).doneOn xs = (decide (0 < n) && decide (n ≤ xs.length)) := by
  simp [Cutter.doneOn, Cutter.after_take, Cutter.isFinished]

/-- `take 0` never finishes by itself. -/
theorem Cutter.doneOn_take_zero (xs : List Val) : (Cutter.take 0).doneOn xs = false := by
  simp [Cutter.doneOn_take]

theorem Cutter.after_takeWhile (p : Val → Bool) (incl : Bool) (xs : List Val) :
    (Cutter.takeWhile p incl).after xs = { live := xs.all p, hits := 0 } := by
  induction xs using list_snoc_induction with
  | h0 => simp [Cutter.after]
  | hs xs v ih =>
    rw [Cutter.after_snoc, ih]
    simp only [Cutter.next]
    cases hall : xs.all p <;> cases hp : p v <;> simp [List.all_append, hall, hp]

/-- `take_while p` has finished the downstream iff some item failed `p`. -/
theorem Cutter.doneOn_takeWhile (p : Val → Bool) (incl : Bool) (xs : List Val) :
    (Cutter.takeWhile p incl).doneOn xs = !xs.all p := by
  simp [Cutter.doneOn, Cutter.after_takeWhile, Cutter.isFinished]

/-! ## frame lemmas -/
namespace StatTW

@[simp] theorem wake_flag (w : StatTW) : w.wake.flag = w.flag := by unfold wake; split <;> rfl
@[simp] theorem wake_srcOpen (w : StatTW) : w.wake.srcOpen = w.srcOpen := by unfold wake; split <;> rfl
@[simp] theorem wake_slot (w : StatTW) : w.wake.slot = w.slot := by unfold wake; split <;> rfl
@[simp] theorem wake_subscribed (w : StatTW) : w.wake.subscribed = w.subscribed := by
  unfold wake; split <;> rfl
@[simp] theorem wake_cut (w : StatTW) : w.wake.cut = w.cut := by unfold wake; split <;> rfl

theorem wake_parked (w : StatTW) (h : w.parked = true) :
    w.wake.wakes = w.wakes + 1 ∧ w.wake.parked = false := by
  unfold wake; simp [h]

theorem flagOf_eq (t : Notif) : flagOf t = statFlag (some t) := by cases t <;> rfl

/-- The pull loop of `from_iter` touches nothing but the cutter. -/
theorem iterLoop_frame (c : Cutter) (vs : List Val) : ∀ w : StatTW,
    (iterLoop c w vs).1.flag = w.flag ∧ (iterLoop c w vs).1.parked = w.parked ∧
    (iterLoop c w vs).1.wakes = w.wakes ∧ (iterLoop c w vs).1.slot = w.slot ∧
    (iterLoop c w vs).1.srcOpen = w.srcOpen ∧ (iterLoop c w vs).1.subscribed = w.subscribed := by
  induction vs with
  | nil => intro w; simp [iterLoop]
  | cons v r ih =>
    intro w
    unfold iterLoop
    by_cases hf : soFinished c w = true
    · simp [hf]
    · simp only [hf]
      have := ih (soNext c w v).1
      simpa [soNext] using this

end StatTW

/-! ## the invariant -/

/-- World ↔ source history. -/
def TInv (src : TSrc) (c : Cutter) (w : StatTW) (h : Hist) : Prop :=
  match h.term with
  | none =>
    w.cut = c.after h.items ∧ w.slot = true ∧ w.srcOpen = true ∧ w.flag = 0 ∧ w.subscribed = false
  | some _ =>
    w.flag = statFlag h.term ∧ (src = .hot → w.srcOpen = false) ∧ (src = .create → w.slot = false) ∧
      (∀ k, src = .iter k → w.subscribed = true)

theorem TInv_init (src : TSrc) (c : Cutter) : TInv src c {} {} := by
  simp [TInv, Cutter.after]

theorem tinv_step (src : TSrc) (c : Cutter) (w : StatTW) (h : Hist) (e : TEv) (hi : TInv src c w h) :
    TInv src c (StatTW.step src c w e).1 (tpush src h e) := by
  have hR := hi
  obtain ⟨so, sl, sb, ct, fl, pk, wk⟩ := w
  obtain ⟨xs, t⟩ := h
  cases t with
  | some t =>
    -- the source has terminated: its gate (`srcOpen`, `slot`, `subscribed`) is shut, nothing moves
    simp only [TInv] at hi
    obtain ⟨h1, h2, h3, h4⟩ := hi
    cases e with
    | emit n =>
      cases src with
      | hot => cases (h2 rfl); cases n <;> exact hR
      | create => cases (h3 rfl); cases n <;> exact hR
      | iter k => exact hR
    | sub =>
      cases src with
      | hot => exact hR
      | create => exact hR
      | iter k => cases (h4 k rfl); exact hR
    | poll =>
      simp only [StatTW.step, tpush, TInv]
      split <;> exact ⟨h1, h2, h3, h4⟩
    | qStatus => exact hR
  | none =>
    simp only [TInv] at hi
    obtain ⟨h1, h2, h3, h4, h5⟩ := hi
    subst h1 h2 h3 h4 h5
    cases e with
    | emit n =>
      cases src with
      | hot =>
        cases n with
        | next v =>
          simp [StatTW.step, StatTW.hotEmit, StatTW.slotNext, StatTW.soNext, tpush, Hist.push, TInv,
            Cutter.after_snoc]
        | error e =>
          simp [StatTW.step, StatTW.hotEmit, StatTW.slotTerm,
            StatTW.soTerm, tpush, Hist.push, TInv, StatTW.flagOf_eq]
        | complete =>
          simp [StatTW.step, StatTW.hotEmit, StatTW.slotTerm,
            StatTW.soTerm, tpush, Hist.push, TInv, StatTW.flagOf_eq]
      | create =>
        cases n with
        | next v =>
          simp [StatTW.step, StatTW.createEmit, StatTW.slotNext, StatTW.soNext, tpush, Hist.push, TInv,
            Cutter.after_snoc]
        | error e =>
          simp [StatTW.step, StatTW.createEmit, StatTW.slotTerm, StatTW.soTerm, tpush, Hist.push, TInv, StatTW.flagOf_eq]
        | complete =>
          simp [StatTW.step, StatTW.createEmit, StatTW.slotTerm, StatTW.soTerm, tpush, Hist.push, TInv, StatTW.flagOf_eq]
      | iter k => simp [StatTW.step, tpush, TInv]
    | sub =>
      cases src with
      | hot => simp [StatTW.step, tpush, TInv]
      | create => simp [StatTW.step, tpush, TInv]
      | iter k =>
        have hf := StatTW.iterLoop_frame c (StatTW.iterItems k)
          { srcOpen := true, slot := true, subscribed := true, cut := c.after xs, flag := 0, parked := pk,
            wakes := wk }
        simp [StatTW.step, StatTW.iterSub, StatTW.soTerm, tpush, TInv, StatTW.flagOf_eq, hf]
    | poll => simp [StatTW.step, StatTW.isClosed, tpush, TInv]
    | qStatus => simp [StatTW.step, tpush, TInv]

theorem tinv_run (src : TSrc) (c : Cutter) (es : List TEv) : ∀ (w : StatTW) (h : Hist),
    TInv src c w h → TInv src c (StatTW.run src c w es).1 (thist src h es) := by
  induction es with
  | nil => intro w h hi; simpa [StatTW.run, runM, thist] using hi
  | cons e r ih =>
    intro w h hi
    have := ih _ _ (tinv_step src c w h e hi)
    simpa [StatTW.run, runM, thist] using this

/-- The flag after any history, exactly: the source's terminal, whatever the source is and whatever the
    cutter had done before.  (Before `fix: Subject::error/complete hand the terminal to every subscriber`:
    over a hot `Subject`, `0` for ever once the downstream had finished by itself.) -/
theorem flag_run (src : TSrc) (c : Cutter) (es : List TEv) :
    (StatTW.run src c {} es).1.flag = statFlag (thist src {} es).term := by
  have hi := tinv_run src c es {} {} (TInv_init src c)
  unfold TInv at hi
  cases ht : (thist src {} es).term with
  | none =>
    rw [ht] at hi
    rw [hi.2.2.2.1]
    simp [statFlag]
  | some t =>
    rw [ht] at hi
    exact hi.1

theorem statFlag_ne_zero (t : Option Notif) : (statFlag t != 0) = t.isSome := by
  cases t with
  | none => rfl
  | some n => cases n <;> rfl

/-- A terminal of the source wakes a parked waiter — whatever the downstream had done before. -/
theorem wake_step (src : TSrc) (c : Cutter) (w : StatTW) (h : Hist) (e : TEv) (hi : TInv src c w h)
    (hn : h.term = none) (ht : (tpush src h e).term ≠ none) (hp : w.parked = true) :
    (StatTW.step src c w e).1.wakes = w.wakes + 1 ∧ (StatTW.step src c w e).1.parked = false := by
  obtain ⟨so, sl, sb, ct, fl, pk, wk⟩ := w
  obtain ⟨xs, t⟩ := h
  subst hn hp
  simp only [TInv] at hi
  obtain ⟨h1, h2, h3, h4, h5⟩ := hi
  subst h1 h2 h3 h4 h5
  cases e with
  | emit n =>
    cases src with
    | hot =>
      cases n with
      | next v => simp [tpush, Hist.push] at ht
      | error e =>
        simp [StatTW.step, StatTW.hotEmit, StatTW.slotTerm, StatTW.soTerm, StatTW.wake]
      | complete =>
        simp [StatTW.step, StatTW.hotEmit, StatTW.slotTerm, StatTW.soTerm, StatTW.wake]
    | create =>
      cases n with
      | next v => simp [tpush, Hist.push] at ht
      | error e => simp [StatTW.step, StatTW.createEmit, StatTW.slotTerm, StatTW.soTerm, StatTW.wake]
      | complete => simp [StatTW.step, StatTW.createEmit, StatTW.slotTerm, StatTW.soTerm, StatTW.wake]
    | iter k => simp [tpush] at ht
  | sub =>
    cases src with
    | hot => simp [tpush] at ht
    | create => simp [tpush] at ht
    | iter k =>
      have hf := StatTW.iterLoop_frame c (StatTW.iterItems k)
        { srcOpen := true, slot := true, subscribed := true, cut := c.after xs, flag := 0, parked := true,
          wakes := wk }
      simp [StatTW.step, StatTW.iterSub, StatTW.soTerm, StatTW.wake, hf]
  | poll => simp [tpush] at ht
  | qStatus => simp [tpush] at ht

theorem run_snoc (src : TSrc) (c : Cutter) (es : List TEv) (e : TEv) :
    (StatTW.run src c {} (es ++ [e])).1 = (StatTW.step src c (StatTW.run src c {} es).1 e).1 := by
  simp [StatTW.run, runM_append, runM]

theorem thist_snoc (src : TSrc) (es : List TEv) (e : TEv) : ∀ h : Hist,
    thist src h (es ++ [e]) = tpush src (thist src h es) e := by
  induction es with
  | nil => intro h; rfl
  | cons x r ih => intro h; simpa [thist] using ih _

end Rx.Conv
