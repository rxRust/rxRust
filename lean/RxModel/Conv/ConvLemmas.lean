import RxModel.Conv.ConvSpec
/-
  C14: lock-step simulation (`runM_sim`) between each transcribed conversion and its reference
  machine — the relations `FKR` (both future kinds), `StrR`, `StatR` with one step lemma each — and the facts
  about the reference machines that turn the simulations into the readiness statements.
-/
namespace Rx.Conv
open Ref

/-! ## generic -/

theorem runM_snoc {σ ε ω : Type} (step : σ → ε → σ × ω) (s : σ) (es : List ε) (e : ε) :
    runM step s (es ++ [e]) =
      ((step (runM step s es).1 e).1, (runM step s es).2 ++ [(step (runM step s es).1 e).2]) := by
  rw [runM_append]; simp [runM]

/-- An invariant of (state, outputs so far). -/
theorem runM_invariant {σ ε ω : Type} (step : σ → ε → σ × ω) (P : σ → List ω → Prop)
    (hs : ∀ s os e, P s os → P (step s e).1 (os ++ [(step s e).2])) :
    ∀ (es : List ε) (s : σ) (os : List ω), P s os →
      P (runM step s es).1 (os ++ (runM step s es).2) := by
  intro es
  induction es with
  | nil => intro s os h; simpa [runM] using h
  | cons e r ih =>
    intro s os h
    have := ih (step s e).1 (os ++ [(step s e).2]) (hs s os e h)
    simpa [runM, List.append_assoc] using this

/-- Lock-step simulation: related states stay related and print the same (after projection),
    along every event list all of whose events are `ok`. -/
theorem runM_sim {σ τ ε ω ω' : Type} (stepC : σ → ε → σ × ω) (stepA : τ → ε → τ × ω)
    (R : σ → τ → Prop) (f : ω → ω') (ok : ε → Prop)
    (hstep : ∀ c a e, ok e → R c a →
      R (stepC c e).1 (stepA a e).1 ∧ f (stepC c e).2 = f (stepA a e).2) :
    ∀ (es : List ε) (c : σ) (a : τ), (∀ e ∈ es, ok e) → R c a →
      R (runM stepC c es).1 (runM stepA a es).1 ∧
        (runM stepC c es).2.map f = (runM stepA a es).2.map f := by
  intro es
  induction es with
  | nil => intro c a _ h; exact ⟨by simpa [runM] using h, by simp [runM]⟩
  | cons e r ih =>
    intro c a hok h
    have h1 := hstep c a e (hok e (by simp)) h
    have h2 := ih (stepC c e).1 (stepA a e).1 (fun e' he' => hok e' (by simp [he'])) h1.1
    exact ⟨by simpa [runM] using h2.1, by simp [runM, h1.2, h2.2]⟩

/-! ## future kinds: to_future, collect + to_future

  Both observers sit in a `Subscriber` slot with some accumulated state `α`, send one message
  when the source terminates and close the channel; they differ in what `next` does to the
  state and in what the terminal sends.  `FKind` holds those differences, `FK.step` is the
  common world, `fk_step` the one simulation step against the reference future. -/

/-- Events on which the code as it is agrees with the reference: everything but a source error. -/
def okEv (m : Model) : Ev → Prop
  | .emit (.error _) => m = .fixed
  | _ => True

/-- What distinguishes a future kind. -/
structure FKind (α : Type) where
  /-- `next` on the observer's state -/
  onNext : α → Val → α
  /-- the `last_value` that `error` consults -/
  lastE : α → Option FMsg
  /-- what `complete` hands to `futComplete` -/
  lastC : α → Option FMsg
  /-- the observer's state as a function of the items seen so far -/
  acc : List Val → α
  /-- the documented result -/
  result : List Val → Notif → FMsg
  acc_snoc : ∀ xs v, acc (xs ++ [v]) = onNext (acc xs) v
  res_complete : ∀ xs, (lastC (acc xs)).getD .empty = result xs .complete
  res_error : ∀ xs e,
    (sendObservableValue (lastE (acc xs)) (.err e)).getD .empty = result xs (.error e)

/-- hot `Subject` → `Subscriber` slot holding the observer's state → channel → the future. -/
structure FKW (α : Type) where
  srcOpen : Bool
  obs : Option α
  chan : Chan FMsg

namespace FK
variable {α : Type} (K : FKind α)

def emit (m : Model) (w : FKW α) : Notif → FKW α
  | .next v =>
    if w.srcOpen then
      match w.obs with
      | some a => { w with obs := some (K.onNext a v) }
      | none => w
    else w
  | .error e =>
    if w.srcOpen then
      match w.obs with
      | some a => { srcOpen := false, obs := none, chan := futError m (K.lastE a) e w.chan }
      | none => { w with srcOpen := false }
    else w
  | .complete =>
    if w.srcOpen then
      match w.obs with
      | some a => { srcOpen := false, obs := none, chan := futComplete (K.lastC a) w.chan }
      | none => { w with srcOpen := false }
    else w

def step (m : Model) (w : FKW α) : Ev → FKW α × FOut
  | .emit n => (emit K m w n, .woke ((emit K m w n).chan.wakes - w.chan.wakes))
  | .poll => ({ w with chan := (futPoll w.chan).1 }, (futPoll w.chan).2)
  | .qStatus => (w, .na)

end FK

/-- A future kind's world ↔ the reference future. -/
def FKR {α : Type} (K : FKind α) (w : FKW α) (s : FutS) : Prop :=
  match s.h.term with
  | none =>
    w.srcOpen = true ∧ w.obs = some (K.acc s.h.items) ∧ w.chan.queue = [] ∧ w.chan.isOpen = true ∧
      w.chan.rxInner = true ∧ s.delivered = false
  | some t =>
    w.srcOpen = false ∧ w.chan.isOpen = false ∧
      (if s.delivered then w.chan.queue = []
       else w.chan.queue = [K.result s.h.items t] ∧ w.chan.rxInner = true)

/-- Polling a future whose channel is drained and closed (or released): Pending. -/
theorem futPoll_closed (c : Chan FMsg) (h2 : c.queue = []) (h3 : c.isOpen = false) :
    futPoll c = ({ c with rxInner := false }, .pending) := by
  simp only [futPoll, Chan.pollNext_closed c h2 h3]

theorem fk_step {α : Type} (K : FKind α) (m : Model) (w : FKW α) (s : FutS) (e : Ev)
    (hok : okEv m e) (h : FKR K w s) :
    FKR K (FK.step K m w e).1 (futStep K.result s e).1 ∧
      fobs (FK.step K m w e).2 = fobs (futStep K.result s e).2 := by
  have hR := h
  obtain ⟨so, ob, ⟨q, io, rx, pk, wk, sf⟩⟩ := w
  obtain ⟨⟨xs, t⟩, d⟩ := s
  cases t with
  | none =>
    simp only [FKR] at h
    obtain ⟨h1, h2, h3, h4, h5, h6⟩ := h
    subst h1 h2 h3 h4 h5 h6
    cases e with
    | emit n =>
      cases n with
      | next v => simp [FK.step, FK.emit, futStep, Hist.push, FKR, fobs, K.acc_snoc]
      | error e =>
        cases m with
        | code => simp [okEv] at hok
        | fixed =>
          simp [FK.step, FK.emit, futStep, Hist.push, FKR, fobs, futError, futComplete,
            Chan.trySend, Chan.closeTx, K.res_error]
      | complete =>
        simp [FK.step, FK.emit, futStep, Hist.push, FKR, fobs, futComplete,
            Chan.trySend, Chan.closeTx, K.res_complete]
    | poll => simp [FK.step, futPoll, Chan.pollNext, Chan.nextMessage, futStep, FKR, fobs]
    | qStatus => exact ⟨hR, rfl⟩
  | some t =>
    -- the source has terminated: only polls move anything
    simp only [FKR] at h
    obtain ⟨h1, h2, h3⟩ := h
    subst h1 h2
    cases e with
    | emit n => cases n <;> exact ⟨hR, rfl⟩
    | poll =>
      cases d with
      | true =>
        simp at h3; subst h3
        simp [FK.step, futPoll_closed, futStep, FKR, fobs]
      | false =>
        simp at h3; obtain ⟨h3, h4⟩ := h3; subst h3 h4
        simp [FK.step, futPoll, Chan.pollNext, Chan.nextMessage, futStep, FKR, fobs]
    | qStatus => exact ⟨hR, rfl⟩

/-- `to_future`: `last_value` is the first item, then `MultipleValues`. -/
def lvOf : List Val → Option FMsg
  | [] => none
  | [v] => some (.ok v)
  | _ => some .multiple

def futKind : FKind (Option FMsg) where
  onNext last v := sendObservableValue last (.ok v)
  lastE := id
  lastC := id
  acc := lvOf
  result := futureResult
  acc_snoc xs _ := match xs with | [] | [_] | _ :: _ :: _ => rfl
  res_complete xs := match xs with | [] | [_] | _ :: _ :: _ => rfl
  res_error xs _ := match xs with | [] | [_] | _ :: _ :: _ => rfl

/-- `collect`: the collection grows, `complete` hands it to the `to_future` observer behind. -/
def cfKind : FKind (List Val × Option FMsg) where
  onNext a v := (a.1 ++ [v], a.2)
  lastE := (·.2)
  lastC a := sendObservableValue a.2 (.ok (Val.ofList a.1))
  acc xs := (xs, none)
  result := collectResult
  acc_snoc _ _ := rfl
  res_complete _ := rfl
  res_error _ _ := rfl

def FutW.view (w : FutW) : FKW (Option FMsg) := ⟨w.srcOpen, w.obs, w.chan⟩
def CFW.view (w : CFW) : FKW (List Val × Option FMsg) := ⟨w.srcOpen, w.obs, w.chan⟩

theorem FutW.emit_view (m : Model) (w : FutW) (n : Notif) :
    (w.emit m n).view = FK.emit futKind m w.view n := by
  obtain ⟨so, ob, c⟩ := w
  cases so <;> cases ob <;> cases n <;> rfl

theorem CFW.emit_view (m : Model) (w : CFW) (n : Notif) :
    (w.emit m n).view = FK.emit cfKind m w.view n := by
  obtain ⟨so, ob, c⟩ := w
  cases so <;> cases ob <;> cases n <;> rfl

theorem FutW.step_view (m : Model) (w : FutW) (e : Ev) :
    (FutW.step m w e).1.view = (FK.step futKind m w.view e).1 ∧
      (FutW.step m w e).2 = (FK.step futKind m w.view e).2 := by
  cases e with
  | emit n =>
    exact ⟨FutW.emit_view m w n,
      congrArg (fun x : FKW _ => FOut.woke (x.chan.wakes - w.chan.wakes)) (FutW.emit_view m w n)⟩
  | _ => exact ⟨rfl, rfl⟩

theorem CFW.step_view (m : Model) (w : CFW) (e : Ev) :
    (CFW.step m w e).1.view = (FK.step cfKind m w.view e).1 ∧
      (CFW.step m w e).2 = (FK.step cfKind m w.view e).2 := by
  cases e with
  | emit n =>
    exact ⟨CFW.emit_view m w n,
      congrArg (fun x : FKW _ => FOut.woke (x.chan.wakes - w.chan.wakes)) (CFW.emit_view m w n)⟩
  | _ => exact ⟨rfl, rfl⟩

/-! ## to_stream -/

/-- to_stream: model state ↔ reference state. -/
def StrR (m : Model) (w : StrW) (s : StrS) : Prop :=
  (m = .code → ∀ e, s.term ≠ some (.error e)) ∧
  match s.term with
  | none =>
    w.srcOpen = true ∧ w.obs = true ∧ w.chan.isOpen = true ∧ w.chan.rxInner = true ∧
      w.chan.queue = s.front.map SMsg.item ∧ s.fin = false ∧ s.ended = false
  | some t =>
    w.srcOpen = false ∧ w.chan.isOpen = false ∧
      (if s.ended then w.chan.queue = [] ∧ s.front = [] ∧ s.fin = false
       else w.chan.rxInner = true ∧ s.fin = true ∧
         w.chan.queue = s.front.map SMsg.item ++ (match t with | .error _ => [] | _ => [SMsg.complete]))

/-- Polling a drained, closed (or released) channel: the stream's answer after its end. -/
theorem strPoll_closed (m : Model) (c : Chan SMsg) (h2 : c.queue = []) (h3 : c.isOpen = false) :
    strPoll m c = ({ c with rxInner := false }, afterEnd m) := by
  simp only [strPoll, Chan.pollNext_closed c h2 h3]
  cases m <;> rfl

theorem str_step (m : Model) (w : StrW) (s : StrS) (e : Ev) (hok : okEv m e) (h : StrR m w s) :
    StrR m (StrW.step m w e).1 (strStep m s e).1 ∧
      sobs (StrW.step m w e).2 = sobs (strStep m s e).2 := by
  have hR := h
  obtain ⟨so, ob, ⟨q, io, rx, pk, wk, sf⟩⟩ := w
  obtain ⟨fr, fin, t, en⟩ := s
  cases t with
  | none =>
    simp only [StrR] at h
    obtain ⟨h0, h1, h2, h3, h4, h5, h6, h7⟩ := h
    subst h1 h2 h3 h4 h5 h6 h7
    cases e with
    | emit n =>
      cases n with
      | next v =>
        simp [StrW.step, StrW.emit, strStep, StrR, sobs, Chan.send]
      | error e =>
        cases m with
        | code => simp [okEv] at hok
        | fixed =>
          simp [StrW.step, StrW.emit, strStep, StrR, sobs, Chan.trySend, Chan.closeTx]
      | complete =>
        simp [StrW.step, StrW.emit, strStep, StrR, sobs, Chan.trySend, Chan.closeTx]
    | poll =>
      cases fr with
      | nil => simp [StrW.step, strPoll, Chan.pollNext, Chan.nextMessage, strStep, StrR, sobs]
      | cons x r => simp [StrW.step, strPoll, Chan.pollNext, Chan.nextMessage, strStep, StrR, sobs]
    | qStatus => exact ⟨hR, rfl⟩
  | some t =>
    simp only [StrR] at h
    obtain ⟨h0, h1, h2, h3⟩ := h
    subst h1 h2
    have h0' : m = Model.code → ∀ (e : Err), ¬t = Notif.error e := by simpa using h0
    cases e with
    | emit n =>
      cases n <;> exact ⟨hR, rfl⟩
    | poll =>
      cases en with
      | true =>
        simp at h3; obtain ⟨h3, h4, h5⟩ := h3; subst h3 h4 h5
        simp [StrW.step, strPoll_closed, strStep, StrR, sobs]
        exact h0'
      | false =>
        simp at h3; obtain ⟨h3, h4, h5⟩ := h3; subst h3 h4 h5
        cases fr with
        | cons x r =>
          simp [StrW.step, strPoll, Chan.pollNext, Chan.nextMessage, strStep, StrR, sobs]
          exact h0'
        | nil =>
          cases t with
          | next v =>
            simp [StrW.step, strPoll, Chan.pollNext, Chan.nextMessage, strStep, StrR, sobs, Chan.closeRx]
          | complete =>
            simp [StrW.step, strPoll, Chan.pollNext, Chan.nextMessage, strStep, StrR, sobs, Chan.closeRx]
          | error e =>
            cases m with
            | code => exact absurd rfl (h0' rfl e)
            | fixed =>
              simp [StrW.step, strPoll, Chan.pollNext, Chan.nextMessage, strStep, StrR, sobs]
    | qStatus => exact ⟨hR, rfl⟩

/-! ## complete_status -/

/-- The history never stores an item as its terminal. -/
def Ref.Hist.Valid (h : Hist) : Prop := ∀ v, h.term ≠ some (.next v)

theorem Ref.Hist.push_valid (h : Hist) (n : Notif) (hv : h.Valid) : (h.push n).Valid := by
  unfold Hist.push
  cases ht : h.term with
  | some t => simpa [Hist.Valid, ht] using hv
  | none => cases n <;> simp [Hist.Valid, ht]

def StatR (w : StatW) (h : Hist) : Prop :=
  h.Valid ∧ w.srcOpen = h.term.isNone ∧ w.obs = h.term.isNone ∧ w.flag = statFlag h.term

theorem stat_step (w : StatW) (h : Hist) (e : Ev) (hr : StatR w h) :
    StatR (StatW.step w e).1 (statStep h e).1 ∧ (StatW.step w e).2 = (statStep h e).2 := by
  have hR := hr
  obtain ⟨so, ob, fl, pk, wk⟩ := w
  obtain ⟨xs, t⟩ := h
  obtain ⟨hv, h1, h2, h3⟩ := hr
  simp only at h1 h2 h3
  subst h1 h2 h3
  cases t with
  | none =>
    cases e with
    | emit n =>
      cases n <;> simp [StatW.step, StatW.emit, statStep, Hist.push, StatR, statFlag, Hist.Valid]
    | poll => simp [StatW.step, StatW.isClosed, statStep, StatR, statFlag, Hist.Valid]
    | qStatus => exact ⟨hR, rfl⟩
  | some t =>
    -- a terminated source: no event changes either side, and the answers are read off the flag
    cases t with
    | next v => exact absurd rfl (hv v)
    | error x =>
      cases e with
      | emit n => cases n <;> exact ⟨hR, rfl⟩
      | poll => exact ⟨hR, rfl⟩
      | qStatus => exact ⟨hR, rfl⟩
    | complete =>
      cases e with
      | emit n => cases n <;> exact ⟨hR, rfl⟩
      | poll => exact ⟨hR, rfl⟩
      | qStatus => exact ⟨hR, rfl⟩

/-! ## whole runs -/

theorem okEv_fixed (e : Ev) : okEv .fixed e := by
  cases e with
  | emit n => cases n <;> simp [okEv]
  | _ => trivial

/-- No source error is ever emitted: the hypothesis of the `_partial` theorems. -/
def NoErrorEmit (es : List Ev) : Prop := ∀ x, Ev.emit (.error x) ∉ es

theorem okEv_code_of_noError {es : List Ev} (h : NoErrorEmit es) : ∀ e ∈ es, okEv .code e := by
  intro e he
  cases e with
  | emit n =>
    cases n with
    | error x => exact absurd he (h x)
    | _ => trivial
  | _ => trivial

theorem fobs_ready {o : FOut} {r : FMsg} (h : fobs o = .ready r) : o = .ready r := by
  cases o <;> simp_all [fobs]

theorem sobs_pending {o : SOut} (h : sobs o = .pending) : o = .pending := by
  cases o <;> simp_all [sobs]

theorem sobs_yield {o : SOut} {x : Option SItem} (h : sobs o = .yield x) : o = .yield x := by
  cases o <;> simp_all [sobs]

theorem StrR_init (m : Model) : StrR m {} {} := by simp [StrR]
theorem StatR_init : StatR {} {} := by simp [StatR, Hist.Valid, statFlag]

/-- Any world that is a future kind seen through `view`: its run from the start is in lock step
    with the reference future, and prints the same. -/
theorem fk_sim {α σ : Type} (K : FKind α) (m : Model) (step : σ → Ev → σ × FOut) (view : σ → FKW α)
    (hv : ∀ w e, view (step w e).1 = (FK.step K m (view w) e).1 ∧
      (step w e).2 = (FK.step K m (view w) e).2)
    (w0 : σ) (h0 : view w0 = ⟨true, some (K.acc []), {}⟩) (es : List Ev) (hok : ∀ e ∈ es, okEv m e) :
    FKR K (view (runM step w0 es).1) (futRun K.result {} es).1 ∧
      (runM step w0 es).2.map fobs = (futRun K.result {} es).2.map fobs :=
  runM_sim step (futStep K.result) (fun w s => FKR K (view w) s) fobs (okEv m)
    (fun c a e he h => by rw [(hv c e).1, (hv c e).2]; exact fk_step K m _ a e he h)
    es w0 {} hok (by rw [h0]; simp [FKR])

theorem fut_sim (m : Model) (es : List Ev) (hok : ∀ e ∈ es, okEv m e) :
    FKR futKind (FutW.run m {} es).1.view (futRun futureResult {} es).1 ∧
      (FutW.run m {} es).2.map fobs = (futRun futureResult {} es).2.map fobs :=
  fk_sim futKind m (FutW.step m) FutW.view (FutW.step_view m) {} rfl es hok

theorem cf_sim (m : Model) (es : List Ev) (hok : ∀ e ∈ es, okEv m e) :
    FKR cfKind (CFW.run m {} es).1.view (futRun collectResult {} es).1 ∧
      (CFW.run m {} es).2.map fobs = (futRun collectResult {} es).2.map fobs :=
  fk_sim cfKind m (CFW.step m) CFW.view (CFW.step_view m) {} rfl es hok

theorem str_sim (m : Model) (es : List Ev) (hok : ∀ e ∈ es, okEv m e) :
    StrR m (StrW.run m {} es).1 (strRun m {} es).1 ∧
      (StrW.run m {} es).2.map sobs = (strRun m {} es).2.map sobs :=
  runM_sim (StrW.step m) (strStep m) (StrR m) sobs (okEv m)
    (fun c a e he h => str_step m c a e he h) es {} {} hok (StrR_init m)

theorem stat_sim (es : List Ev) :
    StatR (StatW.run {} es).1 (statRun {} es).1 ∧ (StatW.run {} es).2 = (statRun {} es).2 := by
  have := runM_sim StatW.step statStep StatR id (fun _ => True)
    (fun c a e _ h => stat_step c a e h) es {} {} (fun _ _ => trivial) StatR_init
  simpa [StatW.run, statRun] using this

/-! ## facts about the reference machines -/

theorem futRun_hist (result : List Val → Notif → FMsg) (es : List Ev) (s : FutS) :
    (futRun result s es).1.h = hist s.h es := by
  induction es generalizing s with
  | nil => rfl
  | cons e r ih =>
    cases e with
    | emit n => simpa [futRun, runM, futStep, hist] using ih _
    | poll =>
      simp only [futRun, runM, hist]
      have := ih (futStep result s .poll).1
      simp only [futRun] at this
      rw [this]
      simp only [futStep]
      cases s.h.term <;> simp
      split <;> rfl
    | qStatus => simpa [futRun, runM, futStep, hist] using ih _

/-- The reference future has handed out its result only if some output was `Ready`. -/
theorem futRun_delivered (result : List Val → Notif → FMsg) (es : List Ev) :
    (futRun result {} es).1.delivered = true → ∃ r, FOut.ready r ∈ (futRun result {} es).2 := by
  have := runM_invariant (futStep result)
    (fun s os => s.delivered = true → ∃ r, FOut.ready r ∈ os)
    (by
      intro s os e h
      have keep : s.delivered = true → ∃ r, FOut.ready r ∈ os ++ [(futStep result s e).2] :=
        fun hd => (h hd).imp fun _ hr => List.mem_append_left _ hr
      obtain ⟨⟨xs, t⟩, d⟩ := s
      cases e with
      | emit n => exact keep
      | poll =>
        cases t with
        | none => exact keep
        | some t =>
          cases d with
          | true => exact keep
          | false => exact fun _ => ⟨_, List.mem_append_right _ (List.mem_singleton.2 rfl)⟩
      | qStatus => exact keep)
    es {} [] nofun
  simpa [futRun] using this

theorem mem_map_fobs_ready {os : List FOut} {r : FMsg} (h : FOut.ready r ∈ os.map fobs) :
    FOut.ready r ∈ os := by
  obtain ⟨o, ho, hr⟩ := List.mem_map.1 h
  rw [← fobs_ready hr]; exact ho

/-- future kinds (the world, its step and its relation to the reference are parameters): source
    terminated, nothing handed out yet ⇒ the next poll is Ready with the reference result. -/
theorem fk_ready {σ : Type} (step : σ → Ev → σ × FOut) (R : σ → FutS → Prop)
    (result : List Val → Notif → FMsg) (w : σ) (os : List FOut) (es : List Ev)
    (hR : R w (futRun result {} es).1) (hO : os.map fobs = (futRun result {} es).2.map fobs)
    (hpoll : ∀ c a, R c a → fobs (step c .poll).2 = fobs (futStep result a .poll).2)
    (ht : (hist {} es).term.isSome = true) (hn : ∀ r, FOut.ready r ∉ os) :
    ∃ t, (hist {} es).term = some t ∧ (step w .poll).2 = .ready (result (hist {} es).items t) := by
  have hh := futRun_hist result es {}
  have hd : (futRun result {} es).1.delivered = false := by
    cases hdel : (futRun result {} es).1.delivered with
    | false => rfl
    | true =>
      obtain ⟨r, hr⟩ := futRun_delivered result es hdel
      have : FOut.ready r ∈ os.map fobs := by
        rw [hO]; exact List.mem_map.2 ⟨_, hr, rfl⟩
      exact absurd (mem_map_fobs_ready this) (hn r)
  obtain ⟨t, htm⟩ := Option.isSome_iff_exists.1 ht
  refine ⟨t, htm, ?_⟩
  have hs := hpoll _ _ hR
  have hterm : (futRun result {} es).1.h.term = some t := by rw [hh]; exact htm
  have hitems : (futRun result {} es).1.h.items = (hist {} es).items := by rw [hh]
  simp only [futStep, hterm, hd] at hs
  rw [hitems] at hs
  exact fobs_ready (by simpa [fobs] using hs)

theorem fut_ready (m : Model) (es : List Ev) (hok : ∀ e ∈ es, okEv m e)
    (ht : (hist {} es).term.isSome = true)
    (hn : ∀ r, FOut.ready r ∉ (FutW.run m {} es).2) :
    ∃ t, (hist {} es).term = some t ∧
      (FutW.step m (FutW.run m {} es).1 .poll).2 = .ready (futureResult (hist {} es).items t) :=
  fk_ready (FutW.step m) (fun w s => FKR futKind w.view s) futureResult _ _ es (fut_sim m es hok).1
    (fut_sim m es hok).2
    (fun c a h => by rw [(FutW.step_view m c .poll).2]; exact (fk_step futKind m _ a .poll trivial h).2)
    ht hn

/-- collect + future: same statement. -/
theorem cf_ready (m : Model) (es : List Ev) (hok : ∀ e ∈ es, okEv m e)
    (ht : (hist {} es).term.isSome = true)
    (hn : ∀ r, FOut.ready r ∉ (CFW.run m {} es).2) :
    ∃ t, (hist {} es).term = some t ∧
      (CFW.step m (CFW.run m {} es).1 .poll).2 = .ready (collectResult (hist {} es).items t) :=
  fk_ready (CFW.step m) (fun w s => FKR cfKind w.view s) collectResult _ _ es (cf_sim m es hok).1
    (cf_sim m es hok).2
    (fun c a h => by rw [(CFW.step_view m c .poll).2]; exact (fk_step cfKind m _ a .poll trivial h).2)
    ht hn

theorem statRun_hist (es : List Ev) (h : Hist) : (statRun h es).1 = hist h es := by
  induction es generalizing h with
  | nil => rfl
  | cons e r ih =>
    cases e <;> simpa [statRun, runM, statStep, hist] using ih _

theorem strStep_poll_term (m : Model) (s : StrS) : (strStep m s .poll).1.term = s.term := by
  simp only [strStep]
  cases s.front with
  | cons x r => rfl
  | nil =>
    simp only
    split
    · rfl
    · split <;> rfl

theorem strRun_term (m : Model) (es : List Ev) (s : StrS) (h : Hist) (hs : s.term = h.term) :
    (strRun m s es).1.term = (hist h es).term := by
  induction es generalizing s h with
  | nil => exact hs
  | cons e r ih =>
    cases e with
    | emit n =>
      simp only [strRun, runM, hist]
      apply ih
      obtain ⟨fr, fin, t, en⟩ := s
      obtain ⟨xs, t'⟩ := h
      simp only at hs
      subst hs
      cases t <;> cases n <;> simp [strStep, Hist.push]
    | poll =>
      simp only [strRun, runM, hist]
      apply ih
      rw [strStep_poll_term, hs]
    | qStatus =>
      simp only [strRun, runM, hist]
      exact ih _ _ hs

/-- Reference stream: (a) a terminated, not yet ended stream still owes the end marker;
    (b) it has ended only if some output was `None`. -/
theorem strRun_inv (m : Model) (es : List Ev) :
    ((strRun m {} es).1.term.isSome = true → (strRun m {} es).1.ended = false →
        (strRun m {} es).1.fin = true) ∧
      ((strRun m {} es).1.ended = true → SOut.yield none ∈ (strRun m {} es).2) := by
  have := runM_invariant (strStep m)
    (fun s os => (s.term.isSome = true → s.ended = false → s.fin = true) ∧
      (s.ended = true → SOut.yield none ∈ os))
    (by
      intro s os e ⟨h1, h2⟩
      obtain ⟨fr, fin, t, en⟩ := s
      cases e with
      | emit n =>
        cases t with
        | some t => exact ⟨h1, fun h => List.mem_append_left _ (h2 h)⟩
        | none =>
          cases n with
          | next v => exact ⟨nofun, fun h => List.mem_append_left _ (h2 h)⟩
          | error x => exact ⟨fun _ _ => rfl, fun h => List.mem_append_left _ (h2 h)⟩
          | complete => exact ⟨fun _ _ => rfl, fun h => List.mem_append_left _ (h2 h)⟩
      | poll =>
        cases fr with
        | cons x r => exact ⟨h1, fun h => List.mem_append_left _ (h2 h)⟩
        | nil =>
          cases fin with
          | true => exact ⟨nofun, fun _ => List.mem_append_right _ (List.mem_singleton.2 rfl)⟩
          | false =>
            cases en with
            | true => exact ⟨nofun, fun h => List.mem_append_left _ (h2 h)⟩
            | false => exact ⟨h1, nofun⟩
      | qStatus => exact ⟨h1, fun h => List.mem_append_left _ (h2 h)⟩)
    es {} [] ⟨nofun, nofun⟩
  simpa [strRun] using this

theorem mem_map_sobs_yield {os : List SOut} {x : Option SItem} (h : SOut.yield x ∈ os.map sobs) :
    SOut.yield x ∈ os := by
  obtain ⟨o, ho, hr⟩ := List.mem_map.1 h
  rw [← sobs_yield hr]; exact ho

/-- stream: source terminated, `None` not yet yielded ⇒ the next poll yields (never Pending). -/
theorem str_ready (m : Model) (es : List Ev) (hok : ∀ e ∈ es, okEv m e)
    (ht : (hist {} es).term.isSome = true)
    (hn : SOut.yield none ∉ (StrW.run m {} es).2) :
    ∃ x, (StrW.step m (StrW.run m {} es).1 .poll).2 = .yield x := by
  obtain ⟨hR, hO⟩ := str_sim m es hok
  obtain ⟨hi1, hi2⟩ := strRun_inv m es
  have hterm := strRun_term m es {} {} rfl
  have hen : (strRun m {} es).1.ended = false := by
    cases hdel : (strRun m {} es).1.ended with
    | false => rfl
    | true =>
      have : SOut.yield none ∈ (StrW.run m {} es).2.map sobs := by
        rw [hO]; exact List.mem_map.2 ⟨_, hi2 hdel, rfl⟩
      exact absurd (mem_map_sobs_yield this) hn
  have hfin := hi1 (by rw [hterm]; exact ht) hen
  have hs := (str_step m _ _ .poll trivial hR).2
  generalize (strRun m {} es).1 = s at hs hfin hen
  obtain ⟨fr, fin, t, en⟩ := s
  simp only at hfin hen
  subst hfin hen
  cases fr with
  | cons x r => exact ⟨some x, sobs_yield (by simpa [strStep, sobs] using hs)⟩
  | nil => exact ⟨none, sobs_yield (by simpa [strStep, sobs] using hs)⟩


end Rx.Conv
