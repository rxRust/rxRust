import RxModel.Conv.Convert
/-
  C14, robustness corner — the consumer of a conversion is DROPPED while the source is still
  running: `let f = subject.to_future(); drop(f); subject.complete()`.

  Dropping an `ObservableFuture` / `ObservableStream` drops its `UnboundedReceiver`
  (futures-channel 0.3, `impl Drop for UnboundedReceiver`): `close()` = `set_closed`, then the
  queue is drained and `inner` released.  The registered waker is NOT cleared.  From then on
  `UnboundedSender::unbounded_send` answers `Err(Disconnected)` and `is_closed()` = true, so the
  observer reports `is_finished()`.

  Since `fix: Subject::error/complete hand the terminal to every subscriber` the source subject
  still calls such an observer with its terminal; since `fix: a dropped future/stream cannot make
  a terminal panic` the terminal paths of the two observers ignore the failed send
  (`Chan.trySend`).  The `next` path of `to_stream` still `expect`s the send (`Chan.send`,
  `sendFailed` = the panic): a dropped stream whose source goes on emitting ITEMS panics, before
  and after both fixes — recorded here, not part of the property.

  Suite `convert`, event `drop` (kinds future / collectfuture / stream; for kind status the
  harness has nothing to drop: no-op).  After `drop` nothing is polled any more (`poll` → `na`).
-/
namespace Rx.Conv

/-- `impl Drop for UnboundedReceiver`. -/
def Chan.dropRx {α : Type} (c : Chan α) : Chan α :=
  { c with isOpen := false, rxInner := false, queue := [] }

/-- Events of suite `convert` with the consumer's drop. -/
inductive DEv where
  | ev (e : Ev)
  | drop
  deriving DecidableEq, Repr, Inhabited

/-- A conversion world together with "the consumer has been dropped". -/
structure DW (σ : Type) where
  w : σ
  dropped : Bool := false

/-- What one event prints: `some o` = the line of the underlying world, `none` = `dropped` / `na`. -/
def dstep {σ ω : Type} (step : σ → Ev → σ × ω) (dropFn : σ → σ) (d : DW σ) : DEv → DW σ × Option ω
  | .drop => if d.dropped then (d, none) else ({ w := dropFn d.w, dropped := true }, none)
  | .ev .poll =>
    if d.dropped then (d, none)
    else let (w', o) := step d.w .poll; ({ d with w := w' }, some o)
  | .ev e => let (w', o) := step d.w e; ({ d with w := w' }, some o)

def FutW.dropFn (w : FutW) : FutW := { w with chan := w.chan.dropRx }
def CFW.dropFn (w : CFW) : CFW := { w with chan := w.chan.dropRx }
def StrW.dropFn (w : StrW) : StrW := { w with chan := w.chan.dropRx }

def futDStep (m : Model) : DW FutW → DEv → DW FutW × Option FOut := dstep (FutW.step m) FutW.dropFn
def cfDStep (m : Model) : DW CFW → DEv → DW CFW × Option FOut := dstep (CFW.step m) CFW.dropFn
def strDStep (m : Model) : DW StrW → DEv → DW StrW × Option SOut := dstep (StrW.step m) StrW.dropFn
/-- kind status: the harness holds an `Arc<CompleteStatus>`, there is no consumer to drop. -/
def statDStep : DW StatW → DEv → DW StatW × Option StOut
  | d, .drop => (d, none)
  | d, .ev e => let (w', o) := StatW.step d.w e; ({ d with w := w' }, some o)

def runD {σ ω : Type} (step : DW σ → DEv → DW σ × Option ω) : DW σ → List DEv → DW σ × List (Option ω) :=
  runM step

/-! ### no terminal send can fail (panic) any more; `to_future` never sends in `next` -/

namespace Chan
variable {α : Type}

@[simp] theorem wake_sendFailed (c : Chan α) : c.wake.sendFailed = c.sendFailed := by
  unfold wake; split <;> rfl
@[simp] theorem trySend_sendFailed (c : Chan α) (m : α) : (c.trySend m).sendFailed = c.sendFailed := by
  unfold trySend; split <;> simp
@[simp] theorem closeTx_sendFailed (c : Chan α) : c.closeTx.sendFailed = c.sendFailed := by
  simp [closeTx]
@[simp] theorem closeRx_sendFailed (c : Chan α) : c.closeRx.sendFailed = c.sendFailed := by
  unfold closeRx; split <;> rfl
@[simp] theorem dropRx_sendFailed (c : Chan α) : c.dropRx.sendFailed = c.sendFailed := rfl

theorem nextMessage_sendFailed (c : Chan α) : c.nextMessage.1.sendFailed = c.sendFailed := by
  unfold nextMessage
  split
  · split
    · rfl
    · split <;> rfl
  · rfl

theorem pollNext_sendFailed (c : Chan α) : c.pollNext.1.sendFailed = c.sendFailed := by
  unfold pollNext
  have h1 := nextMessage_sendFailed c
  have h2 := nextMessage_sendFailed ({ c.nextMessage.1 with parked := true } : Chan α)
  split
  · rename_i c1 m h; rw [h] at h1; exact h1
  · rename_i c1 h; rw [h] at h1; exact h1
  · rename_i c1 h
    rw [h] at h1 h2
    simp only at h1 h2 ⊢
    rw [h2, h1]

end Chan

theorem futComplete_sendFailed (last : Option FMsg) (c : Chan FMsg) :
    (futComplete last c).sendFailed = c.sendFailed := by
  simp [futComplete]

theorem futError_sendFailed (m : Model) (last : Option FMsg) (e : Err) (c : Chan FMsg) :
    (futError m last e c).sendFailed = c.sendFailed := by
  cases m <;> simp [futError, futComplete]

theorem futPoll_sendFailed (c : Chan FMsg) : (futPoll c).1.sendFailed = c.sendFailed := by
  have := Chan.pollNext_sendFailed c
  simp only [futPoll]
  split <;> simp_all

theorem FutW.step_sendFailed (m : Model) (w : FutW) (e : Ev) :
    ((FutW.step m w e).1).chan.sendFailed = w.chan.sendFailed := by
  obtain ⟨so, ob, c⟩ := w
  cases e with
  | emit n =>
    cases so with
    | false => cases n <;> rfl
    | true =>
      cases ob with
      | none => cases n <;> rfl
      | some last =>
        cases n with
        | next v => rfl
        | error er => exact futError_sendFailed m last er c
        | complete => exact futComplete_sendFailed last c
  | poll => exact futPoll_sendFailed c
  | qStatus => rfl

theorem CFW.step_sendFailed (m : Model) (w : CFW) (e : Ev) :
    ((CFW.step m w e).1).chan.sendFailed = w.chan.sendFailed := by
  obtain ⟨so, ob, c⟩ := w
  cases e with
  | emit n =>
    cases so with
    | false => cases n <;> rfl
    | true =>
      cases ob with
      | none => cases n <;> rfl
      | some cl =>
        cases n with
        | next v => rfl
        | error er => exact futError_sendFailed m cl.2 er c
        | complete => exact futComplete_sendFailed _ c
  | poll => exact futPoll_sendFailed c
  | qStatus => rfl

/-- `to_stream`: a TERMINAL of the source never makes a send fail; neither does a poll. -/
theorem StrW.step_sendFailed (m : Model) (w : StrW) (e : Ev) (he : ∀ v, e ≠ .emit (.next v)) :
    ((StrW.step m w e).1).chan.sendFailed = w.chan.sendFailed := by
  obtain ⟨so, ob, c⟩ := w
  cases e with
  | emit n =>
    cases n with
    | next v => exact absurd rfl (he v)
    | error er =>
      cases so with
      | false => rfl
      | true =>
        cases ob with
        | false => rfl
        | true => exact (Chan.closeTx_sendFailed _).trans (Chan.trySend_sendFailed c _)
    | complete =>
      cases so with
      | false => rfl
      | true =>
        cases ob with
        | false => rfl
        | true => exact (Chan.closeTx_sendFailed _).trans (Chan.trySend_sendFailed c _)
  | poll =>
    simp only [StrW.step, strPoll]
    have := Chan.pollNext_sendFailed c
    split <;> simp_all
  | qStatus => rfl

/-! ### …whenever the consumer is dropped -/

/-- A ghost flag `sf` that `step` keeps on the events `ok` allows and that `dropFn` keeps is
    kept by the world with the consumer's drop. -/
theorem runD_keeps {σ ω : Type} (step : σ → Ev → σ × ω) (dropFn : σ → σ) (sf : σ → Bool)
    (ok : Ev → Prop) (hs : ∀ w e, ok e → sf (step w e).1 = sf w) (hd : ∀ w, sf (dropFn w) = sf w) :
    ∀ (es : List DEv) (d : DW σ), (∀ x, DEv.ev x ∈ es → ok x) →
      sf (runD (dstep step dropFn) d es).1.w = sf d.w := by
  intro es
  induction es with
  | nil => intro d _; rfl
  | cons e r ih =>
    intro d hok
    have h1 : sf (dstep step dropFn d e).1.w = sf d.w := by
      cases e with
      | drop => simp only [dstep]; split <;> first | rfl | exact hd _
      | ev x =>
        have := hs d.w x (hok x List.mem_cons_self)
        cases x <;> simp only [dstep] <;> (try split) <;> first | exact this | rfl
    exact (ih _ fun x hx => hok x (List.mem_cons_of_mem _ hx)).trans h1

end Rx.Conv
