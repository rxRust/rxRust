import RxModel.Lemmas.Quiet
/-
  C17 — is_closed() is sound; handles report closed after unsubscribe.

  Part proved here: the subscription algebra of the synchronous catalogue
  (`()`, Subscriber, ZipSubscription, boxed forms).  Composite
  (MultiSubscription) and task-handle subscriptions: RxModel/Props/C17S.lean
  (when present).
-/
namespace Rx

/-- If `is_closed()` answers true, nothing is ever delivered afterwards. -/
theorem C17_sound (p : Pipe) (es₁ es₂ : List Ext) (nd : Node)
    (hsub : ((World.init p).run es₁).1.root = some nd) (hc : nd.isClosed = true) :
    (((World.init p).run es₁).1.run es₂).2 = [] := by
  obtain ⟨acts, _, h⟩ := World.run_subscribed _ _ hsub es₂
  rw [h]
  exact quiet_runActs _ acts (closed_quiet nd (World.root_started p es₁ nd hsub) hc)

/-- Once true it never becomes false again. -/
theorem C17_monotone (nd : Node) (acts : List Node.Act) (hc : nd.isClosed = true) :
    (nd.runActs acts).1.isClosed = true := isClosed_runActs nd acts hc

/-- After `unsubscribe()` the subscription reports closed. -/
theorem C17_after_unsub (nd : Node) : nd.unsub.isClosed = true := isClosed_unsub nd

/-! Non-vacuity: merge of a finished cold source and a live subject is NOT closed. -/
example : (((World.init (.op2 .merge (.hot 0) (.src (.of (.int 1))))).run [.sub]).1.root.map
    Node.isClosed) = some false := by decide

end Rx
