import RxModel.Lemmas.ChainSubInv
/-
  C09 over whole chains — rate-limiting operators never invent, duplicate or
  reorder items, wherever they sit in a pipeline.

  Props/C09.lean proves the subsequence property for ONE rate-limiting stage
  directly over a hot subject.  Here the world is `hot 0 → stages → probe`
  (`chainRun stages evs`: subscribe, then the events `evs`) for a LIST of stages:
  any number of debounce / throttle (every edge mode) stages and of *filtering*
  single-input operators (`Op1.filtering`: filter, tap, on_error_map, take,
  take_while, skip, skip_while, take_last, skip_last, last, distinct,
  distinct_key, distinct_until_changed, distinct_until_key_changed) in any order,
  optionally with one buffer_with_time / buffer_with_count_and_time stage among them.
  `evs` is ANY list of `TW.Ev`: emissions of any subject (post-terminal ones
  included), clock advances, `fire i` / `poll i` of any timer / task in any order
  (prompt, late, spurious, never), `run`, `unsub`, repeated `sub`; no bound on its
  length.  `itemsEmitted evs` = the items subject 0 emits before its first terminal.

  Proof (Lemmas/ChainSub*.lean): ghost histories, as for C01C.  `Chain9 up stages
  log`: every stage has so far processed a sublist `inp` of what its upstream
  emitted (the cascade may drop notifications when its fuel runs out — nothing is
  assumed about the fuel) and `Stage.Sub9 st inp out`: the items it emitted,
  followed by what it still holds (operator buffer / trailing value / time
  buffer), are a sublist of the items it received.  One notification at a stage,
  the cascade (every fuel value), every benign task body, `unsubscribe` and
  `actual_subscribe` keep it; only "all task bodies are benign" is needed from
  the scheduler, which every scheduler operation preserves.
-/
namespace Rx.T
open Rx Rx.Spec

/-! ## The filtering class -/

/-- One notification at an observer of the class, in ANY state and for ANY
    notification (no well-formedness of the input): the class is closed, and what is
    emitted followed by what is held afterwards is a sublist of what was held
    followed by the item that arrived. -/
theorem C09C_filtering_step (st : St1) (n : Notif) (h : st.filtering = true) :
    (st.step n).1.filtering = true ∧
      (items (st.step n).2 ++ (st.step n).1.held).Sublist (st.held ++ items [n]) :=
  St1.step_filtering st n h

/-- A filtering operator emits a subsequence of the items it receives (any input,
    well formed or not). -/
theorem C09C_filtering_sublist (op : Op1) (h : op.filtering = true) (inp : List Notif) :
    (items (St1.run op.init inp).2).Sublist (items inp) :=
  filtering_run_sublist op h inp

/-- … and so does a synchronous chain of them. -/
theorem C09C_filtering_chain_sublist (ops : List Op1) (h : ∀ op ∈ ops, op.filtering = true)
    (inp : List Notif) : (items (runChain (ops.map Op1.init) inp).2).Sublist (items inp) := by
  refine filtering_runChain_sublist _ (fun st hst => ?_) inp
  obtain ⟨op, hop, rfl⟩ := List.mem_map.mp hst
  exact ⟨by rw [op.init_filtering]; exact h op hop, op.init_held⟩

/-! ## Chains of debounce / throttle / filtering stages -/

/-- EVERY list of stages each of which is a fresh debounce, a fresh
    throttle (any edge) or a fresh filtering operator — any number of them, in any
    order —, EVERY event list: the items at the probe are a subsequence of the items the
    source emitted. -/
theorem C09C_rate_subsequence (stages : List Stage) (hs : ∀ st ∈ stages, st.RateInit)
    (evs : List TW.Ev) :
    (items (chainRun stages evs).log).Sublist (itemsEmitted evs) :=
  rate_final stages (fun st h => (hs st h).start9) (fun st h => (hs st h).notBuf) evs

/-- With distinct tags no item reaches the probe twice. -/
theorem C09C_rate_nodup (stages : List Stage) (hs : ∀ st ∈ stages, st.RateInit)
    (evs : List TW.Ev) (hd : (itemsEmitted evs).Nodup) :
    (items (chainRun stages evs).log).Nodup :=
  (C09C_rate_subsequence stages hs evs).nodup hd

/-- The probe log is well formed (from `C01C_chain_grammar`'s invariant). -/
theorem C09C_rate_wf (stages : List Stage) (hs : ∀ st ∈ stages, st.RateInit) (evs : List TW.Ev) :
    WF (chainRun stages evs).log :=
  chainRun_wf stages (fun st h => (hs st h).initial) evs

/-- Stronger: the stages may start in ANY state that has nothing buffered (slot already
    empty, stale task handles, `take` half-way through its count, …); a throttle may even
    be caught between its leading emission and the scheduling of its window. -/
theorem C09C_rate_subsequence_any_state (stages : List Stage) (hs : ∀ st ∈ stages, st.Start9)
    (hb : ∀ st ∈ stages, st.isBuf = false) (evs : List TW.Ev) :
    (items (chainRun stages evs).log).Sublist (itemsEmitted evs) :=
  rate_final stages hs hb evs

/-! ## … with one buffer_with_time / buffer_with_count_and_time stage -/

/-- stages `A ++ [buffer] ++ B`, `A` and `B` as above: the concatenation
    of the buffers at the probe is a subsequence of the items the source emitted. -/
theorem C09C_buffer_subsequence (A B : List Stage) (d : Nat) (cnt : Option Nat)
    (hA : ∀ st ∈ A, st.RateInit) (hB : ∀ st ∈ B, st.RateInit) (evs : List TW.Ev) :
    (released (chainRun (A ++ [.bufTime d cnt true [] none] ++ B) evs).log).Sublist
      (itemsEmitted evs) := by
  rw [List.append_assoc, List.singleton_append]
  exact buf_final9 A B _ (fun st h => (hA st h).start9) (bufInit_bufTime d cnt).start9
    (fun st h => (hB st h).start9) (fun st h => (hA st h).notBuf) rfl
    (fun st h => (hB st h).notBuf) evs

theorem C09C_buffer_nodup (A B : List Stage) (d : Nat) (cnt : Option Nat)
    (hA : ∀ st ∈ A, st.RateInit) (hB : ∀ st ∈ B, st.RateInit) (evs : List TW.Ev)
    (hd : (itemsEmitted evs).Nodup) :
    (released (chainRun (A ++ [.bufTime d cnt true [] none] ++ B) evs).log).Nodup :=
  (C09C_buffer_subsequence A B d cnt hA hB evs).nodup hd

theorem C09C_buffer_wf (A B : List Stage) (d : Nat) (cnt : Option Nat)
    (hA : ∀ st ∈ A, st.RateInit) (hB : ∀ st ∈ B, st.RateInit) (evs : List TW.Ev) :
    WF (chainRun (A ++ [.bufTime d cnt true [] none] ++ B) evs).log := by
  rw [List.append_assoc, List.singleton_append]
  exact chainRun_wf _ (forall_mem_append3 (fun st h => (hA st h).initial) (bufInit_bufTime d cnt).initial
    (fun st h => (hB st h).initial)) evs

/-! ## Readable corollaries: `pre → rate limiter → post` -/

/-- `source.pre….debounce(d).post…` with filtering `pre` / `post`. -/
theorem C09C_debounce_subsequence (pre post : List Op1) (h : ∀ op ∈ pre ++ post, op.filtering = true)
    (d : Nat) (evs : List TW.Ev) :
    (items (chainRun (pre.map (Stage.op1 ∘ Op1.init) ++ [.debounce d true none none] ++
      post.map (Stage.op1 ∘ Op1.init)) evs).log).Sublist (itemsEmitted evs) := by
  rw [List.append_assoc, List.singleton_append]
  exact C09C_rate_subsequence _
    (forall_mem_append3 (rateInit_ops pre (fun op ho => h op (by simp [ho]))) (rateInit_debounce d)
      (rateInit_ops post (fun op ho => h op (by simp [ho])))) evs

/-- `source.pre….throttle(d, edge).post…`, every edge mode. -/
theorem C09C_throttle_subsequence (pre post : List Op1) (h : ∀ op ∈ pre ++ post, op.filtering = true)
    (d : Nat) (e : Edge) (evs : List TW.Ev) :
    (items (chainRun (pre.map (Stage.op1 ∘ Op1.init) ++ [.throttle d e true none none] ++
      post.map (Stage.op1 ∘ Op1.init)) evs).log).Sublist (itemsEmitted evs) := by
  rw [List.append_assoc, List.singleton_append]
  exact C09C_rate_subsequence _
    (forall_mem_append3 (rateInit_ops pre (fun op ho => h op (by simp [ho]))) (rateInit_throttle d e)
      (rateInit_ops post (fun op ho => h op (by simp [ho])))) evs

/-- `source.pre….buffer_with_time(d) / buffer_with_count_and_time(c, d).post…`: `post`
    filters whole buffers. -/
theorem C09C_bufTime_subsequence (pre post : List Op1) (h : ∀ op ∈ pre ++ post, op.filtering = true)
    (d : Nat) (cnt : Option Nat) (evs : List TW.Ev) :
    (released (chainRun (pre.map (Stage.op1 ∘ Op1.init) ++ [.bufTime d cnt true [] none] ++
      post.map (Stage.op1 ∘ Op1.init)) evs).log).Sublist (itemsEmitted evs) :=
  C09C_buffer_subsequence _ _ d cnt (rateInit_ops pre (fun op ho => h op (by simp [ho])))
    (rateInit_ops post (fun op ho => h op (by simp [ho]))) evs

/-- Two rate limiters in a row. -/
theorem C09C_throttle_debounce_subsequence (d1 d2 : Nat) (e : Edge) (evs : List TW.Ev) :
    (items (chainRun [.throttle d1 e true none none, .debounce d2 true none none] evs).log).Sublist
      (itemsEmitted evs) :=
  C09C_rate_subsequence _ (by
    intro st hst
    simp only [List.mem_cons, List.not_mem_nil, or_false] at hst
    rcases hst with rfl | rfl
    · exact rateInit_throttle d1 e
    · exact rateInit_debounce d2) evs

/-! ### Non-vacuity: concrete chains and event lists (the model is executable) -/

/-- filter(even) → debounce 5 → take 2, executor driven by hand (late fire, spurious
    polls): 2 after the quiet period, 4 superseded by 6, 6 superseded by 8, 8 flushed by the
    completion, `take 2` completes. -/
example : (chainRun [.op1 (Op1.init (.filter (fun v => match v with | .int i => i % 2 == 0 | _ => false))),
      .debounce 5 true none none, .op1 (Op1.init (.take 2))]
    [.emit 0 (.next (.int 1)), .emit 0 (.next (.int 2)), .run, .adv 5, .run,
     .emit 0 (.next (.int 4)), .emit 0 (.next (.int 6)), .poll 0, .adv 9, .fire 0, .poll 1, .poll 1,
     .emit 0 (.next (.int 8)), .emit 0 .complete]).log
    = [.next (.int 2), .next (.int 8), .complete] := by decide

example : ∀ op ∈ [Op1.filter (fun v => match v with | .int i => i % 2 == 0 | _ => false)] ++ [Op1.take 2],
    op.filtering = true := by
  intro op h
  simp only [List.cons_append, List.nil_append, List.mem_cons, List.not_mem_nil, or_false] at h
  rcases h with rfl | rfl <;> rfl

/-- The hypothesis of `C09C_rate_subsequence` on that chain. -/
example : ∀ st ∈ [Stage.op1 (Op1.init (.filter (fun v => match v with | .int i => i % 2 == 0 | _ => false))),
    .debounce 5 true none none, .op1 (Op1.init (.take 2))], st.RateInit := by
  intro st h
  simp only [List.mem_cons, List.not_mem_nil, or_false] at h
  rcases h with rfl | rfl | rfl
  · exact ⟨.filter _, rfl, rfl⟩
  · exact rateInit_debounce 5
  · exact ⟨.take 2, rfl, rfl⟩

/-- throttle(5, leading+trailing) → debounce 3, with an `unsub`: item 3 is lost, nothing is
    invented or duplicated. -/
example : (chainRun [.throttle 5 .all true none none, .debounce 3 true none none]
    [.emit 0 (.next (.int 1)), .emit 0 (.next (.int 2)), .run, .adv 3, .run, .adv 2, .run, .adv 3, .run,
     .emit 0 (.next (.int 3)), .unsub, .emit 0 (.next (.int 4)), .adv 10, .run]).log
    = [.next (.int 1), .next (.int 2)] := by decide

/-- skip 1 → buffer_with_count_and_time(2, 5) → take 2: [2,3] by count, [4] by the timer
    (fired and polled by hand), then `take 2` completes. -/
example : (chainRun [.op1 (Op1.init (.skip 1)), .bufTime 5 (some 2) true [] none, .op1 (Op1.init (.take 2))]
    [.emit 0 (.next (.int 1)), .emit 0 (.next (.int 2)), .emit 0 (.next (.int 3)), .emit 0 (.next (.int 4)),
     .adv 5, .fire 0, .poll 0, .emit 0 (.next (.int 5)), .emit 0 (.next (.int 6)), .emit 0 .complete]).log
    = [.next (Val.ofList [.int 2, .int 3]), .next (Val.ofList [.int 4]), .complete] := by decide

/-- take_last 2 → throttle(5, trailing) → distinct_until_changed; another subject's
    emission is ignored. -/
example : (chainRun [.op1 (Op1.init (.takeLast 2)), .throttle 5 .trailing true none none,
      .op1 (Op1.init .distinctUntilChanged)]
    [.emit 0 (.next (.int 1)), .emit 0 (.next (.int 2)), .emit 0 (.next (.int 2)), .emit 1 (.next (.int 9)),
     .emit 0 .complete, .run, .adv 5, .run]).log
    = [.next (.int 2), .complete] := by decide

/-- skip 1 → buffer_with_time 5 → take_last 1 (the last BUFFER), spurious `poll` / `fire`. -/
example : released (chainRun [.op1 (Op1.init (.skip 1)), .bufTime 5 none true [] none,
      .op1 (Op1.init (.takeLast 1))]
    [.emit 0 (.next (.int 1)), .emit 0 (.next (.int 2)), .emit 0 (.next (.int 3)), .adv 5, .run,
     .emit 0 (.next (.int 4)), .poll 7, .fire 3, .emit 0 (.next (.int 5)), .adv 5, .run,
     .emit 0 (.next (.int 6)), .emit 0 .complete]).log
    = [.int 6] := by decide

/-- The class cannot be enlarged by `map`: it invents items. -/
example : ¬ (items (St1.run (Op1.init (.map (fun _ => .int 7))) [.next (.int 1)]).2).Sublist
    (items [.next (.int 1)]) := by decide

end Rx.T
