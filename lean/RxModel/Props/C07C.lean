import RxModel.Props.C07
import RxModel.Lemmas.ChainCompSpec
import RxModel.Lemmas.SingleChain
/-
  C07C — scheduler-moving operators preserve the sequence, IN COMPOSITIONS.

  C07 (Props/C07.lean) is about ONE `observe_on` / ONE `delay d` stage directly over the hot
  subject 0.  Here the stage sits between arbitrary synchronous single-input operators:

      hot subject 0 → pre₁ → … → preₖ → observe_on | delay d → post₁ → … → postₘ → probe

  `pre post : List Spec.Op1` are ANY operators of the synchronous catalogue with ANY parameters
  and closures (map, filter, take, skip, scan, take_while, last, contains, buffer_with_count …),
  in their initial per-subscription state; histories are ALL lists of FIFO-executor events
  (`FifoEv`: emissions of any subject / any notification also after a terminal, clock advances,
  `run`), no bound.

  * `C07C_observeOn_sim`, `C07C_delay_sim` — the SIMULATION theorem: the probe log is what `post`
    makes (synchronously, `runChain`) of the probe log of the ONE-STAGE world of C07 driven by
    `feedEvs pre evs` = the history in which every effective emission of subject 0 is replaced by
    the emissions of what `pre` outputs for it (clock advances and `run`s stay where they are).
    Early termination is handled, not excluded: when `post` has finished (`take 1` behind
    `observe_on` …) the subject still hands its terminal to `pre` (since `fix: Subject::error/
    complete hand the terminal to every subscriber`; before it the subject withheld it), the stage
    schedules it like any other notification, and for the finished `post` the later tasks are
    no-ops — the equation still holds.
  * `C07C_observeOn_fifo` — hence: the log is `post` applied to a PREFIX of what `pre` outputs for
    the gated source script, and right after a `run` the log is EXACTLY what the synchronous chain
    `pre ++ post` (observe_on removed) delivers: `observe_on` is transparent under FIFO.
  * `C07C_observeOn_order` — order preservation / nothing invented / the terminal only after all
    items: the log is always a prefix of the synchronous chain's output.
  * `C07C_observeOn_terminal_last` — once a terminal is at the probe, everything has arrived.
  * `C07C_observeOn_spec` — … which is the DOCUMENTED list semantics (`Spec.applyChain`, C03).
  * `C07C_delay_fifo` — `delay d`: the log is `post` applied to the closed form of C07
    (`Del.Ghost.log`: the stamps of the fed script whose timer was armed at a `run` and whose
    delay was over at the latest `run`, then the error if `pre` output one — `delay` forwards
    an error at once and cuts off what is pending).
  * `C07C_delay_order`, `C07C_delay_order_noerr`, `C07C_delay_terminal_last`, `C07C_delay_after_run`,
    `C07C_delay_never_early`.

  Hypothesis `Op1.calm`: every `take_last n` in `pre`/`post` has `n ≤ 500`.  This is an artefact
  of the MODEL, not of rxRust: the cascade of Sched/Chain.lean carries fuel (≥ 1576 per push) and
  silently drops notifications when it runs out; `take_last n` releases `n + 1` notifications for
  one `complete`, every other operator at most 2 per notification.  (All-chains statements that
  need no fuel assumption — sublists instead of equalities — are in C01C / C09C.)
-/
namespace Rx.T
open Rx Rx.Spec

/-- Simulation: `pre ++ [observe_on] ++ post` driven by `evs` = `post` applied to the log of the
    one-stage world of C07 driven by the feed. -/
theorem C07C_observeOn_sim (pre post : List Op1) (hcalm : ∀ o ∈ pre ++ post, o.calm = true)
    (evs : List TW.Ev) (h : ∀ e ∈ evs, FifoEv e) :
    (evs.foldl TW.step ((obsChain pre post).step .sub)).log =
      (runChain (post.map Op1.init)
        ((feedEvs (pre.map Op1.init) evs).foldl TW.step (C07_observeOn_world.step .sub)).log).2 :=
  obs_sim pre post hcalm evs h

/-- The feed is a FIFO history again and its script is what `pre` outputs for the gated source
    script (so the C07 theorems apply to the one-stage world of the simulation). -/
theorem C07C_feed (pre : List Op1) (evs : List TW.Ev) (h : ∀ e ∈ evs, FifoEv e) :
    (∀ e ∈ feedEvs (pre.map Op1.init) evs, FifoEv e) ∧
    script (feedEvs (pre.map Op1.init) evs) = preOut pre evs ∧
    WF (preOut pre evs) ∧
    clockOf (feedEvs (pre.map Op1.init) evs) = clockOf evs :=
  ⟨fifo_feedEvs _ evs h, script_feedEvs _ evs h, WF_preOut pre evs, clockOf_feedEvs _ evs⟩

/-- FIFO clause.  After ANY FIFO history the probe has received `post` applied to a prefix of
    what `pre` outputs for the gated source script; right after a `run` it has received EXACTLY
    what the synchronous chain `pre ++ post` delivers for the gated source script. -/
theorem C07C_observeOn_fifo (pre post : List Op1) (hcalm : ∀ o ∈ pre ++ post, o.calm = true)
    (evs : List TW.Ev) (h : ∀ e ∈ evs, FifoEv e) :
    (∃ L, L <+: preOut pre evs ∧
      (evs.foldl TW.step ((obsChain pre post).step .sub)).log = (runChain (post.map Op1.init) L).2) ∧
    (∀ evs', evs = evs' ++ [TW.Ev.run] →
      (evs.foldl TW.step ((obsChain pre post).step .sub)).log = syncOut pre post evs) :=
  obs_fifo pre post hcalm evs h

/-- Order: the log is a prefix of what the synchronous chain delivers — the items are, in order,
    the images of the source items under the composed synchronous semantics, nothing is
    invented, duplicated or reordered, and the terminal comes only after all of them. -/
theorem C07C_observeOn_order (pre post : List Op1) (hcalm : ∀ o ∈ pre ++ post, o.calm = true)
    (evs : List TW.Ev) (h : ∀ e ∈ evs, FifoEv e) :
    (evs.foldl TW.step ((obsChain pre post).step .sub)).log <+: syncOut pre post evs :=
  obs_order pre post hcalm evs h

/-- The terminal comes last: once a terminal is at the probe, the probe has received everything
    the synchronous chain delivers (the completion never overtakes an item). -/
theorem C07C_observeOn_terminal_last (pre post : List Op1) (hcalm : ∀ o ∈ pre ++ post, o.calm = true)
    (evs : List TW.Ev) (h : ∀ e ∈ evs, FifoEv e) (t : Notif) (ht : t.isTerm = true)
    (hm : t ∈ (evs.foldl TW.step ((obsChain pre post).step .sub)).log) :
    (evs.foldl TW.step ((obsChain pre post).step .sub)).log = syncOut pre post evs :=
  prefix_eq_of_terminal (C07C_observeOn_order pre post hcalm evs h) (WF_syncOut pre post evs) ht hm

/-- … and that is the documented list semantics: if the gated source script is the finite
    stream `s`, then right after a `run` the probe log is `applyChain (pre ++ post) s`. -/
theorem C07C_observeOn_spec (pre post : List Op1) (hcalm : ∀ o ∈ pre ++ post, o.calm = true)
    (evs : List TW.Ev) (h : ∀ e ∈ evs ++ [TW.Ev.run], FifoEv e) (s : Stream) (hv : s.Valid)
    (hs : gate (script evs) = s.toNotifs) :
    ((evs ++ [TW.Ev.run]).foldl TW.step ((obsChain pre post).step .sub)).log
      = (applyChain (pre ++ post) s).toNotifs := by
  rw [(C07C_observeOn_fifo pre post hcalm _ h).2 evs rfl, syncOut]
  have : script (evs ++ [TW.Ev.run]) = script evs := by simp [script, scriptOf]
  rw [this, hs]
  exact runChain_spec (pre ++ post) s hv

/-- With nothing around it this is C07. -/
theorem C07C_observeOn_nil : obsChain [] [] = C07_observeOn_world := rfl

theorem C07C_delay_sim (d : Nat) (pre post : List Op1) (hcalm : ∀ o ∈ pre ++ post, o.calm = true)
    (evs : List TW.Ev) (h : ∀ e ∈ evs, FifoEv e) :
    (evs.foldl TW.step ((delayChain d pre post).step .sub)).log =
      (runChain (post.map Op1.init)
        ((feedEvs (pre.map Op1.init) evs).foldl TW.step ((C07_delay_world d).step .sub)).log).2 :=
  del_sim d pre post hcalm evs h

/-- What the model does, exactly: `post` applied to the closed form of C07 over the feed. With
    `g := Del.ghost (feedEvs pre evs)` (the fed script stamped with `te` = clock at emission,
    `ta` = clock at the first `run` after it; `horizon` = clock at the latest `run`, frozen once
    `pre` has output an error): the log is `post` applied to the stamps with `ta + d ≤ horizon`,
    in order, then the error if there is one; the stamped notifications plus that error are what
    `pre` outputs for the gated source script; the ghost clock is the total clock advance. -/
theorem C07C_delay_fifo (d : Nat) (pre post : List Op1) (hcalm : ∀ o ∈ pre ++ post, o.calm = true)
    (evs : List TW.Ev) (h : ∀ e ∈ evs, FifoEv e) :
    (evs.foldl TW.step ((delayChain d pre post).step .sub)).log =
      (runChain (post.map Op1.init)
        (((Del.ghost (feedEvs (pre.map Op1.init) evs)).q.filter
            (Del.Stamp.delivered d (Del.ghost (feedEvs (pre.map Op1.init) evs)).horizon)).map (·.n)
          ++ (Del.ghost (feedEvs (pre.map Op1.init) evs)).errPart)).2 ∧
    (Del.ghost (feedEvs (pre.map Op1.init) evs)).q.map (·.n)
        ++ (Del.ghost (feedEvs (pre.map Op1.init) evs)).errPart = preOut pre evs ∧
    (Del.ghost (feedEvs (pre.map Op1.init) evs)).clock = clockOf evs := by
  obtain ⟨hf, hs, hw, hc⟩ := C07C_feed pre evs h
  obtain ⟨h1, h2, _⟩ := C07_delay_fifo d _ hf
  refine ⟨?_, ?_, ?_⟩
  · rw [C07C_delay_sim d pre post hcalm evs h, h1]
  · rw [h2, hs, gate_of_WF hw]
  · rw [ghost_clock, hc]

/-- Order: `post` applied to a prefix of what `pre` outputs — or, when `pre` has output an
    error, to such a prefix followed by that error. -/
theorem C07C_delay_order (d : Nat) (pre post : List Op1) (hcalm : ∀ o ∈ pre ++ post, o.calm = true)
    (evs : List TW.Ev) (h : ∀ e ∈ evs, FifoEv e) :
    ∃ p, p <+: preOut pre evs ∧
      ((evs.foldl TW.step ((delayChain d pre post).step .sub)).log = (runChain (post.map Op1.init) p).2 ∨
       ∃ e, (preOut pre evs).getLast? = some (.error e) ∧
         (evs.foldl TW.step ((delayChain d pre post).step .sub)).log
           = (runChain (post.map Op1.init) (p ++ [.error e])).2) :=
  del_order d pre post hcalm evs h

/-- No error: the log is a prefix of what the synchronous chain delivers. -/
theorem C07C_delay_order_noerr (d : Nat) (pre post : List Op1) (hcalm : ∀ o ∈ pre ++ post, o.calm = true)
    (evs : List TW.Ev) (h : ∀ e ∈ evs, FifoEv e) (hne : ∀ e, (preOut pre evs).getLast? ≠ some (.error e)) :
    (evs.foldl TW.step ((delayChain d pre post).step .sub)).log <+: syncOut pre post evs := by
  obtain ⟨p, hp, h1 | ⟨e, h2, _⟩⟩ := C07C_delay_order d pre post hcalm evs h
  · rw [h1, syncOut_eq]; exact runChain_prefix _ hp
  · exact absurd h2 (hne e)

/-- No error: the terminal comes last also behind `delay`. -/
theorem C07C_delay_terminal_last (d : Nat) (pre post : List Op1) (hcalm : ∀ o ∈ pre ++ post, o.calm = true)
    (evs : List TW.Ev) (h : ∀ e ∈ evs, FifoEv e) (hne : ∀ e, (preOut pre evs).getLast? ≠ some (.error e))
    (t : Notif) (ht : t.isTerm = true)
    (hm : t ∈ (evs.foldl TW.step ((delayChain d pre post).step .sub)).log) :
    (evs.foldl TW.step ((delayChain d pre post).step .sub)).log = syncOut pre post evs :=
  prefix_eq_of_terminal (C07C_delay_order_noerr d pre post hcalm evs h hne) (WF_syncOut pre post evs) ht hm

/-- Right after a `run`, `pre` has not output an error: every fed notification has its timer
    armed and `post` has received exactly those with `ta + d ≤ clock`. -/
theorem C07C_delay_after_run (d : Nat) (pre post : List Op1) (hcalm : ∀ o ∈ pre ++ post, o.calm = true)
    (evs : List TW.Ev) (h : ∀ e ∈ evs, FifoEv e)
    (he : (Del.ghost (feedEvs (pre.map Op1.init) (evs ++ [TW.Ev.run]))).err = none) :
    ((evs ++ [TW.Ev.run]).foldl TW.step ((delayChain d pre post).step .sub)).log =
      (runChain (post.map Op1.init)
        (((Del.ghost (feedEvs (pre.map Op1.init) (evs ++ [TW.Ev.run]))).q.filter
          (Del.Stamp.delivered d (clockOf evs))).map (·.n))).2 ∧
    ∀ st ∈ (Del.ghost (feedEvs (pre.map Op1.init) (evs ++ [TW.Ev.run]))).q, st.ta ≠ none := by
  have hall : ∀ e ∈ evs ++ [TW.Ev.run], FifoEv e := fifo_append h (fifo_single .run)
  rw [feedEvs_snoc_run] at he ⊢
  obtain ⟨h1, _, h3⟩ := C07_delay_after_run d _ (fifo_feedEvs (pre.map Op1.init) evs h) he
  refine ⟨?_, h3⟩
  rw [C07C_delay_sim d pre post hcalm _ hall, feedEvs_snoc_run, h1, ghost_clock, ← feedEvs_snoc_run,
    clockOf_feedEvs]
  simp [clockOf_append, clockOf]

/-- Never early: every notification `post` has received left `pre` at least `d` before the
    current clock (= total clock advance). -/
theorem C07C_delay_never_early (d : Nat) (pre : List Op1) (evs : List TW.Ev) (h : ∀ e ∈ evs, FifoEv e) :
    ∀ st ∈ (Del.ghost (feedEvs (pre.map Op1.init) evs)).q,
      st.delivered d (Del.ghost (feedEvs (pre.map Op1.init) evs)).horizon = true →
      st.te + d ≤ clockOf evs := by
  intro st hst hd
  have := Del.never_early d _ (fifo_feedEvs (pre.map Op1.init) evs h) st hst hd
  rwa [ghost_clock, clockOf_feedEvs] at this

theorem C07C_delay_nil (d : Nat) : delayChain d [] [] = C07_delay_world d := rfl

def exAdd1 : Val → Val
  | .int i => .int (i + 1)
  | v => v

def exAdd : Val → Val → Val
  | .int a, .int b => .int (a + b)
  | _, b => b

def exEven : Val → Bool
  | .int i => i % 2 == 0
  | _ => false

/-- `[map add1, observe_on, take 2]`: three items and the completion are emitted; after `run`
    the probe has the first two images and `take`'s completion. -/
example :
    ([TW.Ev.sub, .emit 0 (.next (.int 1)), .emit 0 (.next (.int 2)), .adv 3, .emit 0 (.next (.int 3)),
      .emit 0 .complete, .run].foldl TW.step (obsChain [.map exAdd1] [.take 2])).log
      = [.next (.int 2), .next (.int 3), .complete] := by decide +kernel

/-- … the same value computed by the right-hand side of `C07C_observeOn_fifo`. -/
example :
    syncOut [.map exAdd1] [.take 2]
      [.emit 0 (.next (.int 1)), .emit 0 (.next (.int 2)), .adv 3, .emit 0 (.next (.int 3)),
       .emit 0 .complete, .run]
      = [.next (.int 2), .next (.int 3), .complete] := by decide +kernel

/-- `take 1` behind `observe_on` has finished when the source completes: the completion is still
    handed to `scan` in front and scheduled by `observe_on` (before `fix: Subject::error/complete hand
    the terminal to every subscriber` the subject withheld it); the finished `take 1` ignores the
    task — the log is still the synchronous chain's. -/
example :
    ([TW.Ev.sub, .emit 0 (.next (.int 1)), .run, .emit 0 (.next (.int 2)), .emit 0 .complete, .run].foldl
      TW.step (obsChain [.scan exAdd (.int 0)] [.take 1])).log
      = [.next (.int 1), .complete] := by decide +kernel

/-- … `buffer_with_count 2` in front: the remainder `[3]` it releases on completion is scheduled
    like everything else (the feed of the simulation contains it); `take 1` ignores it. -/
example :
    ([TW.Ev.sub, .emit 0 (.next (.int 1)), .emit 0 (.next (.int 2)), .run, .emit 0 (.next (.int 3)),
      .emit 0 .complete, .run].foldl TW.step (obsChain [.bufferCount 2] [.take 1])).log
      = [.next (Val.ofList [.int 1, .int 2]), .complete] := by decide +kernel

example :
    script (feedEvs ([Op1.bufferCount 2].map Op1.init)
      [.emit 0 (.next (.int 1)), .emit 0 (.next (.int 2)), .run, .emit 0 (.next (.int 3)),
       .emit 0 .complete, .run])
      = [.next (Val.ofList [.int 1, .int 2]), .next (Val.ofList [.int 3]), .complete] := by decide +kernel

/-- The feed: `filter even` drops 1 and 3, `last` turns the completion into item + completion. -/
example :
    script (feedEvs ([Op1.filter exEven, .last].map Op1.init)
      [.emit 0 (.next (.int 1)), .emit 0 (.next (.int 2)), .adv 3, .emit 7 (.next (.int 9)), .run,
       .emit 0 (.next (.int 3)), .emit 0 .complete, .emit 0 (.next (.int 4))])
      = [.next (.int 2), .complete] := by decide +kernel

/-- `[filter even, delay 5, skip 1]`. -/
example :
    ([TW.Ev.sub, .emit 0 (.next (.int 2)), .emit 0 (.next (.int 3)), .emit 0 (.next (.int 4)), .run, .adv 5,
      .emit 0 (.next (.int 6)), .run].foldl TW.step (delayChain 5 [.filter exEven] [.skip 1])).log
      = [.next (.int 4)] := by decide +kernel

/-- An error output by `pre` overtakes the pending items also behind operators. -/
example :
    ([TW.Ev.sub, .emit 0 (.next (.int 2)), .run, .emit 0 (.error 7), .adv 9, .run].foldl TW.step
      (delayChain 5 [.map exAdd1] [.onErrorMap (fun e => e + 1)])).log = [.error 8] := by decide +kernel

/-- The hypotheses are satisfiable. -/
example : ∀ o ∈ [Op1.map exAdd1] ++ [Op1.take 2], o.calm = true := by
  intro o ho
  simp at ho
  rcases ho with rfl | rfl <;> rfl

end Rx.T
