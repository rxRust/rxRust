import RxModel.Lemmas.MergeAllCompletion
import RxModel.Lemmas.MergeAllOnce
/-
  C05 — Flattening (merge_all(n), concat_all, flatten, flat_map, concat_map)
  delivers every inner item once and honours the concurrency limit.

  Model: RxModel/Ops/MergeAll.lean (transcription of
  src/ops/merge_all.rs; `MergeAll.run` = the code as it is, `MergeAll.Fixed.run`
  = the repaired code, both instances of `runG fixed`).  Helper lemmas:
  RxModel/Lemmas/MergeAll*.lean.  The theorems quantify over every table of
  inner observables (any mix of cold and hot), every limit and every list of
  external events (= every outer script and every interleaving).
-/
namespace Rx
open MergeAll

/-- The code's counter never exceeds the limit, and neither does the number of
    inner observables subscribed and not yet completed (ghost counters `started`
    / `completed`, incremented at the `actual_subscribe` and `complete` calls).
    Code as it is; any limit, any history (errors and unsubscription included). -/
theorem C05_limit (inners : List Inner) (n : Nat) (evs : List Ev) :
    (run (init inners n) evs).1.subscribed ≤ n ∧
    (run (init inners n) evs).1.started - (run (init inners n) evs).1.completed ≤ n :=
  runG_limit false inners n evs

/-- The same for the repaired code. -/
theorem C05_limit_fixed (inners : List Inner) (n : Nat) (evs : List Ev) :
    (Fixed.run (init inners n) evs).1.subscribed ≤ n ∧
    (Fixed.run (init inners n) evs).1.started - (Fixed.run (init inners n) evs).1.completed ≤ n :=
  runG_limit true inners n evs

/-- Full-strength statement: no history makes the operator panic (`RefCell
    already borrowed`) or re-lock its own mutex. -/
def C05_no_stuck_statement (run : St → List Ev → St × List Out) : Prop :=
  ∀ (inners : List Inner) (n : Nat) (evs : List Ev), (run (init inners n) evs).1.stuck = false

/-- It is FALSE for the code as it is: with limit 1, a hot inner followed by a
    queued cold inner; the completion of the first starts the second while the
    cell is still borrowed (merge_all.rs:160-163).  This is the replay
    `limit 1; inners (hot 0) (cold () c); outer (o 0); outer (o 1); inner 0 c`. -/
theorem C05_no_stuck_counterexample :
    (run (init [.hot 0, .cold [] .complete] 1)
      [.outerNext 0, .outerNext 1, .innerComplete 0]).1.stuck = true := by decide

theorem C05_no_stuck_false : ¬ C05_no_stuck_statement run := by
  intro h
  have := h [.hot 0, .cold [] .complete] 1 [.outerNext 0, .outerNext 1, .innerComplete 0]
  rw [C05_no_stuck_counterexample] at this
  cases this

/-- What does hold of the code as it is: an event cannot get stuck when no queued
    inner observable emits or terminates inside `actual_subscribe` (all queued
    inners hot, or cold and silent).  Missing: queued synchronous inners. -/
theorem C05_no_stuck_partial_step (s : St) (ev : Ev) (h : s.stuck = false) (hq : QueueQuiet s) :
    (step s ev).1.stuck = false :=
  stepG_not_stuck false s ev h (Or.inr hq)

/-- … and hence a history cannot, if the queue is quiet before each of its events. -/
theorem C05_no_stuck_partial (inners : List Inner) (n : Nat) (evs : List Ev)
    (hq : ∀ pre ev post, evs = pre ++ ev :: post → QueueQuiet (run (init inners n) pre).1) :
    (run (init inners n) evs).1.stuck = false :=
  runG_not_stuck_quiet evs (init inners n) rfl hq

/-- The repaired code (borrow released before the deferred subscription runs)
    satisfies the full-strength statement. -/
theorem C05_no_stuck : C05_no_stuck_statement Fixed.run :=
  fun inners n evs => runG_not_stuck_fixed evs (init inners n) rfl

/-! ### Completion

  Error-free histories: no cold inner of the table ends with an error
  (`NoErrTable`), no error event on the outer stream or a hot inner, no
  unsubscription (`Ev.benign`).  `arrivals` counts the inner observables the
  outer stream delivered, `completed` the inner completions the operator
  received (ghost counters of the model); `outsideCompleted` is the code's flag.
  The theorems hold for every history, hence for every prefix of a history:
  downstream has completed after exactly those prefixes after which the outer
  stream and all inner streams have completed — not before, and without delay. -/

/-- Repaired code, any limit `1 ≤ n`. -/
theorem C05_completion (inners : List Inner) (n : Nat) (evs : List Ev) (hn : 1 ≤ n)
    (ht : NoErrTable inners) (hb : ∀ ev ∈ evs, Ev.benign ev = true) :
    Out.complete ∈ (Fixed.run (init inners n) evs).2 ↔
      ((Fixed.run (init inners n) evs).1.outsideCompleted = true ∧
       (Fixed.run (init inners n) evs).1.completed = (Fixed.run (init inners n) evs).1.arrivals) :=
  (runG_completion true inners n evs hn ht hb (runG_not_stuck_fixed evs _ rfl)).1

/-- The code as it is, on the histories on which it does not get stuck. -/
theorem C05_completion_partial (inners : List Inner) (n : Nat) (evs : List Ev) (hn : 1 ≤ n)
    (ht : NoErrTable inners) (hb : ∀ ev ∈ evs, Ev.benign ev = true)
    (hs : (run (init inners n) evs).1.stuck = false) :
    Out.complete ∈ (run (init inners n) evs).2 ↔
      ((run (init inners n) evs).1.outsideCompleted = true ∧
       (run (init inners n) evs).1.completed = (run (init inners n) evs).1.arrivals) :=
  (runG_completion false inners n evs hn ht hb hs).1

/-- On error-free histories the code's counter *is* the number of inner
    observables subscribed and not yet completed, and every arrived inner is
    either started or queued (repaired code; `1 ≤ n`). -/
theorem C05_accounting (inners : List Inner) (n : Nat) (evs : List Ev) (hn : 1 ≤ n)
    (ht : NoErrTable inners) (hb : ∀ ev ∈ evs, Ev.benign ev = true) :
    (Fixed.run (init inners n) evs).1.started =
      (Fixed.run (init inners n) evs).1.subscribed + (Fixed.run (init inners n) evs).1.completed ∧
    (Fixed.run (init inners n) evs).1.arrivals =
      (Fixed.run (init inners n) evs).1.started + (Fixed.run (init inners n) evs).1.queue.length :=
  have h := (runG_completion true inners n evs hn ht hb (runG_not_stuck_fixed evs _ rfl)).2
  ⟨h.cnt, h.arr⟩

/-! ### Every item once, in order

  An inner observable is identified by its arrival: the history is split at
  the outer event `outerNext k` that delivers it; the tag it receives is the
  arrival counter at that moment (ghost, attached by the model to every item).
  `restrict t out` is the sub-sequence of the output produced by instance `t`.
  For a cold inner with script `xs` it is `xs` — every item, once, in order —
  as soon as the instance has left the queue, and empty while it is queued;
  in particular nothing of it is emitted before its arrival, nothing twice.
  Any limit, any history (errors and unsubscription included: they can only
  keep the instance queued for ever). -/

/-- Repaired code. -/
theorem C05_once_in_order (inners : List Inner) (n : Nat) (pre post : List Ev) (k : Nat)
    (xs : List Val) (fin : Fin) (hk : (init inners n).inner k = .cold xs fin)
    (ho : (Fixed.run (init inners n) pre).1.outerOpen = true)
    (ha : (Fixed.run (init inners n) pre).1.alive = true) :
    restrict (Fixed.run (init inners n) pre).1.arrivals
        (Fixed.run (init inners n) (pre ++ .outerNext k :: post)).2 =
      if nTag (Fixed.run (init inners n) (pre ++ .outerNext k :: post)).1.queue
            (Fixed.run (init inners n) pre).1.arrivals = 0 then xs else [] :=
  runG_once true inners n pre post k xs fin hk ho ha (runG_not_stuck_fixed _ _ rfl)

/-- The code as it is, on the histories on which it does not get stuck. -/
theorem C05_once_in_order_partial (inners : List Inner) (n : Nat) (pre post : List Ev) (k : Nat)
    (xs : List Val) (fin : Fin) (hk : (init inners n).inner k = .cold xs fin)
    (ho : (run (init inners n) pre).1.outerOpen = true)
    (ha : (run (init inners n) pre).1.alive = true)
    (hs : (run (init inners n) (pre ++ .outerNext k :: post)).1.stuck = false) :
    restrict (run (init inners n) pre).1.arrivals
        (run (init inners n) (pre ++ .outerNext k :: post)).2 =
      if nTag (run (init inners n) (pre ++ .outerNext k :: post)).1.queue
            (run (init inners n) pre).1.arrivals = 0 then xs else [] :=
  runG_once false inners n pre post k xs fin hk ho ha hs

/-- Once downstream has completed (error-free history, `1 ≤ n`), every cold
    inner that arrived has delivered its whole script (repaired code). -/
theorem C05_once_when_complete (inners : List Inner) (n : Nat) (pre post : List Ev) (k : Nat)
    (xs : List Val) (fin : Fin) (hn : 1 ≤ n) (ht : NoErrTable inners)
    (hb : ∀ ev ∈ pre ++ .outerNext k :: post, Ev.benign ev = true)
    (hk : (init inners n).inner k = .cold xs fin)
    (ho : (Fixed.run (init inners n) pre).1.outerOpen = true)
    (ha : (Fixed.run (init inners n) pre).1.alive = true)
    (hc : Out.complete ∈ (Fixed.run (init inners n) (pre ++ .outerNext k :: post)).2) :
    restrict (Fixed.run (init inners n) pre).1.arrivals
        (Fixed.run (init inners n) (pre ++ .outerNext k :: post)).2 = xs := by
  rw [C05_once_in_order inners n pre post k xs fin hk ho ha]
  have hd := (complete_iff_dead true inners n _ ht hb).mp hc
  have hq : (Fixed.run (init inners n) (pre ++ .outerNext k :: post)).1.queue = [] :=
    ((runG_completion true inners n _ hn ht hb (runG_not_stuck_fixed _ _ rfl)).2.done.mp hd).2.2
  rw [hq]; rfl

-- the counterexample history is fine on the repaired code and delivers the queued inner
example : (Fixed.run (init [.hot 0, .cold [.int 1, .int 2] .complete] 1)
      [.outerNext 0, .outerNext 1, .innerNext 0 (.int 9), .innerComplete 0, .outerComplete]).2
    = [.item 0 (.int 9), .item 1 (.int 1), .item 1 (.int 2), .complete] := by decide

-- a history with a non-empty quiet queue (hypothesis of the partial theorem is satisfiable)
example : QueueQuiet (run (init [.hot 0, .hot 1] 1) [.outerNext 0, .outerNext 1]).1
    ∧ (run (init [.hot 0, .hot 1] 1) [.outerNext 0, .outerNext 1]).1.queue ≠ [] := by
  constructor
  · intro i hi
    have : i = ⟨1, 1⟩ := by simpa [run, runG, stepG, outerNext, startTop, init, St.inner] using hi
    subst this; rfl
  · decide

-- the hypotheses of the completion theorem are satisfiable, with a completing history
example : NoErrTable [.hot 0, .cold [.int 1, .int 2] .complete] := by
  intro xs e h; simp at h
example : Out.complete ∈ (Fixed.run (init [.hot 0, .cold [.int 1, .int 2] .complete] 1)
      [.outerNext 0, .outerNext 1, .outerComplete, .innerComplete 0]).2
    ∧ Out.complete ∉ (Fixed.run (init [.hot 0, .cold [.int 1, .int 2] .complete] 1)
      [.outerNext 0, .outerNext 1, .outerComplete]).2 := by decide

-- an instance of `C05_once_in_order` with a queued, then started, cold inner
example : restrict 1 (Fixed.run (init [.hot 0, .cold [.int 1, .int 2] .complete] 1)
      ([.outerNext 0] ++ .outerNext 1 :: [.innerNext 0 (.int 9), .innerComplete 0])).2
    = [.int 1, .int 2] := by decide
example : (Fixed.run (init [.hot 0, .cold [.int 1, .int 2] .complete] 1) [.outerNext 0]).1.outerOpen = true
    ∧ (Fixed.run (init [.hot 0, .cold [.int 1, .int 2] .complete] 1) [.outerNext 0]).1.alive = true
    ∧ (Fixed.run (init [.hot 0, .cold [.int 1, .int 2] .complete] 1) [.outerNext 0]).1.arrivals = 1 := by
  decide

-- limit 0 is excluded: the code queues every inner forever and never completes
example : (run (init [.cold [.int 1] .complete] 0) [.outerNext 0, .outerComplete]).2 = []
    ∧ (run (init [.cold [.int 1] .complete] 0) [.outerNext 0, .outerComplete]).1.queue = [⟨0, 0⟩] := by
  decide

end Rx
