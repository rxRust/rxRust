import RxModel.Subject.ShareLemmas
/-
  C11 — publish/connect and share subscribe the source once and multicast.

  Property theorems only.  Model: RxModel/Subject/Share.lean (`Model.code` = /repo as it
  is, `Model.fixed` = repaired code); helper lemmas: RxModel/Subject/ShareLemmas.lean.

  Every theorem quantifies over ALL histories `es : List Ev` of subscribe / unsubscribe
  (any labels, any number of times), source events on the hot source, `connect` and
  queries, for cold (`some xs`) and hot (`none`) sources, for both transcriptions unless
  said otherwise.  `srcSubs` counts calls of the upstream `defer` closure (subscriptions
  made on the source), `tap` the calls of the upstream `tap` closure.

  The code as it is violates the release clause (DESIGN §7 finding 14): the full statement
  `ReleaseSpec` is refuted for `.code` by a concrete witness, proved for `.fixed`, and
  `C11_release_partial` states what the code does satisfy.
-/
namespace Rx.Share
open W

/-- No source subscription, no upstream side effect and no delivery before `connect()`
    (publish) / before the first subscriber (share). -/
theorem C11_lazy_connect (m : Model) (kind : Kind) (cold : Option (List Val)) (es : List Ev)
    (h : ∀ e ∈ es, trigger kind e = false) :
    ((init m kind cold).run es).1.srcSubs = 0 ∧ ((init m kind cold).run es).1.tap = 0 ∧
      ∀ o ∈ ((init m kind cold).run es).2, dlvOf o = [] := by
  have := run_idle es (init m kind cold) (by simp [Idle, init]) (by simpa [init] using h)
  exact ⟨this.1.2.1, this.1.2.2.1, this.2⟩

/-- Whatever the history: at most one subscription is ever made on the source, and exactly
    one iff somebody subscribed (share) / `connect()` was called (publish). -/
theorem C11_once (m : Model) (kind : Kind) (cold : Option (List Val)) (es : List Ev) :
    ((init m kind cold).run es).1.srcSubs ≤ 1 ∧
      (((init m kind cold).run es).1.srcSubs = 1 ↔ ∃ e ∈ es, trigger kind e = true) := by
  obtain ⟨_, _, _, h4, h5⟩ := run_once es (init m kind cold) (by simp [init])
  have h4' : ((init m kind cold).run es).1.connected = es.any (trigger kind) := by
    rw [h4]; simp [init]
  rw [h5, h4']
  cases hany : es.any (trigger kind) with
  | true => simpa using List.any_eq_true.1 hany
  | false =>
    simp
    intro e he
    have := List.any_eq_false.1 hany e he
    simpa using this

/-- Multicast: after any history, while the hot source is wired to the inner subject, every
    subscriber present (its entry is in the subject and its cell is full) receives the item. -/
theorem C11_multicast (m : Model) (kind : Kind) (es : List Ev) (v : Val) (id k : Nat)
    (hf : Flowing ((init m kind none).run es).1)
    (hid : id ∈ ((init m kind none).run es).1.entries)
    (hc : ((init m kind none).run es).1.cell id = some k) :
    (k, Notif.next v) ∈ dlvOf (((init m kind none).run es).1.step (.emit (.next v))).2 :=
  multicast_step _ v hf id k hid hc

/-- Release, full strength: when the last present subscriber of a connected `share`
    unsubscribes, nothing is delivered any more and the upstream is not run any more
    (the `tap` counter between source and share stays frozen), whatever happens next. -/
def ReleaseSpec (m : Model) : Prop :=
  ∀ (cold : Option (List Val)) (es : List Ev) (k id : Nat) (es' : List Ev),
    ((init m .share cold).run es).1.connected = true →
    ((((init m .share cold).run es).1.handles[k]?).join = some id) →
    (∀ j ∈ ((init m .share cold).run es).1.entries, j ≠ id →
        ((init m .share cold).run es).1.cell j = none) →
    (∀ o ∈ (((((init m .share cold).run es).1.step (.unsub k)).1).run es').2, dlvOf o = []) ∧
      (((((init m .share cold).run es).1.step (.unsub k)).1).run es').1.tap =
        ((((init m .share cold).run es).1.step (.unsub k)).1).tap

/-- The repaired code releases. -/
theorem C11_release : ReleaseSpec .fixed := by
  intro cold es k id es' hc hh hlast
  obtain ⟨h1, h2, _, _, _⟩ := run_once es (init .fixed .share cold) (by simp [init])
  have hheld := run_held es (init .fixed .share cold) rfl rfl (by simp [Held, init])
  have hq := release_step _ k id (by rw [h2]; rfl) (by rw [h1]; rfl) hc hh hheld hlast
  exact run_quiet es' _ (by simpa [step] using hq)

/-- Finding 14: the code as it is never releases — after the only subscriber has left, the
    hot source still drives the upstream `tap`. -/
theorem C11_release_code_counterexample : ¬ ReleaseSpec .code := by
  intro h
  have := (h none [.sub 0] 0 0 [.emit (.next (.int 5))] (by decide) (by decide) (by decide)).2
  revert this
  decide

/-- … and a subscriber that joins afterwards is served from the never-released connection. -/
theorem C11_release_code_late_subscriber :
    ((init .code .share none).run [.sub 0, .unsub 0, .sub 1, .emit (.next (.int 5))]).2 =
      [.dlv [] 1 0, .dlv [] 1 0, .dlv [] 1 0, .dlv [(1, .next (.int 5))] 1 1] := by decide

/-- What the code as it is does satisfy: over a cold synchronous source the source has
    completed by the time `connect()` returns, so after connection nothing is delivered and
    the upstream is not run any more — in particular after the last unsubscribe. -/
theorem C11_release_partial (m : Model) (kind : Kind) (xs : List Val) (es es' : List Ev)
    (hc : ((init m kind (some xs)).run es).1.connected = true) :
    (∀ o ∈ (((init m kind (some xs)).run es).1.run es').2, dlvOf o = []) ∧
      (((init m kind (some xs)).run es).1.run es').1.tap = ((init m kind (some xs)).run es).1.tap := by
  have hcd := run_coldDone es (init m kind (some xs)) xs rfl (by simp [ColdDone, init])
  exact run_quiet es' _ ⟨hc, hcd.2 hc, by simp [hcd.1]⟩

/-! ## Non-vacuity -/
example : ((Fixed.init .share none).run [.sub 0, .sub 1, .emit (.next (.int 5)), .unsub 0, .unsub 1,
    .emit (.next (.int 6)), .sub 2, .emit (.next (.int 7))]).2 =
    [.dlv [] 1 0, .dlv [] 1 0, .dlv [(0, .next (.int 5)), (1, .next (.int 5))] 1 1, .dlv [] 1 1,
     .dlv [] 1 1, .dlv [] 1 1, .dlv [] 1 1, .dlv [] 1 1] := by decide
example : Flowing ((init .code .share none).run [.sub 0, .sub 1]).1 := by
  refine ⟨?_, ?_, ?_, ?_⟩ <;> decide
example : ((init .code .share none).run [.sub 0, .sub 1]).1.entries = [0, 1] := by decide
example : ((init .code .publish (some [.int 1, .int 2])).run [.sub 0, .sub 1, .connect]).2 =
    [.dlv [] 0 0, .dlv [] 0 0,
     .dlv [(0, .next (.int 1)), (1, .next (.int 1)), (0, .next (.int 2)), (1, .next (.int 2)),
           (0, .complete), (1, .complete)] 1 2] := by decide

end Rx.Share
