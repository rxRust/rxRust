import RxModel.Lemmas.SubjectRefine
import RxModel.Lemmas.SubjectSpecFacts
/-
  C06 — Subjects deliver each item once, in order, to exactly the current
  subscribers (sequential part; one model for Subject, SubjectThreads and the three
  MutRef variants: same macro).

  Property theorems only.  Helper lemmas: RxModel/Lemmas/Subject*.lean.
  `State`/`step`/`run` (Subject/Subject.lean) is the transcription of
  src/subject.rs + src/subscriber.rs + impl_rc_observer and is what `rxdriver`
  executes against the real types; `Abs` (Spec/SubjectSpec.lean) is the abstract
  spec `{live, done}`.  `C06_refines` ties them for every history of any length;
  the `C06_spec_*` theorems spell out what the abstract spec promises.
-/
namespace Rx.Subj

/-- Refinement, all histories of any length (subscribe with any callback script,
    unsubscribe-one, next, error, complete, retain, unsubscribe, clone): per
    operation the deliveries (who, what, in which order), the finished flag and the
    panic flag of the concrete two-stage subject are those of the abstract spec. -/
theorem C06_refines (ops : List SubjOp) : (run ops).map Output.vis = Abs.run ops :=
  runFrom_refines ops State.init Inv.init rfl

/-- The property in its plain form, for every history of any length in which the
    subscribers do nothing inside their callbacks: the real two-stage subject behaves
    as the one-list spec `Simple` — each item is delivered once, in subscription
    order, to exactly the subscribers that joined before it and have not left; a
    terminal once to each of them; nothing after a terminal or `unsubscribe()`;
    late subscribers are never called; no panic. -/
theorem C06_plain (ops : List SubjOp) (hp : ∀ op ∈ ops, op.Plain) :
    (run ops).map Output.vis = Simple.run ops := by
  rw [C06_refines]
  have hq : Abs.init.Quiet := by
    intro sc h
    simp [Abs.init] at h
  have h0 : SimRel Abs.init Simple.init := ⟨rfl, rfl, rfl, hq, rfl, AInv.init⟩
  exact SimRel.runFrom ops Abs.init Simple.init h0 hp

/-- The only panic a sequential history can meet is the one the spec names (a
    subscriber unsubscribing itself inside its own callback); in particular the
    `unwrap()`s on the chamber in `load`/`len`/`is_empty` never fire
    ("observers = Some → chamber = Some"). -/
theorem C06_no_unwrap_panic (ops : List SubjOp) (o : Output) (ho : o ∈ run ops) (hp : o.panic = true) :
    ∃ a ∈ Abs.run ops, a.panic = true := by
  refine ⟨o.vis, ?_, hp⟩
  rw [← C06_refines]
  exact List.mem_map_of_mem ho

/-- `len`/`is_empty` bookkeeping (they count closed-but-not-retained entries, so they
    are not part of the abstract spec): `len = |observers| + |chamber|` while open. -/
theorem C06_len (s : State) (hI : Inv s) :
    s.len? = some (match s.observers with
      | none => 0
      | some obs => obs.length + (s.chamber.getD []).length) :=
  (size_queries s hI).1

/-- In every history: `is_closed = is_finished`, `is_empty ↔ len = 0`, and after a
    terminal or `unsubscribe()` the subject reports itself finished AND empty. -/
theorem C06_finished_empty (ops : List SubjOp) (o : Output) (ho : o ∈ run ops) :
    o.closed = o.finished ∧ o.empty = (o.len == 0) ∧ (o.finished = true → o.len = 0 ∧ o.empty = true) := by
  refine runFrom_all (fun o => o.closed = o.finished ∧ o.empty = (o.len == 0) ∧
      (o.finished = true → o.len = 0 ∧ o.empty = true)) ?_ ops State.init Inv.init rfl o ho
  intro s hI ds
  obtain ⟨_, h2, h3, h4⟩ := size_queries s hI
  refine ⟨h3, h2, fun hf => ?_⟩
  have h0 : s.len = 0 := h4 hf
  exact ⟨h0, by show s.isEmpty = true; rw [h2, h0]; rfl⟩

/-- The abstract subscriber list never holds a subscriber twice, holds only existing
    subscribers, and is empty once done. -/
theorem C06_spec_invariant (ops : List SubjOp) : AInv (Abs.init.exec ops) :=
  AInv.exec ops _ AInv.init

/-- An emission serves a sub-list of the snapshot taken when it began: every
    subscriber at most once, in subscription order, nobody else, each with exactly
    the item (so, with `C06_spec_invariant`, never the same subscriber twice). -/
theorem C06_spec_emission (a : Abs) (v : Val) (hd : a.done = false) :
    List.Sublist (a.next none v).2 (a.live.map (·, Notif.next v)) := by
  simp only [Abs.next, hd, Bool.false_eq_true, if_false]
  exact abcast_sublist v a.live a

/-- … and exactly the snapshot, everybody once, membership unchanged, when no
    callback unsubscribes or subscribes anybody. -/
theorem C06_spec_emission_exact (a : Abs) (v : Val) (hd : a.done = false) (hq : a.Quiet)
    (hp : a.panicked = false) :
    (a.next none v).2 = a.live.map (·, Notif.next v) ∧ (a.next none v).1.live = a.live := by
  simp only [Abs.next, hd, Bool.false_eq_true, if_false]
  have h := abcast_quiet none v a.live a hq hp (fun _ h => h)
  exact ⟨h.1, h.2.1⟩

/-- A subscriber added from inside a callback during an emission does not see the
    in-flight item: everything delivered by the emission goes to a subscriber that
    existed (and was current) before the emission began. -/
theorem C06_spec_in_callback_subscriber_misses (a : Abs) (hA : AInv a) (v : Val) (hd : a.done = false)
    (d : Delivery) (hm : d ∈ (a.next none v).2) :
    d.1 ∈ a.live ∧ d.1 < a.scripts.length ∧ d.2 = Notif.next v := by
  have h := (C06_spec_emission a v hd).subset hm
  obtain ⟨i, hi, e⟩ := List.mem_map.mp h
  subst e
  exact ⟨hi, hA.bound i hi, rfl⟩

/-- A terminal is delivered once to each current subscriber, after which nobody is
    current and the subject is done. -/
theorem C06_spec_terminal (a : Abs) (n : Notif) (hd : a.done = false) :
    (a.terminal n).2 = a.live.map (·, n) ∧ (a.terminal n).1.live = [] ∧ (a.terminal n).1.done = true := by
  simp [Abs.terminal, hd]

/-- After a terminal or `unsubscribe()` no operation delivers anything, ever. -/
theorem C06_spec_after_done (a : Abs) (hd : a.done = true) (op : SubjOp) :
    (a.apply op).2 = [] ∧ (a.apply op).1.done = true :=
  Abs.apply_done a hd op

-- Non-vacuity (the model on concrete histories; `#eval`-checked against the real crate by ./check):

/-- two subscribers, an item, one leaves, an item, complete, a late subscriber, an item -/
example : (run [.subscribe [], .subscribe [], .next (.int 1), .unsubOne 0, .next (.int 2), .complete,
      .subscribe [], .next (.int 3)]).map (·.deliveries) =
    [[], [], [(0, .next (.int 1)), (1, .next (.int 1))], [], [(1, .next (.int 2))], [(1, .complete)], [], []] := by
  decide

/-- a subscriber added inside the callback of item 5 misses 5 and sees 6 -/
example : (run [.subscribe [.sub], .next (.int 5), .next (.int 6)]).map (·.deliveries) =
    [[], [(0, .next (.int 5))], [(0, .next (.int 6)), (1, .next (.int 6))]] := by
  decide

/-- `len` counts the unsubscribed entry until `retain`; finished and empty after `error` -/
example : (run [.subscribe [], .subscribe [], .next (.int 1), .unsubOne 0, .retain, .error 7]).map
      (fun o => (o.len, o.empty, o.finished)) =
    [(1, false, false), (2, false, false), (2, false, false), (2, false, false), (1, false, false),
     (0, true, true)] := by
  decide

/-- the out-of-contract history: self-unsubscribe in the own callback panics -/
example : (run [.subscribe [.unsub 0], .next (.int 1), .next (.int 2)]).map (·.panic) = [false, true] := by
  decide

/-- the hypotheses of `C06_spec_emission_exact` are satisfiable with a non-empty `live` -/
example : ∃ a : Abs, a.done = false ∧ a.Quiet ∧ a.panicked = false ∧ a.live = [0, 1] := by
  refine ⟨⟨[0, 1], false, [[], []], false⟩, rfl, ?_, rfl, rfl⟩
  intro sc h x hx
  have : sc = [] := by simpa using h
  subst this
  cases hx

end Rx.Subj
