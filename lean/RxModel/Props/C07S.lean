import RxModel.Lemmas.TimeStepsOnceM
/-
  C07 (thread-safe flavour) — delay / observe_on against the executor and `unsubscribe()` on other threads, at the
  granularity of single `MutArc` acquisitions (step model RxModel/Conc/TimeSteps.lean, shared with C02S / C09S; tie to
  /repo: suite `coop`, the real code on two OS threads scheduled at every hooked acquisition, deliveries, executed
  schedule and lock tokens compared with this model).

  "observe_on, delay … deliver exactly the source's items": the half of it that no interleaving can break — NOTHING IS
  DELIVERED TWICE AND NOTHING IS INVENTED, whatever the threads do.  (Order and completeness depend on the executor's
  run order: theorems C07_* over the chain model, known finding for non-FIFO executors.)
-/
namespace Rx.Conc.TS
open Rx

/-- **No item is delivered more often than it was emitted — delay and observe_on, ALL interleavings.**  Any delay, the
    subject alive or already terminated at subscription, ANY number of threads each running ANY list of operations
    (`emit next/error/complete`, `unsub`, `poll j` incl. spurious polls, `run`, `adv`, `fire`), EVERY schedule: the
    number of times the item `v` stands in the probe log is at most the number of `emit (next v)` operations.
    (Token argument, Lemmas/TimeStepsOnceM.lean: an item that has passed the operator sits in the task scheduled for
    it — armed: `keep_running` and not yet run — until that task's body hands it over; one poller per task.) -/
theorem C07S_at_most_once {K : Conf} (hK : MConf K) (live : Bool) (progs : List (List Op)) (sched : List Nat)
    (v : Val) :
    (exec K (Cfg.init (St.subscribed live) progs) sched).st.log.count (.n (.next v)) ≤
      (progs.map fun ops => ops.count (.emit (.next v))).sum := by
  have h := PhiM_exec hK v live progs sched
  unfold PhiM Count tokM at h
  exact Nat.le_trans (by omega) h

theorem C07S_delay_at_most_once (d : Nat) (live : Bool) (progs : List (List Op)) (sched : List Nat) (v : Val) :
    (exec ⟨.delay d, .original⟩ (Cfg.init (St.subscribed live) progs) sched).st.log.count (.n (.next v)) ≤
      (progs.map fun ops => ops.count (.emit (.next v))).sum :=
  C07S_at_most_once (mconf_delay d) live progs sched v

theorem C07S_observe_on_at_most_once (live : Bool) (progs : List (List Op)) (sched : List Nat) (v : Val) :
    (exec ⟨.observeOn, .original⟩ (Cfg.init (St.subscribed live) progs) sched).st.log.count (.n (.next v)) ≤
      (progs.map fun ops => ops.count (.emit (.next v))).sum :=
  C07S_at_most_once mconf_observeOn live progs sched v

/-- **Nothing is invented**: an item nobody emits is never delivered. -/
theorem C07S_only_source_items {K : Conf} (hK : MConf K) (live : Bool) (progs : List (List Op)) (sched : List Nat)
    (v : Val) (hv : ∀ ops ∈ progs, Op.emit (.next v) ∉ ops) :
    Item.n (.next v) ∉ (exec K (Cfg.init (St.subscribed live) progs) sched).st.log := by
  have h := C07S_at_most_once hK live progs sched v
  have h0 : (progs.map fun ops => ops.count (.emit (.next v))).sum = 0 := by
    clear h
    induction progs with
    | nil => rfl
    | cons a r ih =>
      simp only [List.map_cons, List.sum_cons]
      rw [ih (fun ops ho => hv ops (List.mem_cons_of_mem _ ho)),
        List.count_eq_zero.mpr (hv a List.mem_cons_self)]
  rw [h0] at h
  exact List.count_eq_zero.mp (Nat.le_zero.mp h)

/-- non-vacuity: two items through `observe_on` with an emitter and an executor thread interleaved: both arrive, once -/
example :
    (exec ⟨.observeOn, .original⟩
      (Cfg.init (St.subscribed true)
        [[.emit (.next (.int 1)), .emit (.next (.int 2))], [.run, .run, .run]])
      (List.replicate 9 0 ++ List.replicate 8 1 ++ List.replicate 30 0 ++ List.replicate 80 1)).st.log =
      [.n (.next (.int 1)), .n (.next (.int 2))] := by
  decide +kernel

end Rx.Conc.TS
