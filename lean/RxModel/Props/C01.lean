import RxModel.Lemmas.PipeWF
/-
  C01 — Every subscriber sees items, then at most one terminal, then nothing.

  `p : Pipe` ranges over ALL pipelines of the modelled catalogue (any depth, any
  shape: hot subjects, every cold source incl. `create` with malformed scripts,
  every single-input operator with any closure and parameter, start_with,
  defer, and the eight two-input combinators — RxModel/Pipe/World.lean);
  `es : List Ext` over ALL event lists: any notification on any hot input in any
  order (post-terminal events, repeated terminals), subscription and
  unsubscription at any point, queries.
-/
namespace Rx

/-- The probe log of every pipeline under every event history is well formed. -/
theorem C01_grammar (p : Pipe) (es : List Ext) : WF ((World.init p).run es).2 := by
  rcases World.run_unsubscribed (World.init p) rfl es with ⟨_, h⟩ | ⟨acts, _, h⟩
  · rw [h]; trivial
  · rw [h]; exact instantiate_wf p _

/-- The same at the level of an instantiated pipeline and arbitrary node actions
    (deliveries through any subscriber slot with any `is_finished` answers,
    repeated starts, unsubscription anywhere). -/
theorem C01_node (p : Pipe) (acts : List Node.Act) : WF (p.instantiate.runActs acts).2 :=
  instantiate_wf p acts

/-- Two-input cells are well formed for ANY tagged input, even if their inputs
    are not (they own the downstream slot). -/
theorem C01_cell (k : Kind2) (tl : Timeline) : WF (k.init.runT tl).2 := runT_wf _ tl

/-- Single-input observers preserve well-formedness (and their input is always
    well formed: every source and every slot in front of them guarantees it). -/
theorem C01_preserving (o : Spec.Op1) (X : List Notif) (h : WF X) : WF (St1.run o.init X).2 :=
  run_init_wf o X h

/-! Non-vacuity: a pipeline with merge over one subject feeding both inputs,
    events continuing after the terminal. -/
example : ((World.init (.op1 (.take 2) (.op2 .merge (.hot 0) (.hot 0)))).run
    [.sub, .emit 0 (.next (.int 1)), .emit 0 (.next (.int 2)), .emit 0 .complete,
     .emit 0 (.next (.int 3))]).2 = [.next (.int 1), .next (.int 1), .complete] := by
  decide

end Rx
