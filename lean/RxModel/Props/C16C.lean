import RxModel.Lemmas.ChainRetireRipe
import RxModel.Lemmas.ChainRetireSub
import RxModel.Ops.Init
/-
  C16 over the chain (time) model — early termination retires producers through
  ANY chain of operators — for EVERY source of the chain model, EVERY list of
  stages and EVERY history (`sub`, emissions on any subject incl. malformed ones,
  `unsub`, clock jumps, `fire` / `poll` in any order, `run`; no bound, every
  cascade fuel).

  Vocabulary (Lemmas/ChainRetire*.lean):
  * `TW.start src stages` — the world `Driver/SuiteTime.lean` builds; `w.runEvs evs`;
  * `fin stages` — `is_finished()` of the observer the SOURCE holds (`Sched/Chain.lean`);
    `Stage.sf st` — the stage's own slot is empty (`fin (st :: r) = st.sf || fin r`
    for EVERY stage kind: single-input operators, delay, observe_on,
    subscribe_on, debounce, throttle, buffer_with_time, two-input cells in main
    position); `Stage.bfin st down` — `is_finished()` of the observer handed to
    the SECOND input of a two-input cell; `TW.obsFin w b` — the observer polled by
    the RepeatTask with body `b` (source interval, interval in second-input
    position, buffer_with_time's flush task);
  * `sealed stages` — a closed stage followed by single-input observers only;
    `nq stages` — every iterator in second-input position has a finished observer;
    `syncLen stages` — length of the synchronous head (the single-input observers
    the source calls directly); `TSrc.polls` — interval / counting iterator /
    stream driver; `TSrc.bound` — `max first_delay period` of the interval;
  * `TW.liveTicks`, `TW.pendingTickTimers` — live `interval_task`s of the source and
    the pending timers they await; `TW.callsAt w j` — call counter of the user
    closure at stage `j`.

  What is FALSE of the model (and of the code it was validated against) and
  therefore stated as `def … : Prop` + refutation + `_partial`:
  * the probe log is not frozen by `fin = true` alone: items in flight BELOW the
    cutter are still delivered (`C16C_log_frozen_full`);
  * user closures between an asynchronous boundary and the cutter still run for
    the items in flight (`C16C_closures_frozen_full`);
  * sources that never ask `is_finished()` (timer, from_future, every synchronous
    cold source behind a subscribe_on, a hot subject) push into a finished chain
    (`C16C_every_source_quiet_full`);
  * an iterator in second-input position BELOW the cutter is pulled
    (`C16C_pulls_frozen_full`);
  * a source that is subscribed only after the chain has finished (subscribe_on /
    delay_subscription whose task had not run) starts its interval and needs its
    own first expiry to retire (`C16C_no_live_tick_full`);
  * skip_until's notifier observer does not forward the downstream answer
    (`C16C_forward_notifier_full`); a stream driver that is pending without a
    wake-up is never polled again (`C16C_hung_driver_stays`).
-/
namespace Rx.T
open Rx Rx.Spec

/-- Number of unfinished tasks whose body satisfies `p`. -/
def Sched.liveWith (p : Body → Bool) (s : Sched) : Nat :=
  (s.tasks.filter fun t => p t.body && !t.done).length

/-- Number of pending (unexpired) timers awaited by a task whose body satisfies `p`. -/
def Sched.pendingWith (p : Body → Bool) (s : Sched) : Nat :=
  (s.timers.filter fun tm => !tm.fired &&
    (match s.tasks[tm.owner]? with | some t => p t.body | none => false)).length

def Body.isTick : Body → Bool
  | .tick => true
  | _ => false

/-- Live `interval_task`s of the source. -/
def TW.liveTicks (w : TW) : Nat := w.sched.liveWith Body.isTick
/-- Pending period timers of the source's `interval_task`s. -/
def TW.pendingTickTimers (w : TW) : Nat := w.sched.pendingWith Body.isTick
def TW.liveCount (w : TW) : Nat := w.sched.liveTasks.length

/-- The call counter of a user closure (`tap`, `on_complete`, `on_error`). -/
def Stage.calls : Stage → Nat
  | .op1 (.tap c) => c
  | .op1 (.onComplete c) => c
  | .op1 (.onError c) => c
  | _ => 0

def TW.callsAt (w : TW) (j : Nat) : Nat :=
  match w.stages[j]? with
  | some st => st.calls
  | none => 0

/-- **A finished chain never re-opens** — every source, every stage list (in ANY
    state, not only initial), every history. -/
theorem C16C_finished_monotone (src : TSrc) (stages : List Stage) (pre post : List TW.Ev)
    (h : fin ((TW.start src stages).runEvs pre).stages = true) :
    fin ((TW.start src stages).runEvs (pre ++ post)).stages = true := by
  rw [runEvs_append]
  exact (runEvs_ok post (reach_WI src stages pre)).2.stg.fin h

/-- Stage by stage: the same operators with the same parameters; every slot, once
    empty, stays empty; the answer handed to a second input, once `true`, stays `true`. -/
theorem C16C_stages_monotone (src : TSrc) (stages : List Stage) (pre post : List TW.Ev) :
    SLe ((TW.start src stages).runEvs pre).stages ((TW.start src stages).runEvs (pre ++ post)).stages := by
  rw [runEvs_append]
  exact (runEvs_ok post (reach_WI src stages pre)).2.stg

/-- … also for the observers the secondary producers poll (interval in second-input
    position, buffer_with_time's flush task). -/
theorem C16C_observer_finished_monotone (src : TSrc) (stages : List Stage) (pre post : List TW.Ev) (b : Body)
    (h : ((TW.start src stages).runEvs pre).obsFin b = true) :
    ((TW.start src stages).runEvs (pre ++ post)).obsFin b = true :=
  obsFin_mono (C16C_stages_monotone src stages pre post) b h

/-- One step, any world (reachable or not) in which the scheduler invariant holds. -/
theorem C16C_finished_monotone_step (w : TW) (hI : WI w) (e : TW.Ev) (h : fin w.stages = true) :
    fin (w.step e).stages = true := (step_ok hI e).2.stg.fin h

/-- **No production after finished.**  From a world whose source observer is
    finished, for every continuation:
    * a source that polls its observer (interval, counting iterator, stream
      driver) calls it no more: the synchronous head of the chain is untouched —
      no `map`/`filter`/`tap`/… closure in it runs, no counter in it moves;
    * nothing is pulled from the iterator / stream (given that no iterator in
      second-input position sits below the cutter: `nq`);
    * if the chain is sealed the probe log does not grow. -/
theorem C16C_no_production_after_finished (src : TSrc) (stages : List Stage) (pre post : List TW.Ev)
    (h : fin ((TW.start src stages).runEvs pre).stages = true) :
    (src.polls = true →
      ((TW.start src stages).runEvs (pre ++ post)).stages.take (syncLen ((TW.start src stages).runEvs pre).stages) =
        ((TW.start src stages).runEvs pre).stages.take (syncLen ((TW.start src stages).runEvs pre).stages)) ∧
    (nq ((TW.start src stages).runEvs pre).stages = true →
      ((TW.start src stages).runEvs (pre ++ post)).pulls = ((TW.start src stages).runEvs pre).pulls) ∧
    (sealed ((TW.start src stages).runEvs pre).stages = true →
      ((TW.start src stages).runEvs (pre ++ post)).log = ((TW.start src stages).runEvs pre).log) := by
  rw [runEvs_append]
  have r := (runEvs_ok post (reach_WI src stages pre)).2
  exact ⟨fun hp => r.head h (by rw [reach_src]; exact hp), fun hq => r.pulls h hq, fun hs => r.log hs⟩

/-- The same for one step from ANY world satisfying the scheduler invariant. -/
theorem C16C_no_production_step (w : TW) (hI : WI w) (e : TW.Ev) (h : fin w.stages = true) :
    (w.src.polls = true → (w.step e).stages.take (syncLen w.stages) = w.stages.take (syncLen w.stages)) ∧
    (nq w.stages = true → (w.step e).pulls = w.pulls) ∧
    (sealed w.stages = true → (w.step e).log = w.log) :=
  ⟨(step_ok hI e).2.head h, (step_ok hI e).2.pulls h, (step_ok hI e).2.log⟩

/-- A probe at the source's observer: a `tap` as first stage counts the source's
    calls; once the chain is finished a polling source never calls it again. -/
theorem C16C_source_calls_frozen (src : TSrc) (rest : List Stage) (pre post : List TW.Ev)
    (hp : src.polls = true)
    (h : fin ((TW.start src (.op1 (.tap 0) :: rest)).runEvs pre).stages = true) :
    ((TW.start src (.op1 (.tap 0) :: rest)).runEvs (pre ++ post)).callsAt 0 =
      ((TW.start src (.op1 (.tap 0) :: rest)).runEvs pre).callsAt 0 := by
  have hh := (C16C_no_production_after_finished src _ pre post h).1 hp
  have hs : SLe (TW.start src (.op1 (.tap 0) :: rest)).stages
      ((TW.start src (.op1 (.tap 0) :: rest)).runEvs pre).stages :=
    (runEvs_ok pre (WI.start src _)).2.stg
  have hpos : 0 < syncLen ((TW.start src (.op1 (.tap 0) :: rest)).runEvs pre).stages := by
    rw [hs.syncLen]; simp [TW.start, syncLen, List.takeWhile_cons, Stage.isOp1]
  have h0 := congrArg (fun l => l[0]?) hh
  simp only [List.getElem?_take, hpos, if_true] at h0
  unfold TW.callsAt
  rw [h0]

/-- … and no call counter of a user closure (`tap`, `on_complete`, `on_error`) in the
    synchronous head moves. -/
theorem C16C_head_closures_frozen (src : TSrc) (stages : List Stage) (pre post : List TW.Ev) (j : Nat)
    (hp : src.polls = true) (h : fin ((TW.start src stages).runEvs pre).stages = true)
    (hj : j < syncLen ((TW.start src stages).runEvs pre).stages) :
    ((TW.start src stages).runEvs (pre ++ post)).callsAt j = ((TW.start src stages).runEvs pre).callsAt j := by
  have hh := (C16C_no_production_after_finished src stages pre post h).1 hp
  have h0 := congrArg (fun l => l[j]?) hh
  simp only [List.getElem?_take, hj, if_true] at h0
  unfold TW.callsAt
  rw [h0]

/-- **Sealed chains are silent**: a closed stage followed by single-input
    observers only — the log is frozen for every source (hot subjects and
    non-polling sources included) and every continuation. -/
theorem C16C_sealed_log_frozen (src : TSrc) (stages : List Stage) (pre post : List TW.Ev)
    (h : sealed ((TW.start src stages).runEvs pre).stages = true) :
    ((TW.start src stages).runEvs (pre ++ post)).log = ((TW.start src stages).runEvs pre).log := by
  rw [runEvs_append]
  exact (runEvs_ok post (reach_WI src stages pre)).2.log h

/-- FALSE: "once the source's observer is finished the probe log never grows". -/
def C16C_log_frozen_full : Prop :=
  ∀ (src : TSrc) (stages : List Stage), (∀ st ∈ stages, st.Initial) → ∀ pre post : List TW.Ev,
    fin ((TW.start src stages).runEvs pre).stages = true →
    ((TW.start src stages).runEvs (pre ++ post)).log = ((TW.start src stages).runEvs pre).log

/-- hot → take(1) → delay(5): `take` completes the source side at once, its item and
    its completion are still in flight in `delay` and arrive 5 ms later. -/
theorem C16C_log_frozen_refuted : ¬ C16C_log_frozen_full := by
  intro h
  have := h (.hot 0) [.op1 (Op1.init (.take 1)), .delay 5 true (some [])]
    (by
      intro st hst; simp at hst
      rcases hst with rfl | rfl
      · exact ⟨.take 1, rfl⟩
      · exact ⟨rfl, rfl⟩)
    [.sub, .emit 0 (.next (.int 1))] [.run, .adv 5, .run] (by decide)
  revert this; decide

/-- FALSE: "no user closure of an intermediate stage runs after finished". -/
def C16C_closures_frozen_full : Prop :=
  ∀ (src : TSrc) (stages : List Stage), (∀ st ∈ stages, st.Initial) → ∀ (pre post : List TW.Ev) (j : Nat),
    fin ((TW.start src stages).runEvs pre).stages = true →
    ((TW.start src stages).runEvs (pre ++ post)).callsAt j = ((TW.start src stages).runEvs pre).callsAt j

/-- hot → delay(5) → tap → take(1): two items are in flight in `delay`; the first
    completes the chain, the second still runs the `tap` closure (the slot of
    `delay` is not emptied by a completion BELOW it, and `delay` does not ask
    `is_finished()` before it emits). -/
theorem C16C_closures_frozen_refuted : ¬ C16C_closures_frozen_full := by
  intro h
  have := h (.hot 0) [.delay 5 true (some []), .op1 (.tap 0), .op1 (Op1.init (.take 1))]
    (by
      intro st hst; simp at hst
      rcases hst with rfl | rfl | rfl
      · exact ⟨rfl, rfl⟩
      · exact ⟨.tap, rfl⟩
      · exact ⟨.take 1, rfl⟩)
    [.sub, .emit 0 (.next (.int 1)), .emit 0 (.next (.int 2)), .run, .adv 5, .fire 0, .fire 0, .poll 0]
    [.run] 1 (by decide)
  revert this; decide

/-- FALSE: "every source stops calling its observer once that observer is finished". -/
def C16C_every_source_quiet_full : Prop :=
  ∀ (src : TSrc) (rest : List Stage), (∀ st ∈ rest, st.Initial) → ∀ pre post : List TW.Ev,
    fin ((TW.start src (.op1 (.tap 0) :: rest)).runEvs pre).stages = true →
    ((TW.start src (.op1 (.tap 0) :: rest)).runEvs (pre ++ post)).callsAt 0 =
      ((TW.start src (.op1 (.tap 0) :: rest)).runEvs pre).callsAt 0

/-- timer(7, 5 ms) → tap → take_until(hot 1): the notifier fires at 0 ms, the timer
    task still delivers its item at 5 ms (`timer_task` never asks `is_finished()`). -/
theorem C16C_every_source_quiet_refuted : ¬ C16C_every_source_quiet_full := by
  intro h
  have := h (.timer (.int 7) 5) [.op2n (Kind2.init .takeUntil) (.hot 1) false none]
    (by intro st hst; simp at hst; subst hst; exact ⟨⟨.takeUntil, rfl⟩, rfl, rfl⟩)
    [.sub, .run, .emit 1 (.next (.int 0))] [.adv 5, .run] (by decide)
  revert this; decide

/-- … a synchronous cold source behind subscribe_on, subscribed after the chain has
    finished, plays its whole sequence into it (3 `tap` calls) … -/
theorem C16C_cold_source_not_quiet :
    let w0 := TW.start (.cold (.iter [.int 1, .int 2, .int 3]))
      [.op1 (.tap 0), .subscribeOn none none, .op2n (Kind2.init .takeUntil) (.hot 1) false none]
    fin (w0.runEvs [.sub, .emit 1 (.next (.int 0))]).stages = true ∧
    (w0.runEvs [.sub, .emit 1 (.next (.int 0))]).callsAt 0 = 0 ∧
    (w0.runEvs ([.sub, .emit 1 (.next (.int 0))] ++ [.run])).callsAt 0 = 3 := by decide

/-- … and a hot subject keeps calling a finished subscriber until its own terminal. -/
theorem C16C_hot_source_not_quiet :
    let w0 := TW.start (.hot 0) [.op1 (.tap 0), .op1 (Op1.init (.take 1))]
    fin (w0.runEvs [.sub, .emit 0 (.next (.int 1))]).stages = true ∧
    (w0.runEvs [.sub, .emit 0 (.next (.int 1))]).callsAt 0 = 1 ∧
    (w0.runEvs ([.sub, .emit 0 (.next (.int 1))] ++ [.emit 0 (.next (.int 2))])).callsAt 0 = 2 := by decide

/-- FALSE without `nq`: "nothing is pulled once the source's observer is finished". -/
def C16C_pulls_frozen_full : Prop :=
  ∀ (src : TSrc) (stages : List Stage) (pre post : List TW.Ev),
    fin ((TW.start src stages).runEvs pre).stages = true →
    ((TW.start src stages).runEvs (pre ++ post)).pulls = ((TW.start src stages).runEvs pre).pulls

/-- A closed take, then merge with an iterator: the iterator is a producer BELOW the
    cutter, `merge` is still open for it and all 5 items are pulled. -/
theorem C16C_pulls_frozen_refuted : ¬ C16C_pulls_frozen_full := by
  intro h
  have := h (.hot 0) [.op1 (.take 1 1 false), .op2n (Kind2.init .merge) (.iterc 5) false none] [] [.sub]
    (by decide)
  revert this; decide

/-- **One poll.**  A RepeatTask (the source's `interval_task`, an interval in
    second-input position, buffer_with_time's flush task) whose observer is finished,
    polled once its period timer has expired: the tick declines and the task is
    finished.  Any world satisfying the scheduler invariant, any other tasks. -/
theorem C16C_repeat_task_declines (w : TW) (hI : WI w) (k : TaskId) (t : Task) (fur iv seq : Nat)
    (ht : w.sched.tasks[k]? = some t) (hr : t.rep = some (fur, iv, seq))
    (hf : w.sched.timerFired fur = true) (hobs : w.obsFin t.body = true) :
    ∃ t', (w.pollTask k).sched.tasks[k]? = some t' ∧ t'.done = true :=
  (pollTask_ripe hI (Or.inr (Or.inl ⟨t, fur, iv, seq, ht, hr, hf, hobs⟩))).1

/-- **`run`, any RepeatTask.**  In a reachable world, a RepeatTask whose observer is
    finished and whose period timer is due is finished when `run` returns — in the
    first pass of the executor, whatever else is scheduled — and from then on, for
    every continuation, it stays finished and awaits no timer. -/
theorem C16C_repeat_task_retires (src : TSrc) (stages : List Stage) (pre post : List TW.Ev)
    (k : TaskId) (t : Task) (fur iv seq : Nat) (tm : Timer)
    (ht : ((TW.start src stages).runEvs pre).sched.tasks[k]? = some t) (hr : t.rep = some (fur, iv, seq))
    (htm : ((TW.start src stages).runEvs pre).sched.timers[fur]? = some tm)
    (hdue : tm.due ≤ ((TW.start src stages).runEvs pre).sched.now)
    (hobs : ((TW.start src stages).runEvs pre).obsFin t.body = true) :
    (∃ t', ((TW.start src stages).runEvs (pre ++ [.run] ++ post)).sched.tasks[k]? = some t' ∧ t'.done = true) ∧
    TimersFired ((TW.start src stages).runEvs (pre ++ [.run] ++ post)).sched k := by
  have hI := reach_WI src stages pre
  have hr1 := repeat_retired hI ht hr htm hdue hobs
  have hI1 : WI (((TW.start src stages).runEvs pre).step .run) := (step_ok hI .run).1
  have := retired_forever hI1 hr1.1 hr1.2 post
  rw [List.append_assoc, runEvs_append]
  exact this

/-- **The interval source, per task.**  Once the source's observer is finished, at
    most ONE more timer expiry is needed: after `adv d; run` with
    `d ≥ max first_delay period`, every `interval_task` that existed is finished
    and awaits no timer, for every continuation.  No side condition: every source,
    every stage list in any state, every history. -/
theorem C16C_producer_retires (src : TSrc) (stages : List Stage) (pre post : List TW.Ev) (d : Nat)
    (h : fin ((TW.start src stages).runEvs pre).stages = true) (hd : src.bound ≤ d)
    (k : TaskId) (t : Task) (ht : ((TW.start src stages).runEvs pre).sched.tasks[k]? = some t)
    (hb : t.body = .tick) :
    (∃ t', ((TW.start src stages).runEvs (pre ++ [.adv d, .run] ++ post)).sched.tasks[k]? = some t' ∧
      t'.done = true) ∧
    TimersFired ((TW.start src stages).runEvs (pre ++ [.adv d, .run] ++ post)).sched k := by
  have hI := reach_WI src stages pre
  have hr1 := tick_retired hI h d (by rw [reach_src]; exact hd) ht hb
  have hI2 : WI ((((TW.start src stages).runEvs pre).step (.adv d)).step .run) :=
    (step_ok (step_ok hI (.adv d)).1 .run).1
  have := retired_forever hI2 hr1.1 hr1.2 post
  rw [List.append_assoc, runEvs_append]
  exact this

theorem Body.isTick_iff (b : Body) : b.isTick = true ↔ b = .tick := by
  cases b <;> simp [Body.isTick]

theorem liveWith_zero (p : Body → Bool) (s : Sched)
    (h : ∀ (k : Nat) (t : Task), s.tasks[k]? = some t → p t.body = true → t.done = true) :
    s.liveWith p = 0 := by
  unfold Sched.liveWith
  rw [List.length_eq_zero_iff, List.filter_eq_nil_iff]
  intro t ht
  obtain ⟨k, hk, rfl⟩ := List.mem_iff_getElem.mp ht
  have := h k _ (List.getElem?_eq_getElem hk)
  cases hp : p s.tasks[k].body with
  | false => simp
  | true => simp [this hp]

theorem pendingWith_zero (p : Body → Bool) (s : Sched)
    (h : ∀ (k : Nat) (t : Task), s.tasks[k]? = some t → p t.body = true → TimersFired s k) :
    s.pendingWith p = 0 := by
  unfold Sched.pendingWith
  rw [List.length_eq_zero_iff, List.filter_eq_nil_iff]
  intro tm htm
  obtain ⟨i, hi, rfl⟩ := List.mem_iff_getElem.mp htm
  cases ho : s.tasks[s.timers[i].owner]? with
  | none => simp
  | some t =>
    cases hp : p t.body with
    | false => simp [hp]
    | true =>
      have := h _ t ho hp i _ (List.getElem?_eq_getElem hi) rfl
      simp [this]

/-- Source subscribed, observer finished: after `adv d; run` (`d ≥ bound`) and whatever
    follows, every `interval_task` is finished and awaits no timer. -/
theorem ticks_all_retired {w : TW} (h : Subscribed w) (hfin : fin w.stages = true) (d : Nat)
    (hd : w.src.bound ≤ d) (post : List TW.Ev) (k : Nat) (t : Task)
    (ht : (w.runEvs ([.adv d, .run] ++ post)).sched.tasks[k]? = some t) (hb : t.body = .tick) :
    t.done = true ∧ TimersFired (w.runEvs ([.adv d, .run] ++ post)).sched k := by
  have hnn := (moves_sub.steps ([.adv d, .run] ++ post) h).2
  have hk : k < w.sched.tasks.length := hnn.old k t ht (by rw [hb]; rfl)
  obtain ⟨t0, ht0, hb0⟩ := hnn.fwd.back ht hk
  have hr := tick_retired h.wi hfin d hd ht0 (by rw [← hb0]; exact hb)
  have hI2 : WI ((w.step (.adv d)).step .run) := (step_ok (step_ok h.wi (.adv d)).1 .run).1
  have hf := retired_forever hI2 hr.1 hr.2 post
  have heq : w.runEvs ([.adv d, .run] ++ post) = ((w.step (.adv d)).step .run).runEvs post := rfl
  rw [heq] at ht ⊢
  obtain ⟨t', ht', hd'⟩ := hf.1
  rw [ht] at ht'; cases ht'
  exact ⟨hd', hf.2⟩

theorem ticks_count_zero {w : TW} (h : Subscribed w) (hfin : fin w.stages = true) (d : Nat)
    (hd : w.src.bound ≤ d) (post : List TW.Ev) :
    (w.runEvs ([.adv d, .run] ++ post)).liveTicks = 0 ∧
    (w.runEvs ([.adv d, .run] ++ post)).pendingTickTimers = 0 := by
  constructor
  · refine liveWith_zero _ _ ?_
    intro k t ht hp
    exact (ticks_all_retired h hfin d hd post k t ht ((Body.isTick_iff _).mp hp)).1
  · refine pendingWith_zero _ _ ?_
    intro k t ht hp
    exact (ticks_all_retired h hfin d hd post k t ht ((Body.isTick_iff _).mp hp)).2

/-- **The interval source, counted** ("run-until-idle terminates").  If the source
    had been subscribed when its observer finished, then after `adv d; run`
    (`d ≥ max first_delay period`) and for ALL later histories the number of live
    `interval_task`s is 0 and none of their timers is pending. -/
theorem C16C_no_live_tick (src : TSrc) (stages : List Stage) (hs : ∀ st ∈ stages, st.Initial)
    (pre post : List TW.Ev) (d : Nat)
    (h : fin ((TW.start src stages).runEvs pre).stages = true) (hd : src.bound ≤ d)
    (hsub : ((TW.start src stages).runEvs pre).srcSubscribed = true) :
    ((TW.start src stages).runEvs (pre ++ [.adv d, .run] ++ post)).liveTicks = 0 ∧
    ((TW.start src stages).runEvs (pre ++ [.adv d, .run] ++ post)).pendingTickTimers = 0 := by
  have hS : Subscribed ((TW.start src stages).runEvs pre) :=
    ⟨reach_WI src stages pre, reach_winv src stages hs pre, hsub⟩
  rw [List.append_assoc, runEvs_append]
  exact ticks_count_zero hS h d (by rw [reach_src]; exact hd) post

/-- FALSE without "the source had been subscribed". -/
def C16C_no_live_tick_full : Prop :=
  ∀ (src : TSrc) (stages : List Stage), (∀ st ∈ stages, st.Initial) → ∀ (pre post : List TW.Ev) (d : Nat),
    fin ((TW.start src stages).runEvs pre).stages = true → src.bound ≤ d →
    ((TW.start src stages).runEvs (pre ++ [.adv d, .run] ++ post)).liveTicks = 0

/-- interval(3) → subscribe_on → take_until(hot 1): the notifier fires before the
    subscribing task has run.  Nobody cancels that task: `run` subscribes the
    interval to a finished observer, and it takes the interval's own first expiry
    (a second `adv 3; run`) for it to retire.  It never emits. -/
theorem C16C_no_live_tick_refuted : ¬ C16C_no_live_tick_full := by
  intro h
  have := h (.interval none 3) [.subscribeOn none none, .op2n (Kind2.init .takeUntil) (.hot 1) false none]
    (by
      intro st hst; simp at hst
      rcases hst with rfl | rfl
      · rfl
      · exact ⟨⟨.takeUntil, rfl⟩, rfl, rfl⟩)
    [.sub, .emit 1 (.next (.int 0))] [] 3 (by decide) (by decide)
  revert this; decide

theorem C16C_late_subscription_retires_on_first_expiry :
    let w0 := TW.start (.interval none 3)
      [.subscribeOn none none, .op2n (Kind2.init .takeUntil) (.hot 1) false none]
    let pre : List TW.Ev := [.sub, .emit 1 (.next (.int 0))]
    (w0.runEvs pre).srcSubscribed = false ∧
    (w0.runEvs (pre ++ [.adv 3, .run])).liveTicks = 1 ∧
    (w0.runEvs (pre ++ [.adv 3, .run, .adv 3, .run])).liveTicks = 0 ∧
    (w0.runEvs (pre ++ [.adv 3, .run, .adv 3, .run])).liveCount = 0 ∧
    (w0.runEvs (pre ++ [.adv 3, .run, .adv 3, .run, .adv 30, .run])).log = [.complete] := by decide

/-- **The stream driver** (in the model it asks `is_finished()` at every iteration; the code in /repo does
    not: DESIGN §7 finding 18): marked ready when its
    observer is finished, it is polled by the next `run`, returns `Ready`, and
    stays finished. -/
theorem C16C_stream_driver_retires (src : TSrc) (stages : List Stage) (pre post : List TW.Ev)
    (h : fin ((TW.start src stages).runEvs pre).stages = true)
    (k : TaskId) (t : Task) (ht : ((TW.start src stages).runEvs pre).sched.tasks[k]? = some t)
    (hb : t.body = .streamSrc) (hw : t.woken = true) :
    ∃ t', ((TW.start src stages).runEvs (pre ++ [.run] ++ post)).sched.tasks[k]? = some t' ∧ t'.done = true := by
  have hI := reach_WI src stages pre
  have hr1 := stream_retires hI h ht hb hw
  have hI1 : WI (((TW.start src stages).runEvs pre).step .run) := (step_ok hI .run).1
  rw [List.append_assoc, runEvs_append]
  exact hr1.fwd (runEvs_ok post hI1).2.fwd

/-- A driver that is pending WITHOUT a wake-up (the stream hangs) is never polled by
    the executor, so it cannot observe `is_finished()`: it stays live (a direct poll
    would retire it). -/
theorem C16C_hung_driver_stays :
    let w0 := TW.start (.stream false [.hang] false) [.op2n (Kind2.init .takeUntil) (.hot 1) false none]
    let pre : List TW.Ev := [.sub, .run, .emit 1 (.next (.int 0))]
    fin (w0.runEvs pre).stages = true ∧
    (w0.runEvs (pre ++ [.adv 100, .run, .run])).liveCount = 1 ∧
    (w0.runEvs (pre ++ [.poll 0])).liveCount = 0 := by decide

/-- `is_finished` of every stage kind: its own slot, or the answer from below. -/
theorem C16C_fin_cons (st : Stage) (rest : List Stage) : fin (st :: rest) = (st.sf || fin rest) :=
  fin_cons st rest

/-- **Forwarding through ANY chain** (generalises `C16_forward_op1` from single-input
    operators to all stage kinds: delay, observe_on, subscribe_on, debounce,
    throttle, buffer_with_time, two-input cells in main position). -/
theorem C16C_forward (pre rest : List Stage) (h : fin rest = true) : fin (pre ++ rest) = true := by
  rw [fin_append, h]; simp

/-- **A closed cutter at any position** finishes the observer the source holds. -/
theorem C16C_cutter_finishes (pre post : List Stage) (c : Stage) (h : c.sf = true) :
    fin (pre ++ c :: post) = true :=
  C16C_forward pre (c :: post) (by rw [fin_cons, h]; rfl)

/-- … in a world: if after some history any stage has an empty slot, the source's
    observer is finished, and stays so. -/
theorem C16C_closed_stage_finishes_world (src : TSrc) (stages : List Stage) (pre post : List TW.Ev)
    (i : Nat) (c : Stage) (hc : ((TW.start src stages).runEvs pre).stages[i]? = some c) (h : c.sf = true) :
    fin ((TW.start src stages).runEvs (pre ++ post)).stages = true :=
  C16C_finished_monotone src stages pre post (fin_of_mem (List.mem_of_getElem? hc) h)

theorem take_run_closes (n : Nat) : ∀ (vs : List Val) (h : Nat), vs ≠ [] → h + vs.length = n →
    ((St1.take n h true).run (vs.map .next)).1 = .take n n false
  | [], _, hne, _ => absurd rfl hne
  | [v], h, _, hl => by
    simp only [List.length_cons, List.length_nil] at hl
    have h1 : h < n := by omega
    have h2 : h + 1 = n := by omega
    simp [St1.run, St1.step, St1.onNext, h1, h2]
  | v :: v' :: r, h, _, hl => by
    simp only [List.length_cons] at hl
    have h1 : h < n := by omega
    have h2 : ¬ h + 1 = n := by omega
    have ih := take_run_closes n (v' :: r) (h + 1) (by simp) (by simp only [List.length_cons]; omega)
    simp only [List.map_cons, St1.run, St1.step, St1.onNext, h1, h2, if_true, if_false] at ih ⊢
    exact ih

/-- The cutters close: take(n), n ≥ 1, after its n-th item … -/
theorem C16C_take_closes (n : Nat) (vs : List Val) (hn : 1 ≤ n) (hl : vs.length = n) (rest : List Stage) :
    ((Op1.init (.take n)).run (vs.map .next)).1 = .take n n false ∧
    fin (.op1 ((Op1.init (.take n)).run (vs.map .next)).1 :: rest) = true := by
  have h1 := take_run_closes n vs 0 (by intro e; subst e; simp at hl; omega) (by omega)
  refine ⟨h1, ?_⟩
  show fin (.op1 ((St1.take n 0 true).run (vs.map .next)).1 :: rest) = true
  rw [h1]; simp [fin, St1.finished]

/-- … take(0) never does (finding 19): it lets nothing through and never completes. -/
theorem C16C_take_zero_never_closes (vs : List Val) :
    (Op1.init (.take 0)).run (vs.map .next) = (.take 0 0 true, []) := by
  induction vs with
  | nil => rfl
  | cons v r ih =>
    have ih' : (St1.take 0 0 true).run (r.map .next) = (.take 0 0 true, []) := ih
    simp [Op1.init, St1.step, St1.onNext, ih']

/-- … take_while at the first failing item … -/
theorem C16C_takeWhile_closes (p : Val → Bool) (incl : Bool) (v : Val) (hp : p v = false) (rest : List Stage) :
    ((Op1.init (.takeWhile p incl)).step (.next v)).1 = .takeWhile p incl false ∧
    fin (.op1 ((Op1.init (.takeWhile p incl)).step (.next v)).1 :: rest) = true := by
  simp [Op1.init, St1.step, St1.onNext, hp, fin, St1.finished]

/-- … contains at a hit … -/
theorem C16C_contains_closes (tg : Val) (rest : List Stage) :
    ((Op1.init (.contains tg)).step (.next tg)).1 = .contains tg false ∧
    fin (.op1 ((Op1.init (.contains tg)).step (.next tg)).1 :: rest) = true := by
  simp [Op1.init, St1.step, St1.onNext, fin, St1.finished]

/-- … first = take(1) at the first item … -/
theorem C16C_first_closes (v : Val) :
    (runChain (Derived.first.map Op1.init) [.next v]).1 = [.take 1 1 false] := by
  simp [Derived.first, Op1.init, runChain, St1.run, St1.step, St1.onNext]

/-- Skipping `k` items, then the next one comes through. -/
theorem skip_run (k : Nat) : ∀ (vs : List Val) (h : Nat), h + vs.length = k →
    (St1.skip k h).run (vs.map .next) = (.skip k k, [])
  | [], h, hl => by simp at hl; subst hl; rfl
  | v :: r, h, hl => by
    simp only [List.length_cons] at hl
    have ih := skip_run k r (h + 1) (by omega)
    have h1 : ¬ h + 1 > k := by omega
    simp only [List.map_cons, St1.run, St1.step, St1.onNext, h1, if_false, ih, List.nil_append]

/-- … element_at(k) = skip(k) · take(1) at item k (0-based) … -/
theorem C16C_elementAt_closes (k : Nat) (vs : List Val) (v : Val) (hl : vs.length = k) :
    (runChain ((Derived.elementAt k).map Op1.init) ((vs ++ [v]).map .next)).1 =
      [.skip k (k + 1), .take 1 1 false] := by
  have h1 := skip_run k vs 0 (by omega)
  simp only [Derived.elementAt, List.map_cons, List.map_nil, Op1.init, runChain, List.map_append]
  rw [St1.run_append, h1]
  simp [St1.run, St1.step, St1.onNext]

/-- … all(p) = map · filter · take(1) · default_if_empty at the first counter-example … -/
theorem C16C_all_closes (p : Val → Bool) (v : Val) (hp : p v = false) (rest : List Stage) :
    fin (((runChain ((Derived.all p).map Op1.init) [.next v]).1.map Stage.op1) ++ rest) = true := by
  simp [Derived.all, Op1.init, runChain, St1.run, St1.step, St1.onNext, hp, Derived.isFalse, fin,
    St1.finished]

/-- … take_until when its notifier fires (two-input cell in main position). -/
theorem C16C_takeUntil_closes (al : Bool) (v : Val) (ns : TSrc) (na : Bool) (nt : Option TaskId)
    (pre post : List Stage) :
    ((St2.takeUntil al).step .b (.next v)).1 = .takeUntil false ∧
    fin (pre ++ .op2n ((St2.takeUntil al).step .b (.next v)).1 ns na nt :: post) = true := by
  refine ⟨rfl, C16C_cutter_finishes pre post _ ?_⟩
  simp [Stage.sf, St2.step, St2.alive]

/-- The two-input cells whose second-input observer does NOT forward the downstream
    answer: skip_until while it is still skipping and its main stream is alive. -/
def skipping : St2 → Bool
  | .skipUntil true true => true
  | _ => false

/-- FALSE: "the observer a two-input cell hands to its second input is finished as soon
    as the chain below the cell is". -/
def C16C_forward_notifier_full : Prop :=
  ∀ (st : St2) (ns : TSrc) (na : Bool) (nt : Option TaskId) (rest : List Stage),
    fin rest = true → (Stage.op2n st ns na nt).bfin (fin rest) = true

/-- skip_until while still skipping (and the main stream alive): its notifier observer
    answers from its own two flags and does not consult the downstream (known finding). -/
theorem C16C_forward_notifier_refuted : ¬ C16C_forward_notifier_full := by
  intro h
  have := h (.skipUntil true true) (.hot 0) false none [.op1 (.take 1 1 false)] (by decide)
  revert this; decide

/-- Every other cell — and skip_until once it has fired or its main stream has ended —
    forwards the answer to its second input. -/
theorem C16C_forward_notifier_partial (st : St2) (ns : TSrc) (na : Bool) (nt : Option TaskId)
    (rest : List Stage) (hs : skipping st = false) (h : fin rest = true) :
    (Stage.op2n st ns na nt).bfin (fin rest) = true := by
  rw [h]
  cases st with
  | skipUntil al sk => cases al <;> cases sk <;> simp_all [skipping, Stage.bfin, St2.finished]
  | _ => simp [Stage.bfin, St2.finished]

/-- skip_until's notifier retires anyway one item later: its own first item ends the
    skipping, after which its observer reports finished. -/
theorem C16C_skipUntil_notifier_one_more (al sk : Bool) (v : Val) (d : Bool) :
    ((St2.skipUntil al sk).step .b (.next v)).1.finished .b d = true := by
  simp [St2.step, St2.finished]

/-- An iterator in second-input position whose observer is finished is not pulled
    (world level: `pulls` is frozen under `nq`, `C16C_no_production_after_finished`). -/
theorem C16C_nq_of_cutter_below (st : St2) (n : Nat) (na : Bool) (nt : Option TaskId) (rest : List Stage)
    (hs : skipping st = false) (h : fin rest = true) (hq : nq rest = true) :
    nq (.op2n st (.iterc n) na nt :: rest) = true := by
  simp only [nq, Bool.and_eq_true, Bool.or_eq_true]
  exact ⟨Or.inr (C16C_forward_notifier_partial st (.iterc n) na nt rest hs h), hq⟩

/-- **C16 over chains.**  Take any source, any list of stages in initial state, any
    history `pre` after which some stage — at ANY position — has an empty slot (a
    cutter has closed).  Then for every continuation `post`:
    1. the source's observer is finished, for good;
    2. a polling source (interval, iterator, stream driver) never calls its observer
       again — the synchronous head of the chain is untouched;
    3. nothing more is pulled from iterator / stream (no iterator below the cutter);
    4. if the chain is sealed the probe log is unchanged;
    5. every `interval_task` that exists is finished after ONE period + `run` and awaits
       no timer; if the source had been subscribed, the number of live `interval_task`s
       and of their pending timers is 0 after `adv d; run` and for ever after. -/
theorem C16C_retire (src : TSrc) (stages : List Stage) (hs : ∀ st ∈ stages, st.Initial)
    (pre : List TW.Ev) (i : Nat) (c : Stage)
    (hc : ((TW.start src stages).runEvs pre).stages[i]? = some c) (hcl : c.sf = true) :
    let w := (TW.start src stages).runEvs pre
    (∀ post, fin ((TW.start src stages).runEvs (pre ++ post)).stages = true) ∧
    (src.polls = true → ∀ post,
      ((TW.start src stages).runEvs (pre ++ post)).stages.take (syncLen w.stages) =
        w.stages.take (syncLen w.stages)) ∧
    (nq w.stages = true → ∀ post, ((TW.start src stages).runEvs (pre ++ post)).pulls = w.pulls) ∧
    (sealed w.stages = true → ∀ post, ((TW.start src stages).runEvs (pre ++ post)).log = w.log) ∧
    (∀ d, src.bound ≤ d → ∀ post (k : TaskId) (t : Task), w.sched.tasks[k]? = some t → t.body = .tick →
      (∃ t', ((TW.start src stages).runEvs (pre ++ [.adv d, .run] ++ post)).sched.tasks[k]? = some t' ∧
        t'.done = true) ∧
      TimersFired ((TW.start src stages).runEvs (pre ++ [.adv d, .run] ++ post)).sched k) ∧
    (w.srcSubscribed = true → ∀ d, src.bound ≤ d → ∀ post,
      ((TW.start src stages).runEvs (pre ++ [.adv d, .run] ++ post)).liveTicks = 0 ∧
      ((TW.start src stages).runEvs (pre ++ [.adv d, .run] ++ post)).pendingTickTimers = 0) := by
  intro w
  have hfin : fin w.stages = true := fin_of_mem (List.mem_of_getElem? hc) hcl
  refine ⟨fun post => C16C_finished_monotone src stages pre post hfin,
    fun hp post => (C16C_no_production_after_finished src stages pre post hfin).1 hp,
    fun hq post => (C16C_no_production_after_finished src stages pre post hfin).2.1 hq,
    fun hse post => C16C_sealed_log_frozen src stages pre post hse,
    fun d hd post k t ht hb => C16C_producer_retires src stages pre post d hfin hd k t ht hb,
    fun hsub d hd post => C16C_no_live_tick src stages hs pre post d hfin hd hsub⟩

/-- interval(3 ms) → map → buffer_with_time(5 ms) → take(2). -/
def C16C_world : TW :=
  TW.start (.interval none 3)
    [.op1 (.map (fun v => v)), .bufTime 5 none true [] none, .op1 (Op1.init (.take 2))]

/-- `sub`, then the prompt executor at 3, 5, 6, 9 and 10 ms. -/
def C16C_pre : List TW.Ev :=
  [.sub, .adv 3, .run, .adv 2, .run, .adv 1, .run, .adv 3, .run, .adv 1, .run]

theorem C16C_world_initial : ∀ st ∈ C16C_world.stages, st.Initial := by
  intro st hst
  simp [C16C_world, TW.start] at hst
  rcases hst with rfl | rfl | rfl
  · exact ⟨.map _, rfl⟩
  · exact ⟨rfl, rfl, rfl⟩
  · exact ⟨.take 2, rfl⟩

/-- Ticks at 3, 6, 9 ms; flushes at 5 and 10 ms; the second flush completes `take(2)`:
    the chain is finished and sealed, the source is subscribed, two RepeatTasks are
    live, one timer of the interval is pending. -/
example :
    (C16C_world.runEvs C16C_pre).log =
      [.next (Val.ofList [.int 0]), .next (Val.ofList [.int 1, .int 2]), .complete] ∧
    fin (C16C_world.runEvs C16C_pre).stages = true ∧
    sealed (C16C_world.runEvs C16C_pre).stages = true ∧
    nq (C16C_world.runEvs C16C_pre).stages = true ∧
    (C16C_world.runEvs C16C_pre).srcSubscribed = true ∧
    (C16C_world.runEvs C16C_pre).liveTicks = 1 ∧
    (C16C_world.runEvs C16C_pre).pendingTickTimers = 1 ∧
    (C16C_world.runEvs C16C_pre).liveCount = 2 := by decide +kernel

/-- The hypotheses of `C16C_retire` hold for it: some stage (`take`, index 2) has closed. -/
example : ((C16C_world.runEvs C16C_pre).stages.map Stage.sf)[2]? = some true := by decide +kernel

/-- The interval observes it at its next expiry (12 ms) and retires — one period
    (`bound = 3`) + `run` suffices —, the flush task of buffer_with_time at 15 ms;
    afterwards nothing is live, no timer of the interval is pending, and 200 more ms add
    nothing to the log. -/
example :
    TSrc.bound (.interval none 3) = 3 ∧
    (C16C_world.runEvs (C16C_pre ++ [.adv 2, .run])).liveTicks = 0 ∧
    (C16C_world.runEvs (C16C_pre ++ [.adv 3, .run])).liveTicks = 0 ∧
    (C16C_world.runEvs (C16C_pre ++ [.adv 3, .run])).pendingTickTimers = 0 ∧
    (C16C_world.runEvs (C16C_pre ++ [.adv 3, .run])).liveCount = 1 ∧
    (C16C_world.runEvs (C16C_pre ++ [.adv 3, .run, .adv 2, .run])).liveCount = 0 ∧
    (C16C_world.runEvs (C16C_pre ++ [.adv 3, .run, .adv 2, .run, .adv 100, .run, .adv 100, .run])).log =
      (C16C_world.runEvs C16C_pre).log := by decide +kernel

/-- Counting iterator 0..100 → tap → take(3): 3 pulls, 3 `tap` calls, then the loop
    observes `is_finished` and stops. -/
example :
    ((TW.start (.iterc 100) [.op1 (.tap 0), .op1 (Op1.init (.take 3))]).runEvs [.sub]).pulls = 3 ∧
    ((TW.start (.iterc 100) [.op1 (.tap 0), .op1 (Op1.init (.take 3))]).runEvs [.sub]).callsAt 0 = 3 := by
  decide

/-- A cyclic (unbounded) stream → take(2): the driver retires inside the poll that
    delivers the second item. -/
example :
    let w := (TW.start (.stream false [.ready (.int 1), .pending] true) [.op1 (Op1.init (.take 2))]).runEvs
      [.sub, .run]
    w.log = [.next (.int 1), .next (.int 1), .complete] ∧ w.pulls = 2 ∧ w.liveCount = 0 := by decide

/-- Interval in second-input position above the cutter: merge(hot, interval 2) → take(1). -/
example :
    let w0 := TW.start (.hot 0) [.op2n (Kind2.init .merge) (.interval none 2) false none, .op1 (Op1.init (.take 1))]
    (w0.runEvs [.sub, .emit 0 (.next (.int 9)), .run]).liveCount = 1 ∧
    (w0.runEvs [.sub, .emit 0 (.next (.int 9)), .run]).obsFin (.tickN 0) = true ∧
    (w0.runEvs [.sub, .emit 0 (.next (.int 9)), .run, .adv 2, .run]).liveCount = 0 ∧
    (w0.runEvs [.sub, .emit 0 (.next (.int 9)), .run, .adv 2, .run, .adv 20, .run]).log =
      [.next (.int 9), .complete] := by decide

end Rx.T
