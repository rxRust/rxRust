import RxModel.Lemmas.Composite
/-
  C17, composite part — `is_closed()` of MultiSubscription / ZipSubscription /
  BoxSubscription / task handles and the teardown of late additions, over the
  model of src/subscription.rs in RxModel/Sub/Composite.lean.

  `Model.code`  = `MultiSubscription::append` as it is in /repo (a handle appended to an
                  unsubscribed composite is dropped without being unsubscribed);
  `Model.fixed` = the repaired `append` (unsubscribes it at once).

  What holds of the code as it is: soundness (a), "after unsubscribe" (c).
  What does not: (d) late append (counterexample, holds for `fixed`), and the literal
  reading of monotonicity (b): a composite whose vector is empty, or holds only closed
  entries, answers `true` while it can still be appended to — in `code` and in `fixed`.
-/
namespace Rx.Comp

/-! ### (a) soundness -/

/-- If `is_closed()` answers true, no leaf that is reachable through the value at that moment
    ever receives anything again — whatever happens afterwards (any model, any world, any history). -/
theorem C17_composite_sound (m : Model) (w : W) (s : Sub) (h : isClosed w s = true)
    (i : Nat) (hi : i ∈ reach w s) (es : List Op) : (run m w es).1.alive i = false :=
  (run_le m es w).dead (isClosed_sound w s h i hi)

/-- The same along a history from the initial world: a `closed` question answered `true`
    silences the reachable leaves for every continuation. -/
theorem C17_composite_sound_history (m : Model) (n : Nat) (es₁ es₂ : List Op) (s : Sub)
    (h : (step m (run m (init n) es₁).1 (.closed s)).2 = .closed true)
    (i : Nat) (hi : i ∈ reach (run m (init n) es₁).1 s) :
    (run m (run m (init n) es₁).1 es₂).1.alive i = false :=
  C17_composite_sound m _ s (Obs.closed.inj h) i hi es₂

/-- A dead leaf stays dead: no operation of the universe revives a subscriber. -/
theorem C17_leaf_monotone (m : Model) (w : W) (i : Nat) (h : isClosed w (.leaf i) = true) (es : List Op) :
    isClosed (run m w es).1 (.leaf i) = true := by
  rw [isClosed_leaf, Bool.not_eq_true'] at h ⊢
  exact (run_le m es w).dead h

/-! ### (b) monotonicity -/

/-- Full-strength statement: once true, never false again, along every history. -/
def MonotoneSpec (m : Model) : Prop :=
  ∀ (es₁ es₂ : List Op) (s : Sub), isClosed (run m init es₁).1 s = true →
    isClosed (run m init (es₁ ++ es₂)).1 s = true

/-- It fails, before and after the repair of `append`: an empty composite answers `true`
    (vacuously: all of its zero entries are closed), then accepts a live subscription. -/
theorem C17_composite_monotone_counterexample (m : Model) : ¬ MonotoneSpec m := by
  intro h
  cases m <;> exact absurd (h [] [.append 0 (.leaf 0)] (.multi 0) rfl) (by decide)

/-- … and the appended subscription then receives (literal reading of soundness). -/
theorem C17_vacuous_closed_then_delivers (m : Model) :
    (run m init [.closed (.multi 0), .append 0 (.leaf 0), .emit 5]).2 =
      [.closed true, .ok, .out [(0, 5), (1, 5), (2, 5)]] := by
  cases m <;> decide

/-- What does hold (partial): a composite that has been UNSUBSCRIBED (its cell is gone) answers
    `true` for ever, whatever is done afterwards — appends included. -/
theorem C17_composite_monotone_partial (m : Model) (w : W) (j : Nat) (h : w.cell j = none) (es : List Op) :
    isClosed (run m w es).1 (.multi j) = true :=
  isClosed_multi_of_none _ j ((run_le m es w).2 j h)

/-! ### (c) after unsubscribe -/

/-- After `unsubscribe()` every remaining clone of the composite reports closed, for ever. -/
theorem C17_after_unsub_closed (m : Model) (w : W) (j : Nat) (es : List Op) :
    isClosed (run m w (.unsub (.multi j) :: es)).1 (.multi j) = true := by
  rw [run_cons]
  exact C17_composite_monotone_partial m _ j (unsub_multi_cell_none j w) es

/-- After `unsubscribe()` of a value every leaf that was reachable through it is dead, for ever
    (worlds without a composite inside a composite; nested composites: correspondence + oracle). -/
theorem C17_after_unsub_children_dead (m : Model) (w : W) (hw : Flat w) (s : Sub) (i : Nat)
    (hi : i ∈ reach w s) (es : List Op) : (run m w (.unsub s :: es)).1.alive i = false := by
  rw [run_cons]
  exact (run_le m es _).dead (unsub_kills_flat w hw s i hi)

/-- One level of composites, any world (cyclic ones included): the entries of an unsubscribed
    composite that are not composites themselves are dead. -/
theorem C17_after_unsub_direct_children_dead (w : W) (s : Sub) (i : Nat) (hi : i ∈ reach1 w s) :
    (unsub1 s w).alive i = false := unsub1_kills w s i hi

/-! ### (d) late append -/

/-- Whatever is appended to a composite that has already been unsubscribed is unsubscribed at
    once: every leaf reachable through it is dead right after the `append`. -/
def LateAppendSpec (m : Model) : Prop :=
  ∀ (w : W), Flat w → ∀ (j : Nat) (s : Sub) (i : Nat), w.cell j = none → i ∈ reach w s →
    (step m w (.append j s)).1.alive i = false

/-- The repaired `append` satisfies it. -/
theorem C17_late_append : LateAppendSpec .fixed := by
  intro w hw j s i hc hi
  show (appendChild .fixed j (.sub s) w).alive i = false
  rw [appendChild_fixed_sub s hc]
  exact unsub_kills_flat w hw s i hi

/-- The code as it is does not: `unsubscribe m0; m0.append(l0)` leaves subscriber 0 alive. -/
theorem C17_late_append_code_counterexample : ¬ LateAppendSpec .code := by
  intro h
  have hflat : Flat (run .code init [.unsub (.multi 0)]).1 :=
    run_flat .code _ _ (flat_init 3) (List.forall_mem_cons.mpr ⟨trivial, nofun⟩)
  exact absurd (h _ hflat 0 (.leaf 0) 0 (by decide) (by decide)) (by decide)

/-- The same as a trace of the model of the code: the late subscriber still receives. -/
theorem C17_late_append_code_trace :
    (run .code init [.unsub (.multi 0), .append 0 (.leaf 0), .closed (.multi 0), .closed (.leaf 0), .emit 5]).2 =
      [.ok, .ok, .closed true, .closed false, .out [(0, 5), (1, 5), (2, 5)]] := by
  decide

/-- … and a task handle appended late (what delay / observe_on / merge_all do) still runs. -/
theorem C17_late_append_task_code_trace :
    (run .code init [.unsub (.multi 0), .appendTask 0 7, .run]).2 = [.ok, .ok, .ran [7]] := by
  decide

theorem C17_late_append_fixed_trace :
    (run .fixed init [.unsub (.multi 0), .append 0 (.leaf 0), .appendTask 0 7, .closed (.leaf 0), .emit 5, .run]).2 =
      [.ok, .ok, .ok, .closed true, .out [(1, 5), (2, 5)], .ran []] := by
  decide

/-- What the code as it is does guarantee (partial): a late `append` changes nothing at all —
    the handle is dropped, nothing is unsubscribed, nothing is stored. -/
theorem C17_late_append_partial (w : W) (j : Nat) (s : Sub) (h : w.cell j = none) :
    (step .code w (.append j s)).1 = w :=
  appendChild_code_sub s h

/-! ### the same along ALL histories (from the initial world, no composite put into a composite) -/

/-- (c) along every history: after `unsubscribe()` of a value, every leaf that was reachable
    through it is dead for every continuation. -/
theorem C17_after_unsub_children_dead_history (m : Model) (n : Nat) (es₁ es₂ : List Op)
    (h₁ : ∀ e ∈ es₁, FlatOp e) (s : Sub) (i : Nat) (hi : i ∈ reach (run m (init n) es₁).1 s) :
    (run m (run m (init n) es₁).1 (.unsub s :: es₂)).1.alive i = false :=
  C17_after_unsub_children_dead m _ (run_flat m es₁ _ (flat_init n) h₁) s i hi es₂

/-- (d) along every history of the repaired code: a value appended to an unsubscribed composite
    is dead at once and stays dead. -/
theorem C17_late_append_history (n : Nat) (es₁ es₂ : List Op) (h₁ : ∀ e ∈ es₁, FlatOp e)
    (j : Nat) (s : Sub) (i : Nat) (hc : (run .fixed (init n) es₁).1.cell j = none)
    (hi : i ∈ reach (run .fixed (init n) es₁).1 s) :
    (run .fixed (run .fixed (init n) es₁).1 (.append j s :: es₂)).1.alive i = false := by
  rw [run_cons]
  exact (run_le .fixed es₂ _).dead (C17_late_append _ (run_flat .fixed es₁ _ (flat_init n) h₁) j s i hc hi)

/-- (d) in the words of the property: unsubscribe the composite, do anything, append: dead. -/
theorem C17_late_append_after_unsub (n : Nat) (es₀ es₁ es₂ : List Op)
    (h₀ : ∀ e ∈ es₀, FlatOp e) (h₁ : ∀ e ∈ es₁, FlatOp e) (j : Nat) (s : Sub) (i : Nat)
    (hi : i ∈ reach (run .fixed (run .fixed (init n) es₀).1 (.unsub (.multi j) :: es₁)).1 s) :
    (run .fixed (run .fixed (run .fixed (init n) es₀).1 (.unsub (.multi j) :: es₁)).1
      (.append j s :: es₂)).1.alive i = false := by
  have hflat : Flat (run .fixed (run .fixed (init n) es₀).1 (.unsub (.multi j) :: es₁)).1 :=
    run_flat .fixed _ _ (run_flat .fixed es₀ _ (flat_init n) h₀) (List.forall_mem_cons.mpr ⟨trivial, h₁⟩)
  have hnone : (run .fixed (run .fixed (init n) es₀).1 (.unsub (.multi j) :: es₁)).1.cell j = none := by
    rw [run_cons]
    exact (run_le .fixed es₁ _).2 j (unsub_multi_cell_none j _)
  rw [run_cons]
  exact (run_le .fixed es₂ _).dead (C17_late_append _ hflat j s i hnone hi)

/-- (d') a late addition made WHILE the composite is being torn down — by an entry whose own
    `unsubscribe()` appends to the same composite — is torn down too: once `m_j.unsubscribe()` has
    returned, every leaf reachable through the addition is dead, for every continuation. -/
theorem C17_reentrant_append_torn_down (w : W) (hw : Flat w) (j : Nat) (s : Sub) (i : Nat)
    (hi : i ∈ reach (unsub (.multi j) w) s) (es : List Op) :
    (run .fixed w (.unsubReapp j s :: es)).1.alive i = false := by
  rw [run_cons]
  exact (run_le .fixed es _).dead (unsub_kills_flat _ (flat_teardown.unsub_le (.multi j) w hw) s i hi)

/-! ### non-vacuity -/

example : (run .fixed init [.append 0 (.leaf 0), .unsubReapp 0 (.leaf 1), .closed (.multi 0), .emit 4]).2 =
    [.ok, .ok, .closed true, .out [(2, 4)]] := by decide

example : Flat (init 3) := flat_init 3

example : (run .code init [.append 0 (.leaf 0), .append 0 (.zip (.leaf 1) (.multi 1)), .append 1 (.leaf 2),
    .closed (.multi 0), .unsub (.multi 0), .closed (.multi 0), .closed (.multi 1), .emit 1]).2 =
    [.ok, .ok, .ok, .closed false, .ok, .closed true, .closed true, .out []] := by decide

example : reach (run .code init [.append 0 (.leaf 0), .append 0 (.multi 1), .append 1 (.leaf 2)]).1 (.multi 0)
    = [0, 2] := by decide

end Rx.Comp
