import RxModel.Lemmas.ChainQuietMain
import RxModel.Lemmas.ChainSources
/-
  C02 over the chain (time) model — nothing is delivered after `unsubscribe()`
  returned — for EVERY source, EVERY list of stages in initial per-subscription
  state and EVERY history (sub, emissions on any subject incl. post-terminal,
  unsub, clock jumps, fire / poll in any order, run; no bound, every cascade fuel).

  `TW.init src stages` is the world `Driver/SuiteTime.lean` builds;
  `Stage.Initial` (Lemmas/ChainQuietDefs.lean): handler cells / task handles empty,
  `MultiSubscription`s `some []`, notifier slots unset; operator parameters and
  cell contents are arbitrary.

  Side condition: the subscription that is unsubscribed exists
  (`(TW.run w0 pre).subscribed = true`, e.g. because `.sub ∈ pre`).  Before `sub`
  the event `unsub` is a no-op of the harness and a later `sub` delivers, see
  `C02C_needs_subscription`.
-/
namespace Rx.T
open Rx

/-- The full statement. -/
def C02C_silent_after_unsub_full : Prop :=
  ∀ (src : TSrc) (stages : List Stage), (∀ st ∈ stages, st.Initial) → ∀ pre post : List TW.Ev,
    (TW.run (TW.init src stages) pre).subscribed = true →
    (TW.run (TW.init src stages) (pre ++ [.unsub] ++ post)).log =
      (TW.run (TW.init src stages) (pre ++ [.unsub])).log

/-- **Silence after unsubscribe.**  Whatever happened before (`pre`), whatever is
    pending in the scheduler at that moment and whatever happens afterwards
    (`post`): once `unsub` has returned the probe log never grows. -/
theorem C02C_silent_after_unsub (src : TSrc) (stages : List Stage) (h : ∀ st ∈ stages, st.Initial)
    (pre post : List TW.Ev) (hs : (TW.run (TW.init src stages) pre).subscribed = true) :
    (TW.run (TW.init src stages) (pre ++ [.unsub] ++ post)).log =
      (TW.run (TW.init src stages) (pre ++ [.unsub])).log := by
  have I := ((init_qinv src stages h).run pre).1
  rw [TW.run_append, TW.run_append]
  exact ((I.unsub_quiet hs).run post).log

theorem C02C_full : C02C_silent_after_unsub_full := C02C_silent_after_unsub

/-- The same with the side condition in event form: `sub` happened before. -/
theorem C02C_silent_after_sub_unsub (src : TSrc) (stages : List Stage) (h : ∀ st ∈ stages, st.Initial)
    (pre post : List TW.Ev) (hs : TW.Ev.sub ∈ pre) :
    (TW.run (TW.init src stages) (pre ++ [.unsub] ++ post)).log =
      (TW.run (TW.init src stages) (pre ++ [.unsub])).log :=
  C02C_silent_after_unsub src stages h pre post (subscribed_of_mem (init_qinv src stages h) pre hs)

/-- `unsubscribe()` itself delivers nothing — in EVERY world, reachable or not. -/
theorem C02C_unsub_delivers_nothing (w : TW) : (TW.step w .unsub).log = w.log := step_unsub_log w

/-- After `unsub` the world is quiet for good: every task is cancelled or finished,
    no subject holds a slot of the chain (the invariant behind the theorem). -/
theorem C02C_quiet_after_unsub (src : TSrc) (stages : List Stage) (h : ∀ st ∈ stages, st.Initial)
    (pre post : List TW.Ev) (hs : (TW.run (TW.init src stages) pre).subscribed = true) :
    Quiet (TW.run (TW.init src stages) (pre ++ [.unsub] ++ post)) := by
  have I := ((init_qinv src stages h).run pre).1
  rw [TW.run_append, TW.run_append]
  exact ((I.unsub_quiet hs).run post).quiet

/-- Without a subscription `unsub` is a no-op and a later `sub` delivers: the side
    condition is needed (this is about the harness script, not a defect). -/
theorem C02C_needs_subscription :
    (TW.run (TW.init (.cold (.of (.int 1))) []) ([] ++ [.unsub] ++ [.sub])).log ≠
      (TW.run (TW.init (.cold (.of (.int 1))) []) ([] ++ [.unsub])).log := by decide


/-- hot source → delay(5) → debounce(3) → tap: three stages, two of them timed. -/
def C02C_world : TW :=
  TW.init (.hot 0) [.delay 5 true (some []), .debounce 3 true none none, .op1 (.tap 0)]

theorem C02C_world_initial :
    ∀ st ∈ [Stage.delay 5 true (some []), .debounce 3 true none none, .op1 (.tap 0)], st.Initial := by
  intro st hst
  simp only [List.mem_cons, List.not_mem_nil, or_false] at hst
  rcases hst with rfl | rfl | rfl <;> simp [Stage.Initial]

/-- Two items are in flight in `delay` (tasks pending, timers armed) when `unsub` happens;
    without the `unsub` the same continuation delivers, with it nothing arrives. -/
example :
    let pre : List TW.Ev := [.sub, .emit 0 (.next (.int 1)), .run, .adv 2, .emit 0 (.next (.int 2)), .run]
    let post : List TW.Ev := [.adv 10, .run, .adv 10, .run, .emit 0 (.next (.int 3)), .adv 20, .run]
    (TW.run C02C_world pre).subscribed = true ∧
    (TW.run C02C_world pre).sched.liveTasks.length = 2 ∧
    (TW.run C02C_world (pre ++ post)).log = [.next (.int 2)] ∧
    (TW.run C02C_world (pre ++ [.unsub] ++ post)).log = [] := by decide

/-- The debounce task is pending at the time of `unsub`. -/
example :
    let pre : List TW.Ev := [.sub, .emit 0 (.next (.int 1)), .run, .adv 5, .run]
    let post : List TW.Ev := [.adv 3, .run, .fire 0, .poll 0, .poll 1, .run]
    (TW.run C02C_world pre).sched.liveTasks.length = 1 ∧
    (TW.run C02C_world (pre ++ post)).log = [.next (.int 1)] ∧
    (TW.run C02C_world (pre ++ [.unsub] ++ post)).log = [] := by decide

/-- subscribe_on whose task has not run yet: `unsub` cancels the subscribing task, the
    source is never subscribed. -/
example :
    let w0 := TW.init (.cold (.of (.int 7))) [.subscribeOn (some 4) none, .observeOn true (some [])]
    (TW.run w0 [.sub, .run, .adv 4, .run]).log = [.next (.int 7), .complete] ∧
    (TW.run w0 ([.sub, .run] ++ [.unsub] ++ [.adv 4, .run])).log = [] := by decide

end Rx.T
