import RxModel.Conc.FootprintGuard
import RxModel.Conc.SubjectLts
/-
  C10 — Thread-safe variants serialise delivery and cannot deadlock.

  The property theorems, the systems they are stated about and examples.  Model
  and lemmas: RxModel/Conc/Lts.lean (the lock-level LTS, `Ranked`, `Guarded`,
  `Inv`), RxModel/Conc/Exec.lean (schedules, termination measure),
  RxModel/Conc/Footprint.lean (which programs the operations of the `_threads`
  building blocks are), RxModel/Conc/FootprintGuard.lean (every callback of a
  delivery runs under its subscriber's gate), RxModel/Conc/SubjectLts.lean (the
  broadcast discipline of `SubjectThreads::next` and the common order).

  All statements quantify over *every* schedule; nothing bounds the number of
  threads, the length of their scripts or the number of preemptions.  "Callers
  that do not re-enter the same pipeline from inside a callback" is the
  hypothesis that the programs are the footprints (`Ranked []`): a re-entrant
  caller would re-acquire a cell it holds, which is not `Ranked`.
-/
namespace Rx
open Conc

/-- Two threads are never inside critical sections of the same shared cell:
    whatever runs under one `MutArc` lock is mutually exclusive. -/
theorem C10_mutex {s0 s : State} (h0 : Init s0) (hp : ∀ t, Ranked [] (s0.prog t))
    (r : Reach s0 s) {t1 t2 : Tid} {c : Cell}
    (h1 : InSection s t1 c) (h2 : InSection s t2 c) : t1 = t2 :=
  lts_mutex h0 hp r h1 h2

/-- **No subscriber callback ever runs on two threads at once.**  If every
    callback of subscriber `u` is issued inside a section of `slot u` (true of
    every delivery path of the thread-safe flavour: `impl_rc_observer!(MutArc)`,
    src/observer.rs:110-137, calls the observer under the guard), then in no
    reachable state of any schedule are two threads inside a callback of the
    same subscriber. -/
theorem C10_serialised {slot : Nat → Cell} {s0 s : State} (h0 : Init s0)
    (hg : ∀ t, Guarded slot [] (s0.prog t)) (r : Reach s0 s) {t1 t2 : Tid} {u : Nat}
    (h1 : InCb s t1 u) (h2 : InCb s t2 u) : t1 = t2 :=
  callbacks_serialised h0 hg r h1 h2

/-- A callback of `u` never overlaps with another thread's `unsubscribe` of `u`
    (or any other section of `u`'s slot). -/
theorem C10_serialised_with_unsubscribe {slot : Nat → Cell} {s0 s : State} (h0 : Init s0)
    (hg : ∀ t, Guarded slot [] (s0.prog t)) (r : Reach s0 s) {t1 t2 : Tid} {u : Nat}
    (h1 : InCb s t1 u) (h2 : InSection s t2 (slot u)) : t1 = t2 :=
  callback_excludes_section h0 hg r h1 h2

/-- **No deadlock.**  In every reachable state in which some thread has not yet
    returned from its calls, some thread can move. -/
theorem C10_no_deadlock {s0 s : State} (h0 : Init s0) (hp : ∀ t, Ranked [] (s0.prog t))
    (r : Reach s0 s) (hu : ∃ t, s.prog t ≠ []) : ∃ t s', Step s t s' :=
  rank_deadlock_free ((Inv.init h0 hp).reach r) hu

/-- A thread that cannot move is waiting for a lock that some thread holds —
    and by `C10_no_deadlock` not all threads are in that situation. -/
theorem C10_blocked_only_on_lock {s0 s : State} (h0 : Init s0)
    (hp : ∀ t, Ranked [] (s0.prog t)) (r : Reach s0 s) {t : Tid} (hb : Blocked s t) :
    ∃ c p t1, s.prog t = .acq c :: p ∧ s.holder c = some t1 :=
  blocked_waits ((Inv.init h0 hp).reach r) hb

/-- **Every call returns (1): executions are finite.**  Every execution, under
    any schedule, has at most as many steps as the total length of the scripts;
    each step lowers the total remaining length by exactly one. -/
theorem C10_execution_bounded {n : Nat} {s0 s : State} {ts : List Tid}
    (hs : Support n s0) (r : Run s0 ts s) : size n s + ts.length = size n s0 :=
  run_size hs r

/-- There is no infinite execution. -/
theorem C10_no_infinite_execution {n : Nat} {s0 : State} (hs : Support n s0) :
    ¬ ∃ f : Nat → State, f 0 = s0 ∧ ∀ i, ∃ t, Step (f i) t (f (i + 1)) :=
  no_infinite_run hs

/-- **Every call returns (2): maximal executions end with every script finished.**
    Whatever the schedule, when no thread can move any more, every thread has
    executed its whole program — every `next`/`error`/`complete`/`subscribe`/
    `unsubscribe` call has returned. -/
theorem C10_every_call_returns {s0 s : State} {ts : List Tid} (h0 : Init s0)
    (hp : ∀ t, Ranked [] (s0.prog t)) (r : Run s0 ts s) (hmax : ∀ t s', ¬ Step s t s') :
    ∀ t, s.prog t = [] :=
  stuck_done ((Inv.init h0 hp).run r) hmax

/-- From every reachable state the execution can be continued to completion
    (and by the two theorems above *every* continuation gets there in at most
    `size` steps). -/
theorem C10_completion_reachable {n : Nat} {s0 s : State} (h0 : Init s0)
    (hp : ∀ t, Ranked [] (s0.prog t)) (hs : Support n s0) (r : Reach s0 s) :
    ∃ ts s', Run s ts s' ∧ ∀ t, s'.prog t = [] := by
  obtain ⟨ts0, r0⟩ := r.run
  exact exists_complete_run _ rfl ((Inv.init h0 hp).reach r) (hs.run r0)


/-- For every pipeline shape — any depth, any fan-out, built from subjects,
    behaviour subjects, subscribers, merge/zip/combine_latest cells, take_until
    slots, finalizers, share, observe_on/delay stages — the lock footprint of
    every operation at every stage (`next`/`error`/`complete`/`is_finished`
    arriving anywhere, `subscribe`, `unsubscribe`, `retain`, `len`, task poll,
    task cancel, …) is properly nested and acquires in strictly increasing rank. -/
theorem C10_footprints_ranked (p : Shape) (o : Op) : Ranked [] (footprint p o) :=
  Conc.C10_ranked p o

/-- A system of threads: thread `i` performs the script `scripts[i]` (any list of
    operations) against the shared pipeline `p`. -/
def C10_system (p : Shape) (scripts : List (List Op)) : State :=
  mkState (scripts.map fun os => os.flatMap (footprint p))

theorem C10_system_inv (p : Shape) (scripts : List (List Op)) : Inv (C10_system p scripts) :=
  mkState_inv (by
    intro q hq
    obtain ⟨os, _, rfl⟩ := List.mem_map.1 hq
    exact script_ranked p os)

/-- **Any number of threads, each running any script of operations against any
    pipeline of thread-safe building blocks, under any schedule: no deadlock.** -/
theorem C10_pipeline_no_deadlock (p : Shape) (scripts : List (List Op)) {s : State}
    (r : Reach (C10_system p scripts) s) (hu : ∃ t, s.prog t ≠ []) : ∃ t s', Step s t s' :=
  rank_deadlock_free ((C10_system_inv p scripts).reach r) hu

/-- Same systems: every execution is at most as long as the scripts together, and
    a maximal one ends with every call returned. -/
theorem C10_pipeline_every_call_returns (p : Shape) (scripts : List (List Op)) {s : State}
    {ts : List Tid} (r : Run (C10_system p scripts) ts s) :
    ts.length ≤ size scripts.length (C10_system p scripts) ∧
      ((∀ t s', ¬ Step s t s') → ∀ t, s.prog t = []) := by
  have hs : Support scripts.length (C10_system p scripts) := by
    have := mkState_support (scripts.map fun os => os.flatMap (footprint p))
    simpa [C10_system] using this
  refine ⟨?_, stuck_done ((C10_system_inv p scripts).run r)⟩
  have := run_size hs r
  omega

/-- Same systems: no two threads are ever inside sections of the same cell. -/
theorem C10_pipeline_mutex (p : Shape) (scripts : List (List Op)) {s : State}
    (r : Reach (C10_system p scripts) s) {t1 t2 : Tid} {c : Cell}
    (h1 : InSection s t1 c) (h2 : InSection s t2 c) : t1 = t2 :=
  lts_mutex_inv ((C10_system_inv p scripts).reach r) h1 h2


/-- **Serialised delivery on real pipelines.**  Any number of threads, thread `i`
    delivering the script `scripts[i]` of `next`/`error`/`complete`/`is_finished`
    notifications into one shared pipeline `p` of thread-safe building blocks in
    which every subscriber sits behind at least one `MutArc` gate (`WL`): under
    every schedule no subscriber's callback is ever running on two threads. -/
theorem C10_pipeline_serialised (sl : Nat → Cell) (p : Shape) (hw : WL sl none 0 p)
    (scripts : List (List (Kind × Nat))) {s : State}
    (r : Reach (mkState (scripts.map (deliveries p))) s) {t1 t2 : Tid} {u : Nat}
    (h1 : InCb s t1 u) (h2 : InCb s t2 u) : t1 = t2 :=
  callbacks_serialised (slot := sl) (mkState_init _)
    (mkState_guarded (by
      intro q hq
      obtain ⟨es, _, rfl⟩ := List.mem_map.1 hq
      exact deliveries_guarded sl p hw es)) r h1 h2

/-- Non-vacuity of `WL`: `merge_threads` of two sources into a subject with two
    subscribers, the second behind `finalize_threads` — labelled by the
    subscribers' slots (cells 3 and 4). -/
example : WL (fun u => u + 3) none 0
    (.cell (.subject (.cons (.leaf 0) (.cons (.fin (.leaf 1)) .nil)))) := by
  simp [WL, WLs, cells]

/-- **Negative fact (code as it is today).**  `merge_all_threads`: an inner
    completion that starts a queued inner observable runs the queued subscribe
    while holding the `ObserverData` cell (src/ops/merge_all.rs:162-167); if that
    inner emits during `actual_subscribe` the same thread locks the same cell
    again.  That program is not `Ranked` (for any base, any downstream). -/
theorem C10_merge_all_relock (k n : Nat) (d : Shape) (hs : List Cell) :
    ¬ Ranked hs (mergeAllInnerCompleteQueued k n d) :=
  C10_merge_all_relock_witness k n d hs

/-- A single thread executing that path of `merge_all_threads` deadlocks on itself. -/
theorem C10_merge_all_self_deadlock_witness :
    ∃ s, Reach (mkState [mergeAllInnerCompleteQueued 0 1 (.leaf 0)]) s ∧ Blocked s 0 ∧
      ∀ t s', ¬ Step s t s' :=
  C10_merge_all_self_deadlock

/-- Non-vacuity: a concrete pipeline and concrete scripts.  A `SubjectThreads`
    with two subscribers, the second behind a `finalize_threads`; thread 0 emits
    and completes, thread 1 emits, thread 2 unsubscribes subscriber 0 and asks `len`. -/
example : (C10_system (.subject (.cons (.leaf 0) (.cons (.fin (.leaf 1)) .nil)))
    [[.here (.deliver .next 1), .here (.deliver (.term false) 2)],
     [.here (.deliver .next 3)],
     [.sub 0 (.here .slotUnsub), .here .size]]).prog 2 =
    [.acq 2, .rel 2, .acq 0, .acq 1, .rel 1, .rel 0] := by decide


/-- Any number of producer threads, thread `i` performing the script `scripts[i]`
    of `next`s — each an emission label `n` with the live subscriber list at that
    moment — on one `SubjectThreads` (observers cell `obs`, chamber, one slot per
    subscriber). -/
def C10_subjectSystem (obs chamber : Cell) (slot : Nat → Cell)
    (scripts : List (List (Nat × List Nat))) : State :=
  mkState (scripts.map (subjScript obs chamber slot))

/-- **All subscribers of one subject observe concurrent emissions in one common
    order**: under every schedule, at every moment, what each subscriber has
    received is a subsequence of a single global sequence — the order in which
    the broadcasting threads acquired the observers cell. -/
theorem C10_common_order {obs chamber : Cell} {slot : Nat → Cell} (hc : chamber ≠ obs)
    (hs : ∀ u, slot u ≠ obs) (scripts : List (List (Nat × List Nat)))
    (hnd : ∀ sc ∈ scripts, ∀ e ∈ sc, e.2.Nodup) {tr : List (Tid × Act)} {s : State}
    (r : TRun (C10_subjectSystem obs chamber slot scripts) tr s) (u : Nat) :
    (logOf u tr).Sublist (gorder tr) := by
  refine common_order (obs := obs) (mkState_init _) ?_ r u
  refine getD_all (P := Bc obs .out) rfl ?_
  intro p hp
  obtain ⟨sc, hsc, rfl⟩ := List.mem_map.1 hp
  exact bc_script hc hs sc (hnd sc hsc)

/-- Consequently (emissions labelled distinctly) two subscribers never see two
    emissions in opposite orders, and nobody sees an emission twice. -/
theorem C10_no_opposite_orders {obs chamber : Cell} {slot : Nat → Cell} (hc : chamber ≠ obs)
    (hs : ∀ u, slot u ≠ obs) (scripts : List (List (Nat × List Nat)))
    (hnd : ∀ sc ∈ scripts, ∀ e ∈ sc, e.2.Nodup) {tr : List (Tid × Act)} {s : State}
    (r : TRun (C10_subjectSystem obs chamber slot scripts) tr s)
    (hlab : (gorder tr).Nodup) (u v m n : Nat) (hmn : m ≠ n)
    (hu : [m, n].Sublist (logOf u tr)) (hv : [n, m].Sublist (logOf v tr)) : False :=
  no_both_orders hmn hlab
    (hu.trans (C10_common_order hc hs scripts hnd r u))
    (hv.trans (C10_common_order hc hs scripts hnd r v))

/-- The subject system is ranked (observers < chamber < slots): it also enjoys
    `C10_no_deadlock` / `C10_every_call_returns`. -/
example : ∀ p ∈ [subjScript 0 1 (· + 2) [(1, [0, 1]), (3, [0, 1])],
    subjScript 0 1 (· + 2) [(2, [0, 1])]], Ranked [] p := by decide

/-- Non-vacuity: two producers, two subscribers; producer 1 gets in between the
    two emissions of producer 0: both subscribers see 1, 2, 3. -/
example : (texec (C10_subjectSystem 0 1 (· + 2) [[(1, [0, 1]), (3, [0, 1])], [(2, [0, 1])]])
    (List.replicate 13 0 ++ List.replicate 13 1 ++ List.replicate 13 0)).map
    (fun x => (gorder x.1, logOf 0 x.1, logOf 1 x.1)) =
    some ([1, 2, 3], [1, 2, 3], [1, 2, 3]) := by decide

/-- Three threads against one `SubjectThreads` (observers = cell 0) with two
    subscribers (slots = cells 2, 3): two concurrent `next`s and one
    `unsubscribe` of subscriber 0. -/
def C10_demo : List (List Act) :=
  [ sect 0 (sect 2 [.cb 0 1] ++ sect 3 [.cb 1 1]),
    sect 0 (sect 2 [.cb 0 2] ++ sect 3 [.cb 1 2]),
    sect 2 [.atom 0] ]

def C10_demoSlot (u : Nat) : Cell := u + 2

example : ∀ p ∈ C10_demo, Ranked [] p := by decide
example : ∀ p ∈ C10_demo, Guarded C10_demoSlot [] p := by decide

/-- The hypotheses are satisfiable and states with a callback in progress and a
    contender blocked on the lock are reachable: after thread 0 has taken
    `observers` and the slot, it is inside the callback of subscriber 0, and
    threads 1 and 2 are blocked. -/
example : ∃ s, Reach (mkState C10_demo) s ∧ InCb s 0 0 ∧ Blocked s 1 ∧ Blocked s 2 := by
  refine ⟨_, (exec_run (s := mkState C10_demo) (ts := [0, 0]) rfl).reach, ⟨1, _, rfl⟩,
    ⟨by decide, ?_⟩, ⟨by decide, ?_⟩⟩
  · intro ⟨s', st⟩; have := enabled_of_step st; revert this; decide
  · intro ⟨s', st⟩; have := enabled_of_step st; revert this; decide

/-- The theorems apply to the demo. -/
example {s : State} (r : Reach (mkState C10_demo) s) {t1 t2 : Tid}
    (h1 : InCb s t1 0) (h2 : InCb s t2 0) : t1 = t2 :=
  C10_serialised (mkState_init _) (mkState_guarded (slot := C10_demoSlot) (by decide)) r h1 h2

example {s : State} (r : Reach (mkState C10_demo) s) (hu : ∃ t, s.prog t ≠ []) :
    ∃ t s', Step s t s' :=
  C10_no_deadlock (mkState_init _) (mkState_ranked (by decide)) r hu

/-- A complete interleaved execution of the demo (8 + 8 + 3 = 19 steps). -/
example : ∃ s, Run (mkState C10_demo) [0,0,0,0,2,0,2,0,0,0,1,2,1,1,1,1,1,1,1] s ∧
    ∀ t, s.prog t = [] := by
  have hr := exec_run (s := mkState C10_demo) (ts := [0,0,0,0,2,0,2,0,0,0,1,2,1,1,1,1,1,1,1]) rfl
  refine ⟨_, hr, ?_⟩
  have hb := C10_execution_bounded (n := 3) (mkState_support C10_demo) hr
  have hz : size 3 _ = 0 := Nat.add_right_cancel (hb.trans (Nat.zero_add 19).symm)
  intro t
  by_cases ht : t < 3
  · exact psize_zero hz t ht
  · exact ((mkState_support C10_demo).run hr) t (Nat.le_of_not_lt ht)

/-- The rank hypothesis is needed: two properly nested programs that take two
    cells in opposite orders reach a state where both are unfinished and
    nobody can move. -/
def C10_abba : List (List Act) :=
  [ [.acq 0, .acq 1, .rel 1, .rel 0], [.acq 1, .acq 0, .rel 0, .rel 1] ]

example : ¬ ∀ p ∈ C10_abba, Ranked [] p := by decide
example : ∀ p ∈ C10_abba, Guarded (fun _ => 0) [] p := by decide

example : ∃ s, Reach (mkState C10_abba) s ∧ (∃ t, s.prog t ≠ []) ∧ ∀ t s', ¬ Step s t s' := by
  have hr := exec_run (s := mkState C10_abba) (ts := [0, 1]) rfl
  refine ⟨_, hr.reach, ⟨0, by decide⟩, ?_⟩
  intro t s' st
  match t, ((mkState_support _).run hr).tid_lt st, enabled_of_step st with
  | 0, _, he => revert he; decide
  | 1, _, he => revert he; decide

end Rx
