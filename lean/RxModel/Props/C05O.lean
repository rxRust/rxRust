import RxModel.Lemmas.MergeAllOnce
import RxModel.Lemmas.MergeAllBlocks
import RxModel.Lemmas.MergeAllCold
/-
  C05O — the ORDER clauses of C05 (flattening: merge_all(n), concat_all,
  flat_map, concat_map): hot inner instances exactly once and in order, start
  order = arrival order (FIFO queue), concatenation for the limit 1, an error
  anywhere terminates once, per-inner order for every limit.

  Model: RxModel/Ops/MergeAll.lean.
  Ghost log: RxModel/Lemmas/MergeAllLog.lean — `runL fixed s evs` is the
  output of `runG fixed s evs` interleaved, at the exact program points, with
  `arrive i` (the outer `next` accepted instance `i`) and `start i`
  (`actual_subscribe` is called on instance `i`); `trace` is the same per
  external event.  `C05O_log_faithful`: erasing the ghost labels gives the
  model's output, for every table, limit and history.
  Helper lemmas: RxModel/Lemmas/MergeAll*.lean.

  `fixed = true` is the repaired code (`Fixed.run`), `fixed = false` the code
  before the fix (`run`); statements that need it carry the hypothesis that
  the run did not get stuck (always true of the repaired code: `C05_no_stuck`).
  All theorems quantify over every table of inner observables, every history
  (no bound), and — unless said otherwise — every limit.
-/
namespace Rx
open MergeAll

theorem C05O_log_faithful (fixed : Bool) (inners : List Inner) (n : Nat) (evs : List Ev) :
    outs (runL fixed (init inners n) evs) = (runG fixed (init inners n) evs).2 ∧
    runL fixed (init inners n) evs = (trace fixed (init inners n) evs).flatMap (fun p => p.2) ∧
    (trace fixed (init inners n) evs).map (fun p => p.1) = evs :=
  ⟨outs_runL fixed evs _, runL_eq_trace fixed evs _, trace_events fixed evs _⟩

/-! ## Hot inner instances: every item exactly once, in order

  `hotSpec j t` computes, from the trace alone, what instance `t` (the t-th
  accepted arrival), an instance of hot subject `j`, must contribute: the items
  subject `j` emits while the instance is `live` — from the event whose log
  contains `start t` (arrival with a free slot, or the completion that takes it
  from the queue), provided subject `j` has not terminated by then, until the
  terminal of subject `j`, a terminal of the merged stream, or `unsub`. -/

/-- Any limit, any history: the output restricted to instance `t` IS the
    specified contribution — every item once, in emission order, nothing else.
    `hkey`: the arrivals carrying tag `t` are instances of hot subject `j`. -/
theorem C05O_hot_once (fixed : Bool) (inners : List Inner) (n : Nat) (evs : List Ev) (j t : Nat)
    (hs : (runG fixed (init inners n) evs).1.stuck = false)
    (hkey : ∀ i ∈ arrivalsOf (runL fixed (init inners n) evs), i.tag = t →
      (init inners n).inner i.k = .hot j) :
    restrict t (runG fixed (init inners n) evs).2 =
      hotSpec j t (.idle false) (trace fixed (init inners n) evs) :=
  (runG_hot fixed j t evs _ _ hs (init_ginv inners n) (init_qpre j t inners n) hkey
    (init_phase j t inners n)).1

/-- The repaired code, no side condition. -/
theorem C05O_hot_once_fixed (inners : List Inner) (n : Nat) (evs : List Ev) (j t : Nat)
    (hkey : ∀ i ∈ arrivalsOf (runL true (init inners n) evs), i.tag = t →
      (init inners n).inner i.k = .hot j) :
    restrict t (Fixed.run (init inners n) evs).2 =
      hotSpec j t (.idle false) (trace true (init inners n) evs) :=
  C05O_hot_once true inners n evs j t (runG_not_stuck_fixed evs _ rfl) hkey

/-- In the form of `C05_once_in_order`: the instance is identified by the outer
    event `outerNext k` that delivers it (table entry `k` = hot subject `j`);
    its tag is the arrival counter at that moment. -/
theorem C05O_hot_once_at (fixed : Bool) (inners : List Inner) (n : Nat) (pre post : List Ev)
    (k j : Nat) (hk : (init inners n).inner k = .hot j)
    (ho : (runG fixed (init inners n) pre).1.outerOpen = true)
    (ha : (runG fixed (init inners n) pre).1.alive = true)
    (hs : (runG fixed (init inners n) (pre ++ .outerNext k :: post)).1.stuck = false) :
    restrict (runG fixed (init inners n) pre).1.arrivals
        (runG fixed (init inners n) (pre ++ .outerNext k :: post)).2 =
      hotSpec j (runG fixed (init inners n) pre).1.arrivals (.idle false)
        (trace fixed (init inners n) (pre ++ .outerNext k :: post)) := by
  apply C05O_hot_once fixed inners n _ j _ hs
  intro i hi ht
  have := (arrival_tag_unique fixed (init inners n) pre post k
    (not_stuck_prefix fixed pre _ _ hs) ho ha).1 i hi ht
  rw [this]; exact hk

/-- The phase the specification computes is `live` exactly when, in the model,
    subject `j` holds an `InnerObserver` of instance `t`, the subject has not
    terminated and the merged stream is alive. -/
theorem C05O_hot_live_iff (fixed : Bool) (inners : List Inner) (n : Nat) (evs : List Ev) (j t : Nat)
    (hs : (runG fixed (init inners n) evs).1.stuck = false)
    (hkey : ∀ i ∈ arrivalsOf (runL fixed (init inners n) evs), i.tag = t →
      (init inners n).inner i.k = .hot j) :
    phaseAfter j t (.idle false) (trace fixed (init inners n) evs) = .live ↔
      Listening (runG fixed (init inners n) evs).1 j t :=
  phase_live_iff j t _ _
    (runG_hot fixed j t evs _ _ hs (init_ginv inners n) (init_qpre j t inners n) hkey
      (init_phase j t inners n)).2

/-- When an accepted instance starts: at arrival if a slot is free; otherwise
    it goes to the back of the queue and nothing starts in that event. -/
theorem C05O_start_now_or_queued (fixed : Bool) (s : St) (k : Nat) (hs : s.stuck = false)
    (ho : s.outerOpen = true) (ha : s.alive = true) :
    (s.subscribed < s.concurrent →
      ∃ l, stepL fixed s (.outerNext k) =
        .arrive ⟨s.arrivals, k⟩ :: .start ⟨s.arrivals, k⟩ :: l) ∧
    (¬ s.subscribed < s.concurrent →
      stepL fixed s (.outerNext k) = [.arrive ⟨s.arrivals, k⟩] ∧
      (stepG fixed s (.outerNext k)).1.queue = s.queue ++ [⟨s.arrivals, k⟩]) :=
  stepG_cases fixed s (.outerNext k) (P := fun r l =>
      (s.subscribed < s.concurrent → ∃ l', l = .arrive ⟨s.arrivals, k⟩ :: .start ⟨s.arrivals, k⟩ :: l') ∧
      (¬ s.subscribed < s.concurrent →
        l = [.arrive ⟨s.arrivals, k⟩] ∧ r.1.queue = s.queue ++ [⟨s.arrivals, k⟩]))
    (idle := fun hI => by rcases hI with hI | hI; rw [hs] at hI; cases hI; rw [ho] at hI; cases hI)
    (lost := fun _ _ _ _ ha' => by rw [ha] at ha'; cases ha')
    (room := fun k' he _ _ _ hlt => by cases he; exact ⟨fun _ => ⟨_, rfl⟩, fun h => absurd hlt h⟩)
    (full := fun k' he _ _ _ hge => by cases he; exact ⟨fun h => absurd h hge, fun _ => ⟨rfl, rfl⟩⟩)
    (outer := fun _ _ _ _ _ hx => by rcases hx with ⟨hx, _⟩ | ⟨_, hx, _⟩ <;> cases hx)
    (inext := fun _ _ he => by cases he) (ierr := fun _ _ _ _ he => by cases he) (icomp := fun _ he => by cases he)
    (unsub := fun he => by cases he)

/-- The instances started so far, followed by the instances waiting in the
    queue, are exactly the instances accepted so far, in arrival order.  (Both
    codes, errors / unsubscription / the stuck state included.) -/
theorem C05O_start_order (fixed : Bool) (inners : List Inner) (n : Nat) (evs : List Ev) :
    startsOf (runL fixed (init inners n) evs) ++ (runG fixed (init inners n) evs).1.queue =
      arrivalsOf (runL fixed (init inners n) evs) := by
  have := (runG_fifo fixed evs _ (init_ginv inners n)).2
  simpa [init] using this

/-- Hence the sequence of starts is a prefix of the arrival sequence … -/
theorem C05O_start_prefix (fixed : Bool) (inners : List Inner) (n : Nat) (evs : List Ev) :
    startsOf (runL fixed (init inners n) evs) <+: arrivalsOf (runL fixed (init inners n) evs) :=
  ⟨_, C05O_start_order fixed inners n evs⟩

/-- … arrival tags are strictly increasing … -/
theorem C05O_arrival_tags_increasing (fixed : Bool) (inners : List Inner) (n : Nat) (evs : List Ev) :
    (arrivalsOf (runL fixed (init inners n) evs)).Pairwise (fun a b => a.tag < b.tag) :=
  (runL_arrivals_sorted fixed evs _).1

/-- … so instances start in strictly increasing arrival number, and the queue
    holds later arrivals than everything started. -/
theorem C05O_start_tags_increasing (fixed : Bool) (inners : List Inner) (n : Nat) (evs : List Ev) :
    (startsOf (runL fixed (init inners n) evs)).Pairwise (fun a b => a.tag < b.tag) ∧
    ∀ a ∈ startsOf (runL fixed (init inners n) evs),
      ∀ b ∈ (runG fixed (init inners n) evs).1.queue, a.tag < b.tag := by
  have h := C05O_arrival_tags_increasing fixed inners n evs
  rw [← C05O_start_order, List.pairwise_append] at h
  exact ⟨h.1, h.2.2⟩

/-- No overtaking: if an instance has started, every instance accepted before
    it has started too (and, by the previous theorem, earlier). -/
theorem C05O_no_overtake (fixed : Bool) (inners : List Inner) (n : Nat) (evs : List Ev)
    (a b : Inst) (ha : a ∈ arrivalsOf (runL fixed (init inners n) evs))
    (hb : b ∈ startsOf (runL fixed (init inners n) evs)) (hab : a.tag < b.tag) :
    a ∈ startsOf (runL fixed (init inners n) evs) := by
  rw [← C05O_start_order, List.mem_append] at ha
  rcases ha with ha | ha
  · exact ha
  · have := (C05O_start_tags_increasing fixed inners n evs).2 b hb a ha
    omega

/-- Instances wait only while all `n` slots are taken, and never more than `n`
    are taken: an instance arriving while the queue is non-empty is queued. -/
theorem C05O_queue_only_when_full (fixed : Bool) (inners : List Inner) (n : Nat) (evs : List Ev) :
    (runG fixed (init inners n) evs).1.subscribed ≤ n ∧
    ((runG fixed (init inners n) evs).1.queue ≠ [] → (runG fixed (init inners n) evs).1.subscribed = n) := by
  have h := (runG_fifo fixed evs _ (init_ginv inners n)).1
  have hc : (runG fixed (init inners n) evs).1.concurrent = n := (runG_frame fixed evs _).conc
  have h1 := h.le; have h2 := h.full
  rw [hc] at h1 h2
  exact ⟨h1, fun hq => by have := h2 hq; omega⟩

/-- The start log only grows: what a history has started, every extension has
    started in the same order. -/
theorem C05O_start_log_extends (fixed : Bool) (inners : List Inner) (n : Nat) (pre post : List Ev) :
    startsOf (runL fixed (init inners n) pre) <+: startsOf (runL fixed (init inners n) (pre ++ post)) := by
  rw [runL_append, startsOf_append]; exact List.prefix_append _ _

/-- With limit 1 (`concat_all`, `concat_map`) the output is a sequence of
    blocks in arrival order: no item of a later instance precedes an item of an
    earlier one.  Any table (hot and cold), any history, both codes. -/
theorem C05O_concat_blocks (fixed : Bool) (inners : List Inner) (n : Nat) (hn : n ≤ 1)
    (evs : List Ev) :
    (itemTags (runG fixed (init inners n) evs).2).Pairwise (· ≤ ·) := by
  have h := (runG_blk fixed evs _ (init_blk inners n hn)).2.mono
  rw [← outs_runL]
  exact h.sublist (itemTags_outs_sublist _)

/-- The same on the log: starts and items together never go back — the items
    of an instance lie between its own start and the start of the next one. -/
theorem C05O_concat_blocks_log (fixed : Bool) (inners : List Inner) (n : Nat) (hn : n ≤ 1)
    (evs : List Ev) : (tagsL (runL fixed (init inners n) evs)).Pairwise (· ≤ ·) :=
  (runG_blk fixed evs _ (init_blk inners n hn)).2.mono

/-- Cold inners that terminate inside their subscription: for EVERY limit
    `1 ≤ n` (in particular `concat_all`), both codes, every history, the output
    is exactly `coldExpected`: the scripts in arrival order, cut after the first
    script that ends with an error, then the outer terminal. -/
theorem C05O_concat_cold_exact (fixed : Bool) (inners : List Inner) (n : Nat) (hn : 1 ≤ n)
    (evs : List Ev)
    (hc : ∀ k, Ev.outerNext k ∈ evs →
      ∃ xs fin, (init inners n).inner k = .cold xs fin ∧ fin ≠ .open_) :
    (runG fixed (init inners n) evs).2 = coldExpected (init inners n).inner 0 evs :=
  runG_cold fixed evs _ (init_coldIdle inners n hn) hc

/-- … spelled out for an error-free table and a completed outer stream:
    the items are the concatenation of the scripts in outer order, then `complete`. -/
theorem C05O_concat_cold_scripts (fixed : Bool) (inners : List Inner) (n : Nat) (hn : 1 ≤ n)
    (ks : List Nat) (hc : ∀ k ∈ ks, ∃ xs, (init inners n).inner k = .cold xs .complete) :
    (runG fixed (init inners n) (ks.map Ev.outerNext ++ [.outerComplete])).2.map Out.toNotif =
      (ks.flatMap (fun k => ((init inners n).inner k).script)).map Notif.next ++ [.complete] := by
  rw [C05O_concat_cold_exact fixed inners n hn]
  · exact coldExpected_all_complete _ ks 0 hc
  · intro k hk
    simp only [List.mem_append, List.mem_map, List.mem_singleton, reduceCtorEq, or_false] at hk
    obtain ⟨k', hk', he⟩ := hk
    cases he
    obtain ⟨xs, hx⟩ := hc k hk'
    exact ⟨xs, .complete, hx, by simp⟩

/-- At most one terminal, and it is the LAST entry of the whole log: after it
    nothing is delivered, no instance is started, no arrival accepted. -/
theorem C05O_terminal_last (fixed : Bool) (inners : List Inner) (n : Nat) (evs : List Ev) :
    hasTerm (runL fixed (init inners n) evs) = false ∨
    ∃ l' x, runL fixed (init inners n) evs = l' ++ [x] ∧ x.isTerm = true ∧ hasTerm l' = false := by
  rcases (runG_ends fixed evs (init inners n)).1 with ⟨a, _⟩ | ⟨l', x, e, hx, a, _⟩
  · exact Or.inl a
  · exact Or.inr ⟨l', x, e, hx, a⟩

/-- Nothing follows a terminal, whatever the continuation. -/
theorem C05O_nothing_after_terminal (fixed : Bool) (inners : List Inner) (n : Nat)
    (pre post : List Ev) (h : hasTerm (runL fixed (init inners n) pre) = true) :
    runL fixed (init inners n) (pre ++ post) = runL fixed (init inners n) pre ∧
    (runG fixed (init inners n) (pre ++ post)).2 = (runG fixed (init inners n) pre).2 := by
  have := runL_after_term fixed (init inners n) pre post h
  exact ⟨this, by rw [← outs_runL, this, outs_runL]⟩

/-- `hasTerm` of the log = a terminal in the model's output. -/
theorem C05O_hasTerm_iff (fixed : Bool) (inners : List Inner) (n : Nat) (evs : List Ev) :
    hasTerm (runL fixed (init inners n) evs) = true ↔
      (Out.complete ∈ (runG fixed (init inners n) evs).2 ∨
        ∃ e, Out.error e ∈ (runG fixed (init inners n) evs).2) := by
  rw [← outs_runL]; exact hasTerm_iff_outs _

/-- An error on the outer stream (slot open, merged stream alive): exactly that
    error is appended, and nothing follows. -/
theorem C05O_error_outer (fixed : Bool) (inners : List Inner) (n : Nat) (pre post : List Ev) (e : Err)
    (hs : (runG fixed (init inners n) pre).1.stuck = false)
    (ho : (runG fixed (init inners n) pre).1.outerOpen = true)
    (ha : (runG fixed (init inners n) pre).1.alive = true) :
    (runG fixed (init inners n) (pre ++ .outerError e :: post)).2 =
      (runG fixed (init inners n) pre).2 ++ [.error e] := by
  have h1 := error_outer_step fixed _ e hs ho ha
  rw [runG_append]
  simp only [runG, h1.1, runG_dead_out fixed post _ h1.2, List.append_nil]

/-- An error of hot subject `j` while some instance `t` is subscribed to it
    (`Listening` = the `live` phase, `C05O_hot_live_iff`): exactly that error,
    once — however many instances listen —, and nothing follows. -/
theorem C05O_error_hot (fixed : Bool) (inners : List Inner) (n : Nat) (pre post : List Ev)
    (j t : Nat) (e : Err) (hs : (runG fixed (init inners n) pre).1.stuck = false)
    (hl : Listening (runG fixed (init inners n) pre).1 j t) :
    (runG fixed (init inners n) (pre ++ .innerError j e :: post)).2 =
      (runG fixed (init inners n) pre).2 ++ [.error e] := by
  have h1 := error_hot_step fixed _ j t e hs hl
  rw [runG_append]
  simp only [runG, h1.1, runG_dead_out fixed post _ h1.2, List.append_nil]

/-- An error of a subject nobody is subscribed to — its instances are still
    queued, have not arrived, or are over — is not delivered. -/
theorem C05O_error_hot_unheard (fixed : Bool) (inners : List Inner) (n : Nat) (pre : List Ev)
    (j : Nat) (e : Err) (hn : ∀ t, ¬ Listening (runG fixed (init inners n) pre).1 j t) :
    (runG fixed (init inners n) (pre ++ [.innerError j e])).2 = (runG fixed (init inners n) pre).2 := by
  rw [runG_append]
  simp only [runG, error_hot_unheard fixed _ j e hn, List.append_nil]

/-- A STARTED cold inner whose script ends with an error (started at arrival or
    from the queue; repaired code): the log ends with its start, its items and
    exactly that error; no terminal before. -/
theorem C05O_error_cold (inners : List Inner) (n : Nat) (evs : List Ev) (i : Inst) (xs : List Val)
    (e : Err) (hst : Lab.start i ∈ runL true (init inners n) evs)
    (hk : (init inners n).inner i.k = .cold xs (.error e)) :
    ∃ L1, runL true (init inners n) evs =
        L1 ++ Lab.start i :: (itemsL i.tag xs ++ [Lab.out (.error e)]) ∧ hasTerm L1 = false ∧
      (Fixed.run (init inners n) evs).2 = outs L1 ++ xs.map (Out.item i.tag) ++ [.error e] := by
  obtain ⟨L1, h⟩ := runG_errblock i xs e evs _ hk (mem_startsOf.mpr hst)
  refine ⟨L1, h, errblock_prefix_clean true _ evs i xs e L1 h, ?_⟩
  show (runG true (init inners n) evs).2 = _
  rw [← outs_runL, h]
  simp [outs_append, outs]

/-- Where an error in the output can come from: an error event of the outer
    stream, an error event of a hot subject, or a cold inner that was STARTED.
    The error of an inner that is still queued is never delivered. -/
theorem C05O_error_source (fixed : Bool) (inners : List Inner) (n : Nat) (evs : List Ev) (e : Err)
    (h : Out.error e ∈ (runG fixed (init inners n) evs).2) :
    Ev.outerError e ∈ evs ∨ (∃ j, Ev.innerError j e ∈ evs) ∨
      ∃ i xs, Lab.start i ∈ runL fixed (init inners n) evs ∧
        (init inners n).inner i.k = .cold xs (.error e) := by
  rw [← outs_runL, mem_outs_iff] at h
  rcases runG_err_src fixed e evs _ h with h | h | ⟨i, hi, xs, hx⟩
  · exact Or.inl h
  · exact Or.inr (Or.inl h)
  · exact Or.inr (Or.inr ⟨i, xs, mem_startsOf.mp hi, hx⟩)

/-- In particular: no error events and no failing inner among the STARTED
    instances ⇒ no error downstream, whatever is waiting in the queue. -/
theorem C05O_error_queued_silent (fixed : Bool) (inners : List Inner) (n : Nat) (evs : List Ev)
    (hev : ∀ ev ∈ evs, (∀ e, ev ≠ .outerError e) ∧ (∀ j e, ev ≠ .innerError j e))
    (hst : ∀ i, Lab.start i ∈ runL fixed (init inners n) evs →
      ∀ xs e, (init inners n).inner i.k ≠ .cold xs (.error e)) (e : Err) :
    Out.error e ∉ (runG fixed (init inners n) evs).2 := by
  intro h
  rcases C05O_error_source fixed inners n evs e h with h | ⟨j, h⟩ | ⟨i, xs, hi, hx⟩
  · exact (hev _ h).1 e rfl
  · exact (hev _ h).2 j e rfl
  · exact hst i hi xs e hx

/-- For the instance delivered by `outerNext k` after `pre` (cold or hot): what
    it contributes to the output is a sub-sequence of what the inner observable
    produces (`innerSeq`: the script of a cold inner, the emissions of the
    subject of a hot one) — same relative order, nothing twice. -/
theorem C05O_inner_order (fixed : Bool) (inners : List Inner) (n : Nat) (pre post : List Ev) (k : Nat)
    (ho : (runG fixed (init inners n) pre).1.outerOpen = true)
    (ha : (runG fixed (init inners n) pre).1.alive = true)
    (hs : (runG fixed (init inners n) (pre ++ .outerNext k :: post)).1.stuck = false) :
    (restrict (runG fixed (init inners n) pre).1.arrivals
        (runG fixed (init inners n) (pre ++ .outerNext k :: post)).2).Sublist
      (innerSeq ((init inners n).inner k) (pre ++ .outerNext k :: post)) := by
  cases hk : (init inners n).inner k with
  | cold xs fin =>
    rw [runG_once fixed inners n pre post k xs fin hk ho ha hs]
    simp only [innerSeq]
    split
    · exact List.Sublist.refl _
    · exact List.nil_sublist _
  | hot j =>
    rw [C05O_hot_once_at fixed inners n pre post k j hk ho ha hs]
    exact hotSpec_sublist fixed j _ _ _ _

/-! ## A finding: a hot inner that terminates while it waits in the queue

  Full-strength reading of "the flattened stream completes when the outer and
  all inner observables have completed", stated on the HISTORY
  (`C05_completion` is stated on the operator's counters: it completes when it
  has RECEIVED a `complete` for every arrival). -/

/-- Error-free history, `1 ≤ n`, the outer stream completes, every inner
    observable it delivered is a cold one that completes or a hot one whose
    subject completes during the history ⇒ the merged stream completes. -/
def C05O_completion_by_history_statement (run : St → List Ev → St × List Out) : Prop :=
  ∀ (inners : List Inner) (n : Nat) (evs : List Ev), 1 ≤ n → NoErrTable inners →
    (∀ ev ∈ evs, Ev.benign ev = true) → Ev.outerComplete ∈ evs →
    (∀ k, Ev.outerNext k ∈ evs →
      (∃ xs, (init inners n).inner k = .cold xs .complete) ∨
      (∃ j, (init inners n).inner k = .hot j ∧ Ev.innerComplete j ∈ evs)) →
    Out.complete ∈ (run (init inners n) evs).2

/-- It is FALSE (both codes): `concat_all` over two hot inners; the second
    subject completes while its instance is still queued.  When the first
    completes, the instance is subscribed to a finished `Subject`, which drops
    the late `InnerObserver` without calling it (subject.rs `actual_subscribe`,
    `chamber` is `None`): the slot is never released, the merged stream never
    completes and every later inner observable waits for ever.
    Replay: `limit 1; inners (hot 0) (hot 1); outer (o 0); outer (o 1); outer c;
    inner 1 c; inner 0 c` (real crate: no `C`; confirmed with `rxharness`). -/
theorem C05O_completion_by_history_counterexample :
    Out.complete ∉ (Fixed.run (init [.hot 0, .hot 1] 1)
      [.outerNext 0, .outerNext 1, .outerComplete, .innerComplete 1, .innerComplete 0]).2 ∧
    Out.complete ∉ (run (init [.hot 0, .hot 1] 1)
      [.outerNext 0, .outerNext 1, .outerComplete, .innerComplete 1, .innerComplete 0]).2 := by
  decide

theorem C05O_completion_by_history_false :
    ¬ C05O_completion_by_history_statement Fixed.run ∧ ¬ C05O_completion_by_history_statement run := by
  have hargs : (1 ≤ 1) ∧ NoErrTable [.hot 0, .hot 1] ∧
      (∀ ev ∈ [Ev.outerNext 0, .outerNext 1, .outerComplete, .innerComplete 1, .innerComplete 0],
        Ev.benign ev = true) ∧
      Ev.outerComplete ∈ [Ev.outerNext 0, .outerNext 1, .outerComplete, .innerComplete 1, .innerComplete 0] ∧
      (∀ k, Ev.outerNext k ∈ [Ev.outerNext 0, .outerNext 1, .outerComplete, .innerComplete 1,
          .innerComplete 0] →
        (∃ xs, (init [.hot 0, .hot 1] 1).inner k = .cold xs .complete) ∨
        (∃ j, (init [.hot 0, .hot 1] 1).inner k = .hot j ∧
          Ev.innerComplete j ∈ [Ev.outerNext 0, .outerNext 1, .outerComplete, .innerComplete 1,
            .innerComplete 0])) := by
    refine ⟨Nat.le_refl _, ?_, by decide, by decide, ?_⟩
    · intro xs e h; simp at h
    · intro k hk
      simp only [List.mem_cons, Ev.outerNext.injEq, reduceCtorEq, List.not_mem_nil, or_false] at hk
      rcases hk with rfl | rfl
      · exact Or.inr ⟨0, rfl, by decide⟩
      · exact Or.inr ⟨1, rfl, by decide⟩
  obtain ⟨h1, h2, h3, h4, h5⟩ := hargs
  exact ⟨fun h => C05O_completion_by_history_counterexample.1 (h _ _ _ h1 h2 h3 h4 h5),
    fun h => C05O_completion_by_history_counterexample.2 (h _ _ _ h1 h2 h3 h4 h5)⟩

/-- The same history continued: the cold inner that arrived third is never
    started and its items are lost, whatever the dead subject does later. -/
theorem C05O_completion_by_history_items_lost :
    (Fixed.run (init [.hot 0, .hot 1, .cold [.int 5] .complete] 1)
      [.outerNext 0, .outerNext 1, .outerNext 2, .outerComplete, .innerComplete 1,
       .innerNext 0 (.int 1), .innerComplete 0, .innerNext 1 (.int 2), .innerComplete 1]).2 =
      [.item 0 (.int 1)] := by decide

/-- What does hold of the history-level statement: tables in which the outer
    stream delivers cold inners only (both codes, any limit `1 ≤ n`); and, for
    hot inners, `C05_completion` (completion exactly when a `complete` has been
    RECEIVED for every arrival).  Missing: hot subjects that terminate before
    their instance is subscribed. -/
theorem C05O_completion_by_history_partial (fixed : Bool) (inners : List Inner) (n : Nat)
    (evs : List Ev) (hn : 1 ≤ n) (hb : ∀ ev ∈ evs, Ev.benign ev = true)
    (ho : Ev.outerComplete ∈ evs)
    (hc : ∀ k, Ev.outerNext k ∈ evs → ∃ xs, (init inners n).inner k = .cold xs .complete) :
    Out.complete ∈ (runG fixed (init inners n) evs).2 := by
  rw [C05O_concat_cold_exact fixed inners n hn evs
    (fun k hk => by obtain ⟨xs, hx⟩ := hc k hk; exact ⟨xs, .complete, hx, by simp⟩)]
  exact coldExpected_complete_mem _ evs 0 hc hb ho

/-- The instance subscribed late stays silent: the specification's phase goes
    from `idle true` (subject finished while waiting) straight to `over`. -/
example : phaseAfter 1 1 (.idle false) (trace true (init [.hot 0, .hot 1] 1)
      [.outerNext 0, .outerNext 1, .outerComplete, .innerComplete 1]) = .idle true
    ∧ phaseAfter 1 1 (.idle false) (trace true (init [.hot 0, .hot 1] 1)
      [.outerNext 0, .outerNext 1, .outerComplete, .innerComplete 1, .innerComplete 0]) = .over
    ∧ (Fixed.run (init [.hot 0, .hot 1] 1)
      [.outerNext 0, .outerNext 1, .outerComplete, .innerComplete 1, .innerComplete 0]).1.subs
        = [(1, 1)] := by decide

/-- limit 2, three hot inners and a cold one, interleaved emissions: instance 2
    (subject 2) waits in the queue until instance 0 completes, misses the item
    `7` emitted meanwhile, then hears `3` and `5`; the cold instance 3 starts
    when instance 1 completes. -/
example :
    (Fixed.run (init [.hot 0, .hot 1, .hot 2, .cold [.int 8, .int 9] .complete] 2)
      [.outerNext 0, .outerNext 1, .outerNext 2, .innerNext 0 (.int 1), .innerNext 2 (.int 7),
       .innerNext 1 (.int 2), .outerNext 3, .innerComplete 0, .innerNext 2 (.int 3),
       .innerNext 1 (.int 4), .innerComplete 1, .innerNext 2 (.int 5), .outerComplete,
       .innerComplete 2]).2 =
    [.item 0 (.int 1), .item 1 (.int 2), .item 2 (.int 3), .item 1 (.int 4), .item 3 (.int 8),
     .item 3 (.int 9), .item 2 (.int 5), .complete] := by decide

example :
    hotSpec 2 2 (.idle false)
      (trace true (init [.hot 0, .hot 1, .hot 2, .cold [.int 8, .int 9] .complete] 2)
      [.outerNext 0, .outerNext 1, .outerNext 2, .innerNext 0 (.int 1), .innerNext 2 (.int 7),
       .innerNext 1 (.int 2), .outerNext 3, .innerComplete 0, .innerNext 2 (.int 3),
       .innerNext 1 (.int 4), .innerComplete 1, .innerNext 2 (.int 5), .outerComplete,
       .innerComplete 2]) = [.int 3, .int 5] := by decide

example :
    startsOf (runL true (init [.hot 0, .hot 1, .hot 2, .cold [.int 8, .int 9] .complete] 2)
      [.outerNext 0, .outerNext 1, .outerNext 2, .innerNext 0 (.int 1), .innerNext 2 (.int 7),
       .innerNext 1 (.int 2), .outerNext 3, .innerComplete 0, .innerNext 2 (.int 3),
       .innerNext 1 (.int 4), .innerComplete 1]) = [⟨0, 0⟩, ⟨1, 1⟩, ⟨2, 2⟩, ⟨3, 3⟩] := by decide

/-- the hypothesis `hkey` of `C05O_hot_once` is satisfiable (tag 2 is the instance of `hot 2`) -/
example : ∀ i ∈ arrivalsOf (runL true (init [.hot 0, .hot 1, .hot 2] 2)
      [.outerNext 0, .outerNext 1, .outerNext 2]), i.tag = 2 →
      (init [.hot 0, .hot 1, .hot 2] 2).inner i.k = .hot 2 := by decide

/-- n = 1, hot — cold — hot: blocks in outer order; the third instance misses
    the item `7` its subject emits while it waits. -/
example :
    (Fixed.run (init [.hot 0, .cold [.int 8, .int 9] .complete, .hot 1] 1)
      [.outerNext 0, .outerNext 1, .outerNext 2, .innerNext 1 (.int 7), .innerNext 0 (.int 1),
       .innerNext 0 (.int 2), .innerComplete 0, .innerNext 1 (.int 3), .outerComplete,
       .innerNext 1 (.int 4), .innerComplete 1]).2 =
    [.item 0 (.int 1), .item 0 (.int 2), .item 1 (.int 8), .item 1 (.int 9), .item 2 (.int 3),
     .item 2 (.int 4), .complete] := by decide

/-- the same subject delivered twice: the second instance is started when the
    subject has already completed, and contributes nothing -/
example :
    hotSpec 0 2 (.idle false) (trace true (init [.hot 0, .cold [.int 8] .complete] 1)
      [.outerNext 0, .outerNext 1, .outerNext 0, .innerNext 0 (.int 1), .innerComplete 0,
       .innerNext 0 (.int 2)]) = []
    ∧ (Fixed.run (init [.hot 0, .cold [.int 8] .complete] 1)
      [.outerNext 0, .outerNext 1, .outerNext 0, .innerNext 0 (.int 1), .innerComplete 0,
       .innerNext 0 (.int 2)]).2 = [.item 0 (.int 1), .item 1 (.int 8)] := by decide

/-- a queued failing inner is silent; once started its error ends the log -/
example :
    (Fixed.run (init [.hot 0, .cold [.int 8] (.error 3)] 1)
      [.outerNext 0, .outerNext 1, .innerNext 0 (.int 1), .outerComplete]).2 = [.item 0 (.int 1)]
    ∧ runL true (init [.hot 0, .cold [.int 8] (.error 3)] 1)
      [.outerNext 0, .outerNext 1, .innerNext 0 (.int 1), .innerComplete 0, .innerNext 0 (.int 2)] =
      [.arrive ⟨0, 0⟩, .start ⟨0, 0⟩, .arrive ⟨1, 1⟩, .out (.item 0 (.int 1)), .start ⟨1, 1⟩,
       .out (.item 1 (.int 8)), .out (.error 3)] := by decide

/-- an error of a subject whose instance is still queued is not delivered;
    the instance is later subscribed to the dead subject and stays silent -/
example :
    (Fixed.run (init [.hot 0, .hot 1] 1)
      [.outerNext 0, .outerNext 1, .innerError 1 5, .innerNext 0 (.int 1), .innerComplete 0,
       .innerNext 1 (.int 2)]).2 = [.item 0 (.int 1)] := by decide

/-- cold concatenation, limit 3 -/
example :
    (run (init [.cold [.int 1, .int 2] .complete, .cold [] .complete, .cold [.int 3] .complete] 3)
      ([0, 2, 1, 0].map Ev.outerNext ++ [.outerComplete])).2.map Out.toNotif =
    [.next (.int 1), .next (.int 2), .next (.int 3), .next (.int 1), .next (.int 2), .complete] := by
  decide

end Rx
