import RxModel.Conc.FinalizeLts
/-
  C15 (threads clause) — finalize_threads runs its callback exactly once under a
  race between a terminating thread and an unsubscribing thread.

  Model: RxModel/Conc/FinalizeLts.lean (lock LTS + shared `Option` flag).
  The statements quantify over *all* schedules; both are instances of
  `Finalize.once` (any number of racing triggers).
-/
namespace Rx
open Conc

/-- **finalize_threads, terminal ∥ unsubscribe.**  In every interleaving the
    callback has run at most once at every moment, and exactly once when both
    calls have returned. -/
theorem C15_threads {ts : List Tid} {s' : DState Finalize.D}
    (r : DRun Finalize.sem ⟨mkState Finalize.progs2, Finalize.d0⟩ ts s') :
    s'.d.runs ≤ 1 ∧ ((∀ t, s'.l.prog t = []) → s'.d.runs = 1) :=
  Finalize.once (by decide) (by decide) r

/-- The same with a third racing trigger (a cloned handle). -/
theorem C15_threads_three {ts : List Tid} {s' : DState Finalize.D}
    (r : DRun Finalize.sem ⟨mkState Finalize.progs3, Finalize.d0⟩ ts s') :
    s'.d.runs ≤ 1 ∧ ((∀ t, s'.l.prog t = []) → s'.d.runs = 1) :=
  Finalize.once (by decide) (by decide) r

/-- The programs are ranked, so every schedule can be completed (no deadlock):
    the "exactly once" conclusion is reached by every maximal execution. -/
theorem C15_threads_no_deadlock : ∀ p ∈ Finalize.progs2, Ranked [] p := by decide

/-- Non-vacuity: a complete schedule in which the unsubscribing thread wins. -/
example : ∃ s', DRun Finalize.sem ⟨mkState Finalize.progs2, Finalize.d0⟩
    [1, 1, 0, 1, 1, 1, 0, 0, 0, 0] s' ∧ s'.d.runs = 1 ∧ s'.d.took 1 = true ∧ s'.d.took 0 = false := by
  refine ⟨_, dexec_run (ts := [1, 1, 0, 1, 1, 1, 0, 0, 0, 0]) rfl, ?_⟩
  decide

end Rx
