import RxModel.Conv.Dropped
/-
  C14, robustness corner — a conversion whose consumer (the future / the stream) has been DROPPED
  never makes a terminal of the source panic.

  Property theorems only.  Model: RxModel/Conv/Dropped.lean over RxModel/Conv/Convert.lean (suite
  `convert`, event `drop`).  `sendFailed` is the model's record of "an `unbounded_send` that the
  observer `expect`s has returned `Err`" = the panic `failed to send …` of src/ops/future.rs /
  src/ops/stream.rs.

  Background: with `fix: Subject::error/complete hand the terminal to every subscriber` a subject
  calls `error` / `complete` also on an observer that reports `is_finished()` — for these two
  observers `sender.is_closed()`, i.e. exactly the dropped consumer — where it used to skip it.  The
  companion `fix: a dropped future/stream cannot make a terminal panic` makes the terminal paths
  ignore the failed send; cold sources (`create`, `interval().take(n)` …) always called them and
  panicked there before.
-/
namespace Rx.Conv

/-- `to_future`: no history whatever — items, terminals, post-terminal events, polls, the drop of
    the future at any moment, repeated — makes a send fail. -/
theorem C14_dropped_future_no_panic (m : Model) (es : List DEv) (d : DW FutW) :
    (runD (futDStep m) d es).1.w.chan.sendFailed = d.w.chan.sendFailed :=
  runD_keeps (FutW.step m) FutW.dropFn (fun w => w.chan.sendFailed) (fun _ => True)
    (fun w e _ => FutW.step_sendFailed m w e) (fun _ => rfl) es d fun _ _ => trivial

/-- `collect().to_future()`: the same. -/
theorem C14_dropped_collect_no_panic (m : Model) (es : List DEv) (d : DW CFW) :
    (runD (cfDStep m) d es).1.w.chan.sendFailed = d.w.chan.sendFailed :=
  runD_keeps (CFW.step m) CFW.dropFn (fun w => w.chan.sendFailed) (fun _ => True)
    (fun w e _ => CFW.step_sendFailed m w e) (fun _ => rfl) es d fun _ _ => trivial

/-- An event that is not an item of the source. -/
def DEv.noItem : DEv → Bool
  | .ev (.emit (.next _)) => false
  | _ => true

/-- `to_stream`: from ANY state — in particular after the stream has been dropped — terminals of
    the source (first or repeated), polls, queries and drops never make a send fail. -/
theorem C14_dropped_stream_terminal_no_panic (m : Model) (es : List DEv)
    (h : ∀ e ∈ es, e.noItem = true) (d : DW StrW) :
    (runD (strDStep m) d es).1.w.chan.sendFailed = d.w.chan.sendFailed :=
  runD_keeps (StrW.step m) StrW.dropFn (fun w => w.chan.sendFailed) (fun x => ∀ v, x ≠ .emit (.next v))
    (fun w e he => StrW.step_sendFailed m w e he) (fun _ => rfl) es d
    fun x hx v hv => by subst hv; exact nomatch h _ hx

/-! Non-vacuity, and what is NOT claimed. -/

-- `subject.to_future()`, an item, the future is dropped, the subject completes / fails: nothing
-- fails, the channel is closed, a registered waker is woken by the sender's `close_channel`
example : ((runD (futDStep .fixed) {w := {}}
    [.ev (.emit (.next (.int 1))), .drop, .ev (.emit .complete)]).1.w.chan.sendFailed,
  (runD (futDStep .fixed) {w := {}}
    [.ev (.emit (.next (.int 1))), .drop, .ev (.emit .complete)]).1.w.obs.isNone) = (false, true) := by
  decide
example : (runD (futDStep .fixed) {w := {}}
    [.ev .poll, .drop, .ev (.emit (.error 7)), .ev .poll]).2 =
    [some .pending, none, some (.woke 1), none] := by decide
-- the dropped observer reports `is_finished()` (= `sender.is_closed()`) while it still sits in the
-- subject's list: the situation the first fix changed
example : ((runD (futDStep .fixed) {w := {}} [.drop]).1.w.chan.isOpen,
  (runD (futDStep .fixed) {w := {}} [.drop]).1.w.obs.isSome) = (false, true) := by decide
-- NOT claimed: a dropped stream whose source emits another ITEM — `ObservableStreamObserver::next`
-- still `expect`s the send (before and after both fixes)
example : (runD (strDStep .fixed) {w := {}} [.drop, .ev (.emit (.next (.int 1)))]).1.w.chan.sendFailed
    = true := by decide
example : (runD (strDStep .fixed) {w := {}} [.ev (.emit (.next (.int 1))), .drop, .ev (.emit (.error 3)),
    .ev (.emit (.next (.int 2)))]).1.w.chan.sendFailed = false := by decide

end Rx.Conv
