import RxModel.Lemmas.Async
/-
  C16 — Ending a stream early retires the producers that feed it.
  `fin` is `is_finished` as forwarded by every stage of a chain.
-/
namespace Rx.T
open Rx

/-- `is_finished` is forwarded upstream through every chain of intermediate
    single-input operators: if the observer below them is finished, so is the
    observer the producer holds. -/
theorem C16_forward_op1 (ops : List St1) (rest : List Stage) (h : fin rest = true) :
    fin (ops.map Stage.op1 ++ rest) = true := by
  induction ops with
  | nil => simpa using h
  | cons o os ih =>
    simp only [List.map_cons, List.cons_append, fin, ih]
    cases o <;> simp [St1.finished]

/-- An early-terminating operator that has completed answers `finished` whatever
    is below it. -/
theorem C16_take_closed (count hits : Nat) (rest : List Stage) :
    fin (.op1 (.take count hits false) :: rest) = true := by simp [fin, St1.finished]
theorem C16_takeWhile_closed (p : Val → Bool) (i : Bool) (rest : List Stage) :
    fin (.op1 (.takeWhile p i false) :: rest) = true := by simp [fin, St1.finished]
theorem C16_contains_closed (tg : Val) (rest : List Stage) :
    fin (.op1 (.contains tg false) :: rest) = true := by simp [fin, St1.finished]

/-- A repeating producer whose observer is finished declines its next tick, and a
    task that declined is finished for good. -/
theorem C16_tick_declines (w : TW) (seq : Nat) (h : fin w.stages = true) :
    w.runTick .tick seq = (w, false) := by simp [TW.runTick, h]

/-- The iterator source stops pulling once its observer is finished. -/
theorem C16_iter_stops_when_finished (w : TW) (h : fin w.stages = true) (n fuel k : Nat) :
    TW.subscribeSource.loop n (fuel + 1) k w = w := by
  simp [TW.subscribeSource.loop, h]

/-- … also as the second input of a two-input operator (merge, zip, …): when the
    observer that operator hands to its second input is finished at subscription
    time — e.g. the first input emitted synchronously and a `take` below has
    already completed — nothing is pulled at all. -/
theorem C16_iter_notifier_stops_when_finished (w : TW) (j : Nat) (st : St2) (nsrc : TSrc)
    (na : Bool) (nt : Option TaskId) (hj : w.stages[j]? = some (.op2n st nsrc na nt))
    (h : st.finished .b (fin (w.stages.drop (j + 1))) = true) (n fuel k : Nat) :
    TW.subscribeNotifier.loopB j n (fuel + 1) k w = w := by
  simp [TW.subscribeNotifier.loopB, hj, h]

/-- The stream drivers (from_stream / from_stream_result; model of the REPAIRED
    code, DESIGN §7 finding 18) ask `is_finished()` before every `poll_next`: once
    the observer is finished a poll of the driver returns `Ready` at once, pulls
    nothing from the stream and delivers nothing — bounded, unbounded (`cyc`) or
    silent stream alike. -/
theorem C16_stream_retires (res cyc : Bool) (script : List AStep) (f : Nat) (w : TW)
    (h : fin w.stages = true) :
    (TW.pollStream res script cyc (f + 1) w).2 = .done ∧
    (TW.pollStream res script cyc (f + 1) w).1.log = w.log ∧
    (TW.pollStream res script cyc (f + 1) w).1.pulls = w.pulls ∧
    (TW.pollStream res script cyc (f + 1) w).1.sched = w.sched := by
  exact pollStream_finished res cyc script f w h

/-- … and through the scheduler: the driver's task, polled after the subscriber
    has terminated, is finished (it leaves the executor: run-until-idle ends). -/
theorem C16_stream_task_finishes (w : TW) (k : TaskId) (t : Task) (res cyc : Bool) (script : List AStep)
    (hsrc : w.src = .stream res script cyc)
    (hk : w.sched.tasks[k]? = some t) (hb : t.body = .streamSrc) (hd : t.done = false)
    (hod : t.outerDelay = none) (hot : t.outerTimer = none) (hr : t.rep = none)
    (h : fin w.stages = true) :
    ∃ t', (w.pollTask k).sched.tasks[k]? = some t' ∧ t'.done = true ∧ (w.pollTask k).log = w.log := by
  rcases Bool.eq_false_or_eq_true t.keepRunning with hkr | hkr
  · rw [pollTask_afterAsync w k t hk hd hod hot hr hkr (by rw [hb]; rfl), hb]
    exact afterAsync_stream_finished _ k _ res cyc script hsrc
      (Sched.setTask_get_self w.sched k _ t hk) h
  · rw [pollTask_eq, pollPre_plain w.sched k t hk hd hod hot hr, if_neg (by rw [hkr]; exact Bool.false_ne_true)]
    exact ⟨_, Sched.setTask_get_self _ _ _ _ hk, rfl, rfl⟩

end Rx.T
