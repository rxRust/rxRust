import RxModel.Lemmas.MergeAllGrammar
import RxModel.Lemmas.GroupByWorld
import RxModel.Lemmas.ShareLabel
/-
  C01M — the stream grammar (items, then at most one terminal, then nothing)
  for the three multicast / flattening mechanisms that are modelled outside the
  pipeline tree: merge_all / concat_all / flat_map, group_by, and
  share / publish+connect / ref_count.

  Property theorems only.  Models: RxModel/Ops/MergeAll.lean,
  RxModel/Ops/GroupBy.lean, RxModel/Subject/Share.lean (the executable
  transcriptions `rxdriver` runs against the real code).  Helper lemmas:
  RxModel/Lemmas/{MergeAllGrammar, St1WF, GroupByGrammar, GroupByWorld,
  ShareInstr, ShareGrammar, ShareSilence, ShareLabel}.lean.

  Every theorem quantifies over ALL event lists of the model's vocabulary, so
  malformed histories are included: hot inners / hot sources that keep
  emitting after their own terminal, after the operator's terminal, after an
  error, after unsubscription; outer events after the outer terminal.
-/
namespace Rx

/-! ## merge_all(n) / concat_all / flatten / flat_map -/

/-- The downstream log of merge_all is well-formed: every table of inner
    observables (cold with any terminal, hot), every concurrency limit (0,
    1 = concat_all, `usizeMax` = flatten, …), every history, for the code as it
    is (`fixed = false`) and the repaired code (`fixed = true`). -/
theorem C01M_mergeall_grammar (fixed : Bool) (inners : List MergeAll.Inner) (n : Nat)
    (evs : List MergeAll.Ev) :
    WF ((MergeAll.runG fixed (MergeAll.init inners n) evs).2.map MergeAll.Out.toNotif) :=
  (MergeAll.runG_tr fixed evs (MergeAll.init inners n)).wf

/-- The code as it is. -/
theorem C01M_mergeall_grammar_code (inners : List MergeAll.Inner) (n : Nat)
    (evs : List MergeAll.Ev) :
    WF ((MergeAll.run (MergeAll.init inners n) evs).2.map MergeAll.Out.toNotif) :=
  C01M_mergeall_grammar false inners n evs

/-- The repaired code. -/
theorem C01M_mergeall_grammar_fixed (inners : List MergeAll.Inner) (n : Nat)
    (evs : List MergeAll.Ev) :
    WF ((MergeAll.Fixed.run (MergeAll.init inners n) evs).2.map MergeAll.Out.toNotif) :=
  C01M_mergeall_grammar true inners n evs

/-- Even from an arbitrary (unreachable) operator state. -/
theorem C01M_mergeall_grammar_any_state (fixed : Bool) (s : MergeAll.St) (evs : List MergeAll.Ev) :
    WF ((MergeAll.runG fixed s evs).2.map MergeAll.Out.toNotif) :=
  (MergeAll.runG_tr fixed evs s).wf

/-- Once a terminal has been delivered downstream, no continuation produces
    anything (the cell's `Option` is `None`). -/
theorem C01M_mergeall_after_terminal (fixed : Bool) (inners : List MergeAll.Inner) (n : Nat)
    (pre post : List MergeAll.Ev)
    (h : terminated ((MergeAll.runG fixed (MergeAll.init inners n) pre).2.map MergeAll.Out.toNotif)
      = true) :
    (MergeAll.runG fixed (MergeAll.runG fixed (MergeAll.init inners n) pre).1 post).2 = [] :=
  ((MergeAll.runG_tr fixed post _).dead ((MergeAll.runG_tr fixed pre _).term h)).1

/-! ## group_by -/

/-- The outer stream of group_by (the announcements of new groups and the
    terminal), seen through ANY chain of single-input operators in ANY state
    (`outer`; the suite uses none or `take n`), is well-formed: every key
    function, every drain order, every history. -/
theorem C01M_groupby_outer_grammar (key : Val → Val)
    (ord : List (Val × GroupBy.Subj) → List (Val × GroupBy.Subj))
    (outer : List St1) (skip : List Val) (evs : List GroupBy.Ev) :
    WF (GroupBy.outerLog (GroupBy.World.run key ord (GroupBy.World.init outer skip) evs).2) :=
  GroupBy.world_outer_wf key ord evs _

/-- What the subscriber of group `k` receives is well-formed, for every key
    `k`.  `ord` is the order in which `HashMap::drain` hands out the groups at
    the terminal: any permutation. -/
theorem C01M_groupby_group_grammar (key : Val → Val)
    (ord : List (Val × GroupBy.Subj) → List (Val × GroupBy.Subj)) (hord : ∀ l, (ord l).Perm l)
    (outer : List St1) (skip : List Val) (evs : List GroupBy.Ev) (k : Val) :
    WF (GroupBy.grpLog k (GroupBy.World.run key ord (GroupBy.World.init outer skip) evs).2) :=
  GroupBy.world_grp_wf key ord hord k evs _ (by
    intro st h
    simp only [GroupBy.World.init, Option.some.injEq] at h
    subst h
    exact GroupBy.GI_init)

/-- Both together. -/
theorem C01M_groupby_grammar (key : Val → Val)
    (ord : List (Val × GroupBy.Subj) → List (Val × GroupBy.Subj)) (hord : ∀ l, (ord l).Perm l)
    (outer : List St1) (skip : List Val) (evs : List GroupBy.Ev) :
    WF (GroupBy.outerLog (GroupBy.World.run key ord (GroupBy.World.init outer skip) evs).2) ∧
    ∀ k, WF (GroupBy.grpLog k (GroupBy.World.run key ord (GroupBy.World.init outer skip) evs).2) :=
  ⟨C01M_groupby_outer_grammar key ord outer skip evs,
   C01M_groupby_group_grammar key ord hord outer skip evs⟩

/-! ## share / publish + connect / ref_count

  A subscriber is a subscription = one `Subscriber` cell of the inner subject.
  The model prints deliveries under the probe's label; `W.runI` is the same
  run with every delivery tagged by the cell id it went through (ghost), and
  erasing the tags gives the model's own output (`C01M_share_tags`). -/

open Share in
/-- The tagged log is the model's log. -/
theorem C01M_share_tags (m : Model) (kind : Kind) (cold : Option (List Val)) (es : List Ev) :
    (W.runI (init m kind cold) es).map W.eraseId = W.dlvs ((init m kind cold).run es).2 :=
  W.runI_erase es _

open Share in
/-- Every subscription receives a well-formed stream: both transcriptions
    (`Model.code` = the code as it is, `Model.fixed`), share and publish, cold
    and hot source, every history (re-subscription, emissions after the
    source's terminal, connect before/after subscribe, …), every cell id. -/
theorem C01M_share_grammar (m : Model) (kind : Kind) (cold : Option (List Val)) (es : List Ev)
    (i : Nat) : WF (W.sel (W.byCell i) (W.runI (init m kind cold) es)) :=
  W.run_cell_wf m kind cold es i

open Share in
/-- Full-strength per-LABEL statement: the deliveries printed under label `k`
    form a well-formed stream, whatever the history. -/
def C01M_share_label_statement : Prop :=
  ∀ (m : Model) (kind : Kind) (cold : Option (List Val)) (es : List Ev) (k : Nat),
    WF (W.labelLog k (W.dlvs ((init m kind cold).run es).2))

open Share in
/-- It is false, for a reason that is not a defect of rxRust: `sub 0` issued
    twice without `unsub 0` creates two different probes that print under the
    same label (the harness overwrites and thereby leaks the first handle), and
    both receive the terminal. -/
theorem C01M_share_label_statement_false : ¬ C01M_share_label_statement := by
  intro h
  have := h .code .share none [.sub 0, .sub 0, .emit .complete] 0
  revert this
  decide

open Share in
/-- Per label, under the discipline of the case generator (`sub k` only for
    `k < 3` while slot `k` is free — then a label names one subscription at a
    time): the stream printed under every label is well-formed. -/
theorem C01M_share_grammar_label_partial (m : Model) (kind : Kind) (cold : Option (List Val))
    (es : List Ev) (k : Nat) (h : W.linear [] es = true) :
    WF (W.labelLog k (W.dlvs ((init m kind cold).run es).2)) :=
  W.run_label_wf m kind cold es k h

/-! ## Non-vacuity -/

/-- merge_all: hot inner 0 keeps emitting after hot inner 1 made the merged
    stream fail; the outer stream continues and completes; nothing passes. -/
example : (MergeAll.run (MergeAll.init [.hot 0, .hot 1, .cold [.int 9] .complete] MergeAll.usizeMax)
      [.outerNext 0, .outerNext 1, .innerNext 0 (.int 5), .innerError 1 7, .innerNext 0 (.int 6),
       .innerComplete 0, .outerNext 2, .outerComplete, .innerNext 1 (.int 8)]).2.map
        MergeAll.Out.toNotif = [.next (.int 5), .error 7] := by decide

/-- concat_all with a queued cold inner, events after the outer terminal. -/
example : (MergeAll.Fixed.run (MergeAll.init [.hot 0, .cold [.int 1, .int 2] .complete] 1)
      [.outerNext 0, .outerNext 1, .outerComplete, .outerNext 1, .innerNext 0 (.int 5),
       .innerComplete 0, .innerNext 0 (.int 6), .outerError 3]).2.map MergeAll.Out.toNotif =
    [.next (.int 5), .next (.int 1), .next (.int 2), .complete] := by decide

/-- limit 0: everything is queued for ever. -/
example : (MergeAll.run (MergeAll.init [.cold [.int 1] .complete] 0)
      [.outerNext 0, .outerComplete]).2.map MergeAll.Out.toNotif = [] := by decide

/-- group_by behind `take 1` on the outer stream: the source goes on after the
    outer stream completed; its completion reaches the announced group (and is
    swallowed by `take` on the outer stream), a second terminal is swallowed. -/
example : (GroupBy.World.run (fun v => v) id (GroupBy.World.init [.take 1 0 true] [])
      [.emit (.next (.int 1)), .emit (.next (.int 2)), .emit (.next (.int 1)), .emit .complete,
       .emit (.next (.int 1)), .emit (.error 4)]).2 =
    [.outer (.next (.int 1)), .outer .complete, .grp (.int 1) (.next (.int 1)),
     .grp (.int 1) (.next (.int 1)), .grp (.int 1) .complete] := by decide

example : (GroupBy.World.run (fun v => v) List.reverse (GroupBy.World.init [] [])
      [.emit (.next (.int 1)), .emit (.next (.int 2)), .emit (.error 4),
       .emit (.next (.int 1)), .emit .complete]).2 =
    [.outer (.next (.int 1)), .grp (.int 1) (.next (.int 1)),
     .outer (.next (.int 2)), .grp (.int 2) (.next (.int 2)),
     .grp (.int 2) (.error 4), .grp (.int 1) (.error 4), .outer (.error 4)] := by decide

open Share in
/-- share over a hot source that keeps emitting after its terminal; a late
    subscriber. -/
example : W.runI (init .code .share none)
      [.sub 0, .sub 1, .emit (.next (.int 5)), .unsub 0, .emit (.next (.int 6)), .emit .complete,
       .emit (.next (.int 7)), .sub 2, .emit (.error 3)] =
    [(0, 0, .next (.int 5)), (1, 1, .next (.int 5)), (1, 1, .next (.int 6)), (1, 1, .complete)] := by
  decide

open Share in
example : W.linear [] [.sub 0, .sub 1, .emit (.next (.int 5)), .unsub 0, .sub 0, .emit .complete] = true := by
  decide

open Share in
/-- publish over a cold source: everything is delivered inside `connect`. -/
example : W.runI (init .code .publish (some [.int 1, .int 2])) [.sub 0, .sub 1, .connect, .sub 2] =
    [(0, 0, .next (.int 1)), (1, 1, .next (.int 1)), (0, 0, .next (.int 2)), (1, 1, .next (.int 2)),
     (0, 0, .complete), (1, 1, .complete)] := by decide

end Rx
