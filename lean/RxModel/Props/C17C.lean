import RxModel.Lemmas.ChainQuietMain
import RxModel.Lemmas.ChainSources
/-
  C17 over the chain (time) model — `is_closed()` of the case's subscription is
  sound: once it answered `true` nothing is delivered any more and the answer
  stays `true` — for EVERY source, EVERY list of stages in initial per-subscription
  state and EVERY history (no bound, every cascade fuel).

  `TW.isClosed` answers `true` by convention while there is no handle (before
  `sub`) and after `unsub` consumed it; the statements are about the handle, hence
  the side condition `(TW.run w0 pre).subscribed = true` (see `C17C_needs_subscription`).
-/
namespace Rx.T
open Rx

def C17C_sound_full : Prop :=
  ∀ (src : TSrc) (stages : List Stage), (∀ st ∈ stages, st.Initial) → ∀ pre post : List TW.Ev,
    (TW.run (TW.init src stages) pre).subscribed = true →
    (TW.run (TW.init src stages) pre).isClosed = true →
    (TW.run (TW.init src stages) (pre ++ post)).log = (TW.run (TW.init src stages) pre).log

/-- **Soundness of `is_closed`.**  If the handle answers `true` after `pre`, no
    continuation `post` delivers anything. -/
theorem C17C_sound (src : TSrc) (stages : List Stage) (h : ∀ st ∈ stages, st.Initial)
    (pre post : List TW.Ev) (hs : (TW.run (TW.init src stages) pre).subscribed = true)
    (hc : (TW.run (TW.init src stages) pre).isClosed = true) :
    (TW.run (TW.init src stages) (pre ++ post)).log = (TW.run (TW.init src stages) pre).log := by
  have I := ((init_qinv src stages h).run pre).1
  rw [TW.run_append]
  exact ((I.closed_quiet hs hc).run post).log

theorem C17C_full : C17C_sound_full := C17C_sound

/-- **Monotonicity.**  A `true` answer is never taken back. -/
theorem C17C_monotone (src : TSrc) (stages : List Stage) (h : ∀ st ∈ stages, st.Initial)
    (pre post : List TW.Ev) (hs : (TW.run (TW.init src stages) pre).subscribed = true)
    (hc : (TW.run (TW.init src stages) pre).isClosed = true) :
    (TW.run (TW.init src stages) (pre ++ post)).isClosed = true := by
  have I := ((init_qinv src stages h).run pre).1
  rw [TW.run_append]
  exact ((I.closed_quiet hs hc).run post).closed hc

/-- After `unsubscribe()` the handle is closed — in every world. -/
theorem C17C_after_unsub (w : TW) (pre : List TW.Ev) : (TW.run w (pre ++ [.unsub])).isClosed = true := by
  rw [TW.run_append]; exact step_unsub_closed _

/-- … and stays closed, and the log is frozen (C02C), for a subscribed reachable world. -/
theorem C17C_after_unsub_stays (src : TSrc) (stages : List Stage) (h : ∀ st ∈ stages, st.Initial)
    (pre post : List TW.Ev) (hs : (TW.run (TW.init src stages) pre).subscribed = true) :
    (TW.run (TW.init src stages) (pre ++ [.unsub] ++ post)).isClosed = true := by
  have I := ((init_qinv src stages h).run pre).1
  rw [TW.run_append, TW.run_append]
  exact ((I.unsub_quiet hs).run post).closed (step_unsub_closed _)

/-- `is_closed() = true` on a subscribed reachable world means: every task of the
    scheduler is cancelled or finished and no subject holds a slot of the chain. -/
theorem C17C_closed_is_quiet (src : TSrc) (stages : List Stage) (h : ∀ st ∈ stages, st.Initial)
    (pre : List TW.Ev) (hs : (TW.run (TW.init src stages) pre).subscribed = true)
    (hc : (TW.run (TW.init src stages) pre).isClosed = true) :
    Quiet (TW.run (TW.init src stages) pre) :=
  ((init_qinv src stages h).run pre).1.closed_quiet hs hc

/-- Before `sub` there is no handle; the model answers `true` by convention and a
    later `sub` delivers: the side condition is needed. -/
theorem C17C_needs_subscription :
    (TW.run (TW.init (.cold (.of (.int 1))) []) []).isClosed = true ∧
    (TW.run (TW.init (.cold (.of (.int 1))) []) ([] ++ [.sub])).log ≠
      (TW.run (TW.init (.cold (.of (.int 1))) []) []).log := by decide


/-- hot source → delay(5) → observe_on → tap. -/
def C17C_world : TW :=
  TW.init (.hot 0) [.delay 5 true (some []), .observeOn true (some []), .op1 (.tap 0)]

/-- While the delayed notifications are in flight the handle is open; once the
    completion has been delivered it is closed, and later events (a post-terminal
    emission, clock jumps, polls, run) change neither the log nor the answer. -/
example :
    let pre : List TW.Ev := [.sub, .emit 0 (.next (.int 1)), .emit 0 .complete, .run, .adv 5, .run]
    let post : List TW.Ev := [.emit 0 (.next (.int 2)), .adv 7, .fire 0, .poll 0, .run, .emit 1 .complete]
    (TW.run C17C_world [.sub, .emit 0 (.next (.int 1)), .emit 0 .complete, .run]).isClosed = false ∧
    (TW.run C17C_world [.sub, .emit 0 (.next (.int 1)), .emit 0 .complete, .run]).sched.liveTasks.length = 2 ∧
    (TW.run C17C_world pre).subscribed = true ∧
    (TW.run C17C_world pre).unsubscribed = false ∧
    (TW.run C17C_world pre).isClosed = true ∧
    (TW.run C17C_world pre).log = [.next (.int 1), .complete] ∧
    (TW.run C17C_world (pre ++ post)).log = [.next (.int 1), .complete] ∧
    (TW.run C17C_world (pre ++ post)).isClosed = true := by decide

/-- timer source → delay(5) → take_until(interval(2)): closed once the notifier's first
    tick has completed the chain and every task has retired. -/
example :
    let w0 := TW.init (.timer (.int 9) 3)
      [.delay 5 true (some []), .op2n (Kind2.init .takeUntil) (.interval none 2) false none]
    let pre : List TW.Ev := [.sub, .run, .adv 2, .run, .adv 2, .run, .adv 2, .run, .adv 2, .run, .adv 2, .run]
    (TW.run w0 [.sub, .run, .adv 2, .run]).isClosed = false ∧
    (TW.run w0 pre).isClosed = true ∧ (TW.run w0 pre).unsubscribed = false ∧
    (TW.run w0 (pre ++ [.adv 10, .run])).log = (TW.run w0 pre).log := by decide

/-- `unsub` with tasks pending: closed at once. -/
example :
    (TW.run C17C_world [.sub, .emit 0 (.next (.int 1)), .run]).isClosed = false ∧
    (TW.run C17C_world ([.sub, .emit 0 (.next (.int 1)), .run] ++ [.unsub])).isClosed = true := by decide

end Rx.T
