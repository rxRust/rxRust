import RxModel.Lemmas.GroupBy
import RxModel.Lemmas.GroupByWorld
/-
  C20 — group_by sends every item to exactly one group, in order.

  Property theorems only; helper lemmas: RxModel/Lemmas/GroupBy.lean, GroupByWorld.lean.  The
  machine (`GroupBy.St`, `Subj`) is the transcription of
  src/ops/group_by.rs + the per-group Subject of src/subject.rs and is what
  `rxdriver` executes against the real code (suite `groupby`).

  `key` is an arbitrary discriminator, `attach k` says whether somebody
  subscribes to group `k` while it is announced (the property's setting is
  `attach = fun _ => true`), `ord` is the order in which `HashMap::drain` hands
  out the groups (any permutation).

  `C20_terminal_outer`, `C20_outer_group_terminal`: `group_by(..)` followed by ANY operators on
  the stream of groups (`take n` in the suite), also when they have completed that stream long
  before the source terminates — every group subscriber still hears the source's terminal
  (since `fix: Subject::error/complete hand the terminal to every subscriber`; the last section
  records what the code did before).
-/
namespace Rx
open GroupBy

/-- Meaning of `dedup`: the distinct elements, each once … -/
theorem C20_dedup_mem (l : List Val) (x : Val) : x ∈ dedup l ↔ x ∈ l := mem_dedup x l
theorem C20_dedup_nodup (l : List Val) : (dedup l).Nodup := nodup_dedup l
/-- … in order of first appearance. -/
theorem C20_dedup_first (x : Val) (l : List Val) :
    dedup (x :: l) = x :: (dedup l).filter (· ≠ x) := rfl

/-- One group per distinct key is announced on the outer stream, in order of
    first appearance — for every item list and every key function. -/
theorem C20_groups (key : Val → Val) (attach : Val → Bool) (xs : List Val) :
    announced (St.init.run key attach xs).2 = dedup (xs.map key) := by
  rw [← mkSt_nil attach, run_mk, announced_spec]
  simp

/-- The subscriber of group `k` receives exactly the items whose key is `k`, in
    source order, each once (and a group nobody subscribed to delivers nothing). -/
theorem C20_routing (key : Val → Val) (attach : Val → Bool) (xs : List Val) (k : Val) :
    groupItems k (St.init.run key attach xs).2 =
      if attach k then xs.filter (fun v => key v = k) else [] := by
  rw [← mkSt_nil attach, run_mk, groupItems_spec]

/-- …and to no other group: an item is delivered only under its own key. -/
theorem C20_routing_own (key : Val → Val) (attach : Val → Bool) (xs : List Val) (k v : Val)
    (h : v ∈ groupItems k (St.init.run key attach xs).2) : key v = k := by
  rw [C20_routing] at h
  cases ha : attach k
  · simp [ha] at h
  · simp [ha] at h; exact h.2

/-- Merging the groups in arrival order reproduces the source sequence. -/
theorem C20_flatten (key : Val → Val) (xs : List Val) :
    flat (St.init.run key (fun _ => true) xs).2 = xs := by
  rw [← mkSt_nil (fun _ => true), run_mk, flat_spec]
  simp

/-- With some groups left without subscriber: the source minus their items. -/
theorem C20_flatten_attached (key : Val → Val) (attach : Val → Bool) (xs : List Val) :
    flat (St.init.run key attach xs).2 = xs.filter (fun v => attach (key v)) := by
  rw [← mkSt_nil attach, run_mk, flat_spec]

/-- While only items arrive nobody is terminated; the source terminal `t` is then
    delivered to every subscribed group exactly once (a permutation of the
    duplicate-free key list — for EVERY drain order `ord`) and, after all of
    them, once to the outer stream; nothing else is emitted. -/
theorem C20_terminal (key : Val → Val) (attach : Val → Bool)
    (ord : List (Val × Subj) → List (Val × Subj)) (hord : ∀ l, (ord l).Perm l)
    (xs : List Val) (t : Notif) :
    (∀ o ∈ (St.init.run key attach xs).2, isTermOut o = false) ∧
    ∃ gs, ((St.init.run key attach xs).1.onTerm ord t).2 = gs ++ [Out.outer t] ∧
      gs.Perm (((dedup (xs.map key)).filter attach).map fun k => Out.grp k t) := by
  rw [← mkSt_nil attach, run_mk]
  refine ⟨outsSpec_no_term key attach [] xs, ?_⟩
  have hk : keysAfter key [] xs = dedup (xs.map key) := by
    rw [keysAfter_spec]; simp
  have h := onTerm_mk attach ord hord (keysAfter key [] xs) t
  rw [hk] at h ⊢
  exact h

/-- Counting form of "once": in the terminal step group `k` hears the terminal
    once if it exists and has a subscriber, otherwise not at all; the outer
    stream hears it once. -/
theorem C20_terminal_once (key : Val → Val) (attach : Val → Bool)
    (ord : List (Val × Subj) → List (Val × Subj)) (hord : ∀ l, (ord l).Perm l)
    (xs : List Val) (t : Notif) (k : Val) :
    List.count (Out.grp k t) ((St.init.run key attach xs).1.onTerm ord t).2 =
        (if k ∈ xs.map key ∧ attach k = true then 1 else 0) ∧
    List.count (Out.outer t) ((St.init.run key attach xs).1.onTerm ord t).2 = 1 := by
  obtain ⟨_, gs, hgs, hp⟩ := C20_terminal key attach ord hord xs t
  have hnd : ((dedup (xs.map key)).filter attach).Nodup := (nodup_dedup _).filter _
  rw [hgs]
  constructor
  · rw [List.count_append, hp.count_eq, count_grp_map t k _ hnd,
      show List.count (Out.grp k t) [Out.outer t] = 0 by simp]
    simp only [List.mem_filter, mem_dedup, Nat.add_zero]
  · rw [List.count_append, hp.count_eq]
    have : List.count (Out.outer t)
        (((dedup (xs.map key)).filter attach).map fun k => Out.grp k t) = 0 := by
      rw [List.count_eq_zero]
      intro h
      simp at h
    rw [this]; simp

/-- Whole streams: a source `xs` then terminal `t` (any of complete / error e)
    gives the item-phase output followed by the fan-out above; a source without
    terminal gives the item-phase output only. -/
theorem C20_stream (key : Val → Val) (attach : Val → Bool)
    (ord : List (Val × Subj) → List (Val × Subj)) (xs : List Val) (t : Option Notif) :
    St.runStream key attach ord xs t =
      (St.init.run key attach xs).2 ++
        (match t with
         | some t => ((St.init.run key attach xs).1.onTerm ord t).2
         | none => []) := by
  cases t <;> simp [St.runStream]

/-- After the source subject has emitted its terminal, no event of any kind
    produces any further output or changes anything (suite world; the
    `Subscriber` slot and the subject's taken observer list swallow it). -/
theorem C20_after_terminal (key : Val → Val) (ord : List (Val × Subj) → List (Val × Subj))
    (w : GroupBy.World) (h : w.srcDone = true) (n : Notif) :
    w.step key ord (.emit n) = (w, []) :=
  World.step_emit_done key ord w h n

theorem C20_terminal_marks_done (key : Val → Val) (ord : List (Val × Subj) → List (Val × Subj))
    (w : GroupBy.World) (t : Notif) (ht : t.isTerm = true) :
    (w.step key ord (.emit t)).1.srcDone = true := by
  rw [World.step_term key ord w t ht]
  cases hd : w.srcDone with
  | true => exact hd
  | false => cases w.slot <;> rfl

/-- The world `rxdriver` runs for a plain `groupby` case (no operator on the outer
    stream, probes attached to every key not in `skip`) IS the machine the
    theorems above speak about: its whole log on `xs` then `t` is `runStream`. -/
theorem C20_world (key : Val → Val) (ord : List (Val × Subj) → List (Val × Subj))
    (skip : List Val) (xs : List Val) (t : Notif) (ht : t.isTerm = true) :
    (GroupBy.World.run key ord (GroupBy.World.init [] skip)
        (xs.map (fun v => Ev.emit (.next v)) ++ [Ev.emit t])).2 =
      St.runStream key (fun k => !skip.contains k) ord xs (some t) :=
  world_stream key ord skip xs t ht

/-! ### operators on the stream of groups (`group_by(..).take(n)` …) -/

/-- The terminal step, for EVERY chain of operators on the outer stream and every state of it —
    in particular a `take n` that has completed the stream of groups already —, every state `st`
    of the GroupByObserver and every drain order: every live subscriber of every group `k` hears
    the source terminal exactly once (`total k` = the live subscribers registered under `k`), the
    outer stream gets what its operators make of the terminal, and the source is retired. -/
theorem C20_terminal_outer (key : Val → Val) (ord : List (Val × Subj) → List (Val × Subj))
    (hord : ∀ l, (ord l).Perm l) (w : GroupBy.World) (st : St) (t : Notif) (ht : t.isTerm = true)
    (hd : w.srcDone = false) (hs : w.slot = some st) (k : Val) :
    grpLog k (w.step key ord (.emit t)).2 = List.replicate (total k st.subjects) t ∧
    outerLog (w.step key ord (.emit t)).2 = (runChain w.outer [t]).2 ∧
    (w.step key ord (.emit t)).1.srcDone = true ∧ (w.step key ord (.emit t)).1.slot = none :=
  step_term_outer key ord hord w st t ht hd hs k

/-- Whole histories of the suite world with ANY operators `outer` on the stream of groups and any
    set of groups the outer probe does not subscribe to: items `xs`, the source terminal `t`, then
    anything (`post`: further items and terminals through cloned handles, unsubscriptions).  A
    group subscriber that has received something during the items hears `t` exactly once, right
    after its last item, and nothing afterwards — whether or not `take n` had completed the outer
    stream before. -/
theorem C20_outer_group_terminal (key : Val → Val) (ord : List (Val × Subj) → List (Val × Subj))
    (hord : ∀ l, (ord l).Perm l) (outer : List St1) (skip : List Val) (xs : List Val) (t : Notif)
    (ht : t.isTerm = true) (post : List GroupBy.Ev) (k : Val)
    (hd : grpLog k (GroupBy.World.run key ord (GroupBy.World.init outer skip)
      (xs.map fun v => Ev.emit (.next v))).2 ≠ []) :
    grpLog k (GroupBy.World.run key ord (GroupBy.World.init outer skip)
        (xs.map (fun v => Ev.emit (.next v)) ++ Ev.emit t :: post)).2 =
      grpLog k (GroupBy.World.run key ord (GroupBy.World.init outer skip)
        (xs.map fun v => Ev.emit (.next v))).2 ++ [t] := by
  obtain ⟨h1, st', h2, h3, h4⟩ := world_items_live key ord k xs (GroupBy.World.init outer skip) rfl
    St.init rfl
  have hone : total k st'.subjects = 1 :=
    Nat.le_antisymm (h4 GI_init k) (h3 (Or.inr hd))
  obtain ⟨g1, _, _, g4⟩ := step_term_outer key ord hord _ st' t ht h1 h2 k
  rw [GroupBy.World.run_append]
  simp only [GroupBy.World.run, grpLog_append, g1, hone, run_dead key ord post _ g4,
    List.append_nil, List.replicate_one]

/-- … and for EVERY history (group unsubscriptions, source unsubscription, events after the
    terminal included) and every `outer` the log of every group is well formed: items, at most
    one terminal, then nothing — the terminal is never delivered twice. -/
theorem C20_outer_group_grammar (key : Val → Val) (ord : List (Val × Subj) → List (Val × Subj))
    (hord : ∀ l, (ord l).Perm l) (outer : List St1) (skip : List Val) (evs : List GroupBy.Ev)
    (k : Val) :
    WF (grpLog k (GroupBy.World.run key ord (GroupBy.World.init outer skip) evs).2) :=
  world_grp_wf key ord hord k evs _ (by
    intro st h
    simp only [GroupBy.World.init, Option.some.injEq] at h
    subst h
    exact GI_init)

/-! Non-vacuity: concrete runs of the machine. -/
example : (St.init.run (fun v => match v with | .int i => .int (i.emod 2) | v => v)
      (fun _ => true) [.int 1, .int 2, .int 3]).2 =
    [.outer (.next (.int 1)), .grp (.int 1) (.next (.int 1)),
     .outer (.next (.int 0)), .grp (.int 0) (.next (.int 2)),
     .grp (.int 1) (.next (.int 3))] := by decide
example : St.runStream (fun v => v) (fun _ => true) List.reverse [.int 1, .int 2] (some .complete) =
    [.outer (.next (.int 1)), .grp (.int 1) (.next (.int 1)),
     .outer (.next (.int 2)), .grp (.int 2) (.next (.int 2)),
     .grp (.int 2) .complete, .grp (.int 1) .complete, .outer .complete] := by decide
example : ∀ l : List (Val × Subj), (List.reverse l).Perm l := fun l => List.reverse_perm l
example : dedup [.int 1, .int 0, .int 1, .int 2, .int 0] = [.int 1, .int 0, .int 2] := by decide
-- `group_by(id).take(1)`: group 1 is announced and subscribed, `take` completes the outer stream,
-- group 2 is announced to nobody; the source goes on and completes: group 1 hears it
example : (GroupBy.World.run (fun v => v) id (GroupBy.World.init [.take 1 0 true] [])
      [.emit (.next (.int 1)), .emit (.next (.int 2)), .emit (.next (.int 1)), .emit .complete]).2 =
    [.outer (.next (.int 1)), .outer .complete, .grp (.int 1) (.next (.int 1)),
     .grp (.int 1) (.next (.int 1)), .grp (.int 1) .complete] := by decide
example : chainFinished (GroupBy.World.run (fun v => v) id (GroupBy.World.init [.take 1 0 true] [])
      [.emit (.next (.int 1))]).1.outer = true := by decide

/-! The code BEFORE `fix: Subject::error/complete hand the terminal to every subscriber`
    (`World.termBefore`): once `take 1` had completed the outer stream, `GroupByObserver::
    is_finished()` (= the outer observer's) was true, the source subject filtered the observer out
    of its terminal fan-out and the announced group, which had kept receiving items, never heard
    the terminal.  The terminal step of both versions from the same state: -/
example :
    let w := (GroupBy.World.run (fun v => v) id (GroupBy.World.init [.take 1 0 true] [])
      [.emit (.next (.int 1)), .emit (.next (.int 1))]).1
    (w.termBefore id .complete).2 = [] ∧
      (w.step (fun v => v) id (.emit .complete)).2 = [.grp (.int 1) .complete] := by decide

end Rx
