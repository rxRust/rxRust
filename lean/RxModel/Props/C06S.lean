import RxModel.Lemmas.SubjectStepsSched
import RxModel.Lemmas.SubjectStepsSeq
/-
  C06 / C10 — `SubjectThreads` at the granularity of critical sections, WITH data.

  Model: RxModel/Conc/SubjectSteps.lean (`St`, `Step`, `Op.steps`, `exec`): one
  atomic step per top-level critical section of src/subject.rs, any number of
  threads, each a list of operations, any schedule.  Property theorems only;
  helper lemmas: RxModel/Lemmas/SubjectSteps*.lean.

  Tie to /repo: suite `inject` replays every one-preemption interleaving
  "first k sections of A, all of B, rest of A" on the real `SubjectThreads`
  through hook H2 and compares with `St.inject` (`C06S_inject_is_schedule`: that
  IS a schedule of `exec`); the section boundaries are the ones of the lock traces
  (suite `locks`).  Modelled, not verified: that the Rust critical sections are
  atomic (std `Mutex`) and are exactly these.
-/
namespace Rx.Conc.SS
open Rx

/-! ### C10: no panic under any interleaving -/

/-- **No schedule panics.**  Any number of threads, any operation lists (next, error,
    complete, unsubscribe, subscribe, handle.unsubscribe, retain, len/is_empty), any
    schedule of their critical sections: the `unwrap()`s on the chamber in `load`, `len`
    and `is_empty` never meet `None`. -/
theorem C10S_no_panic (progs : List (List Op)) (sched : List Nat) :
    (exec Op.steps (Cfg.init progs) sched).st.panicked = false :=
  (Inv.exec sched (Inv.init progs)).np

/-- The reason: at every moment of every schedule `observers = Some → chamber = Some`
    (`unsubscribe` empties `observers` FIRST, and nothing ever re-creates `observers`). -/
theorem C10S_chamber_outlives_observers (progs : List (List Op)) (sched : List Nat) :
    (exec Op.steps (Cfg.init progs) sched).st.obs = none ∨
      (exec Op.steps (Cfg.init progs) sched).st.chamber ≠ none :=
  (Inv.exec sched (Inv.init progs)).oc

/-- `observers = None` is final: no section of any thread re-creates the live list. -/
theorem C10S_done_is_final (s : St) (x : Step) (h : s.obs = none) : (s.step x).obs = none :=
  step_obs_none s x h

/-- **The order of the two `take()`s in `unsubscribe` matters** (negative witness): with
    `chamber.take()` first, thread 0 = `unsubscribe()`, thread 1 = `next(0)`, schedule
    "takeChamber of 0, then 1's load": `load` unwraps an absent chamber. -/
theorem C10S_swapped_unsub_panics :
    (exec Op.stepsSwapped (Cfg.init [[.unsubAll], [.next (.int 0)]]) [0, 1]).st.panicked = true := by
  decide

/-- … so the no-panic statement is false for the swapped variant … -/
theorem C10S_swapped_not_safe :
    ¬ ∀ (progs : List (List Op)) (sched : List Nat),
      (exec Op.stepsSwapped (Cfg.init progs) sched).st.panicked = false := by
  intro h
  have := h [[.unsubAll], [.next (.int 0)]] [0, 1]
  rw [C10S_swapped_unsub_panics] at this
  cases this

/-- … while it needs a preemption: each swapped operation run back to back is harmless
    in that program (the same two threads, thread 0 not preempted). -/
theorem C10S_swapped_needs_preemption :
    (exec Op.stepsSwapped (Cfg.init [[.unsubAll], [.next (.int 0)]]) [0, 0, 1, 1]).st.panicked = false := by
  decide

/-! ### C06: who receives what, under any interleaving -/

/-- Every section appends exactly its `emits` to the global log (only broadcasts emit). -/
theorem C06S_step_log (s : St) (x : Step) : (s.step x).log = s.log ++ s.emits x :=
  step_log s x

/-- The log of a whole schedule is the concatenation, in schedule order, of what its executed
    sections emitted from the states they started in: deliveries happen only inside broadcast
    sections, broadcasts are serialised, nothing else is ever delivered. -/
theorem C06S_log_is_sections (steps : Op → List Step) (progs : List (List Op)) (sched : List Nat) :
    (exec steps (Cfg.init progs) sched).st.log =
      (trace steps (Cfg.init progs) sched).flatMap (fun p => p.1.emits p.2) := by
  rw [exec_log]; rfl

/-- **Exactly the current subscribers, in list order.**  In every state any schedule can
    reach, an item broadcast delivers the item to exactly the entries of the live list whose
    slot is open, in list order, and a terminal broadcast delivers the terminal to exactly the
    same set (the lazy `filter` cannot differ from the eager one because no subscriber is
    listed twice). -/
theorem C06S_exactly_current (progs : List (List Op)) (sched : List Nat) :
    let s := (exec Op.steps (Cfg.init progs) sched).st
    (∀ v, s.emits (.bcastNext v) = ((s.obs.getD []).filter s.isOpen).map (·, Notif.next v)) ∧
      (∀ t, s.emits (.bcastTerm t) = ((s.obs.getD []).filter s.isOpen).map (·, t.toNotif)) ∧
      (s.obs.getD [] ++ s.chamber.getD []).Nodup := by
  intro s
  have hr : Reach s := Reach.exec sched Reach.init
  have hp : s.panicked = false := C10S_no_panic progs sched
  have hnd := hr.entries.nodup
  refine ⟨fun v => by rw [emits_bcastNext, hp]; rfl, fun t => ?_, hnd⟩
  rw [emits_bcastTerm, hp, termLoop_exact _ _ _ (List.nodup_append.mp hnd).1]
  rfl

/-- **At most once.**  In every state reachable under any schedule (whatever the step lists
    of the operations), one section calls each subscriber at most once. -/
theorem C06S_at_most_once (steps : Op → List Step) (progs : List (List Op)) (sched : List Nat)
    (x : Step) : (((exec steps (Cfg.init progs) sched).st.emits x).map (·.1)).Nodup := by
  have hr : Reach (exec steps (Cfg.init progs) sched).st := Reach.exec sched Reach.init
  rw [emits_receivers hr]
  have hnd := (List.nodup_append.mp hr.entries.nodup).1
  cases x <;> simp only [] <;> try exact List.nodup_nil
  all_goals
    split
    · exact List.nodup_nil
    · exact List.filter_sublist.nodup hnd

/-- **Per subscriber: items, at most one terminal, nothing after it**, under every schedule
    (whatever the step lists); and once a subscriber has its terminal its slot is closed. -/
theorem C06S_grammar (steps : Op → List Step) (progs : List (List Op)) (sched : List Nat) (u : Nat) :
    WF (proj u (exec steps (Cfg.init progs) sched).st.log) ∧
      (terminated (proj u (exec steps (Cfg.init progs) sched).st.log) = true →
        (exec steps (Cfg.init progs) sched).st.isOpen u = false) := by
  have h := (Reach.exec (steps := steps) sched (c := Cfg.init progs) Reach.init).grammar u
  exact ⟨h.1, h.2.1⟩

/-- A subscriber whose slot is closed (its terminal arrived, or `handle.unsubscribe()`
    returned) is never called again: no section emits to it, and the slot stays closed. -/
theorem C06S_closed_is_silent (s : St) (x : Step) (u : Nat) (h : s.isOpen u = false) :
    proj u (s.emits x) = [] ∧ (u < s.slots.length → (s.step x).isOpen u = false) := by
  refine ⟨?_, fun hu => (step_slots s x).2 u hu h⟩
  rcases emits_proj s x u with e | ⟨ho, _⟩
  · exact e
  · rw [h] at ho; cases ho

/-- After a terminal broadcast or `unsubscribe()` (observers = None) nothing is delivered to
    anybody by any section, for ever (`C10S_done_is_final`). -/
theorem C06S_done_is_silent (s : St) (x : Step) (h : s.obs = none) : s.emits x = [] := by
  cases x
  case bcastNext v => rw [emits_bcastNext, h]; split <;> rfl
  case bcastTerm t => rw [emits_bcastTerm, h]; split <;> rfl
  all_goals rfl

/-- A subscriber that does not exist yet has received nothing (no delivery is invented). -/
theorem C06S_no_early_delivery (steps : Op → List Step) (progs : List (List Op)) (sched : List Nat)
    (u : Nat) (h : (exec steps (Cfg.init progs) sched).st.slots.length ≤ u) :
    proj u (exec steps (Cfg.init progs) sched).st.log = [] :=
  ((Reach.exec (steps := steps) sched (c := Cfg.init progs) Reach.init).grammar u).2.2 h

/-! ### no preemption = the sequential model -/

/-- One operation run without preemption is the operation of the sequential subject model
    (Subject/Subject.lean, plain probes): related states stay related, the deliveries are the
    same in the same order, `len()` / `is_empty()` answer the same. -/
theorem C06S_seq_op {s : St} {j : Subj.State} (h : Rel s j) (op : Op) :
    Rel (s.runOp op) (j.apply op.toSubj).1 ∧
      (s.runOp op).log = s.log ++ (j.apply op.toSubj).2 ∧
      (s.runOp op).sizes = s.sizes ++ sizeAns j op :=
  runOp_sim h op

/-- Whole histories of any length, back to back, from `default()`. -/
theorem C06S_seq (ops : List Op) :
    Rel (St.init.runOps ops) (Subj.exec Subj.State.init (ops.map Op.toSubj)) ∧
      (St.init.runOps ops).log = delivs Subj.State.init (ops.map Op.toSubj) ∧
      (St.init.runOps ops).sizes = sizeAnss Subj.State.init ops := by
  have := runOps_sim ops Rel.init
  exact ⟨this.1, by simpa [St.init] using this.2.1, by simpa [St.init] using this.2.2⟩

/-- A single thread (its only schedule) is "back to back": the interleaving system restricted
    to one thread is the sequential model. -/
theorem C06S_seq_single_thread (ops : List Op) :
    (exec Op.steps (Cfg.init [ops]) (List.replicate (ops.flatMap Op.steps).length 0)).st.log =
      delivs Subj.State.init (ops.map Op.toSubj) := by
  -- `todo ⟨[], ops⟩` is `ops.flatMap Op.steps` by computation
  have h : (exec Op.steps ⟨St.init, [⟨[], ops⟩]⟩ (List.replicate (ops.flatMap Op.steps).length 0)).st =
      St.init.runSteps (ops.flatMap Op.steps) := exec_single (steps := Op.steps) St.init ⟨[], ops⟩
  exact (congrArg St.log (h.trans (runOps_eq_runSteps ops St.init).symm)).trans (C06S_seq ops).2.1

/-- What suite `inject` replays on the real code is a schedule of the interleaving system:
    thread 0 = A, thread 1 = B, "k sections of 0, all of 1, the rest of 0". -/
theorem C06S_inject_is_schedule (s : St) (k : Nat) (a b : Op) (hk : k < a.steps.length) :
    (exec Op.steps ⟨s, [⟨[], [a]⟩, ⟨[], [b]⟩]⟩
        (List.replicate k 0 ++ List.replicate b.steps.length 1 ++
          List.replicate (a.steps.length - k) 0)).st = (s.inject k a b).1 := by
  have h := exec_preempt_once (steps := Op.steps) s [a] [b] k (by rw [List.flatMap_singleton]; exact Nat.le_of_lt hk)
  simp only [List.flatMap_singleton] at h
  rw [h, St.inject, if_pos hk]

/-! ### non-vacuity -/

/-- two producers and a late subscriber: thread 0 subscribes and emits 1, 2; thread 1 subscribes and
    completes; schedule: push₀ push₁ load₀ bcast₀(1) load₁ load₀ bcast₁(C) bcast₀(2): item 1 to both in
    subscription order, the terminal to both, item 2 to nobody (it lost the race against `complete`). -/
example : (exec Op.steps (Cfg.init [[.subscribe, .next (.int 1), .next (.int 2)], [.subscribe, .complete]])
      [0, 1, 0, 0, 1, 0, 1, 0]).st.log =
    [(0, .next (.int 1)), (1, .next (.int 1)), (0, .complete), (1, .complete)] := by
  decide

/-- a subscription that lands between a producer's `load` and its broadcast misses the item and gets
    the next one; an `unsub` between them suppresses the delivery. -/
example : ((St.init.runOps [.subscribe, .subscribe]).inject 1 (.next (.int 5)) .subscribe).1.log =
      [(0, .next (.int 5)), (1, .next (.int 5))] ∧
    (((St.init.runOps [.subscribe, .subscribe]).inject 1 (.next (.int 5)) (.unsub 0)).1.log =
      [(1, .next (.int 5))]) := by
  decide

/-- the hypotheses of `C06S_seq_op` are satisfiable with live subscribers -/
example : ∃ s j, Rel s j ∧ s.obs = some [0, 1] :=
  ⟨St.init.runOps [.subscribe, .subscribe, .next (.int 1)], _, (C06S_seq _).1, by decide⟩

end Rx.Conc.SS
