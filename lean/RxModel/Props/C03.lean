import RxModel.Lemmas.SingleChain
import RxModel.Ops.Source
/-
  C03 — Sources and single-input operators compute their documented sequence.

  Property theorems only.  Helper lemmas: RxModel/Lemmas/SingleChain.lean.
  The machines (`St1`, `Src.emit`) are the transcription of the Rust observers
  and are what `rxdriver` executes against the real code; the specs
  (`Spec.apply`, `Spec.src`, `Spec.first` …) are written from the documentation.
-/
namespace Rx
open Spec

/-- Every single-input operator, on every finite input (any items, any
    terminal or none), emits exactly its documented sequence. -/
theorem C03_operator (op : Op1) (s : Stream) (hv : s.Valid) :
    (St1.run op.init s.toNotifs).2 = (apply op s).toNotifs :=
  run_spec op s hv

/-- Every chain of single-input operators, of any length. -/
theorem C03_chain (ops : List Op1) (s : Stream) (hv : s.Valid) :
    (runChain (ops.map Op1.init) s.toNotifs).2 = (applyChain ops s).toNotifs :=
  runChain_spec ops s hv

/-- The output of every chain is again a well-formed stream. -/
theorem C03_chain_wf (ops : List Op1) (s : Stream) (hv : s.Valid) :
    WF (runChain (ops.map Op1.init) s.toNotifs).2 := by
  rw [C03_chain ops s hv]; exact toNotifs_WF _ (applyChain_valid ops s hv)

/-- An input error is forwarded (mapped where asked) as the only terminal, after
    exactly what had been streamed before it: no aggregate, default or buffered
    result computed from the truncated input is emitted with it. -/
theorem C03_error_only (op : Op1) (xs : List Val) (e : Err) :
    (St1.run op.init (Stream.mk xs (some (.error e))).toNotifs).2 =
      gate ((St1.run op.init (Stream.mk xs none).toNotifs).2 ++ [.error (op.mapErr e)]) := by
  rw [C03_operator _ _ (by intro n hn; cases hn; rfl),
      C03_operator _ _ (by intro n hn; cases hn)]
  exact error_only_spec op xs e

/-- Sources. -/
theorem C03_source (src : Src) : src.emit = (Spec.src src).toNotifs := by
  cases src with
  | ofOption o => cases o <;> rfl
  | ofResult r => cases r <;> rfl
  | create script =>
    simp only [Src.emit, Spec.src, Stream.toNotifs]
    induction script with
    | nil => rfl
    | cons n r ih => cases n <;> simp_all [gate, itemsBefore, firstTerm, mk]
  | _ => simp [Src.emit, Spec.src, Stream.toNotifs, mk]

theorem C03_source_valid (src : Src) : (Spec.src src).Valid := by
  cases src with
  | ofResult r => cases r <;> (intro n hn; cases hn; rfl)
  | never => intro n hn; cases hn
  | create script =>
    intro n hn
    simp only [Spec.src] at hn
    induction script with
    | nil => cases hn
    | cons m r ih =>
      cases m with
      | next v => exact ih hn
      | error e => simp [firstTerm] at hn; subst hn; rfl
      | complete => simp [firstTerm] at hn; subst hn; rfl
  | _ => intro n hn; cases hn; rfl

/-- Source followed by any chain. -/
theorem C03_pipeline (src : Src) (ops : List Op1) :
    (runChain (ops.map Op1.init) src.emit).2 = (applyChain ops (Spec.src src)).toNotifs := by
  rw [C03_source]; exact C03_chain ops _ (C03_source_valid src)

/-! Derived operators: the composition the library builds has the documented behaviour. -/
theorem C03_first (s : Stream) : applyChain Derived.first s = Spec.first s := derived_first s
theorem C03_firstOr (d : Val) (s : Stream) : applyChain (Derived.firstOr d) s = Spec.firstOr d s :=
  derived_firstOr d s
theorem C03_lastOr (d : Val) (s : Stream) : applyChain (Derived.lastOr d) s = Spec.lastOr d s :=
  derived_lastOr d s
theorem C03_elementAt (n : Nat) (s : Stream) :
    applyChain (Derived.elementAt n) s = Spec.elementAt n s := derived_elementAt n s
theorem C03_ignoreElements (s : Stream) :
    applyChain Derived.ignoreElements s = Spec.ignoreElements s := derived_ignoreElements s
theorem C03_all (p : Val → Bool) (s : Stream) : applyChain (Derived.all p) s = Spec.all p s :=
  derived_all p s
/-- reduce / reduce_initial / sum / count. -/
theorem C03_reduce (op : Val → Val → Val) (init : Val) (s : Stream) :
    applyChain (Derived.reduceInitial op init) s = Spec.reduceInitial op init s :=
  derived_reduceInitial op init s
/-- min / max / average (`scan · last · map`). -/
theorem C03_aggregate (op : Val → Val → Val) (init : Val) (fin : Val → Val) (s : Stream) :
    applyChain (Derived.aggregate op init fin) s = Spec.aggregate op init fin s :=
  derived_aggregate op init fin s

/-! Non-vacuity: concrete, non-trivial instances of the hypotheses and statements. -/
example : (Stream.mk [.int 1, .int 2, .int 3] (some (.error 7))).Valid := by
  intro n hn; cases hn; rfl
example : (runChain ([Op1.skip 1, .take 1].map Op1.init)
    (Stream.mk [.int 1, .int 2, .int 3] (some .complete)).toNotifs).2 = [.next (.int 2), .complete] := by
  decide
example : (St1.run (Op1.init .last) (Stream.mk [.int 1, .int 2] (some (.error 7))).toNotifs).2
    = [.error 7] := by decide

end Rx
