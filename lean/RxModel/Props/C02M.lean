import RxModel.Lemmas.MergeAllGrammar
import RxModel.Lemmas.GroupByWorld
import RxModel.Lemmas.ShareLabel
/-
  C02M — nothing is delivered after `unsubscribe()` returned, for merge_all /
  concat_all / flat_map, group_by, and share / publish+connect / ref_count.

  Property theorems only; models and helper lemmas as in C01M
  (RxModel/Lemmas/GroupByWorld.lean, ShareSilence.lean, ShareLabel.lean).  Every theorem
  quantifies over every history before the unsubscription and every
  continuation after it (hot inputs keep emitting, terminals arrive, new
  subscribers come, …).

  Unsubscribe vocabulary of the models:
    merge_all  `Ev.unsub`      the `MultiSubscription` returned by `actual_subscribe`
    group_by   `Ev.unsub`      the subscription of the source (outer stream and all groups)
               `Ev.gunsub k`   the subscription of the probe of group `k`
               (the OUTER probe has no handle of its own in this model: the
                suite's only outer handle is the source subscription)
    share      `Ev.unsub k`    the handle kept in harness slot `k`
-/
namespace Rx

/-! ## merge_all -/

/-- After `unsubscribe()` nothing reaches downstream, whatever happened before
    and whatever the outer and inner sources do afterwards; code as it is and
    repaired code. -/
theorem C02M_mergeall_silence (fixed : Bool) (inners : List MergeAll.Inner) (n : Nat)
    (pre post : List MergeAll.Ev) :
    (MergeAll.runG fixed (MergeAll.runG fixed (MergeAll.init inners n) pre).1
      (.unsub :: post)).2 = [] :=
  MergeAll.runG_unsub fixed _ post

/-- The same from any operator state. -/
theorem C02M_mergeall_silence_any_state (fixed : Bool) (s : MergeAll.St) (post : List MergeAll.Ev) :
    (MergeAll.runG fixed s (.unsub :: post)).2 = [] :=
  MergeAll.runG_unsub fixed s post

/-- Whole-history form: the downstream log of `pre ++ unsub :: post` is the log
    of `pre`. -/
theorem C02M_mergeall_silence_log (fixed : Bool) (inners : List MergeAll.Inner) (n : Nat)
    (pre post : List MergeAll.Ev) :
    (MergeAll.runG fixed (MergeAll.init inners n) (pre ++ .unsub :: post)).2 =
      (MergeAll.runG fixed (MergeAll.init inners n) pre).2 := by
  rw [MergeAll.runG_append]
  simp only [MergeAll.runG_unsub, List.append_nil]

/-! ## group_by -/

/-- After the source subscription is unsubscribed nothing is delivered any
    more: neither to the outer stream nor to any group (the groups' subjects
    are only fed through the emptied `Subscriber` slot). -/
theorem C02M_groupby_unsub_silence (key : Val → Val)
    (ord : List (Val × GroupBy.Subj) → List (Val × GroupBy.Subj))
    (outer : List St1) (skip : List Val) (pre post : List GroupBy.Ev) :
    (GroupBy.World.run key ord (GroupBy.World.run key ord (GroupBy.World.init outer skip) pre).1
      (.unsub :: post)).2 = [] := by
  simp only [GroupBy.World.run, GroupBy.World.step, List.nil_append]
  exact GroupBy.run_dead key ord post _ rfl

/-- Full-strength statement for a group: after `gunsub k` group `k` receives
    nothing, whatever the history. -/
def C02M_groupby_gunsub_statement : Prop :=
  ∀ (key : Val → Val) (ord : List (Val × GroupBy.Subj) → List (Val × GroupBy.Subj)),
    (∀ l, (ord l).Perm l) → ∀ (outer : List St1) (skip : List Val) (pre post : List GroupBy.Ev)
      (k : Val),
      GroupBy.grpLog k
        (GroupBy.World.run key ord (GroupBy.World.run key ord (GroupBy.World.init outer skip) pre).1
          (.gunsub k :: post)).2 = []

/-- False as stated, for a reason that is not a defect: before group `k` has
    been announced there is no subscription to unsubscribe (`gunsub k` is a
    no-op in the harness too); the group created later gets a fresh probe. -/
theorem C02M_groupby_gunsub_statement_false : ¬ C02M_groupby_gunsub_statement := by
  intro h
  have := h (fun v => v) id (fun _ => List.Perm.refl _) [] [] [] [.emit (.next (.int 1))] (.int 1)
  revert this
  decide

/-- What holds: once group `k` exists (its `KeyObservable` has been handed to
    the outer observer), after `gunsub k` its subscriber receives nothing — no
    item, no terminal — for every continuation and every drain order. -/
theorem C02M_groupby_gunsub_partial (key : Val → Val)
    (ord : List (Val × GroupBy.Subj) → List (Val × GroupBy.Subj)) (hord : ∀ l, (ord l).Perm l)
    (outer : List St1) (skip : List Val) (pre post : List GroupBy.Ev) (k : Val)
    (hex : ∀ st, (GroupBy.World.run key ord (GroupBy.World.init outer skip) pre).1.slot = some st →
      (GroupBy.find k st.subjects).isSome = true) :
    GroupBy.grpLog k
      (GroupBy.World.run key ord (GroupBy.World.run key ord (GroupBy.World.init outer skip) pre).1
        (.gunsub k :: post)).2 = [] := by
  have hfi := GroupBy.run_FI key ord pre (GroupBy.World.init outer skip) (by
    intro st h
    simp only [GroupBy.World.init, Option.some.injEq] at h
    subst h
    exact GroupBy.FI_nil)
  simp only [GroupBy.World.run, GroupBy.World.step, List.nil_append]
  apply GroupBy.world_quiet key ord hord k post
  intro st h
  cases hs : (GroupBy.World.run key ord (GroupBy.World.init outer skip) pre).1.slot with
  | none => simp [hs] at h
  | some st0 =>
    simp only [hs, Option.map_some, Option.some.injEq] at h
    subst h
    exact GroupBy.unsubGroup_makes_Quiet st0 k (hfi st0 hs) (hex st0 hs)

/-- In particular: a group that has already delivered something to its
    subscriber is silent after `gunsub k`. -/
theorem C02M_groupby_gunsub_after_delivery (key : Val → Val)
    (ord : List (Val × GroupBy.Subj) → List (Val × GroupBy.Subj)) (hord : ∀ l, (ord l).Perm l)
    (outer : List St1) (skip : List Val) (pre post : List GroupBy.Ev) (k : Val)
    (hd : GroupBy.grpLog k (GroupBy.World.run key ord (GroupBy.World.init outer skip) pre).2 ≠ []) :
    GroupBy.grpLog k
      (GroupBy.World.run key ord (GroupBy.World.run key ord (GroupBy.World.init outer skip) pre).1
        (.gunsub k :: post)).2 = [] :=
  C02M_groupby_gunsub_partial key ord hord outer skip pre post k
    (fun st h => GroupBy.run_Ex key ord k pre _ st h (Or.inl hd))

/-! ## share / publish + connect / ref_count -/

open Share in
/-- Per subscription: after the handle in slot `k` (cell `id`) has been
    unsubscribed, nothing is ever delivered through that cell again — both
    transcriptions, share and publish, cold and hot, every continuation
    (including re-subscription under the same label, which makes a new cell). -/
theorem C02M_share_silence (m : Model) (kind : Kind) (cold : Option (List Val))
    (pre post : List Ev) (k id : Nat)
    (hk : (((init m kind cold).run pre).1.handles[k]?).join = some id) :
    ∀ x ∈ W.runI ((init m kind cold).run pre).1 (.unsub k :: post), x.1 ≠ id :=
  W.unsub_cell_silent m kind cold pre post k id hk

open Share in
/-- Full-strength per-LABEL statement: after `unsub k` nothing is printed under
    label `k` until `sub k` is issued again. -/
def C02M_share_label_statement : Prop :=
  ∀ (m : Model) (kind : Kind) (cold : Option (List Val)) (pre post : List Ev) (k : Nat),
    (∀ e ∈ post, e ≠ Ev.sub k) →
    ∀ d ∈ W.dlvs (((init m kind cold).run pre).1.run (.unsub k :: post)).2, d.1 ≠ k

open Share in
/-- False, by label aliasing only (not a defect of rxRust): after `sub 0; sub 0`
    the first probe's handle has been overwritten (leaked) by the harness, so
    `unsub 0` reaches the second probe only and the first one, printing under
    the same label, is still subscribed. -/
theorem C02M_share_label_statement_false : ¬ C02M_share_label_statement := by
  intro h
  have := h .code .share none [.sub 0, .sub 0] [.emit (.next (.int 5))] 0 (by decide)
    (0, .next (.int 5)) (by decide)
  exact this rfl

open Share in
/-- Per label under the generator's discipline (`sub k` only for `k < 3` while
    slot `k` is free): after `unsub k` nothing is printed under label `k` as
    long as `sub k` is not issued again. -/
theorem C02M_share_silence_label_partial (m : Model) (kind : Kind) (cold : Option (List Val))
    (pre post : List Ev) (k : Nat) (hl : W.linear [] pre = true) (hp : ∀ e ∈ post, e ≠ Ev.sub k) :
    ∀ d ∈ W.dlvs (((init m kind cold).run pre).1.run (.unsub k :: post)).2, d.1 ≠ k :=
  W.unsub_label_silent m kind cold pre post k hl hp

/-! ## Non-vacuity -/

/-- merge_all: two live hot inners and a live outer, then `unsub`; everything
    keeps emitting. -/
example : (MergeAll.run (MergeAll.init [.hot 0, .hot 1, .cold [.int 9] .complete] MergeAll.usizeMax)
      [.outerNext 0, .outerNext 1, .innerNext 0 (.int 5), .unsub, .innerNext 0 (.int 6),
       .innerNext 1 (.int 7), .outerNext 2, .innerComplete 0, .innerError 1 3, .outerComplete]).2 =
    [.item 0 (.int 5)] := by decide

/-- …and without the `unsub` the same continuation does deliver. -/
example : (MergeAll.run (MergeAll.init [.hot 0, .hot 1, .cold [.int 9] .complete] MergeAll.usizeMax)
      [.outerNext 0, .outerNext 1, .innerNext 0 (.int 5), .innerNext 0 (.int 6),
       .innerNext 1 (.int 7), .outerNext 2, .innerComplete 0, .innerError 1 3, .outerComplete]).2 =
    [.item 0 (.int 5), .item 0 (.int 6), .item 1 (.int 7), .item 2 (.int 9), .error 3] := by decide

/-- group_by: group 1 unsubscribes, group 2 goes on and gets the terminal. -/
example : (GroupBy.World.run (fun v => v) id (GroupBy.World.init [] [])
      [.emit (.next (.int 1)), .emit (.next (.int 2)), .gunsub (.int 1), .emit (.next (.int 1)),
       .emit (.next (.int 2)), .emit .complete]).2 =
    [.outer (.next (.int 1)), .grp (.int 1) (.next (.int 1)),
     .outer (.next (.int 2)), .grp (.int 2) (.next (.int 2)),
     .grp (.int 2) (.next (.int 2)), .grp (.int 2) .complete, .outer .complete] := by decide

/-- the hypothesis of `C02M_groupby_gunsub_partial` on that history. -/
example : ∀ st, (GroupBy.World.run (fun v => v) id (GroupBy.World.init [] [])
      [.emit (.next (.int 1)), .emit (.next (.int 2))]).1.slot = some st →
      (GroupBy.find (.int 1) st.subjects).isSome = true := by
  intro st h
  have : (GroupBy.World.run (fun v => v) id (GroupBy.World.init [] [])
      [.emit (.next (.int 1)), .emit (.next (.int 2))]).1.slot.map
        (fun st => (GroupBy.find (.int 1) st.subjects).isSome) = some true := by decide
  rw [h] at this
  simpa using this

/-- group_by: source unsubscribed. -/
example : (GroupBy.World.run (fun v => v) id (GroupBy.World.init [] [])
      [.emit (.next (.int 1)), .unsub, .emit (.next (.int 1)), .emit (.next (.int 2)),
       .emit .complete]).2 =
    [.outer (.next (.int 1)), .grp (.int 1) (.next (.int 1))] := by decide

open Share in
/-- share: subscriber 0 leaves, subscriber 1 stays; label 0 re-subscribes later
    through a new cell (id 2). -/
example : W.runI (init .code .share none)
      [.sub 0, .sub 1, .emit (.next (.int 5)), .unsub 0, .emit (.next (.int 6)), .sub 0,
       .emit (.next (.int 7))] =
    [(0, 0, .next (.int 5)), (1, 1, .next (.int 5)), (1, 1, .next (.int 6)),
     (1, 1, .next (.int 7)), (2, 0, .next (.int 7))] := by decide

open Share in
example : (((init .code .share none).run [.sub 0, .sub 1, .emit (.next (.int 5))]).1.handles[0]?).join
    = some 0 := by decide

end Rx
