import RxModel.Lemmas.ChainFifoSubMain
import RxModel.Props.C01C
/-
  C07C (multi) — order / subsequence under the FIFO executor for chains with SEVERAL
  scheduler-using stages.

  C07 is about ONE `observe_on` / `delay d` stage, C07C about one such stage between synchronous
  operators.  Here the chain

      hot subject 0 → stage₁ → … → stageₙ → probe

  is ANY list of stages (any number, any order), each in its per-subscription initial state and
  each one of

    * a *filtering* single-input operator (`Op1.filtering`: filter, tap, on_error_map, take,
      take_while, skip, skip_while, take_last, skip_last, last, the distinct family), any
      parameters / closures;
    * `debounce d`;  `throttle d edge` (all three edge modes);
    * `observe_on`;  `delay d`

  so `[delay d₁, delay d₂]`, `[debounce d, observe_on]`, `[observe_on, observe_on]`,
  `[throttle, observe_on, filter, delay 3, debounce 2]` … ; histories are ALL lists of
  FIFO-executor events (`FifoEv`: emissions of any subject / any notification also after a
  terminal, clock advances, `run` = fire all due timers, poll all woken tasks in spawn order,
  repeat), no bound.

  * `C07C_multi_subsequence` — the items at the probe are, in order, a SUBSEQUENCE of the items
    subject 0 emitted before its first terminal: nothing is invented, duplicated or reordered by
    any combination of movers, rate limiters and filters;
  * `C07C_multi_nodup`, `C07C_multi_mem`, `C07C_multi_length`, `C07C_multi_wf` — corollaries;
  * `C07C_multi_delay_delay`, `C07C_multi_debounce_observeOn`, `C07C_multi_observeOn_observeOn`,
    `C07C_multi_mixed`, `C07C_multi_pre_mover_post` — readable instances;
  * `C07C_multi_fifo_needed` — for an executor that may poll tasks in another order the
    statement is FALSE already for `[observe_on, observe_on]` (cf. `C07_reorder_counterexample`).

  Proof (Lemmas/ChainFifoSub*.lean): ghost histories as in C09C, but the relation of a mover
  mentions the scheduler: `items out ++ items (pend j s) ⊑ items inp`, where `pend j s` are the
  notifications the mover at position `j` has handed to the scheduler and that are still to be
  delivered (tasks not finished / not cancelled), in spawn order.  Delivering the notification of
  a task is sound iff that task is the FIRST pending one of its mover — which is what the FIFO
  executor guarantees: `Disc` (every pending task is fresh or armed; armed ones come first, with
  non-decreasing due times, fired timers before unfired ones) is an invariant of emissions,
  clock advances, "fire all due timers" and of every single poll of a pass (`Rdy`: the woken
  tasks not yet polled in this pass are exactly those still in the list).  The cascade's fuel
  plays no role (only sublist facts are claimed).
-/
namespace Rx.T
open Rx Rx.Spec

/-- Items are neither invented nor duplicated nor reordered by ANY chain of filtering
    operators, debounce, throttle, observe_on and delay stages under the FIFO executor. -/
theorem C07C_multi_subsequence (stages : List Stage)
    (hs : ∀ st ∈ stages,
      (∃ op : Op1, op.filtering = true ∧ st = .op1 (Op1.init op)) ∨
      (∃ d, st = .debounce d true none none) ∨
      (∃ d e, st = .throttle d e true none none) ∨
      st = .observeOn true (some []) ∨
      (∃ d, st = .delay d true (some [])))
    (evs : List TW.Ev) (h : ∀ e ∈ evs, FifoEv e) :
    (items (evs.foldl TW.step (TW.step { src := .hot 0, stages := stages } .sub)).log).Sublist
      (items (gate (script evs))) :=
  multi_final stages (fun st hst => Stage.initF_of_cases (hs st hst)) evs h

/-- The same with the stage class as one predicate (`Stage.InitF`). -/
theorem C07C_multi_subsequence_initF (stages : List Stage) (hs : ∀ st ∈ stages, st.InitF)
    (evs : List TW.Ev) (h : ∀ e ∈ evs, FifoEv e) :
    (items (chainRunF stages evs).log).Sublist (items (gate (script evs))) :=
  multi_final stages hs evs h

/-- The instance in which the movers are `observe_on` only. -/
theorem C07C_multi_subsequence_obs (stages : List Stage)
    (hs : ∀ st ∈ stages,
      (∃ op : Op1, op.filtering = true ∧ st = .op1 (Op1.init op)) ∨
      (∃ d, st = .debounce d true none none) ∨
      (∃ d e, st = .throttle d e true none none) ∨
      st = .observeOn true (some []))
    (evs : List TW.Ev) (h : ∀ e ∈ evs, FifoEv e) :
    (items (evs.foldl TW.step (TW.step { src := .hot 0, stages := stages } .sub)).log).Sublist
      (items (gate (script evs))) :=
  C07C_multi_subsequence stages
    (fun st hst => by
      rcases hs st hst with h | h | h | h
      · exact Or.inl h
      · exact Or.inr (Or.inl h)
      · exact Or.inr (Or.inr (Or.inl h))
      · exact Or.inr (Or.inr (Or.inr (Or.inl h)))) evs h

/-- Distinct source items stay distinct at the probe. -/
theorem C07C_multi_nodup (stages : List Stage) (hs : ∀ st ∈ stages, st.InitF)
    (evs : List TW.Ev) (h : ∀ e ∈ evs, FifoEv e) (hn : (items (gate (script evs))).Nodup) :
    (items (chainRunF stages evs).log).Nodup :=
  (multi_final stages hs evs h).nodup hn

/-- Every item at the probe was emitted by subject 0 before its first terminal. -/
theorem C07C_multi_mem (stages : List Stage) (hs : ∀ st ∈ stages, st.InitF)
    (evs : List TW.Ev) (h : ∀ e ∈ evs, FifoEv e) (v : Val) (hv : v ∈ items (chainRunF stages evs).log) :
    v ∈ items (gate (script evs)) :=
  (multi_final stages hs evs h).subset hv

theorem C07C_multi_length (stages : List Stage) (hs : ∀ st ∈ stages, st.InitF)
    (evs : List TW.Ev) (h : ∀ e ∈ evs, FifoEv e) :
    (items (chainRunF stages evs).log).length ≤ (items (gate (script evs))).length :=
  (multi_final stages hs evs h).length_le

/-- … and the probe log is well formed (items, at most one terminal, then nothing): C01C. -/
theorem C07C_multi_wf (stages : List Stage) (hs : ∀ st ∈ stages, st.InitF) (evs : List TW.Ev) :
    WF (chainRunF stages evs).log := by
  rw [chainRunF_eq]
  exact C01C_chain_grammar (.hot 0) stages (fun st h => (hs st h).initial) (.sub :: evs)

/-- Two delays in a row. -/
theorem C07C_multi_delay_delay (d1 d2 : Nat) (evs : List TW.Ev) (h : ∀ e ∈ evs, FifoEv e) :
    (items (evs.foldl TW.step (TW.step
      { src := .hot 0, stages := [.delay d1 true (some []), .delay d2 true (some [])] } .sub)).log).Sublist
      (items (gate (script evs))) :=
  C07C_multi_subsequence _ (by
    intro st hst
    simp only [List.mem_cons, List.not_mem_nil, or_false] at hst
    rcases hst with rfl | rfl <;> exact Or.inr (Or.inr (Or.inr (Or.inr ⟨_, rfl⟩)))) evs h

theorem C07C_multi_debounce_observeOn (d : Nat) (evs : List TW.Ev) (h : ∀ e ∈ evs, FifoEv e) :
    (items (evs.foldl TW.step (TW.step
      { src := .hot 0, stages := [.debounce d true none none, .observeOn true (some [])] } .sub)).log).Sublist
      (items (gate (script evs))) :=
  C07C_multi_subsequence _ (by
    intro st hst
    simp only [List.mem_cons, List.not_mem_nil, or_false] at hst
    rcases hst with rfl | rfl
    · exact Or.inr (Or.inl ⟨_, rfl⟩)
    · exact Or.inr (Or.inr (Or.inr (Or.inl rfl)))) evs h

theorem C07C_multi_observeOn_observeOn (evs : List TW.Ev) (h : ∀ e ∈ evs, FifoEv e) :
    (items (evs.foldl TW.step (TW.step
      { src := .hot 0, stages := [.observeOn true (some []), .observeOn true (some [])] } .sub)).log).Sublist
      (items (gate (script evs))) :=
  C07C_multi_subsequence _ (by
    intro st hst
    simp only [List.mem_cons, List.not_mem_nil, or_false] at hst
    rcases hst with rfl | rfl <;> exact Or.inr (Or.inr (Or.inr (Or.inl rfl)))) evs h

/-- throttle → observe_on → filter → delay → debounce. -/
theorem C07C_multi_mixed (dt : Nat) (e : Edge) (p : Val → Bool) (dd db : Nat)
    (evs : List TW.Ev) (h : ∀ e ∈ evs, FifoEv e) :
    (items (evs.foldl TW.step (TW.step
      { src := .hot 0,
        stages := [.throttle dt e true none none, .observeOn true (some []), .op1 (Op1.init (.filter p)),
                   .delay dd true (some []), .debounce db true none none] } .sub)).log).Sublist
      (items (gate (script evs))) :=
  C07C_multi_subsequence _ (by
    intro st hst
    simp only [List.mem_cons, List.not_mem_nil, or_false] at hst
    rcases hst with rfl | rfl | rfl | rfl | rfl
    · exact Or.inr (Or.inr (Or.inl ⟨_, _, rfl⟩))
    · exact Or.inr (Or.inr (Or.inr (Or.inl rfl)))
    · exact Or.inl ⟨_, rfl, rfl⟩
    · exact Or.inr (Or.inr (Or.inr (Or.inr ⟨_, rfl⟩)))
    · exact Or.inr (Or.inl ⟨_, rfl⟩)) evs h

/-- One mover between filtering operators (cf. C07C, where `pre` / `post` are arbitrary
    synchronous operators and the statement is an exact simulation). -/
theorem C07C_multi_pre_mover_post (pre post : List Op1) (hpre : ∀ o ∈ pre, o.filtering = true)
    (hpost : ∀ o ∈ post, o.filtering = true) (mover : Stage)
    (hm : mover = .observeOn true (some []) ∨ ∃ d, mover = .delay d true (some []))
    (evs : List TW.Ev) (h : ∀ e ∈ evs, FifoEv e) :
    (items (evs.foldl TW.step (TW.step
      { src := .hot 0,
        stages := pre.map (fun o => Stage.op1 (Op1.init o)) ++ mover ::
          post.map (fun o => Stage.op1 (Op1.init o)) } .sub)).log).Sublist
      (items (gate (script evs))) :=
  C07C_multi_subsequence _ (by
    intro st hst
    simp only [List.mem_append, List.mem_map, List.mem_cons] at hst
    rcases hst with ⟨o, ho, rfl⟩ | rfl | ⟨o, ho, rfl⟩
    · exact Or.inl ⟨o, hpre o ho, rfl⟩
    · rcases hm with rfl | ⟨d, rfl⟩
      · exact Or.inr (Or.inr (Or.inr (Or.inl rfl)))
      · exact Or.inr (Or.inr (Or.inr (Or.inr ⟨d, rfl⟩)))
    · exact Or.inl ⟨o, hpost o ho, rfl⟩) evs h

/-- NEGATIVE result for arbitrary executors: with `poll` events (the executor picks another
    run order) two `observe_on`s deliver `2, 1` for the source `1, 2`. -/
theorem C07C_multi_fifo_needed :
    ¬ ∀ evs : List TW.Ev,
      (items (evs.foldl TW.step (TW.step
        { src := .hot 0, stages := [.observeOn true (some []), .observeOn true (some [])] } .sub)).log).Sublist
        (items (gate (script evs))) := by
  intro h
  have := h [.emit 0 (.next (.int 1)), .emit 0 (.next (.int 2)), .poll 1, .run]
  revert this
  decide +kernel

/-- throttle 4 → observe_on → skip 0 → delay 3 → debounce 2 under the FIFO executor: `2` is
    swallowed by the throttle window, `1` and `3` get through all five stages, in order. -/
example :
    ([TW.Ev.sub, .emit 0 (.next (.int 1)), .emit 0 (.next (.int 2)), .run, .adv 2,
      .emit 0 (.next (.int 3)), .run, .adv 5, .run, .emit 0 .complete, .run, .adv 9, .run].foldl TW.step
      { src := .hot 0,
        stages := [.throttle 4 .all true none none, .observeOn true (some []), .op1 (Op1.init (.skip 0)),
                   .delay 3 true (some []), .debounce 2 true none none] }).log
      = [.next (.int 1), .next (.int 3), .complete] := by decide +kernel

/-- delay 2 → delay 1: everything arrives, in order, once both delays are over. -/
example :
    ([TW.Ev.sub, .emit 0 (.next (.int 1)), .emit 0 (.next (.int 2)), .run, .adv 1,
      .emit 0 (.next (.int 3)), .run, .adv 1, .run, .emit 0 .complete, .adv 7, .run, .adv 5, .run,
      .adv 5, .run].foldl TW.step
      { src := .hot 0, stages := [.delay 2 true (some []), .delay 1 true (some [])] }).log
      = [.next (.int 1), .next (.int 2), .next (.int 3), .complete] := by decide +kernel

example : ∀ e ∈ [TW.Ev.emit 0 (.next (.int 1)), .emit 0 (.next (.int 2)), .run, .adv 2,
      .emit 0 (.next (.int 3)), .run, .adv 5, .run, .emit 0 .complete, .run, .adv 9, .run], FifoEv e := by
  intro e he
  simp only [List.mem_cons, List.not_mem_nil, or_false] at he
  rcases he with rfl | rfl | rfl | rfl | rfl | rfl | rfl | rfl | rfl | rfl | rfl | rfl <;> constructor

example : ∀ st ∈ [Stage.throttle 4 .all true none none, .observeOn true (some []), .op1 (Op1.init (.skip 0)),
    .delay 3 true (some []), .debounce 2 true none none], st.InitF := by
  intro st hst
  simp only [List.mem_cons, List.not_mem_nil, or_false] at hst
  rcases hst with rfl | rfl | rfl | rfl | rfl
  · exact ⟨rfl, rfl, rfl⟩
  · exact ⟨rfl, rfl⟩
  · exact ⟨.skip 0, rfl, rfl⟩
  · exact ⟨rfl, rfl⟩
  · exact ⟨rfl, rfl, rfl⟩

end Rx.T
