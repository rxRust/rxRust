import RxModel.Lemmas.SchedTask
/-
  C19 — Scheduled tasks run at most once, never early, and stay cancelled.

  Model: `Sched` (RxModel/Sched/Core.lean, the transcription of src/scheduler.rs
  that suite `time` checks against the real crate) driven by ANY list of
  `SAct`s (RxModel/Sched/Exec.lean): scheduling, cancelling, advancing the
  clock, firing due timers and polling happen in any order, any number of
  times, spurious polls included; a tick body may decline at any tick.  Nothing
  below bounds the number of tasks, of steps, or the time.

  Vocabulary.  `runLog as` is the list of body executions of history `as`
  (`Run.task`, `Run.seq` = the sequence number handed to a RepeatTask tick,
  `none` for a OnceTask, `Run.time` = the clock value), `runsOf k log` the runs
  of task `k` in order, `stateAfter as` / `clockAfter as` the scheduler / the
  clock after `as`.  Task ids are spawn order: the task scheduled by the action
  that follows the prefix `pre` has id `nextTask pre`, and it was scheduled at
  clock value `clockAfter pre`.

  The model is single-threaded: a body is one atomic step, so "the body is not
  still running once `unsubscribe()` has returned" is the statement that no run
  of the task follows the `cancel` in the log (`C19_cancelled_stays`); the
  mutual exclusion of `Remote::poll` and `unsubscribe` under threads is the LTS
  statement `C19_threads_wait` (not in this file).
-/
namespace Rx.T
open Sched

/-! ## at most once -/

/-- A OnceTask's body runs at most once, whatever the executor does. -/
theorem C19_once (pre post : List SAct) (b : Body) (d : Option Nat) :
    (runsOf (nextTask pre) (runLog (pre ++ .scheduleOnce b d :: post))).length ≤ 1 := by
  rw [runsOf_split_new pre _ post rfl]
  exact once_count _ post _ (wf_exec _ _ (wf_stateAfter pre)) _ (scheduleOnce_get_new _ b d) rfl

/-- ... and that run is not a tick (it carries no sequence number). -/
theorem C19_once_no_seq (pre post : List SAct) (b : Body) (d : Option Nat) :
    ∀ r ∈ runsOf (nextTask pre) (runLog (pre ++ .scheduleOnce b d :: post)), r.seq = none := by
  rw [runsOf_split_new pre _ post rfl]
  intro r hr
  rw [mem_runsOf] at hr
  exact (((flags_inv _ _).execFrom post _ (wf_exec _ (.scheduleOnce b d) (wf_stateAfter pre))
    ⟨_, scheduleOnce_get_new _ b d, rfl, id, id, id⟩).2 r hr.1 hr.2).2.2 rfl

/-! ## repeating tasks -/

/-- The ticks of a RepeatTask get the sequence numbers 0, 1, 2, … consecutively, in order. -/
theorem C19_repeat_seq (pre post : List SAct) (b : Body) (p : Nat) (d : Option Nat) :
    (runsOf (nextTask pre) (runLog (pre ++ .scheduleRepeat b p d :: post))).map (·.seq) =
      (List.range (runsOf (nextTask pre)
        (runLog (pre ++ .scheduleRepeat b p d :: post))).length).map some := by
  rw [runsOf_split_new pre _ post rfl, List.range_eq_range']
  exact rep_seq _ post _ 0 (wf_exec _ _ (wf_stateAfter pre))
    ⟨_, scheduleRepeat_get_new _ b p d, Or.inr ⟨_, _, rfl⟩⟩

/-- Any two ticks of a RepeatTask with period `p` (in particular consecutive ones) are at
    least `p` apart: at most one tick per period. -/
theorem C19_repeat_spacing (pre post : List SAct) (b : Body) (p : Nat) (d : Option Nat) :
    List.Pairwise (fun r1 r2 : Run => r1.time + p ≤ r2.time)
      (runsOf (nextTask pre) (runLog (pre ++ .scheduleRepeat b p d :: post))) := by
  rw [runsOf_split_new pre _ post rfl]
  exact rep_spacing _ p post _ (wf_exec _ (.scheduleRepeat b p d) (wf_stateAfter pre))
    (c := 0) (L := fun _ => 0) (.of_or fun _ => Or.inl (Nat.zero_le _))
    ⟨_, scheduleRepeat_get_new _ b p d, Or.inr (by cases d <;> exact Nat.zero_le _),
      Or.inr ⟨_, _, _, rfl, scheduleRepeat_tdue_new _ b p d, Nat.zero_le _⟩⟩

/-- A tick that declines (the body returned `false`) is the last run of its task. -/
theorem C19_decline_stops (pre post : List SAct) (k : Nat)
    (h : ((stateAfter pre).exec (.poll k false)).2 ≠ []) :
    runsOf k (runLog (pre ++ .poll k false :: post)) =
      runsOf k (runLog pre) ++ ((stateAfter pre).exec (.poll k false)).2 := by
  rw [runLog_split, runsOf_append, runsOf_append]
  rw [exec_poll] at h ⊢
  cases ht : (stateAfter pre).tasks[k]? with
  | none => exact absurd (by rw [poll_absent _ k false ht]) h
  | some t =>
    -- a poll that logs a run and gets `false` leaves the task finished
    obtain ⟨t', ht', hm⟩ := poll_task_elim (stateAfter pre) k false t ht
      (motive := fun s' t' runs => runs ≠ [] → t'.done = true ∧ runsOf k runs = runs)
      (finished := fun _ h => absurd rfl h) (cancelled := fun _ _ h => absurd rfl h)
      (arm := fun _ _ _ _ h => absurd rfl h) (waitOuter := fun _ _ _ _ _ _ h => absurd rfl h)
      (waitPeriod := fun _ _ _ _ _ _ _ _ _ h => absurd rfl h)
      (once := fun _ _ _ _ _ _ => ⟨rfl, runsOf_single k _ _⟩)
      (lastTick := fun _ _ _ _ _ _ _ _ _ _ _ => ⟨rfl, runsOf_single k _ _⟩)
      (tick := fun _ _ _ _ _ _ _ _ _ hc => by cases hc)
    obtain ⟨hd, hr⟩ := hm h
    have wf' : Sched.WF ((stateAfter pre).poll k false).1 := wf_exec _ (.poll k false) (wf_stateAfter pre)
    rw [dead_no_runs k post _ wf' t' ht' (Or.inr hd), hr, List.append_nil]

/-! ## never early -/

/-- A OnceTask scheduled at clock value `t₀ = clockAfter pre` with delay `d` (none = 0)
    never runs before `t₀ + d`. -/
theorem C19_never_early (pre post : List SAct) (b : Body) (d : Option Nat) :
    ∀ r ∈ runsOf (nextTask pre) (runLog (pre ++ .scheduleOnce b d :: post)),
      clockAfter pre + d.getD 0 ≤ r.time := by
  rw [runsOf_split_new pre _ post rfl]
  intro r hr
  rw [mem_runsOf] at hr
  exact ((early_inv _ _).execFrom post _ (wf_exec _ (.scheduleOnce b d) (wf_stateAfter pre))
    ⟨_, scheduleOnce_get_new _ b d, earlyP_fresh (stateAfter pre) { body := b, outerDelay := d } rfl⟩).2
    r hr.1 hr.2

/-- Tick number `n` of a RepeatTask scheduled at `t₀` with period `p` and outer delay `d`
    never happens before `t₀ + max d p + n·p`: the first period timer is armed by
    `RepeatTask::new`, i.e. at scheduling time and concurrently with the outer delay (hence
    `max`, not `+`), each later one when the previous tick has run. -/
theorem C19_never_early_repeat (pre post : List SAct) (b : Body) (p : Nat) (d : Option Nat) :
    ∀ r ∈ runsOf (nextTask pre) (runLog (pre ++ .scheduleRepeat b p d :: post)),
      ∀ n, r.seq = some n → clockAfter pre + max (d.getD 0) p + n * p ≤ r.time := by
  rw [runsOf_split_new pre _ post rfl]
  intro r hr n hn
  rw [mem_runsOf] at hr
  -- the first period timer is due at `t₀ + p`; the timer of tick `j+1` is created at tick `j`, which
  -- waits for the outer delay as well
  generalize hM : max (d.getD 0) p = M
  have hM' : M = d.getD 0 ∧ p ≤ M ∨ M = p ∧ d.getD 0 ≤ M := by
    rw [← hM, Nat.max_def]; split <;> omega
  let L : Nat → Nat := fun
    | 0 => (stateAfter pre).now + p
    | j + 1 => (stateAfter pre).now + M + (j + 1) * p
  have hL : LStep ((stateAfter pre).now + d.getD 0) L p := .of_or fun j => by
    cases j with
    | zero => show _ + M + (0 + 1) * p ≤ _ + p + p ∨ _ + M + (0 + 1) * p ≤ _ + d.getD 0 + p; omega
    | succ j => exact Or.inl (by show _ + M + (j + 1 + 1) * p ≤ _ + M + (j + 1) * p + p; rw [Nat.succ_mul (j + 1)]; omega)
  obtain ⟨n', h1, h2, h3⟩ := ((rep_inv _ _ L p hL).execFrom post _
    (wf_exec _ (.scheduleRepeat b p d) (wf_stateAfter pre))
    ⟨_, scheduleRepeat_get_new _ b p d, earlyP_fresh (stateAfter pre) { body := b, outerDelay := d } rfl,
      Or.inr ⟨_, _, _, rfl, scheduleRepeat_tdue_new _ b p d, Nat.le_refl _⟩⟩).2 r hr.1 hr.2
  rw [hn] at h1; cases h1
  show (stateAfter pre).now + M + n * p ≤ r.time
  cases n with
  | zero => have : (stateAfter pre).now + p ≤ r.time := h3; omega
  | succ n => exact h3

/-- The same by position in the log: the `i`-th run (from 0) of the task is tick number `i`
    and does not happen before `t₀ + max d p + i·p`. -/
theorem C19_never_early_repeat_nth (pre post : List SAct) (b : Body) (p : Nat) (d : Option Nat)
    (i : Nat) (r : Run)
    (h : (runsOf (nextTask pre) (runLog (pre ++ .scheduleRepeat b p d :: post)))[i]? = some r) :
    r.seq = some i ∧ clockAfter pre + max (d.getD 0) p + i * p ≤ r.time := by
  have hs : r.seq = some i := by
    have h1 : ((runsOf (nextTask pre) (runLog (pre ++ .scheduleRepeat b p d :: post))).map (·.seq))[i]?
        = some r.seq := by rw [List.getElem?_map, h]; rfl
    rw [C19_repeat_seq, List.getElem?_map, List.getElem?_range (get_lt h)] at h1
    exact (Option.some.inj h1).symm
  exact ⟨hs, C19_never_early_repeat pre post b p d r (List.mem_of_getElem? h) i hs⟩

/-! ## cancelled / finished / closed -/

/-- Once `unsubscribe()` on the handle of an existing task has returned, the body never
    starts: the log gains no run of that task, whatever follows. -/
theorem C19_cancelled_stays (pre post : List SAct) (k : Nat) (hk : k < nextTask pre) :
    runsOf k (runLog (pre ++ .cancel k :: post)) = runsOf k (runLog pre) := by
  rw [runLog_split, runsOf_append, runsOf_append]
  obtain ⟨t, ht⟩ : ∃ t, (stateAfter pre).tasks[k]? = some t := ⟨_, List.getElem?_eq_getElem hk⟩
  rw [dead_no_runs k post _ (wf_exec _ (.cancel k) (wf_stateAfter pre)) _ (cancel_get_self _ k t ht)
    (Or.inl rfl)]
  exact List.append_nil _

/-- `done` (the spawned future returned) and `keep_running = false` are never undone. -/
theorem C19_flags_monotone (pre post : List SAct) (k : Nat) (t : Task)
    (h : (stateAfter pre).tasks[k]? = some t) :
    ∃ t', (stateAfter (pre ++ post)).tasks[k]? = some t' ∧
      (t.done = true → t'.done = true) ∧ (t.keepRunning = false → t'.keepRunning = false) := by
  obtain ⟨t', h1, _, h2, h3, _⟩ :=
    ((flags_inv k t).execFrom post _ (wf_stateAfter pre) ⟨t, h, rfl, id, id, id⟩).1
  exact ⟨t', by rw [stateAfter_append]; exact h1, h2, h3⟩

/-- A finished task never runs again. -/
theorem C19_done_stays (pre post : List SAct) (k : Nat) (t : Task)
    (h : (stateAfter pre).tasks[k]? = some t) (hd : t.done = true) :
    runsOf k (runLog (pre ++ post)) = runsOf k (runLog pre) := by
  rw [runLog_append, runsOf_append, dead_no_runs k post _ (wf_stateAfter pre) t h (Or.inr hd),
    List.append_nil]

/-- `is_closed()` of a `TaskHandle<NormalReturn<_>>` is sound: it reports closed only when
    the spawned future has returned … -/
theorem C19_closed_done (pre : List SAct) (k : Nat) (h : (stateAfter pre).handleClosed k = true) :
    ∃ t, (stateAfter pre).tasks[k]? = some t ∧ t.done = true := by
  unfold handleClosed at h
  cases ht : (stateAfter pre).tasks[k]? with
  | none => rw [ht] at h; cases h
  | some t =>
    rw [ht] at h
    exact ⟨t, rfl, (wf_stateAfter pre).value_done k t ht h⟩

/-- … hence the task can no longer act. -/
theorem C19_closed_sound (pre post : List SAct) (k : Nat)
    (h : (stateAfter pre).handleClosed k = true) :
    runsOf k (runLog (pre ++ post)) = runsOf k (runLog pre) := by
  obtain ⟨t, ht, hd⟩ := C19_closed_done pre k h
  exact C19_done_stays pre post k t ht hd

/-! ## clock and timers -/

/-- The clock never goes back. -/
theorem C19_clock_monotone (pre post : List SAct) : clockAfter pre ≤ clockAfter (pre ++ post) := by
  unfold clockAfter; rw [stateAfter_append]
  exact (execFrom_frame (stateAfter pre) post).now_le

/-- The run log is in clock order. -/
theorem C19_log_clock_order (as : List SAct) :
    List.Pairwise (fun r1 r2 : Run => r1.time ≤ r2.time) (runLog as) :=
  execFrom_sorted _ as

/-- Only existing tasks run. -/
theorem C19_runs_exist (as : List SAct) (r : Run) (h : r ∈ runLog as) : r.task < nextTask as :=
  (execFrom_runs _ as r h).1

/-- A timer that has fired was due (`due` = creation time + requested duration, `newTimer`). -/
theorem C19_fired_was_due (as : List SAct) (tm : Nat) (t : Timer)
    (h : (stateAfter as).timers[tm]? = some t) (hf : t.fired = true) : t.due ≤ clockAfter as := by
  obtain ⟨d, h1, h2⟩ := (wf_stateAfter as).fired_due tm (by simp [timerFired, h, hf])
  simp only [tdue, h, Option.map_some, Option.some.injEq] at h1
  subst h1; exact h2

/-- An early `fire` does nothing. -/
theorem C19_fire_only_due (s : Sched) (tm : Nat) (h : tm ∉ s.dueTimers) :
    s.exec (.fire tm) = (s, []) := by
  rw [exec_fire, if_neg (fun hc => h (List.contains_iff_mem.mp hc))]

/-- A timer fires at most once: once fired it stays fired and is never due again, so every
    later `fire` of it is ignored. -/
theorem C19_timer_fires_once (pre post : List SAct) (tm : Nat)
    (h : (stateAfter pre).timerFired tm = true) :
    (stateAfter (pre ++ post)).timerFired tm = true ∧ tm ∉ (stateAfter (pre ++ post)).dueTimers := by
  have : (stateAfter (pre ++ post)).timerFired tm = true := by
    rw [stateAfter_append]; exact (execFrom_frame (stateAfter pre) post).fired_mono tm h
  refine ⟨this, fun hm => ?_⟩
  obtain ⟨_, _, _, hf⟩ := (mem_dueTimers _ tm).1 hm
  rw [this] at hf; cases hf

/-- Timers are never removed and their due time never changes. -/
theorem C19_timer_due_fixed (pre post : List SAct) (tm : Nat) (t : Timer)
    (h : (stateAfter pre).timers[tm]? = some t) :
    ∃ t', (stateAfter (pre ++ post)).timers[tm]? = some t' ∧ t'.due = t.due := by
  have := (execFrom_frame (stateAfter pre) post).tdue tm t.due (by simp [tdue, h])
  rw [← stateAfter_append] at this
  simp only [tdue] at this
  cases h' : (stateAfter (pre ++ post)).timers[tm]? with
  | none => rw [h'] at this; cases this
  | some t' => rw [h'] at this; exact ⟨t', rfl, by simpa using this⟩

/-! ## non-vacuity (concrete histories, evaluated) -/

/-- A delayed OnceTask runs exactly when due (the bound of `C19_never_early` is attained);
    polls before that, an early `fire`, and polls afterwards do nothing. -/
example : runLog [.scheduleOnce .tick (some 5), .poll 0 true, .adv 4, .fire 0, .poll 0 true,
      .adv 1, .fire 0, .poll 0 true, .poll 0 true, .adv 3, .poll 0 true]
    = [⟨0, none, 5⟩] := by decide +kernel

/-- Without a delay it runs at its first poll. -/
example : runLog [.adv 7, .scheduleOnce .tick none, .poll 0 true, .poll 0 true] = [⟨0, none, 7⟩] := by
  decide +kernel

/-- A RepeatTask (period 2, scheduled at 1) ticks 0, 1, 2 at 3, 5, 8, declines at the third
    tick, and is not run after that although a timer it would have armed could fire. -/
example : runLog [.adv 1, .scheduleRepeat .tick 2 none, .poll 0 true, .adv 2, .fire 0, .poll 0 true,
      .adv 2, .fire 1, .poll 0 true, .poll 0 true, .adv 3, .fire 2, .poll 0 false,
      .adv 3, .fire 3, .poll 0 true]
    = [⟨0, some 0, 3⟩, ⟨0, some 1, 5⟩, ⟨0, some 2, 8⟩] := by decide +kernel

/-- Outer delay 5 and period 2 run concurrently: tick 0 at max 5 2 = 5 (the bound of
    `C19_never_early_repeat` is attained), tick 1 one period later. -/
example : runLog [.scheduleRepeat .tick 2 (some 5), .poll 0 true, .adv 2, .fire 0, .poll 0 true,
      .adv 3, .fire 1, .poll 0 true, .adv 2, .fire 2, .poll 0 true]
    = [⟨0, some 0, 5⟩, ⟨0, some 1, 7⟩] := by decide +kernel

/-- Outer delay 1 shorter than the period 4: tick 0 at 4. -/
example : runLog [.scheduleRepeat .tick 4 (some 1), .poll 0 true, .adv 1, .fire 1, .poll 0 true,
      .adv 3, .fire 0, .poll 0 true]
    = [⟨0, some 0, 4⟩] := by decide +kernel

/-- Cancelled while pending on its delay timer: the timer still fires, the body never runs,
    and the handle does not report closed. -/
example : runLog [.scheduleOnce .tick (some 5), .poll 0 true, .adv 2, .cancel 0, .adv 3, .fire 0,
      .poll 0 true, .poll 0 true] = [] := by decide +kernel
example : (stateAfter [.scheduleOnce .tick (some 5), .poll 0 true, .adv 2, .cancel 0, .adv 3, .fire 0,
      .poll 0 true]).handleClosed 0 = false := by decide +kernel

/-- Cancelled before the first poll; cancelled between two ticks. -/
example : runLog [.scheduleOnce .tick none, .cancel 0, .poll 0 true] = [] := by decide +kernel
example : runLog [.scheduleRepeat .tick 1 none, .adv 1, .fire 0, .poll 0 true, .cancel 0,
      .adv 1, .fire 1, .poll 0 true] = [⟨0, some 0, 1⟩] := by decide +kernel

/-- The handle of a task that ran reports closed; the one of a pending task does not. -/
example : (stateAfter [.scheduleOnce .tick none, .poll 0 true]).handleClosed 0 = true := by decide +kernel
example : (stateAfter [.scheduleOnce .tick (some 1), .poll 0 true]).handleClosed 0 = false := by decide +kernel

/-- Two tasks, polled in the "wrong" order, each at most once and not before its delay. -/
example : runLog [.scheduleOnce .tick (some 3), .scheduleOnce .tick (some 1), .poll 1 true, .poll 0 true,
      .adv 3, .fire 1, .fire 0, .poll 0 true, .poll 1 true, .poll 0 true]
    = [⟨0, none, 3⟩, ⟨1, none, 3⟩] := by decide +kernel

end Rx.T
