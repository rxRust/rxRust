import RxModel.Pipe.MultiSub
/-
  C13 — Cold pipelines are lazy and every subscription is independent.

  In the model a pipeline description (`Pipe`) is immutable data and every
  `actual_subscribe` instantiates its own observer states; the theorems below
  say what follows from that.  Their force comes from the correspondence check,
  which subscribes clones of ONE real pipeline value several times (successive
  and nested) and compares every log and closure-call counter with this model.
-/
namespace Rx
open MWorld

/-- Building a pipeline does nothing: no subscription exists, no closure has run,
    and events on its hot inputs reach nobody. -/
theorem C13_lazy (p : Pipe) (i : Nat) (n : Notif) :
    ({ pipe := p } : MWorld).roots = [] ∧ ({ pipe := p } : MWorld).calls = 0 ∧
    (({ pipe := p } : MWorld).emit i n).2 = [] := by
  exact ⟨rfl, rfl, by cases n <;> rfl⟩

theorem absorb_plain (w : MWorld) (r : Nat) (root : MRoot) (h : w.roots[r]? = some root)
    (hn : root.nest = none) (ns : List Notif) :
    (w.absorb r ns).2 = ns.map (fun n => (r, n)) ∧ (w.absorb r ns).1.calls = w.calls ∧
    (w.absorb r ns).1.roots.length = w.roots.length := by
  -- the clauses of `absorb`, in its order
  fun_induction absorb w r ns generalizing root with
  | case1 => exact ⟨rfl, rfl, rfl⟩                    -- nothing left to log
  | case2 _ _ _ h' => rw [h'] at h; cases h           -- no root `r`
  | case3 _ _ _ _ h' trigger _ _ ht =>                -- the probe nests (`trigger`): not a plain root
    obtain rfl := Option.some.inj (h'.symm.trans h)
    simp [trigger, hn] at ht
  | case4 w n _ _ h' _ root' w1 _ _ _ e ih =>          -- logged, `root'` counts it, on to the rest in `w1`
    obtain rfl := Option.some.inj (h'.symm.trans h)
    have hr := (List.getElem?_eq_some_iff.mp h).1
    obtain ⟨i1, i2, i3⟩ := ih root' (by simp [w1, hr]) (by simp only [root']; split <;> exact hn)
    rw [e] at i1 i2 i3
    exact ⟨congrArg ((r, n) :: ·) i1, i2, i3.trans List.length_set⟩

/-- Every plain subscription runs the subscription-time closures exactly once, and its log is
    exactly the output of a freshly instantiated pipeline — whatever other subscriptions
    exist, whatever state they are in (`w` is arbitrary). -/
theorem C13_independent (w : MWorld) :
    (w.subscribe none).2 = (w.pipe.instantiate.start).2.map (fun n => (w.roots.length, n)) ∧
    (w.subscribe none).1.calls = w.calls + w.pipe.callCount := by
  simp only [subscribe]
  have h : ({ w with roots := w.roots ++ [({ node := w.pipe.instantiate.start.1, nest := none } : MRoot)],
                     calls := w.calls + w.pipe.callCount } : MWorld).roots[w.roots.length]? =
      some ({ node := w.pipe.instantiate.start.1, nest := none } : MRoot) := by
    simp
  have := absorb_plain _ w.roots.length _ h rfl (w.pipe.instantiate.start).2
  exact ⟨this.1, this.2.1⟩

theorem absorb_pipe (w : MWorld) (r : Nat) (ns : List Notif) : (w.absorb r ns).1.pipe = w.pipe := by
  fun_induction absorb w r ns with
  | case1 | case2 => rfl        -- nothing left, or no root `r`: the world is returned as it is
  | case3 | case4 =>            -- with or without a nested subscription: `e` is the recursive call
    rename_i e ih
    exact (congrArg (·.1.pipe) e).symm.trans ih

theorem subscribe_pipe (w : MWorld) (nest : Option Nat) : (w.subscribe nest).1.pipe = w.pipe :=
  absorb_pipe _ _ _

/-- After k plain subscriptions the subscription-time closures have run k times each. -/
theorem C13_once_per_subscription (p : Pipe) (k : Nat) :
    ((List.range k).foldl (fun w _ => (w.subscribe none).1) ({ pipe := p } : MWorld)).calls
      = k * p.callCount ∧
    ((List.range k).foldl (fun w _ => (w.subscribe none).1) ({ pipe := p } : MWorld)).pipe = p := by
  induction k with
  | zero => simp
  | succ k ih =>
    rw [List.range_succ, List.foldl_append]
    simp only [List.foldl_cons, List.foldl_nil]
    refine ⟨?_, ?_⟩
    · rw [(C13_independent _).2, ih.1, ih.2]; simp [Nat.succ_mul]
    · rw [subscribe_pipe, ih.2]

/-! Non-vacuity: scan's accumulator is per subscription. -/
example : ((({ pipe := .op1 (.scan (fun a b => match a, b with | .int x, .int y => .int (x + y) | _, v => v)
      (.int 0)) (.src (.iter [.int 1, .int 2])) } : MWorld).subscribe none).1.subscribe none).2
    = [(1, .next (.int 1)), (1, .next (.int 3)), (1, .complete)] := by decide

end Rx
