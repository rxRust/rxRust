import RxModel.Lemmas.Quiet
/-
  C02 — After unsubscribe() returns the subscriber is never called again.

  Part proved here: every pipeline of the synchronous catalogue
  (RxModel/Pipe/World.lean), every history before the cut, every continuation.
  Scheduler-using operators: RxModel/Props/C02S.lean (when present).
-/
namespace Rx

/-- After `unsubscribe()` on a subscribed pipeline nothing more is delivered,
    whatever the history before (`es₁`, any cut point) and after (`es₂`). -/
theorem C02_silent (p : Pipe) (es₁ es₂ : List Ext) (nd : Node)
    (hsub : ((World.init p).run es₁).1.root = some nd) :
    ((((World.init p).run es₁).1.step .unsub).1.run es₂).2 = [] := by
  obtain ⟨acts, _, h⟩ := World.run_subscribed _ _ (World.step_unsub _ nd hsub) es₂
  rw [h]
  exact quiet_runActs _ acts (unsub_quiet nd (World.root_started p es₁ nd hsub))

/-- The unsubscription itself delivers nothing. -/
theorem C02_unsub_step_silent (w : World) : World.outOf (w.step .unsub).2 = [] := by
  obtain ⟨pipe, term, root⟩ := w
  cases root <;> rfl

/-! Non-vacuity: the hypothesis is met, and before the cut the pipeline does deliver. -/
example : ((World.init (.op2 .merge (.hot 0) (.hot 1))).run
    [.sub, .emit 0 (.next (.int 1))]).1.root.isSome = true := by decide
example : ((World.init (.op2 .merge (.hot 0) (.hot 1))).run
    [.sub, .emit 0 (.next (.int 1))]).2 = [.next (.int 1)] := by decide

end Rx
