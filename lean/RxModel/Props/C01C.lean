import RxModel.Lemmas.ChainWFMain
/-
  C01 over the chain (time) model — the probe log of EVERY chain world is well
  formed: items, then at most one terminal, then nothing.

  `src` ranges over all sources of the model (hot subject, every cold source incl.
  `create` with a malformed script, interval / interval_at, timer, from_iter over a
  counting iterator, from_future(_result) and from_stream(_result) over any script,
  cyclic or not); `stages` over all lists of stages in their initial
  per-subscription state: every single-input operator of the sync catalogue, delay,
  observe_on, subscribe_on / delay_subscription, debounce, throttle (all edges),
  buffer_with_time / buffer_with_count_and_time, and the eight two-input
  combinators with any source as second input; `evs` over all event lists:
  `sub`, emissions on any subject (post-terminal ones included), `unsub`, clock
  jumps, `fire` / `poll` of any timer / task in any order, `run`.

  Proof (Lemmas/ChainWF*.lean): ghost histories.  `Chain up stages log` says that
  every stage has so far processed a sublist of what its upstream emitted (the
  cascade may drop notifications when its fuel runs out — no assumption on the
  fuel is made) and is consistent with it: a single-input observer is
  `run init input` (C01_preserving applies), every slot-owning stage (delay,
  observe_on, debounce, throttle, buffer_with_time, two-input cell) is a gate —
  cumulative output well formed whatever arrives, slot empty after a terminal.
  `SrcOK` says that what the source has handed to stage 0 is well formed and stays
  so: the source is subscribed at most once and its terminal is final, because at
  most one *critical* task (subscribing task of subscribe_on, timer_task,
  FutureTask, stream driver) is ever live, and a finished task never runs again.
-/
namespace Rx
open Rx.T

/-- The full statement. -/
def C01C_chain_grammar_full : Prop :=
  ∀ (src : TSrc) (stages : List Stage), (∀ st ∈ stages, st.Initial) → ∀ evs : List TW.Ev,
    WF (evs.foldl TW.step { src := src, stages := stages }).log

/-- Only the single-input observers have to start fresh; the slot-owning stages may
    start in ANY state (slot already empty, a trailing value pending, stale task handles, a
    two-input cell in any state). -/
theorem C01C_chain_grammar_any_gate_state (src : TSrc) (stages : List Stage)
    (hs : ∀ st ∈ stages, st.Fresh) (evs : List TW.Ev) :
    WF (evs.foldl TW.step { src := src, stages := stages }).log :=
  TW.WInv.wf_log (TW.fold_inv evs (TW.init_inv src stages (fun st h => (hs st h).ok)))

/-- The probe log of every chain world under every event list is well formed. -/
theorem C01C_chain_grammar (src : TSrc) (stages : List Stage) (hs : ∀ st ∈ stages, st.Initial)
    (evs : List TW.Ev) : WF (evs.foldl TW.step { src := src, stages := stages }).log :=
  C01C_chain_grammar_any_gate_state src stages (fun st h => (hs st h).fresh) evs

theorem C01C_chain_grammar_full_holds : C01C_chain_grammar_full := C01C_chain_grammar

/-- The slot-owning stages are gates: for such a last stage the log is well formed whatever
    is upstream — corollary of the above, stated for the record via `Stage.OK`. -/
theorem C01C_stage_preserves (st : Stage) (inp out : List Notif) (h : st.OK inp out) (hi : WF inp) :
    WF out := h.wf hi

/-! ### non-vacuity -/

/-- hot → delay 5 → take 2: the post-terminal emission is ignored, the completion arrives
    after the delay. -/
example :
    ([TW.Ev.sub, .emit 0 (.next (.int 1)), .emit 0 .complete, .emit 0 (.next (.int 2)),
      .emit 0 .complete, .run, .adv 5, .run, .emit 0 (.error 3), .run].foldl TW.step
      { src := .hot 0,
        stages := [.delay 5 true (some []), .op1 (Spec.Op1.init (.take 2))] }).log
      = [.next (.int 1), .complete] := by decide

example : ∀ st ∈ [Stage.delay 5 true (some []), .op1 (Spec.Op1.init (.take 2))], st.Initial := by
  intro st h
  simp at h
  rcases h with rfl | rfl
  · exact ⟨rfl, rfl⟩
  · exact ⟨.take 2, rfl⟩

/-- hot → last → observe_on → debounce 3: the terminal makes `last` emit item + completion
    as two tasks; polling the completion first closes the slot, the item is dropped. -/
example :
    ([TW.Ev.sub, .emit 0 (.next (.int 1)), .emit 0 .complete, .emit 0 (.next (.int 2)),
      .poll 1, .poll 0, .adv 3, .run].foldl TW.step
      { src := .hot 0,
        stages := [.op1 (Spec.Op1.init .last), .observeOn true (some []),
                   .debounce 3 true none none] }).log
      = [.complete] := by decide

/-- timer source → subscribe_on → throttle → two-input cell (take_until a hot notifier). -/
example :
    ([TW.Ev.sub, .run, .adv 2, .run, .emit 7 (.next (.int 0)), .adv 9, .run].foldl TW.step
      { src := .timer (.int 4) 2,
        stages := [.subscribeOn none none, .throttle 1 .all true none none,
                   .op2n (Kind2.init .takeUntil) (.hot 7) false none] }).log
      = [.next (.int 4), .complete] := by decide

end Rx
