import RxModel.Lemmas.TimeStepsQuiet
import RxModel.Lemmas.TimeStepsMulti
import RxModel.Lemmas.TimeStepsPar
/-
  C02 (thread-safe flavour, scheduler-using operators) — after `unsubscribe()` on the subscription
  returned by `subscribe` has returned, the subscriber receives no further notification: EVERY
  interleaving of emitting threads, an unsubscribing thread and executor threads, at the granularity
  of single `MutArc` acquisitions.

  Model: RxModel/Conc/TimeSteps.lean (`St`, `Pc`, `step`, `exec`): a hot `SubjectThreads` source, one
  operator (debounce | throttle | delay | observe_on), one probe; every lock acquisition is its own step,
  enabled only while the cell is free; any number of threads, each a list of operations
  (emit next/error/complete, unsubscribe, poll j, run, adv d, fire i), any schedule.
  Property theorems only; helper lemmas: RxModel/Lemmas/TimeSteps*.lean.

  Tie to /repo: suite `coop` (harness/src/suites/coop_suite.rs) runs the REAL code on two OS threads
  scheduled at every hooked `MutArc` acquisition (hook H2) under the policy `TS.par`; deliveries, the
  marker R, the executed schedule and the per-thread lock tokens are compared verbatim with this model
  (`C02S_coop_is_schedule`: what is replayed is a schedule of `exec`).  Modelled, not verified: that
  std `Mutex` sections are atomic and are exactly these steps.
-/
namespace Rx.Conc.TS
open Rx

/-! ### debounce, the order of the code: quiet after `unsubscribe()` -/

/-- **Nothing after `unsubscribe()` has returned — debounce, all interleavings.**  Any debounce window `d`,
    the subject alive or already terminated at subscription, ANY number of threads each running ANY list of
    operations (`emit next/error/complete` on the subject, `unsub`, `poll j` of any task incl. spurious polls,
    `run`, `adv`, `fire`), EVERY schedule at the granularity of single lock acquisitions (a blocked thread
    that is scheduled stutters): in the probe log no delivery stands behind the marker `R` that the
    unsubscribing thread writes when `unsubscribe()` has returned. -/
theorem C02S_debounce_quiet_after_unsub (d : Nat) (live : Bool) (progs : List (List Op)) (sched : List Nat) :
    quietAfterR (exec ⟨.debounce d, .original⟩ (Cfg.init (St.subscribed live) progs) sched).st.log = true :=
  (DInv.exec (hconf_debounce d) live progs sched).dd.ql

/-- The same, spelled out: whatever stands behind an `R` in the log is not a delivery. -/
theorem C02S_debounce_nothing_after_R (d : Nat) (live : Bool) (progs : List (List Op)) (sched : List Nat)
    (pre post : List Item)
    (h : (exec ⟨.debounce d, .original⟩ (Cfg.init (St.subscribed live) progs) sched).st.log = pre ++ .R :: post) :
    ∀ x ∈ post, x = .R := by
  have hq := C02S_debounce_quiet_after_unsub d live progs sched
  rw [h] at hq
  clear h
  induction pre with
  | nil =>
    simp only [List.nil_append, quietAfterR, List.all_eq_true, beq_iff_eq] at hq
    exact hq
  | cons y r ih =>
    cases y with
    | n z => exact ih hq
    | R =>
      simp only [List.cons_append, quietAfterR, List.all_eq_true, beq_iff_eq] at hq
      intro x hx
      exact hq x (List.mem_append_right _ (List.mem_cons_of_mem _ hx))

/-- The state behind it: once `R` is logged the slot is closed, the handler cell is empty, no task can still
    run its body (every task is cancelled or finished) and no thread is inside the slot section — for ever. -/
theorem C02S_debounce_dead_after_unsub (d : Nat) (live : Bool) (progs : List (List Op)) (sched : List Nat)
    (h : Item.R ∈ (exec ⟨.debounce d, .original⟩ (Cfg.init (St.subscribed live) progs) sched).st.log) :
    let c := exec ⟨.debounce d, .original⟩ (Cfg.init (St.subscribed live) progs) sched
    c.st.slotOpen = false ∧ c.st.hcell = none ∧ (∀ k, c.st.armed k = false) ∧
      ∀ j, Cell.slot ∉ (c.pcOf j).holds := by
  have q := (DInv.exec (hconf_debounce d) live progs sched).dd.q h
  exact ⟨q.slot, q.hcell, q.dead, q.out⟩

/-- At every moment of every schedule at most one task is armed outside the hands of a thread: an armed
    task is the one in the handler cell, or the one a thread inside the slot section is about to store /
    cancel, or the one `unsubscribe` is about to cancel (the fact that makes `unsubscribe` find the newest). -/
theorem C02S_debounce_armed_is_tracked (d : Nat) (live : Bool) (progs : List (List Op)) (sched : List Nat)
    (k : Nat) :
    let c := exec ⟨.debounce d, .original⟩ (Cfg.init (St.subscribed live) progs) sched
    c.st.armed k = true →
      c.st.hcell = some k ∨ ∃ j, c.pcOf j = .hc_store k ∨ c.pcOf j = .db_cancel k ∨ c.pcOf j = .tc_cancel k ∨
        c.pcOf j = .te_cancel k ∨ c.pcOf j = .u_cancel k false :=
  (DInv.exec (hconf_debounce d) live progs sched).dd.t1 k

/-! ### throttle (handler cell shared with the subscription since fix 0adcfc0), the order of the code -/

/-- **Nothing after `unsubscribe()` has returned — throttle, all interleavings.**  Any window `d`, any edge
    (leading / trailing / both), the subject alive or terminated at subscription, any number of threads each
    running any list of operations, every schedule at the granularity of single lock acquisitions: no delivery
    stands behind the marker `R`. -/
theorem C02S_throttle_quiet_after_unsub (d : Nat) (e : Edge) (live : Bool) (progs : List (List Op))
    (sched : List Nat) :
    quietAfterR (exec ⟨.throttle d e, .original⟩ (Cfg.init (St.subscribed live) progs) sched).st.log = true :=
  (DInv.exec (hconf_throttle d e) live progs sched).dd.ql

/-- Once `R` is logged: slot closed, handler cell empty, no task armed, nobody inside the slot section. -/
theorem C02S_throttle_dead_after_unsub (d : Nat) (e : Edge) (live : Bool) (progs : List (List Op))
    (sched : List Nat)
    (h : Item.R ∈ (exec ⟨.throttle d e, .original⟩ (Cfg.init (St.subscribed live) progs) sched).st.log) :
    let c := exec ⟨.throttle d e, .original⟩ (Cfg.init (St.subscribed live) progs) sched
    c.st.slotOpen = false ∧ c.st.hcell = none ∧ (∀ k, c.st.armed k = false) ∧
      ∀ j, Cell.slot ∉ (c.pcOf j).holds := by
  have q := (DInv.exec (hconf_throttle d e) live progs sched).dd.q h
  exact ⟨q.slot, q.hcell, q.dead, q.out⟩

/-- The window task is unique: an armed task is the one in the handler cell or the one a thread is about to
    store / cancel — `ThrottleObserver::next` schedules a new one only over a handle whose body has returned. -/
theorem C02S_throttle_armed_is_tracked (d : Nat) (e : Edge) (live : Bool) (progs : List (List Op))
    (sched : List Nat) (k : Nat) :
    let c := exec ⟨.throttle d e, .original⟩ (Cfg.init (St.subscribed live) progs) sched
    c.st.armed k = true →
      c.st.hcell = some k ∨ ∃ j, c.pcOf j = .hc_store k ∨ c.pcOf j = .db_cancel k ∨ c.pcOf j = .tc_cancel k ∨
        c.pcOf j = .te_cancel k ∨ c.pcOf j = .u_cancel k false :=
  (DInv.exec (hconf_throttle d e) live progs sched).dd.t1 k

/-- The same race as C02-3 with the halves of throttle's subscription swapped (what the code was before fix
    0adcfc0 did not even have the handler cell in the subscription): a window task survives `unsubscribe()`
    and delivers the trailing item after `R`. -/
theorem C02S_throttle_swapped_delivers_after_unsub :
    (exec ⟨.throttle 3 .trailing, .swapped⟩ (Cfg.init (St.subscribed true)
        [[.emit (.next (.int 2))], [.unsub], [.run, .adv 5, .run]])
      (List.replicate 4 0 ++ List.replicate 4 1 ++ List.replicate 4 0 ++ List.replicate 4 1 ++
        List.replicate 40 2)).st.log = [.R, .n (.next (.int 2))] := by
  decide +kernel

/-! ### delay and observe_on (one task per notification, handles in a `MultiSubscriptionThreads`) -/

/-- **Nothing after `unsubscribe()` has returned — delay, all interleavings.**  Every `next` / `complete`
    schedules its own task and appends the handle to the composite; `unsubscribe()` closes the slot, takes the
    whole list and cancels handle after handle (waiting for a task whose body is running).  Any delay, any
    threads, any operations, every schedule: no delivery behind `R`. -/
theorem C02S_delay_quiet_after_unsub (d : Nat) (live : Bool) (progs : List (List Op)) (sched : List Nat) :
    quietAfterR (exec ⟨.delay d, .original⟩ (Cfg.init (St.subscribed live) progs) sched).st.log = true :=
  (MInv.exec (mconf_delay d) live progs sched).dd.ql

/-- … and observe_on (no timer; `error` is scheduled too). -/
theorem C02S_observe_on_quiet_after_unsub (live : Bool) (progs : List (List Op)) (sched : List Nat) :
    quietAfterR (exec ⟨.observeOn, .original⟩ (Cfg.init (St.subscribed live) progs) sched).st.log = true :=
  (MInv.exec mconf_observeOn live progs sched).dd.ql

/-- Every armed task is registered: it is in the composite, or the emitter that scheduled it is about to
    append it (or, the composite being gone, to cancel it: fix f40172f), or `unsubscribe` has it in the list
    it is working off. -/
theorem C02S_delay_armed_is_tracked (d : Nat) (live : Bool) (progs : List (List Op)) (sched : List Nat)
    (k : Nat) :
    let c := exec ⟨.delay d, .original⟩ (Cfg.init (St.subscribed live) progs) sched
    c.st.armed k = true →
      (∃ l, c.st.multi = some l ∧ k ∈ l) ∨
        ∃ j, c.pcOf j = .dl_append k ∨ c.pcOf j = .dl_late k ∨ ∃ hs b, c.pcOf j = .u_mc hs b ∧ k ∈ hs :=
  (MInv.exec (mconf_delay d) live progs sched).dd.t1 k

/-- Once `R` is logged: slot closed, no task armed, nobody inside the slot section. -/
theorem C02S_delay_dead_after_unsub (d : Nat) (live : Bool) (progs : List (List Op)) (sched : List Nat)
    (h : Item.R ∈ (exec ⟨.delay d, .original⟩ (Cfg.init (St.subscribed live) progs) sched).st.log) :
    let c := exec ⟨.delay d, .original⟩ (Cfg.init (St.subscribed live) progs) sched
    c.st.slotOpen = false ∧ (∀ k, c.st.armed k = false) ∧ ∀ j, Cell.slot ∉ (c.pcOf j).holds := by
  have q := (MInv.exec (mconf_delay d) live progs sched).dd.q h
  exact ⟨q.slot, q.dead, q.out⟩

/-- "Append after unsubscribe" (fix f40172f), on the seed's schedule with the halves SWAPPED: `unsubscribe()`
    empties the composite while the emitter is inside `next`; the emitter's `append` finds it gone and cancels
    its own fresh task at once — nothing is delivered.  (Before the fix the late handle was dropped alive.) -/
theorem C02S_delay_swapped_late_append_is_cancelled :
    (exec ⟨.delay 3, .swapped⟩ (Cfg.init (St.subscribed true)
        [[.emit (.next (.int 2))], [.unsub], [.run, .adv 5, .run]])
      (List.replicate 4 0 ++ List.replicate 4 1 ++ List.replicate 4 0 ++ List.replicate 4 1 ++
        List.replicate 40 2)).st.log = [.R] := by
  decide +kernel

/-! ### every operator kind, both orders: lock discipline, no deadlock -/

/-- **Mutual exclusion.**  At every moment of every schedule `locks` says exactly what the program counters
    say, and no cell is held by two threads. -/
theorem C02S_mutual_exclusion (K : Conf) (s : St) (hs : s.locks = []) (progs : List (List Op))
    (sched : List Nat) (c : Cell) (j j' : Nat) :
    let cf := exec K (Cfg.init s progs) sched
    ((c, j) ∈ cf.st.locks ↔ c ∈ (cf.pcOf j).holds) ∧
      (c ∈ (cf.pcOf j).holds → c ∈ (cf.pcOf j').holds → j = j') :=
  ⟨(LD.exec K s hs progs sched).iff c j, (LD.exec K s hs progs sched).excl c j j'⟩

/-- **Ranked acquisition.**  Every program point of every operation asks for a cell whose rank is above the
    rank of everything the thread holds (observers < chamber < slot < handler cell / composite < handle <
    trailing value < downstream slot). -/
theorem C02S_ranked (p : Pc) (c : Cell) (hc : p.cell = some c) : ∀ h ∈ p.holds, h.rank < c.rank :=
  pc_ranked p c hc

/-- **No deadlock.**  Any operator kind, either order of the subscription halves, any threads, any schedule:
    if some thread has not finished, some thread can take a step. -/
theorem C02S_no_deadlock (K : Conf) (s : St) (hs : s.locks = []) (progs : List (List Op)) (sched : List Nat) :
    let c := exec K (Cfg.init s progs) sched
    (∃ i, c.finished i = false) → ∃ j, c.canRun j = true := by
  intro c ⟨i, hi⟩
  have ld := LD.exec K s hs progs sched
  apply Classical.byContradiction
  intro hno
  have blocked : ∀ j, c.pcOf j ≠ .fin → c.st.enabled (c.pcOf j) = false := by
    intro j hj
    cases he : c.st.enabled (c.pcOf j) with
    | false => rfl
    | true =>
      exfalso
      apply hno
      refine ⟨j, ?_⟩
      have hf : c.finished j = false := by
        unfold Cfg.finished
        split
        · next e => exact absurd e hj
        · rfl
      unfold Cfg.canRun
      rw [hf, he]; rfl
  have hi' : c.pcOf i ≠ .fin := by
    intro e; unfold Cfg.finished at hi; rw [e] at hi; cases hi
  cases hc : (c.pcOf i).cell with
  | none => have := blocked i hi'; unfold St.enabled at this; rw [hc] at this; cases this
  | some cell => exact no_deadlock_view ld blocked 7 i cell hi' hc (by omega)

/-- What suite `coop` replays on the real code is a schedule of the interleaving system: thread 0 = A,
    thread 1 = B, each alone to its first yield point, then priority [A, B] until A has arrived at its
    (k+1)-th yield point, then [B, A]; a thread whose cell is held lets the other run. -/
theorem C02S_coop_is_schedule (K : Conf) (k fuel : Nat) (c : Cfg) :
    (par K k fuel c).cfg = exec K c (par K k fuel c).fine :=
  par_exec K k fuel c

/-! ### the order matters: seed C02-3 -/

/-- the seed's program: an emitter (two items), the unsubscribing thread, an executor -/
def seedProgs : List (List Op) :=
  [[.emit (.next (.int 1)), .emit (.next (.int 2))], [.unsub], [.run, .adv 5, .run]]

/-- the seed's schedule: the emitter delivers item 1 to debounce and is inside `DebounceObserver::next`
    of item 2 (4 acquisitions: observers, chamber, observers, slot); `unsubscribe()` runs as far as it
    can; the emitter finishes; `unsubscribe()` finishes; the executor lets the window pass. -/
def seedSched : List Nat :=
  List.replicate 11 0 ++ List.replicate 4 1 ++ List.replicate 4 0 ++ List.replicate 4 1 ++ List.replicate 40 2

/-- **Negative witness (C02-3).**  With the halves swapped — `ZipSubscription(handler cell, source)` —
    `unsubscribe()` empties the handler cell while the emitter is inside `next`, then waits for the slot;
    the emitter stores a fresh task in the emptied cell; nobody cancels it: item 2 is delivered after `R`. -/
theorem C02S_debounce_swapped_delivers_after_unsub :
    (exec ⟨.debounce 3, .swapped⟩ (Cfg.init (St.subscribed true) seedProgs) seedSched).st.log =
      [.R, .n (.next (.int 2))] := by
  decide +kernel

/-- … so the statement of `C02S_debounce_quiet_after_unsub` is false for the swapped order … -/
theorem C02S_debounce_swapped_not_quiet :
    ¬ ∀ (d : Nat) (live : Bool) (progs : List (List Op)) (sched : List Nat),
      quietAfterR (exec ⟨.debounce d, .swapped⟩ (Cfg.init (St.subscribed live) progs) sched).st.log = true := by
  intro h
  have := h 3 true seedProgs seedSched
  rw [C02S_debounce_swapped_delivers_after_unsub] at this
  cases this

/-- … while the code's order, on the very same threads and schedule, blocks `unsubscribe()` on the slot
    until the emitter has stored its task, then cancels it: nothing is delivered. -/
theorem C02S_debounce_original_same_schedule :
    (exec ⟨.debounce 3, .original⟩ (Cfg.init (St.subscribed true) seedProgs) seedSched).st.log = [.R] := by
  decide +kernel

/-! ### non-vacuity -/

/-- deliveries do happen before `R`: item 1 is debounced, its task fires and delivers, then `unsubscribe()`;
    a later item and a later run deliver nothing. -/
example :
    (exec ⟨.debounce 3, .original⟩
      (Cfg.init (St.subscribed true)
        [[.emit (.next (.int 1)), .run, .adv 3, .run, .unsub, .emit (.next (.int 2)), .adv 9, .run]])
      (List.replicate 60 0)).st.log = [.n (.next (.int 1)), .R] := by
  decide +kernel

/-- the executor mid-delivery when `unsubscribe()` arrives (it holds the task's handle): `unsubscribe()`
    closes the slot, empties the handler cell, then WAITS for the handle; the delivery lands before `R`. -/
example :
    (exec ⟨.debounce 3, .original⟩
      (Cfg.init (St.subscribed true) [[.emit (.next (.int 1)), .run, .adv 3, .fire 0, .poll 0], [.unsub]])
      (List.replicate 18 0 ++ List.replicate 9 1 ++ List.replicate 3 0 ++ List.replicate 3 1)).st.log =
      [.n (.next (.int 1)), .R] := by
  decide +kernel

/-- the policy of suite `coop` on the seed's prefix, `par 4 (emit 2) (unsub)`: the executed slices
    (A = 0, B = 1) as the harness prints them for the real code -/
example :
    (par ⟨.debounce 3, .original⟩ 4 64
      ⟨(exec ⟨.debounce 3, .original⟩ (Cfg.init (St.subscribed true) [[.emit (.next (.int 1))]])
          (List.replicate 7 0)).st,
        [Thread.mk' [.emit (.next (.int 2))], Thread.mk' [.unsub]]⟩).slices =
      [0, 0, 0, 0, 0, 0, 0, 0, 1, 1, 1] := by
  decide +kernel

end Rx.Conc.TS
