import RxModel.Conc.HandleLts
/-
  C02 (threads clause) — after `unsubscribe()` returns the subscriber is never
  called again, with one emitting thread racing the unsubscribing thread.
  Model: RxModel/Conc/HandleLts.lean (the `SubscriberThreads` slot).
-/
namespace Rx
open Conc

/-- **Subscriber slot.**  In every interleaving of an emitting thread (two items
    and a completion) with a thread calling `unsubscribe()` — delivery and
    `unsubscribe` both take the slot mutex — at every moment of every schedule no
    callback starts, and none is still running, after `unsubscribe()` has
    returned. -/
theorem C02_threads {ts : List Tid} {s' : DState Handle.D}
    (r : DRun Handle.sem ⟨mkState Handle.slotSys, Handle.d0⟩ ts s') :
    Handle.quiet s'.d.log = true :=
  all_schedules (progs := Handle.slotSys) (P := fun _ d => Handle.quiet d.log = true) _
    (Nat.le_refl _) Handle.visitedSlot r

theorem C02_threads_ranked : ∀ p ∈ Handle.slotSys, Ranked [] p := by decide

/-- Non-vacuity: an unsubscribe between the first and the second item: one
    callback, then silence. -/
example : (dexec Handle.sem (mkState Handle.slotSys) Handle.d0
    [0, 0, 0, 0, 0, 1, 1, 1, 1, 0, 0, 0, 0, 0, 0, 0, 0, 0, 0]).map (·.2.log) =
    some [0, 1, 2] := by decide

end Rx
