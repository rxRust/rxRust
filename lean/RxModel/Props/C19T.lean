import RxModel.Conc.HandleLts
/-
  C19 (threads clause) — after `unsubscribe()` on a task handle has returned the
  task body neither starts nor is still running.  Model: RxModel/Conc/HandleLts.lean.
-/
namespace Rx
open Conc

/-- **`TaskHandle::unsubscribe` waits for a running poll.**  In every interleaving
    of an executor thread polling the task (twice) with a thread cancelling it —
    both take the handle mutex — at every moment of every schedule the event log
    has no task-body start or end after the `unsub_return` event: the body does
    not start after the return, is not still running at the return, and stays
    cancelled at later polls. -/
theorem C19_threads_wait {ts : List Tid} {s' : DState Handle.D}
    (r : DRun Handle.sem ⟨mkState Handle.taskSys, Handle.d0⟩ ts s') :
    Handle.quiet s'.d.log = true :=
  all_schedules (progs := Handle.taskSys) (P := fun _ d => Handle.quiet d.log = true) _
    (Nat.le_refl _) Handle.visitedTask r

/-- The lock discipline of the two programs is ranked: no schedule deadlocks. -/
theorem C19_threads_ranked : ∀ p ∈ Handle.taskSys, Ranked [] p := by decide

/-- Non-vacuity (1): the body does run when the poll wins, and is skipped when
    the cancel wins. -/
example : (dexec Handle.sem (mkState Handle.taskSys) Handle.d0
    [0, 0, 0, 0, 0, 1, 1, 1, 1, 0, 0, 0, 0, 0]).map (·.2.log) = some [0, 1, 2] := by decide
example : (dexec Handle.sem (mkState Handle.taskSys) Handle.d0
    [1, 1, 1, 1, 0, 0, 0, 0, 0, 0, 0, 0, 0, 0]).map (·.2.log) = some [2] := by decide

/-- Non-vacuity (2): the mutex is what makes it true — without it the body is
    still running when `unsubscribe()` returns. -/
example : (dexec Handle.sem (mkState Handle.unlockedSys) Handle.d0 [0, 0, 1, 1, 0]).map
    (fun x => Handle.quiet x.2.log) = some false := by decide

end Rx
