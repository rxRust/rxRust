import RxModel.Conc.BehaviorLts
/-
  C12 (threads clause) — "Over the thread-safe subject with concurrent producers,
  the most recent value is the one delivered last in the common order that all
  subscribers observe."  FALSE for the code as it is: the store into the value
  cell and the broadcast are two critical sections.

  Model: RxModel/Conc/BehaviorLts.lean.
-/
namespace Rx
open Conc

/-- The clause, for two producer threads emitting 1 and 2: whenever both `next`
    calls have returned, the stored value (what a late subscriber / `peek()`
    gets) is the value delivered last in the common order. -/
def C12_threads_clause : Prop :=
  ∀ (init : Nat) (ts : List Tid) (s' : DState Behavior.D),
    DRun Behavior.sem ⟨mkState Behavior.progs2, Behavior.d0 init⟩ ts s' →
    (∀ t, s'.l.prog t = []) → s'.d.log.getLast? = some s'.d.value

/-- **Counterexample** (4 critical sections: store₁, store₂, broadcast₂,
    broadcast₁): the stored value is 2, the value delivered last is 1. -/
theorem C12_race_counterexample : ¬ C12_threads_clause := by
  intro h
  have hr := dexec_run (sem := Behavior.sem) (l := mkState Behavior.progs2) (d := Behavior.d0 0)
    (ts := [0, 0, 0, 1, 1, 1, 1, 1, 1, 0, 0, 0]) rfl
  have hsup := hr.support (mkState_support Behavior.progs2)
  have := h 0 _ _ hr ((done?_iff hsup).1 (by decide))
  revert this
  decide

/-- The witness state, spelled out: value 2, deliveries [2, 1]. -/
example : (dexec Behavior.sem (mkState Behavior.progs2) (Behavior.d0 0)
    [0, 0, 0, 1, 1, 1, 1, 1, 1, 0, 0, 0]).map (·.2) = some ⟨2, [2, 1]⟩ := by decide

/-- **What does hold**: with a single producer thread — any script of `next`s, of
    any length, under any schedule — when the script has returned, the deliveries
    are exactly the script in order and the stored value is the last one
    delivered (the initial value if nothing was emitted). -/
theorem C12_threads_partial (init : Nat) (xs : List Nat) {ts : List Tid}
    {s' : DState Behavior.D}
    (r : DRun Behavior.sem ⟨mkState [xs.flatMap Behavior.next], Behavior.d0 init⟩ ts s')
    (hd : ∀ t, s'.l.prog t = []) :
    s'.d.log = xs ∧ s'.d.value = (xs.getLast?).getD init := by
  have ho : ∀ t, t ≠ 0 → (mkState [xs.flatMap Behavior.next]).prog t = [] := by
    intro t ht
    cases t with
    | zero => exact (ht rfl).elim
    | succ t => simp [mkState]
  have := single_thread_run (t0 := 0) ho r (hd 0)
  have e : (mkState [xs.flatMap Behavior.next]).prog 0 = xs.flatMap Behavior.next := rfl
  simp only [e] at this
  rw [Behavior.fold_script] at this
  rw [this]
  simp [Behavior.d0]

/-- In particular the clause holds for one producer. -/
theorem C12_threads_single_producer (init : Nat) (xs : List Nat) (hne : xs ≠ []) {ts : List Tid}
    {s' : DState Behavior.D}
    (r : DRun Behavior.sem ⟨mkState [xs.flatMap Behavior.next], Behavior.d0 init⟩ ts s')
    (hd : ∀ t, s'.l.prog t = []) : s'.d.log.getLast? = some s'.d.value := by
  obtain ⟨h1, h2⟩ := C12_threads_partial init xs r hd
  rw [h1, h2]
  cases h : xs.getLast? with
  | none => exact (hne (List.getLast?_eq_none_iff.1 h)).elim
  | some v => rfl

/-- The two-producer programs are ranked: the race is not a deadlock, every
    schedule completes. -/
theorem C12_threads_ranked : ∀ p ∈ Behavior.progs2, Ranked [] p := by decide

end Rx
