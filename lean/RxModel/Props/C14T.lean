import RxModel.Conc.StatusLts
/-
  C14 (schedules clause) — "Whenever the source has terminated, … `wait_for_end`
  become ready rather than staying pending forever, under every interleaving of
  the producing and the waiting side."  FALSE for `complete_status` as written
  (check-then-register), TRUE for register-then-recheck.

  Model: RxModel/Conc/StatusLts.lean.
-/
namespace Rx
open Conc

/-- For a given poll body of the waiter: in every interleaving of the producer's
    terminal with one poll, once both have returned the waiter is Ready or has
    been woken with the flag set (hence Ready at its next poll). -/
def C14_NoLostWakeup (waiter : List Act) : Prop :=
  ∀ (ts : List Tid) (s' : DState Status.D),
    DRun Status.sem ⟨mkState [Status.producer, waiter], Status.d0⟩ ts s' →
    (∀ t, s'.l.prog t = []) →
    s'.d.res = some true ∨ (s'.d.woken = true ∧ s'.d.flag = true)

/-- **Lost wakeup in the code as written.**  Schedule: the waiter reads the flag
    (0), the producer delivers, stores the flag and calls `wake()` — nobody is
    registered, nothing happens — then the waiter registers and returns
    `Pending`.  Nobody will ever wake it: `wait_for_end` hangs although the
    source has terminated. -/
theorem C14_lost_wakeup_counterexample : ¬ C14_NoLostWakeup Status.waiterAsWritten := by
  intro h
  have hr := dexec_run (sem := Status.sem) (l := mkState [Status.producer, Status.waiterAsWritten])
    (d := Status.d0) (ts := [1, 0, 0, 0, 1]) rfl
  have hsup := hr.support (mkState_support [Status.producer, Status.waiterAsWritten])
  have := h _ _ hr ((done?_iff hsup).1 (by decide))
  revert this
  decide

/-- The witness end state: flag set, a waker registered and never woken, poll
    result Pending. -/
example : (dexec Status.sem (mkState [Status.producer, Status.waiterAsWritten]) Status.d0
    [1, 0, 0, 0, 1]).map (·.2) = some ⟨true, true, false, false, some false⟩ := by decide

/-- **No lost wakeup with the repaired order** (register, then re-check the
    flag): for every schedule. -/
theorem C14_no_lost_wakeup_fixed : C14_NoLostWakeup Status.waiterFixed := by
  intro ts s' r hd
  have h := all_schedules (progs := [Status.producer, Status.waiterFixed]) (P := Status.Good) _
    (Nat.le_refl _) Status.visitedFixed r
  exact h ((done?_iff (r.support (mkState_support _))).2 hd)

/-- Non-vacuity of the fixed statement, first outcome: Ready directly. -/
example : (dexec Status.sem (mkState [Status.producer, Status.waiterFixed]) Status.d0
    [0, 0, 0, 1, 1]).map (·.2.res) = some (some true) := by decide
/-- Second outcome: Pending, then woken with the flag set. -/
example : (dexec Status.sem (mkState [Status.producer, Status.waiterFixed]) Status.d0
    [1, 1, 0, 0, 0]).map (fun x => (x.2.res, x.2.woken, x.2.flag)) =
    some (some false, true, true) := by decide

end Rx
