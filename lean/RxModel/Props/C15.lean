import RxModel.Lemmas.Finalize
/-
  C15 — finalize runs its callback exactly once per subscription (sequential
  part; the race of a terminating with an unsubscribing thread is
  `C15_threads`, proved over the lock-level model).

  Property theorems only; helper lemmas: RxModel/Lemmas/Finalize.lean.  The
  machine (`Finalize.Fin`, `Elem`, `World`) is the transcription of
  src/ops/finalize.rs behind the `Subscriber` slot of a hot subject and is what
  `rxdriver` executes against the real code (suite `finalize`).

  `C15_once` … : the plain pipeline `subject.finalize(f)`.  `C15_chain_once`,
  `C15_chain_not_before`, `C15_chain_full`: any operators below `finalize` (full strength
  since `fix: Subject::error/complete hand the terminal to every subscriber`; before it the
  callback did not run at the source's terminal once an operator below had completed by itself).
-/
namespace Rx
open Finalize

/-- `subject.finalize(f)`: ANY item prefix `pre`, then a first trigger `e`
    (complete, error or unsubscribe), then ANY further events `post` (items,
    terminals through cloned subject handles, unsubscribe — repeated at will).
    The whole log is: the items, what the trigger itself delivers downstream,
    then the callback — and nothing else, ever.  So the callback runs right
    after the first trigger's downstream delivery, not before, and never again;
    its run counter ends at 1 and the cell is empty. -/
theorem C15_once (id : Nat) (pre : List Val) (e : Ev) (he : e.isTrigger = true) (post : List Ev) :
    let r := (World.init [.fin (Fin.new id)]).run
      (pre.map (fun v => Ev.emit (.next v)) ++ e :: post)
    r.2 = pre.map (fun v => FOut.n (.next v)) ++ triggerDelivery e ++ [.f id] ∧
    r.1.chain = [.fin ⟨id, false, 1⟩] := by
  intro r
  obtain ⟨hc, ho⟩ := headSim_once (headSim_init id []) pre e he post
  obtain ⟨bc, bo⟩ := bare_trigger e he
  have hb := run_append (World.init []) (pre.map fun v => Ev.emit (.next v)) [e]
  rw [bare_items] at hb
  refine ⟨ho.trans ?_, hc.trans ?_⟩
  · exact congrArg (· ++ [.f id]) ((congrArg Prod.snd hb).trans
      (congrArg (_ ++ ·) ((List.append_nil _).trans bo)))
  · exact congrArg (_ :: ·) ((congrArg (·.1.chain) hb).trans bc)

/-- Before the first trigger the callback has not run: items only leave it
    armed with run counter 0 and no marker in the log. -/
theorem C15_not_before (id : Nat) (pre : List Val) :
    let r := (World.init [.fin (Fin.new id)]).run (pre.map fun v => Ev.emit (.next v))
    r.2 = pre.map (fun v => FOut.n (.next v)) ∧ countF id r.2 = 0 ∧
    r.1.chain = [.fin ⟨id, true, 0⟩] := by
  intro r
  obtain ⟨⟨ch, _, h1, h0⟩, e1⟩ := headSim_items pre (headSim_init id [])
  have hb := bare_items pre
  have e2 : r.2 = pre.map (fun v => FOut.n (.next v)) := e1.trans (congrArg Prod.snd hb)
  have hd : ch = [] := congrArg World.chain (h0.symm.trans (congrArg Prod.fst hb))
  exact ⟨e2, e2 ▸ countF_n id .next pre, (congrArg World.chain h1).trans (congrArg (_ :: ·) hd)⟩

/-- Every event sequence has one of the two shapes above. -/
theorem C15_shapes (evs : List Ev) :
    (∃ pre : List Val, evs = pre.map fun v => Ev.emit (.next v)) ∨
    (∃ (pre : List Val) (e : Ev) (post : List Ev), e.isTrigger = true ∧ evs = pre.map (fun v => Ev.emit (.next v)) ++ e :: post) := by
  induction evs with
  | nil => exact .inl ⟨[], rfl⟩
  | cons x r ih =>
    cases hx : x.isTrigger
    · -- an item
      have : ∃ v, x = .emit (.next v) := by
        cases x with
        | unsub => cases hx
        | emit n => cases n <;> first | exact ⟨_, rfl⟩ | cases hx
      obtain ⟨v, rfl⟩ := this
      rcases ih with ⟨pre, rfl⟩ | ⟨pre, e, post, he, rfl⟩
      · exact .inl ⟨v :: pre, rfl⟩
      · exact .inr ⟨v :: pre, e, post, he, rfl⟩
    · exact .inr ⟨[], x, r, hx, rfl⟩

/-- At most once, everywhere: in ANY chain of operators and finalizers (finalize
    in the middle of a chain, nested finalizers), from ANY state, under ANY
    events, the markers of `id` in the log are exactly the new runs of its
    callbacks, and runs + armed cells is constant: a callback never re-arms. -/
theorem C15_chain_at_most_once (id : Nat) (w : World) (evs : List Ev) :
    countF id (w.run evs).2 + callsOf id w.chain = callsOf id (w.run evs).1.chain ∧
    callsOf id (w.run evs).1.chain + armedOf id (w.run evs).1.chain =
      callsOf id w.chain + armedOf id w.chain :=
  run_ledger id w evs

/-- In particular with one fresh finalizer `id` anywhere in a chain of operators. -/
theorem C15_chain_le_one (id : Nat) (up down : List St1) (evs : List Ev) :
    countF id ((World.init (up.map .op ++ .fin (Fin.new id) :: down.map .op)).run evs).2 ≤ 1 := by
  have h := (run_ledger id (World.init (up.map .op ++ .fin (Fin.new id) :: down.map .op)) evs).spent
  have h0 := one_fin_armed id up down
  omega

/-- `subject.finalize(f)` followed by ANY operators (`down`: map, filter, … and the ones that
    complete the downstream by themselves: take, take_while, first, contains, …), ANY item
    prefix, a first trigger `e` (complete, error or unsubscribe), then ANY further events: the
    log is the log of the same pipeline WITHOUT `finalize` up to and including the trigger,
    then the callback, and nothing else, ever.  So the callback runs right after what the first
    trigger itself delivers downstream — also when `take` had completed the probe long before
    the source's terminal — never before it and never again. -/
theorem C15_chain_once (id : Nat) (down : List St1) (pre : List Val) (e : Ev)
    (he : e.isTrigger = true) (post : List Ev) :
    ((World.init (.fin (Fin.new id) :: down.map .op)).run
        (pre.map (fun v => Ev.emit (.next v)) ++ e :: post)).2 =
      ((World.init (down.map .op)).run (pre.map (fun v => Ev.emit (.next v)) ++ [e])).2 ++ [.f id] :=
  (headSim_once (headSim_init id down) pre e he post).2

/-- Before the first trigger a chain is as silent about the callback as the plain pipeline:
    items only give the log of the pipeline without `finalize` — no marker. -/
theorem C15_chain_not_before (id : Nat) (down : List St1) (pre : List Val) :
    ((World.init (.fin (Fin.new id) :: down.map .op)).run (pre.map fun v => Ev.emit (.next v))).2 =
      ((World.init (down.map .op)).run (pre.map fun v => Ev.emit (.next v))).2 ∧
    countF id ((World.init (.fin (Fin.new id) :: down.map .op)).run
      (pre.map fun v => Ev.emit (.next v))).2 = 0 := by
  obtain ⟨_, e1⟩ := headSim_items pre (headSim_init id down)
  exact ⟨e1, by rw [e1]; exact ops_no_marker id down _⟩

/-- Full-strength statement for chains: whenever the history contains a trigger, the callback
    has run exactly once — whatever operators follow `finalize`.  (FALSE of the code before `fix:
    Subject::error/complete hand the terminal to every subscriber`, see the end of this file.) -/
theorem C15_chain_full (id : Nat) (down : List St1) (evs : List Ev)
    (h : ∃ e ∈ evs, e.isTrigger = true) :
    countF id ((World.init (.fin (Fin.new id) :: down.map .op)).run evs).2 = 1 := by
  rcases C15_shapes evs with ⟨pre, rfl⟩ | ⟨pre, e, post, he, rfl⟩
  · obtain ⟨e, hm, he⟩ := h
    obtain ⟨v, _, rfl⟩ := List.mem_map.1 hm
    cases he
  · rw [C15_chain_once id down pre e he post, countF_append, ops_no_marker]
    simp [countF]

/-- Counting form: 0 runs before the first trigger (above), exactly 1 in every
    history that contains one, however it continues. -/
theorem C15_once_count (id : Nat) (pre : List Val) (e : Ev) (he : e.isTrigger = true)
    (post : List Ev) :
    countF id ((World.init [.fin (Fin.new id)]).run
      (pre.map (fun v => Ev.emit (.next v)) ++ e :: post)).2 = 1 :=
  C15_chain_full id [] _ ⟨e, List.mem_append_right _ (List.mem_cons_self ..), he⟩

/-- With operators ABOVE `finalize` as well (`up`; some of them, e.g. `on_error`, keep a terminal
    of the source away from the finalizer, so that for the finalizer's own subscription only the
    unsubscription is a trigger in general): never twice (`C15_chain_le_one`), and exactly once
    as soon as the subscription is unsubscribed — whatever happened before. -/
theorem C15_chain_unsub (id : Nat) (up down : List St1) (pre post : List Ev) :
    countF id ((World.init (up.map .op ++ .fin (Fin.new id) :: down.map .op)).run
      (pre ++ .unsub :: post)).2 = 1 := by
  rw [unsub_count id _ (.inl rfl)]
  exact one_fin_armed id up down

/-! Non-vacuity. -/
example : ((World.init [.fin (Fin.new 0)]).run
    [.emit (.next (.int 1)), .emit .complete, .emit .complete, .unsub]).2 =
    [.n (.next (.int 1)), .n .complete, .f 0] := by decide
example : ((World.init [.fin (Fin.new 0)]).run
    [.emit (.next (.int 1)), .unsub, .emit (.error 3)]).2 = [.n (.next (.int 1)), .f 0] := by decide
example : ((World.init [.fin (Fin.new 0), .op (.last none), .fin (Fin.new 1)]).run
    [.emit (.next (.int 1)), .emit (.next (.int 2)), .emit .complete]).2 =
    [.n (.next (.int 2)), .n .complete, .f 1, .f 0] := by decide
example : (Ev.emit (.error 3)).isTrigger = true ∧ Ev.unsub.isTrigger = true ∧
    (Ev.emit (.next .unit)).isTrigger = false := by decide
-- `subject.finalize(f).take(1)`: `take` completes the probe at the item; the callback runs at the
-- source's completion (and not at a later unsubscribe)
example : ((World.init [.fin (Fin.new 0), .op (.take 1 0 true)]).run
    [.emit (.next (.int 1)), .emit .complete, .unsub]).2 =
    [.n (.next (.int 1)), .n .complete, .f 0] := by decide

/-! The code BEFORE `fix: Subject::error/complete hand the terminal to every subscriber`
    (`World.runBefore`): `subject.finalize(f).take(1)`, item, complete — `take` completes the probe
    at the item; the FinalizerObserver then reported `is_finished()`, the subject filtered it out of
    its completion fan-out and dropped it: the callback never ran (unless somebody still called
    `unsubscribe`).  `C15_chain_full` was false of that code. -/
example : countF 0 ((World.init [.fin (Fin.new 0), .op (.take 1 0 true)]).runBefore
    [.emit (.next (.int 1)), .emit .complete]).2 = 0 := by decide
example : ((World.init [.fin (Fin.new 0), .op (.take 1 0 true)]).run
    [.emit (.next (.int 1)), .emit .complete]).2 = [.n (.next (.int 1)), .n .complete, .f 0] := by decide

end Rx
