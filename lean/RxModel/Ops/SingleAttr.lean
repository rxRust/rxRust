import Lean.Meta.Tactic.Simp.RegisterCommand

/-- The equations of `St1.onNext`, `St1.onError'` and `St1.onComplete'`, one per constructor
    (RxModel/Ops/Single.lean).  `simp only [st1_eqns]` unfolds one step of any observer. -/
register_simp_attr st1_eqns
