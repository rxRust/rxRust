import RxModel.Core.Notif
import RxModel.Ops.SingleAttr
/-
  One constructor of `St1` per single-input `XObserver` of rxRust, carrying the
  observer's fields (parameters included, exactly like the Rust struct does).
  `St1.step` is the transcription of `next / error / complete`; the returned list
  is what the observer passes to its downstream observer, in call order.
  `St1.finished` is `is_finished(&self)` given the downstream's answer.

  Source files: src/ops/{map,map_to,filter,filter_map,tap,on_error_map,take,
  take_while,skip,skip_while,take_last,skip_last,last,default_if_empty,scan,
  distinct,pairwise,buffer,contains,collect,on_complete,on_error}.rs
-/
namespace Rx

/-- The last `n` elements (a `VecDeque` trimmed from the front). -/
def lastN (n : Nat) (l : List Val) : List Val := l.drop (l.length - n)

inductive St1 where
  | map (f : Val → Val)
  | mapTo (v : Val)
  | filter (p : Val → Bool)
  | filterMap (f : Val → Option Val)
  | tap (calls : Nat)
  | onErrorMap (f : Err → Err)
  | onComplete (calls : Nat)
  | onError (calls : Nat)
  | take (count hits : Nat) (alive : Bool)
  | takeWhile (p : Val → Bool) (inclusive alive : Bool)
  | skip (count hits : Nat)
  | skipWhile (p : Val → Bool) (done : Bool)
  | takeLast (count : Nat) (queue : List Val)
  | skipLast (countDown : Nat) (queue : List Val)
  | last (last : Option Val)
  | defaultIfEmpty (isEmpty : Bool) (dflt : Val)
  | scan (op : Val → Val → Val) (acc : Val)
  | distinct (seen : List Val)
  | distinctKey (key : Val → Val) (seen : List Val)
  | distinctUntilChanged (last : Option Val)
  | distinctUntilKeyChanged (key : Val → Val) (last : Option Val)
  | pairwise (x y : Option Val)
  | bufferCount (count : Nat) (data : List Val)
  | contains (target : Val) (alive : Bool)
  | collect (coll : List Val)

namespace St1

/-- `Observer::next`. -/
def onNext : St1 → Val → St1 × List Notif
  | map f, v => (map f, [.next (f v)])
  | mapTo c, _ => (mapTo c, [.next c])
  | filter p, v => (filter p, if p v then [.next v] else [])
  | filterMap f, v => (filterMap f, match f v with | some w => [.next w] | none => [])
  | tap c, v => (tap (c + 1), [.next v])
  | onErrorMap f, v => (onErrorMap f, [.next v])
  | onComplete c, v => (onComplete c, [.next v])
  | onError c, v => (onError c, [.next v])
  | take count hits alive, v =>
      if hits < count then
        if alive then
          if hits + 1 = count then (take count (hits + 1) false, [.next v, .complete])
          else (take count (hits + 1) true, [.next v])
        else (take count hits alive, [])
      else (take count hits alive, [])
  | takeWhile p incl alive, v =>
      if alive then
        if p v then (takeWhile p incl true, [.next v])
        else (takeWhile p incl false, (if incl then [.next v] else []) ++ [.complete])
      else (takeWhile p incl alive, [])
  | skip count hits, v =>
      (skip count (hits + 1), if hits + 1 > count then [.next v] else [])
  | skipWhile p done, v =>
      if done then (skipWhile p true, [.next v])
      else if !p v then (skipWhile p true, [.next v])
      else (skipWhile p false, [])
  | takeLast count q, v =>
      (takeLast count (lastN count (q ++ [v])), [])
  | skipLast cd q, v =>
      let q' := q ++ [v]
      if cd = 0 then
        match q' with
        | h :: t => (skipLast 0 t, [.next h])
        | [] => (skipLast 0 [], [])
      else (skipLast (cd - 1) q', [])
  | last _, v => (last (some v), [])
  | defaultIfEmpty _ d, v => (defaultIfEmpty false d, [.next v])
  | scan op acc, v => (scan op (op acc v), [.next (op acc v)])
  | distinct seen, v =>
      if seen.contains v then (distinct seen, []) else (distinct (v :: seen), [.next v])
  | distinctKey key seen, v =>
      if seen.contains (key v) then (distinctKey key seen, [])
      else (distinctKey key (key v :: seen), [.next v])
  | distinctUntilChanged l, v =>
      if l = some v then (distinctUntilChanged l, [])
      else (distinctUntilChanged (some v), [.next v])
  | distinctUntilKeyChanged key l, v =>
      match l with
      | some w =>
        if key w = key v then (distinctUntilKeyChanged key l, [])
        else (distinctUntilKeyChanged key (some v), [.next v])
      | none => (distinctUntilKeyChanged key (some v), [.next v])
  | pairwise _ y, v =>
      (pairwise y (some v), match y with | some a => [.next (.pair a v)] | none => [])
  | bufferCount count data, v =>
      let d := data ++ [v]
      if d.length ≥ count then (bufferCount count [], [.next (Val.ofList d)])
      else (bufferCount count d, [])
  | contains target alive, v =>
      if target = v then
        if alive then (contains target false, [.next (.bool true), .complete])
        else (contains target alive, [])
      else (contains target alive, [])
  | collect coll, v => (collect (coll ++ [v]), [])

/-- `Observer::error`.  Observers that own an `Option` slot empty it. -/
def onError' : St1 → Err → St1 × List Notif
  | onErrorMap f, e => (onErrorMap f, [.error (f e)])
  | onError c, _ => (onError (c + 1), [])
  | take count hits alive, e => (take count hits false, if alive then [.error e] else [])
  | takeWhile p incl alive, e => (takeWhile p incl false, if alive then [.error e] else [])
  | contains target alive, e => (contains target false, if alive then [.error e] else [])
  | s, e => (s, [.error e])

/-- `Observer::complete`. -/
def onComplete' : St1 → St1 × List Notif
  | onComplete c => (onComplete (c + 1), [.complete])
  | take count hits alive => (take count hits false, if alive then [.complete] else [])
  | takeWhile p incl alive => (takeWhile p incl false, if alive then [.complete] else [])
  | takeLast count q => (takeLast count [], q.map .next ++ [.complete])
  | last l =>
      (last none, (match l with | some v => [.next v] | none => []) ++ [.complete])
  | defaultIfEmpty isEmpty d =>
      (defaultIfEmpty isEmpty d, (if isEmpty then [.next d] else []) ++ [.complete])
  | bufferCount count data =>
      (bufferCount count [],
        (if data.isEmpty then [] else [.next (Val.ofList data)]) ++ [.complete])
  | contains target alive =>
      (contains target false, if alive then [.next (.bool false), .complete] else [])
  | collect coll => (collect coll, [.next (Val.ofList coll), .complete])
  | s => (s, [.complete])

def step (s : St1) : Notif → St1 × List Notif
  | .next v => s.onNext v
  | .error e => s.onError' e
  | .complete => s.onComplete'

/-- `is_finished(&self)`; `down` is the downstream observer's answer. -/
def finished : St1 → Bool → Bool
  | take _ _ alive, down => !alive || down
  | takeWhile _ _ alive, down => !alive || down
  | contains _ alive, down => !alive || down
  | _, down => down

/-- Observers that keep their downstream in an `Option` slot: `some alive`. -/
def slot : St1 → Option Bool
  | take _ _ alive => some alive
  | takeWhile _ _ alive => some alive
  | contains _ alive => some alive
  | _ => none

/-- Feed a whole notification sequence, collecting the downstream calls. -/
def run (s : St1) : List Notif → St1 × List Notif
  | [] => (s, [])
  | n :: r =>
    let (s1, o1) := s.step n
    let (s2, o2) := run s1 r
    (s2, o1 ++ o2)

theorem run_append (s : St1) (a b : List Notif) :
    run s (a ++ b) = ((run (run s a).1 b).1, (run s a).2 ++ (run (run s a).1 b).2) := by
  induction a generalizing s with
  | nil => simp [run]
  | cons n r ih => simp [run, ih, List.append_assoc]

/-! The equations of `onNext`, `onError'`, `onComplete'`, one per constructor: unfolding the
    definitions themselves (`simp [onNext]`) makes Lean derive and load all of them at every call. -/
section Equations
variable (f : Val → Val) (g : Val → Option Val) (fe : Err → Err) (p : Val → Bool) (key : Val → Val)
  (op : Val → Val → Val) (c d v : Val) (e : Err) (n k : Nat) (b i : Bool) (q : List Val)
  (l y : Option Val)

@[st1_eqns] theorem onNext_map : (map f).onNext v = (map f, [.next (f v)]) := rfl
@[st1_eqns] theorem onNext_mapTo : (mapTo c).onNext v = (mapTo c, [.next c]) := rfl
@[st1_eqns] theorem onNext_filter :
    (filter p).onNext v = (filter p, if p v then [.next v] else []) := rfl
@[st1_eqns] theorem onNext_filterMap :
    (filterMap g).onNext v = (filterMap g, match g v with | some w => [.next w] | none => []) := rfl
@[st1_eqns] theorem onNext_tap : (tap n).onNext v = (tap (n + 1), [.next v]) := rfl
@[st1_eqns] theorem onNext_onErrorMap : (onErrorMap fe).onNext v = (onErrorMap fe, [.next v]) := rfl
@[st1_eqns] theorem onNext_onComplete : (onComplete n).onNext v = (onComplete n, [.next v]) := rfl
@[st1_eqns] theorem onNext_onError : (onError n).onNext v = (onError n, [.next v]) := rfl
@[st1_eqns] theorem onNext_take : (take n k b).onNext v =
    if k < n then
      if b then
        if k + 1 = n then (take n (k + 1) false, [.next v, .complete])
        else (take n (k + 1) true, [.next v])
      else (take n k b, [])
    else (take n k b, []) := rfl
@[st1_eqns] theorem onNext_takeWhile : (takeWhile p i b).onNext v =
    if b then
      if p v then (takeWhile p i true, [.next v])
      else (takeWhile p i false, (if i then [.next v] else []) ++ [.complete])
    else (takeWhile p i b, []) := rfl
@[st1_eqns] theorem onNext_skip :
    (skip n k).onNext v = (skip n (k + 1), if k + 1 > n then [.next v] else []) := rfl
@[st1_eqns] theorem onNext_skipWhile : (skipWhile p b).onNext v =
    if b then (skipWhile p true, [.next v])
    else if !p v then (skipWhile p true, [.next v])
    else (skipWhile p false, []) := rfl
@[st1_eqns] theorem onNext_takeLast :
    (takeLast n q).onNext v = (takeLast n (lastN n (q ++ [v])), []) := rfl
@[st1_eqns] theorem onNext_skipLast : (skipLast n q).onNext v =
    if n = 0 then
      match q ++ [v] with
      | h :: t => (skipLast 0 t, [.next h])
      | [] => (skipLast 0 [], [])
    else (skipLast (n - 1) (q ++ [v]), []) := rfl
@[st1_eqns] theorem onNext_last : (last l).onNext v = (last (some v), []) := rfl
@[st1_eqns] theorem onNext_defaultIfEmpty :
    (defaultIfEmpty b d).onNext v = (defaultIfEmpty false d, [.next v]) := rfl
@[st1_eqns] theorem onNext_scan : (scan op c).onNext v = (scan op (op c v), [.next (op c v)]) := rfl
@[st1_eqns] theorem onNext_distinct : (distinct q).onNext v =
    if q.contains v then (distinct q, []) else (distinct (v :: q), [.next v]) := rfl
@[st1_eqns] theorem onNext_distinctKey : (distinctKey key q).onNext v =
    if q.contains (key v) then (distinctKey key q, [])
    else (distinctKey key (key v :: q), [.next v]) := rfl
@[st1_eqns] theorem onNext_distinctUntilChanged : (distinctUntilChanged l).onNext v =
    if l = some v then (distinctUntilChanged l, [])
    else (distinctUntilChanged (some v), [.next v]) := rfl
@[st1_eqns] theorem onNext_distinctUntilKeyChanged : (distinctUntilKeyChanged key l).onNext v =
    match l with
    | some w =>
      if key w = key v then (distinctUntilKeyChanged key l, [])
      else (distinctUntilKeyChanged key (some v), [.next v])
    | none => (distinctUntilKeyChanged key (some v), [.next v]) := rfl
@[st1_eqns] theorem onNext_pairwise : (pairwise l y).onNext v =
    (pairwise y (some v), match y with | some a => [.next (.pair a v)] | none => []) := rfl
@[st1_eqns] theorem onNext_bufferCount : (bufferCount n q).onNext v =
    if (q ++ [v]).length ≥ n then (bufferCount n [], [.next (Val.ofList (q ++ [v]))])
    else (bufferCount n (q ++ [v]), []) := rfl
@[st1_eqns] theorem onNext_contains : (contains c b).onNext v =
    if c = v then
      if b then (contains c false, [.next (.bool true), .complete])
      else (contains c b, [])
    else (contains c b, []) := rfl
@[st1_eqns] theorem onNext_collect : (collect q).onNext v = (collect (q ++ [v]), []) := rfl

@[st1_eqns] theorem onError'_onErrorMap :
    (onErrorMap fe).onError' e = (onErrorMap fe, [.error (fe e)]) := rfl
@[st1_eqns] theorem onError'_onError : (onError n).onError' e = (onError (n + 1), []) := rfl
@[st1_eqns] theorem onError'_take :
    (take n k b).onError' e = (take n k false, if b then [.error e] else []) := rfl
@[st1_eqns] theorem onError'_takeWhile :
    (takeWhile p i b).onError' e = (takeWhile p i false, if b then [.error e] else []) := rfl
@[st1_eqns] theorem onError'_contains :
    (contains c b).onError' e = (contains c false, if b then [.error e] else []) := rfl

@[st1_eqns] theorem onComplete'_onComplete :
    (onComplete n).onComplete' = (onComplete (n + 1), [.complete]) := rfl
@[st1_eqns] theorem onComplete'_take :
    (take n k b).onComplete' = (take n k false, if b then [.complete] else []) := rfl
@[st1_eqns] theorem onComplete'_takeWhile :
    (takeWhile p i b).onComplete' = (takeWhile p i false, if b then [.complete] else []) := rfl
@[st1_eqns] theorem onComplete'_takeLast :
    (takeLast n q).onComplete' = (takeLast n [], q.map .next ++ [.complete]) := rfl
@[st1_eqns] theorem onComplete'_last : (last l).onComplete' =
    (last none, (match l with | some v => [.next v] | none => []) ++ [.complete]) := rfl
@[st1_eqns] theorem onComplete'_defaultIfEmpty : (defaultIfEmpty b d).onComplete' =
    (defaultIfEmpty b d, (if b then [.next d] else []) ++ [.complete]) := rfl
@[st1_eqns] theorem onComplete'_bufferCount : (bufferCount n q).onComplete' =
    (bufferCount n [], (if q.isEmpty then [] else [.next (Val.ofList q)]) ++ [.complete]) := rfl
@[st1_eqns] theorem onComplete'_contains : (contains c b).onComplete' =
    (contains c false, if b then [.next (.bool false), .complete] else []) := rfl
@[st1_eqns] theorem onComplete'_collect :
    (collect q).onComplete' = (collect q, [.next (Val.ofList q), .complete]) := rfl

/-! Every other observer passes the terminal on and keeps its state. -/
@[st1_eqns] theorem onError'_map : (map f).onError' e = (map f, [.error e]) := rfl
@[st1_eqns] theorem onError'_mapTo : (mapTo c).onError' e = (mapTo c, [.error e]) := rfl
@[st1_eqns] theorem onError'_filter : (filter p).onError' e = (filter p, [.error e]) := rfl
@[st1_eqns] theorem onError'_filterMap : (filterMap g).onError' e = (filterMap g, [.error e]) := rfl
@[st1_eqns] theorem onError'_tap : (tap n).onError' e = (tap n, [.error e]) := rfl
@[st1_eqns] theorem onError'_onComplete : (onComplete n).onError' e = (onComplete n, [.error e]) := rfl
@[st1_eqns] theorem onError'_skip : (skip n k).onError' e = (skip n k, [.error e]) := rfl
@[st1_eqns] theorem onError'_skipWhile : (skipWhile p b).onError' e = (skipWhile p b, [.error e]) := rfl
@[st1_eqns] theorem onError'_takeLast : (takeLast n q).onError' e = (takeLast n q, [.error e]) := rfl
@[st1_eqns] theorem onError'_skipLast : (skipLast n q).onError' e = (skipLast n q, [.error e]) := rfl
@[st1_eqns] theorem onError'_last : (last l).onError' e = (last l, [.error e]) := rfl
@[st1_eqns] theorem onError'_defaultIfEmpty : (defaultIfEmpty b d).onError' e = (defaultIfEmpty b d, [.error e]) := rfl
@[st1_eqns] theorem onError'_scan : (scan op c).onError' e = (scan op c, [.error e]) := rfl
@[st1_eqns] theorem onError'_distinct : (distinct q).onError' e = (distinct q, [.error e]) := rfl
@[st1_eqns] theorem onError'_distinctKey : (distinctKey key q).onError' e = (distinctKey key q, [.error e]) := rfl
@[st1_eqns] theorem onError'_distinctUntilChanged : (distinctUntilChanged l).onError' e = (distinctUntilChanged l, [.error e]) := rfl
@[st1_eqns] theorem onError'_distinctUntilKeyChanged : (distinctUntilKeyChanged key l).onError' e = (distinctUntilKeyChanged key l, [.error e]) := rfl
@[st1_eqns] theorem onError'_pairwise : (pairwise l y).onError' e = (pairwise l y, [.error e]) := rfl
@[st1_eqns] theorem onError'_bufferCount : (bufferCount n q).onError' e = (bufferCount n q, [.error e]) := rfl
@[st1_eqns] theorem onError'_collect : (collect q).onError' e = (collect q, [.error e]) := rfl
@[st1_eqns] theorem onComplete'_map : (map f).onComplete' = (map f, [.complete]) := rfl
@[st1_eqns] theorem onComplete'_mapTo : (mapTo c).onComplete' = (mapTo c, [.complete]) := rfl
@[st1_eqns] theorem onComplete'_filter : (filter p).onComplete' = (filter p, [.complete]) := rfl
@[st1_eqns] theorem onComplete'_filterMap : (filterMap g).onComplete' = (filterMap g, [.complete]) := rfl
@[st1_eqns] theorem onComplete'_tap : (tap n).onComplete' = (tap n, [.complete]) := rfl
@[st1_eqns] theorem onComplete'_onErrorMap : (onErrorMap fe).onComplete' = (onErrorMap fe, [.complete]) := rfl
@[st1_eqns] theorem onComplete'_onError : (onError n).onComplete' = (onError n, [.complete]) := rfl
@[st1_eqns] theorem onComplete'_skip : (skip n k).onComplete' = (skip n k, [.complete]) := rfl
@[st1_eqns] theorem onComplete'_skipWhile : (skipWhile p b).onComplete' = (skipWhile p b, [.complete]) := rfl
@[st1_eqns] theorem onComplete'_skipLast : (skipLast n q).onComplete' = (skipLast n q, [.complete]) := rfl
@[st1_eqns] theorem onComplete'_scan : (scan op c).onComplete' = (scan op c, [.complete]) := rfl
@[st1_eqns] theorem onComplete'_distinct : (distinct q).onComplete' = (distinct q, [.complete]) := rfl
@[st1_eqns] theorem onComplete'_distinctKey : (distinctKey key q).onComplete' = (distinctKey key q, [.complete]) := rfl
@[st1_eqns] theorem onComplete'_distinctUntilChanged : (distinctUntilChanged l).onComplete' = (distinctUntilChanged l, [.complete]) := rfl
@[st1_eqns] theorem onComplete'_distinctUntilKeyChanged : (distinctUntilKeyChanged key l).onComplete' = (distinctUntilKeyChanged key l, [.complete]) := rfl
@[st1_eqns] theorem onComplete'_pairwise : (pairwise l y).onComplete' = (pairwise l y, [.complete]) := rfl

end Equations

/-- The observer owns an `Option` slot and it has been emptied. -/
def dead (s : St1) : Bool := s.slot == some false

/-! Every observer keeps the stream grammar, from every state: what one call hands on is well
    formed, a terminal in it empties the observer's `Option` slot (only `take`, `take_while`,
    `contains` own one and emit a terminal by themselves), and an emptied slot ignores every call. -/

theorem onNext_disciplined (s : St1) (v : Val) :
    WF (s.onNext v).2 ∧ (terminated (s.onNext v).2 = true → (s.onNext v).1.dead = true) := by
  -- one goal per branch of `onNext`; an `if`/`match` inside the emitted list is split by hand
  fun_cases St1.onNext s v <;> (repeat' split) <;> simp_all [terminated, slot, dead]

theorem onError_wf (s : St1) (e : Err) : WF (s.onError' e).2 := by
  cases s
  case onError c => exact True.intro
  case take c k al => cases al; exact True.intro; exact rfl
  case takeWhile p i al => cases al; exact True.intro; exact rfl
  case contains t al => cases al; exact True.intro; exact rfl
  all_goals exact rfl

theorem onComplete_wf (s : St1) : WF (s.onComplete').2 := by
  cases s
  case take c k al => cases al; exact True.intro; exact rfl
  case takeWhile p i al => cases al; exact True.intro; exact rfl
  case contains t al => cases al; exact True.intro; exact rfl
  case takeLast c q => exact (WF_nexts_append q _).2 rfl
  case last l => cases l <;> exact rfl
  case defaultIfEmpty b d => cases b <;> exact rfl
  case bufferCount c d => cases d <;> exact rfl
  all_goals exact rfl

theorem step_of_dead (s : St1) (h : s.dead = true) (n : Notif) : s.step n = (s, []) := by
  have h : s.slot = some false := beq_iff_eq.1 h
  cases s
  case take c k al => cases h; cases n <;> simp [step, st1_eqns]
  case takeWhile p i al => cases h; cases n <;> simp [step, st1_eqns]
  case contains t al => cases h; cases n <;> simp [step, st1_eqns]
  all_goals cases h

theorem run_of_dead (s : St1) (h : s.dead = true) (X : List Notif) : s.run X = (s, []) := by
  induction X with
  | nil => rfl
  | cons n r ih => simp only [run, step_of_dead s h n, ih, List.append_nil]

end St1

/-- A chain of single-input observers, source side first: the output of each is
    the input of the next (`Machine.cascade` of the design). -/
def runChain : List St1 → List Notif → List St1 × List Notif
  | [], s => ([], s)
  | o :: os, s =>
    let (o', out) := o.run s
    let (os', out') := runChain os out
    (o' :: os', out')

end Rx
