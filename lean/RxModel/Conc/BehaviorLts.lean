import RxModel.Conc.DLts
/-
  Conc/BehaviorLts.lean — `BehaviorSubject<_, SubjectThreads>` with concurrent
  producers (C12, threads clause).

  src/subject/behavior_subject.rs:26-29
      fn next(&mut self, value: Item) {
        *self.value.rc_deref_mut() = value.clone();     // section of the value cell, released at `;`
        Observer::next(&mut self.subject, value);       // section of the observers cell
      }
  Two separate critical sections.  Cell 0 = value cell, cell 1 = observers cell
  (the chamber/slot cells inside the broadcast section do not matter here).
  `atom x` = the store of `x`; `cb 0 x` = the delivery of `x` to the subscriber(s)
  inside the broadcast section — `log` is the common order all subscribers
  observe (C10_common_order / C06_threads).
-/
namespace Rx.Conc.Behavior

structure D where
  value : Nat
  log : List Nat
  deriving DecidableEq, Repr

def sem (_ : Tid) (a : Act) (d : D) : D :=
  match a with
  | .atom x => { d with value := x }
  | .cb _ x => { d with log := d.log ++ [x] }
  | _ => d

/-- `next(x)` on the behaviour subject. -/
def next (x : Nat) : List Act := sect 0 [.atom x] ++ sect 1 [.cb 0 x]

/-- Two producers: thread 0 emits 1, thread 1 emits 2. -/
def progs2 : List (List Act) := [next 1, next 2]

def d0 (init : Nat) : D := ⟨init, []⟩

theorem fold_next (x : Nat) (d : D) :
    (next x).foldl (fun d a => sem 0 a d) d = ⟨x, d.log ++ [x]⟩ := rfl

/-- The effect of a script of `next`s executed by one thread. -/
theorem fold_script (xs : List Nat) : ∀ (d : D),
    (xs.flatMap next).foldl (fun d a => sem 0 a d) d =
      ⟨(xs.getLast?).getD d.value, d.log ++ xs⟩ := by
  induction xs with
  | nil => intro d; simp
  | cons x xs ih =>
    intro d
    -- the last item of `x :: xs` is the last of `xs`, or `x` if there is none
    rw [List.flatMap_cons, List.foldl_append, fold_next, ih, List.getLast?_cons]
    simp

end Rx.Conc.Behavior
