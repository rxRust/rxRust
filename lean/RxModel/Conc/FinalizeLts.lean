import RxModel.Conc.DLts
/-
  Conc/FinalizeLts.lean — `finalize_threads` under a race (C15, threads clause).

  src/ops/finalize.rs:
    FinalizerObserver::error/complete (69-81):
        self.observer.complete();
        if let Some(func) = self.func.rc_deref_mut().take() { func() }
    FinalizerSubscription::unsubscribe (100-105):
        self.subscription.unsubscribe();
        if let Some(func) = self.func.rc_deref_mut().take() { func() }
  `func : MutArc<Option<F>>` is shared by the observer and the subscription.  The
  guard temporary of the scrutinee lives for the body of the `if let`, so
  `take()` and the call `func()` are inside one section of the `func` cell.

  Cell 0 = the `func` cell.  `atom 0` = `take()` (thread-local result `took t`),
  `atom 1` = `func()` if the take returned `Some`.  `cb 0 0` = the downstream
  terminal delivered first by the terminating thread; `atom 2` = the inner
  `subscription.unsubscribe()` done first by the unsubscribing thread.
-/
namespace Rx.Conc.Finalize

structure D where
  func : Bool
  took : Tid → Bool
  runs : Nat

def d0 : D := ⟨true, fun _ => false, 0⟩

def sem (t : Tid) (a : Act) (d : D) : D :=
  match a with
  | .atom 0 => { d with took := upd d.took t d.func, func := false }
  | .atom 1 => if d.took t then { d with runs := d.runs + 1 } else d
  | _ => d

/-- The func-cell section. -/
def takeAndRun : List Act := sect 0 [.atom 0, .atom 1]

/-- Thread 0: terminal (`complete`/`error`); thread 1: `unsubscribe`. -/
def progs2 : List (List Act) := [ .cb 0 0 :: takeAndRun, .atom 2 :: takeAndRun ]

/-- Three racing triggers: terminal, unsubscribe, and a second unsubscribe/terminal
    through a cloned handle. -/
def progs3 : List (List Act) := [ .cb 0 0 :: takeAndRun, .atom 2 :: takeAndRun, .atom 2 :: takeAndRun ]

/-! Typestate of the remaining program of a racing trigger.  Only `atom 0` / `atom 1`
    touch the data; whatever else a trigger does first or last is arbitrary. -/

/-- Neither `take()` nor the call is still to come. -/
def after : List Act → Bool
  | [] => true
  | a :: p => a != .atom 0 && a != .atom 1 && after p

/-- The take is done, the call is next. -/
def mid : List Act → Bool
  | [] => false
  | a :: p => a == .atom 1 && after p

/-- The take is still to come, directly followed by the call, once. -/
def before : List Act → Bool
  | [] => false
  | a :: p => if a = .atom 0 then mid p else a != .atom 1 && before p

theorem sem_other {a : Act} (h0 : a ≠ .atom 0) (h1 : a ≠ .atom 1) (t : Tid) (d : D) :
    sem t a d = d := by
  unfold sem
  split
  · exact (h0 rfl).elim
  · exact (h1 rfl).elim
  · rfl

/-- Once `func` is gone, a thread that did not get it changes nothing. -/
theorem sem_idle {d : D} {t : Tid} (hf : d.func = false) (ht : d.took t = false) (a : Act) :
    sem t a d = d := by
  by_cases h0 : a = .atom 0
  · subst h0
    have : upd d.took t d.func = d.took := by rw [hf, ← ht, upd_self]
    simp only [sem, this, ← hf]
  · by_cases h1 : a = .atom 1
    · subst h1; simp [sem, ht]
    · exact sem_other h0 h1 t d

theorem after_cons {a : Act} {p : List Act} (h : after (a :: p) = true) :
    a ≠ .atom 0 ∧ a ≠ .atom 1 ∧ after p = true := by
  simpa [after, and_assoc] using h

theorem before_cons {a : Act} {p : List Act} (h0 : a ≠ .atom 0) (h : before (a :: p) = true) :
    a ≠ .atom 1 ∧ before p = true := by
  simpa [before, h0] using h

/-- `take()` is one step, so the lock plays no part: either nobody has taken yet
    (`func` is there, some trigger has not fired), or exactly one thread `t0` got
    `func` and is about to call it (`runs = 0`) or has called it (`runs = 1`). -/
def Phase (prog : Tid → List Act) (d : D) : Prop :=
  (d.func = true ∧ d.runs = 0 ∧ (∀ t, d.took t = false ∧ (before (prog t) ∨ after (prog t))) ∧
      ∃ t, before (prog t)) ∨
  (d.func = false ∧ ∃ t0, d.took t0 = true ∧ (∀ t, t ≠ t0 → d.took t = false) ∧
      ((d.runs = 0 ∧ mid (prog t0)) ∨ (d.runs = 1 ∧ after (prog t0))))

theorem Phase.step {prog : Tid → List Act} {d : D} {t : Tid} {a : Act} {p : List Act}
    (h : Phase prog d) (hp : prog t = a :: p) : Phase (upd prog t p) (sem t a d) := by
  rcases h with ⟨hf, hr, hall, t1, ht1⟩ | ⟨hf, t0, ht0, hoth, hph⟩
  · have hba := (hall t).2
    rw [hp] at hba
    by_cases h0 : a = .atom 0
    · subst h0
      have hm : mid p = true := by simpa [before, after] using hba
      -- `t` takes `func`: it is the one taker, nobody else took, and its call is next
      have htook : (sem t (.atom 0) d).took t = true := by simp [sem, hf]
      have hothers : ∀ t', t' ≠ t → (sem t (.atom 0) d).took t' = false := fun t' ht' => by
        simp [sem, ht', (hall t').1]
      have hmid : mid (upd prog t p t) = true := by simpa using hm
      exact .inr ⟨rfl, t, htook, hothers, .inl ⟨hr, hmid⟩⟩
    · have hba' : a ≠ .atom 1 ∧ (before p ∨ after p) := hba.elim
        (fun hb => ⟨(before_cons h0 hb).1, .inl (before_cons h0 hb).2⟩)
        (fun ha => ⟨(after_cons ha).2.1, .inr (after_cons ha).2.2⟩)
      rw [sem_other h0 hba'.1]
      refine .inl ⟨hf, hr, fun t' => ⟨(hall t').1, ?_⟩, t1, ?_⟩
      · by_cases ht' : t' = t
        · subst ht'; simpa using hba'.2
        · simpa [ht'] using (hall t').2
      · by_cases ht' : t1 = t
        · subst ht'
          simpa using (before_cons h0 (hp ▸ ht1)).2
        · simpa [ht'] using ht1
  · by_cases htt : t = t0
    · subst htt
      rw [hp] at hph
      rcases hph with ⟨hr, hm⟩ | ⟨hr, ha⟩
      · obtain ⟨rfl, ha⟩ : a = .atom 1 ∧ after p = true := by simpa [mid] using hm
        have hs : sem t (.atom 1) d = { d with runs := d.runs + 1 } := by simp [sem, ht0]
        rw [hs]
        exact .inr ⟨hf, t, ht0, hoth, .inr ⟨by simp [hr], by simpa using ha⟩⟩
      · obtain ⟨h0, h1, ha⟩ := after_cons ha
        rw [sem_other h0 h1]
        exact .inr ⟨hf, t, ht0, hoth, .inr ⟨hr, by simpa using ha⟩⟩
    · rw [sem_idle hf (hoth t htt)]
      exact .inr ⟨hf, t0, ht0, hoth, by simpa [upd_other _ _ (Ne.symm htt)] using hph⟩

theorem Phase.run {s s' : DState D} {ts : List Tid} (r : DRun sem s ts s')
    (h : Phase s.l.prog s.d) : Phase s'.l.prog s'.d := by
  induction r with
  | nil => exact h
  | cons st _ ih =>
    cases st with
    | mk hp st' =>
      exact ih ((st'.inv hp).1 ▸ h.step hp)

/-- **Any number of racing triggers** (terminals, unsubscribes through any number
    of cloned handles): under every schedule the callback has run at most once
    at every moment, and exactly once when all calls have returned. -/
theorem once {progs : List (List Act)} (hb : ∀ p ∈ progs, before p = true) (hne : progs ≠ [])
    {ts : List Tid} {s' : DState D} (r : DRun sem ⟨mkState progs, d0⟩ ts s') :
    s'.d.runs ≤ 1 ∧ ((∀ t, s'.l.prog t = []) → s'.d.runs = 1) := by
  have h0 : Phase (mkState progs).prog d0 := by
    refine .inl ⟨rfl, rfl, fun t => ⟨rfl, ?_⟩, 0, ?_⟩
    · exact getD_all (P := fun p => before p = true ∨ after p = true) (.inr rfl)
        (fun p hp => .inl (hb p hp)) t
    · cases progs with
      | nil => exact (hne rfl).elim
      | cons p _ => exact hb p List.mem_cons_self
  rcases Phase.run r h0 with ⟨_, hr, _, t1, ht1⟩ | ⟨_, t0, _, _, ⟨hr, hm⟩ | ⟨hr, _⟩⟩
  · exact ⟨hr ▸ Nat.zero_le 1, fun hd => by rw [hd t1] at ht1; cases ht1⟩
  · exact ⟨hr ▸ Nat.zero_le 1, fun hd => by rw [hd t0] at hm; cases hm⟩
  · exact ⟨Nat.le_of_eq hr, fun _ => hr⟩

end Rx.Conc.Finalize

