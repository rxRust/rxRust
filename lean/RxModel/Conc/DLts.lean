import RxModel.Conc.Exec
/-
  Conc/DLts.lean — the lock LTS with shared data, for the small concrete systems
  (finalize, behaviour subject, complete_status, task handle, subscriber slot).
  Finalize argues by an invariant over `DRun`, the behaviour subject by
  `single_thread_run`; the task handle, the subscriber slot and complete_status
  go through the enumeration below.

  The lock part is exactly `Lts.Step`; on top of it every executed action `a` of
  thread `t` transforms the shared data `d : σ` by `sem t a` (branches of the Rust
  code are data-dependent no-ops; thread-local variables live in `σ` indexed by
  the thread).  Statements quantify over all schedules (`DRun`).  For systems
  with finitely many, concretely given programs, `visited` enumerates every
  state of every schedule and `visited_sound` proves the enumeration complete,
  so a universally quantified statement reduces to a finite check.
-/
namespace Rx.Conc

structure DState (σ : Type) where
  l : State
  d : σ

/-- One step of thread `t`: a lock-level step, and the data effect of the action. -/
inductive DStep {σ : Type} (sem : Tid → Act → σ → σ) : DState σ → Tid → DState σ → Prop where
  | mk {l l' : State} {d : σ} {t : Tid} {a : Act} {p : List Act} :
      l.prog t = a :: p → Step l t l' → DStep sem ⟨l, d⟩ t ⟨l', sem t a d⟩

/-- Execution along a schedule. -/
inductive DRun {σ : Type} (sem : Tid → Act → σ → σ) : DState σ → List Tid → DState σ → Prop where
  | nil {s : DState σ} : DRun sem s [] s
  | cons {s s1 s2 : DState σ} {t : Tid} {ts : List Tid} :
      DStep sem s t s1 → DRun sem s1 ts s2 → DRun sem s (t :: ts) s2

/-- The lock-level projection of a data run is a run of the LTS: everything
    proved in `Lts.lean` (mutual exclusion, no deadlock) applies. -/
theorem DRun.erase {σ : Type} {sem : Tid → Act → σ → σ} {s s' : DState σ} {ts : List Tid}
    (r : DRun sem s ts s') : Run s.l ts s'.l := by
  induction r with
  | nil => exact Run.nil
  | cons st _ ih => cases st with | mk _ st' => exact Run.cons st' ih

def dstep? {σ : Type} (sem : Tid → Act → σ → σ) (l : State) (d : σ) (t : Tid) :
    Option (State × σ) :=
  match l.prog t with
  | [] => none
  | a :: _ => match step? l t with
    | none => none
    | some l' => some (l', sem t a d)

theorem dstep?_complete {σ : Type} {sem : Tid → Act → σ → σ} {l l' : State} {d d' : σ} {t : Tid}
    (st : DStep sem ⟨l, d⟩ t ⟨l', d'⟩) : dstep? sem l d t = some (l', d') := by
  cases st with
  | mk hp st' => simp [dstep?, hp, step?_complete st']

theorem dstep?_sound {σ : Type} {sem : Tid → Act → σ → σ} {l l' : State} {d d' : σ} {t : Tid}
    (h : dstep? sem l d t = some (l', d')) : DStep sem ⟨l, d⟩ t ⟨l', d'⟩ := by
  unfold dstep? at h
  split at h
  · cases h
  · rename_i a p hp
    cases hs : step? l t with
    | none => rw [hs] at h; cases h
    | some l1 =>
      rw [hs] at h
      cases h
      exact DStep.mk hp (step?_sound hs)

def dexec {σ : Type} (sem : Tid → Act → σ → σ) : State → σ → List Tid → Option (State × σ)
  | l, d, [] => some (l, d)
  | l, d, t :: ts => match dstep? sem l d t with
    | none => none
    | some (l', d') => dexec sem l' d' ts

theorem dexec_sound {σ : Type} {sem : Tid → Act → σ → σ} :
    ∀ {ts : List Tid} {l l' : State} {d d' : σ},
      dexec sem l d ts = some (l', d') → DRun sem ⟨l, d⟩ ts ⟨l', d'⟩
  | [], l, l', d, d', h => by simp [dexec] at h; obtain ⟨rfl, rfl⟩ := h; exact DRun.nil
  | t :: ts, l, l', d, d', h => by
    simp only [dexec] at h
    cases hs : dstep? sem l d t with
    | none => rw [hs] at h; cases h
    | some x =>
      obtain ⟨l1, d1⟩ := x
      rw [hs] at h
      exact DRun.cons (dstep?_sound hs) (dexec_sound h)

/-- As `exec_run`: the end state of an executable schedule, not written out. -/
theorem dexec_run {σ : Type} {sem : Tid → Act → σ → σ} {l : State} {d : σ} {ts : List Tid}
    (h : (dexec sem l d ts).isSome = true) :
    DRun sem ⟨l, d⟩ ts ⟨((dexec sem l d ts).getD (l, d)).1, ((dexec sem l d ts).getD (l, d)).2⟩ :=
  dexec_sound (by cases hx : dexec sem l d ts with | none => rw [hx] at h; cases h | some _ => rfl)

/-- All threads `< n` are finished. -/
def done? (n : Nat) (l : State) : Bool := (List.range n).all fun t => (l.prog t).isEmpty

theorem done?_iff {n : Nat} {l : State} (hs : Support n l) :
    done? n l = true ↔ ∀ t, l.prog t = [] := by
  simp only [done?, List.all_eq_true, List.mem_range, List.isEmpty_iff]
  constructor
  · intro h t
    by_cases ht : t < n
    · exact h t ht
    · exact hs t (Nat.le_of_not_lt ht)
  · intro h t _; exact h t

/-- Every (finished?, data) pair of every state reachable within `fuel` steps,
    for threads `0 … n-1`. -/
def visited {σ : Type} (sem : Tid → Act → σ → σ) (n : Nat) : Nat → State → σ → List (Bool × σ)
  | 0, l, d => [(done? n l, d)]
  | f + 1, l, d => (done? n l, d) ::
      (List.range n).flatMap fun t => match dstep? sem l d t with
        | none => []
        | some (l', d') => visited sem n f l' d'

theorem visited_self {σ : Type} (sem : Tid → Act → σ → σ) (n f : Nat) (l : State) (d : σ) :
    (done? n l, d) ∈ visited sem n f l d := by
  cases f <;> simp [visited]

/-- **The enumeration is complete**: with fuel at least the total program length,
    the end state of *every* schedule is in `visited`. -/
theorem visited_sound {σ : Type} {sem : Tid → Act → σ → σ} {n : Nat} :
    ∀ {ts : List Tid} {f : Nat} {s s' : DState σ}, Support n s.l → size n s.l ≤ f →
      DRun sem s ts s' → (done? n s'.l, s'.d) ∈ visited sem n f s.l s.d
  | [], f, s, s', _, _, r => by cases r; exact visited_self ..
  | t :: ts, f, s, s', hs, hf, r => by
    cases r with
    | @cons _ s1 _ _ _ st r' =>
      obtain ⟨l, d⟩ := s
      obtain ⟨l1, d1⟩ := s1
      have st' : Step l t l1 := by cases st with | mk _ h => exact h
      have hlt : t < n := hs.tid_lt st'
      have hsz : size n l1 + 1 = size n l := step_size hs st'
      -- `hf` speaks of `(⟨l, d⟩ : DState σ).l`: restate it about `l` for `omega`
      have hf : size n l ≤ f := hf
      cases f with
      | zero => omega
      | succ f =>
        have hf1 : size n l1 ≤ f := by omega
        have ih := visited_sound (f := f) (s := ⟨l1, d1⟩) (hs.step st') hf1 r'
        simp only [visited, List.mem_cons, List.mem_flatMap, List.mem_range]
        refine Or.inr ⟨t, hlt, ?_⟩
        rw [dstep?_complete st]
        exact ih

/-- The reduction used by the concrete systems: a property of all pairs in
    `visited` holds at the end of every schedule. -/
theorem all_schedules {σ : Type} {sem : Tid → Act → σ → σ} {progs : List (List Act)} {d0 : σ}
    {P : Bool → σ → Prop} (f : Nat) (hf : size progs.length (mkState progs) ≤ f)
    (hall : ∀ x ∈ visited sem progs.length f (mkState progs) d0, P x.1 x.2)
    {ts : List Tid} {s' : DState σ} (r : DRun sem ⟨mkState progs, d0⟩ ts s') :
    P (done? progs.length s'.l) s'.d :=
  hall _ (visited_sound (s := ⟨mkState progs, d0⟩) (mkState_support progs) hf r)

theorem DRun.support {σ : Type} {sem : Tid → Act → σ → σ} {n : Nat} {s s' : DState σ}
    {ts : List Tid} (hs : Support n s.l) (r : DRun sem s ts s') : Support n s'.l :=
  hs.run r.erase

/-- If only thread `t0` has work, a run that finishes it computes the fold of
    the data effects along its program, whatever the schedule. -/
theorem single_thread_run {σ : Type} {sem : Tid → Act → σ → σ} {t0 : Tid} :
    ∀ {ts : List Tid} {s s' : DState σ}, (∀ t, t ≠ t0 → s.l.prog t = []) →
      DRun sem s ts s' → s'.l.prog t0 = [] →
      s'.d = (s.l.prog t0).foldl (fun d a => sem t0 a d) s.d
  | [], s, s', _, r, hd => by cases r; rw [hd]; rfl
  | t :: ts, s, s', ho, r, hd => by
    cases r with
    | @cons _ s1 _ _ _ st r' =>
      cases st with
      | @mk l l1 d _ a p hp st' =>
        have ht : t = t0 := by
          apply Classical.byContradiction
          intro hne
          have : l.prog t = [] := ho t hne
          rw [this] at hp; cases hp
        subst ht
        have he := (st'.inv hp).1
        have ho1 : ∀ t', t' ≠ t → l1.prog t' = [] := by
          intro t' hne
          rw [he, upd_other _ _ hne]
          exact ho t' hne
        have ih := single_thread_run (s := ⟨l1, sem t a d⟩) ho1 r' hd
        rw [ih]
        simp only [he, upd_same, hp, List.foldl_cons]

end Rx.Conc
