import RxModel.Conc.DLts
/-
  Conc/HandleLts.lean — cancellation against a running delivery: the task handle
  (C19_threads_wait) and the subscriber slot (C02_threads).  Same shape: a guard
  variable `g` under one mutex (cell 0).

  Task handle, src/scheduler.rs
    Remote::poll (249-264):
        let mut info = this.handle_info.rc_deref_mut();       -- acq 0 (guard lives to the end of poll)
        if !info.keep_running { return Poll::Ready(()) }       -- atom 0   run := g
        info.value = Some(ready!(this.future.poll(cx)));       -- atom 1 / atom 2: the task body starts / ends
    TaskHandle::unsubscribe (195-220):
        let mut inner = self.0.rc_deref_mut();                 -- acq 0
        inner.keep_running = false; inner.value.take();        -- atom 3   g := false
      }                                                        -- rel 0, then the call returns: atom 4

  Subscriber slot, src/observer.rs:110-137 + src/subscriber.rs:67-71
    next      `if let Some(o) = &mut *self.rc_deref_mut() { o.next(v) }`   -- acq 0; atom 0; atom 1 … atom 2; rel 0
    complete  `if let Some(o) = self.rc_deref_mut().take() { o.complete() }` -- acq 0; atom 5 (run := g; g := false); atom 1 … atom 2; rel 0
    unsubscribe `self.0.rc_deref_mut().take();`                             -- acq 0; atom 3; rel 0; return: atom 4

  Events in `log`: 0 = callback/task body starts, 1 = it ends, 2 = `unsubscribe()` has returned.
-/
namespace Rx.Conc.Handle

structure D where
  g : Bool            -- keep_running / slot is `Some`
  run : Bool          -- local to the delivering thread: the check said "go"
  log : List Nat
  deriving DecidableEq, Repr

def d0 : D := ⟨true, false, []⟩

def sem (_ : Tid) (a : Act) (d : D) : D :=
  match a with
  | .atom 0 => { d with run := d.g }
  | .atom 5 => { d with run := d.g, g := false }
  | .atom 1 => if d.run then { d with log := d.log ++ [0] } else d
  | .atom 2 => if d.run then { d with log := d.log ++ [1] } else d
  | .atom 3 => { d with g := false }
  | .atom 4 => { d with log := d.log ++ [2] }
  | _ => d

/-- One `Remote::poll` / one `next` through the slot. -/
def poll : List Act := sect 0 [.atom 0, .atom 1, .atom 2]
/-- A terminal through the slot (`take()` then call). -/
def deliverTerm : List Act := sect 0 [.atom 5, .atom 1, .atom 2]
/-- `unsubscribe()`, then the return event. -/
def unsub : List Act := sect 0 [.atom 3] ++ [.atom 4]

/-- C19: the executor polls the task twice (a task that is pending then ready, or
    a repeating task); another thread cancels. -/
def taskSys : List (List Act) := [poll ++ poll, unsub]

/-- C02: the emitter sends two items and a completion; another thread unsubscribes. -/
def slotSys : List (List Act) := [poll ++ poll ++ deliverTerm, unsub]

/-- No start/end event after an `unsub_return` event. -/
def quiet (log : List Nat) : Bool := (log.dropWhile (· ≠ 2)).all (· = 2)

/-- The fuel is the total program length, which is what `all_schedules` asks for. -/
theorem visitedTask : ∀ x ∈ visited sem taskSys.length (size taskSys.length (mkState taskSys))
    (mkState taskSys) d0, quiet x.2.log = true := by
  decide +kernel

theorem visitedSlot : ∀ x ∈ visited sem slotSys.length (size slotSys.length (mkState slotSys))
    (mkState slotSys) d0, quiet x.2.log = true := by
  decide +kernel

/-- Control: the same code without the mutex. -/
def unlockedSys : List (List Act) := [[.atom 0, .atom 1, .atom 2], [.atom 3, .atom 4]]

end Rx.Conc.Handle
