import RxModel.Conc.Exec
/-
  Conc/Footprint.lean — which lock programs the operations of the thread-safe
  (`MutArc`) building blocks of rxRust are, and the proof that all of them are
  `Ranked []` (nested, rank-increasing) for every pipeline shape.

  Reading rule (src/rc.rs:68-95): `MutArc::rc_deref{,_mut}()` is
  `self.0.lock().unwrap()`; the returned `MutexGuard` lives
    * to the end of the enclosing block when bound with `let`,
    * to the end of the *statement* when it is a temporary — and for
      `if let Some(o) = x.rc_deref_mut().take() { BODY }` the scrutinee
      temporary lives until the end of `BODY`.
  A call to the downstream observer made while a guard lives is *inside* that
  section.  Over-approximation is allowed (data-dependent early exits only
  remove events), under-approximation is not.

  Cell numbering.  A `Shape` describes what is *downstream* of a delivery point.
  `deliver kd n k d` is the program run by a thread that delivers notification
  `n` into a stage of shape `d` whose first cell is `k`; the cells of `d` are
  numbered in pre-order (DFS) from `k`.  On a chain this is the depth from the
  source side; on a tree (a subject fans out) it refines depth: every cell has a
  larger number than every cell upstream of it, and siblings get disjoint ranges.
  The number is the rank (`Lts.lean`).

  Per building block, the Rust lines that justify the nesting are quoted at the
  constructor of `Shape` / the clause of `deliver` / `opAt`.
-/
namespace Rx.Conc

/-- Kind of a delivery: an item, a terminal (`term true` = `error`, `term false` =
    `complete`: the same lock skeleton everywhere but in `delay_threads`, which
    forwards `error` at once and schedules `complete`), or the `is_finished()`
    query that travels the same way. -/
inductive Kind where
  | next | term (err : Bool) | fin
  deriving DecidableEq, Repr

mutual
/-- What is downstream of a delivery point. -/
inductive Shape where
  /-- The user's observer; `cb u n` is its callback.  No lock of its own. -/
  | leaf (u : Nat)
  /-- A lock-free stage (map, filter, scan, StatusObserver, … : they own their
      state by value and call `self.observer.…` directly). -/
  | plain (d : Shape)
  /-- A `MutArc<Option<O>>` gate in front of `d`: `SubscriberThreads`
      (src/subscriber.rs:10,47-62), `take_until_threads`' shared `main_observer`
      (src/ops/take_until.rs:47-55,82-84: the source feeds the slot, the notifier
      calls `main_observer.clone().complete()` on the same slot), the observer
      slot of `delay_threads`/`observe_on_threads`.
      `impl_rc_observer!(MutArc)` src/observer.rs:110-137:
        next      `if let Some(o) = &mut *self.rc_deref_mut() { o.next(value) }`
        error     `if let Some(o) = self.rc_deref_mut().take() { o.error(err) }`
        complete  likewise; `is_finished`: `self.rc_deref().as_ref().map_or(true, |o| o.is_finished())`
      — in all four the guard temporary is alive during the downstream call:
      slot ▸ downstream. -/
  | slot (d : Shape)
  /-- The shared observer cell of `merge_threads` (src/ops/merge.rs:57-83:
      `let mut inner = self.rc_deref_mut(); … observer.next(value)`),
      `zip_threads` (src/ops/zip.rs:73-112), `combine_latest_threads`
      (src/ops/combine_latest.rs:114-150) and the `ObserverData` cell of
      `merge_all_threads` on its inner-`next`/`error` and outer-`error`/`complete`
      paths (src/ops/merge_all.rs:150-160,215-230): cell ▸ downstream. -/
  | cell (d : Shape)
  /-- `finalize_threads` (src/ops/finalize.rs:69-81): terminal = downstream first,
      *then* `if let Some(func) = self.func.rc_deref_mut().take() { func() }`
      (the callback runs under the `func` cell); `next`/`is_finished` forward. -/
  | fin (d : Shape)
  /-- `SubjectThreads` (src/subject.rs) with its current subscribers, each behind
      its own `SubscriberThreads` slot.  Cells: observers `k`, chamber `k+1`.
        load (129-133)   `if let Some(observers) = self.observers.rc_deref_mut().as_mut()
                            { observers.append(self.chamber.rc_deref_mut().as_mut().unwrap()) }`
                         observers ▸ chamber
        next (162-169)   load; `if let Some(observers) = self.observers.rc_deref_mut().as_mut()
                            { observers.iter_mut().for_each(|p| p.p_next(..)) }`
                         observers ▸ (slotᵢ ▸ downstreamᵢ) for each i in list order
        error/complete (171-190) load; `if let Some(observers) = self.observers.rc_deref_mut().take()
                            { observers.into_iter().for_each(|o| o.p_error(..)) }`
                         — the scrutinee guard lives for the body — observers ▸ for each i:
                         `p_error` slotᵢ ▸ downstreamᵢ.  (Before `fix: Subject::error/complete hand the
                         terminal to every subscriber` a `.filter(|o| !o.p_is_closed())` stood in front:
                         `is_finished()` (slotᵢ ▸ downstreamᵢ.is_finished) then `is_closed()` (slotᵢ),
                         src/subscriber.rs:96-98 — still what `retain` does, `closedChecks`.)
        is_finished (196-198) `self.observers.rc_deref().is_none()` -/
  | subject (ds : Shapes)
  /-- `BehaviorSubject<_, SubjectThreads>` (src/subject/behavior_subject.rs:26-29):
      `*self.value.rc_deref_mut() = value.clone();` (its own statement: the value
      cell is released) then `self.subject.next(value)`.  Value cell `k`, then `d`. -/
  | behavior (d : Shape)
  /-- `ShareOpThreads` (src/ops/ref_count.rs:25-27): one cell in front of the subject. -/
  | share (d : Shape)
  /-- `observe_on_threads` / `delay_threads` (src/ops/observe_on.rs:63-109,
      src/ops/delay.rs:89-124): a `MultiSubscriptionThreads` cell `k`, `h` task
      handles `k+1 … k+h` (`TaskHandle(MutArc<HandleInfo>)`, src/scheduler.rs:44),
      the observer slot `k+1+h`, then `d`.  The source thread only does
      `self.subscription.retain()` and `.append(handler)` (two separate sections
      of the multi cell, src/subscription.rs:101-113); the delivery happens on a
      pool thread inside `Remote::poll` (src/scheduler.rs:249-264: `let mut info =
      this.handle_info.rc_deref_mut(); … this.future.poll(cx)`): handle ▸ slot ▸ downstream.
      `dl = true` is `delay_threads`, whose `error` does not go through the scheduler
      (src/ops/delay.rs:104-107 `fn error(self, err) { self.observer.error(err) }`):
      slot ▸ downstream on the source thread. -/
  | task (dl : Bool) (h : Nat) (d : Shape)
inductive Shapes where
  | nil
  | cons (d : Shape) (ds : Shapes)
end

mutual
/-- Number of cells of a shape. -/
def cells : Shape → Nat
  | .leaf _ => 0
  | .plain d => cells d
  | .slot d => 1 + cells d
  | .cell d => 1 + cells d
  | .fin d => 1 + cells d
  | .subject ds => 2 + cellsL ds
  | .behavior d => 1 + cells d
  | .share d => 1 + cells d
  | .task _ h d => 2 + h + cells d
def cellsL : Shapes → Nat
  | .nil => 0
  | .cons d ds => (1 + cells d) + cellsL ds
end

mutual
/-- The program of a thread delivering notification `n` of kind `kd` into a stage
    of shape `d` whose first cell is `k`. -/
def deliver : Kind → Nat → Nat → Shape → List Act
  | .fin, _, _, .leaf _ => []
  | .next, n, _, .leaf u => [.cb u n]
  | .term _, n, _, .leaf u => [.cb u n]
  | kd, n, k, .plain d => deliver kd n k d
  | kd, n, k, .slot d => sect k (deliver kd n (k + 1) d)
  | kd, n, k, .cell d => sect k (deliver kd n (k + 1) d)
  | .term e, n, k, .fin d => deliver (.term e) n (k + 1) d ++ sect k [.atom 0]
  | .next, n, k, .fin d => deliver .next n (k + 1) d
  | .fin, n, k, .fin d => deliver .fin n (k + 1) d
  | .fin, _, k, .subject _ => sect k []
  | .next, n, k, .subject ds => sect k (sect (k + 1) []) ++ sect k (bcast .next n (k + 2) ds)
  | .term e, n, k, .subject ds => sect k (sect (k + 1) []) ++ sect k (bcast (.term e) n (k + 2) ds)
  | .next, n, k, .behavior d => sect k [.atom 1] ++ deliver .next n (k + 1) d
  | .term e, n, k, .behavior d => deliver (.term e) n (k + 1) d
  | .fin, n, k, .behavior d => deliver .fin n (k + 1) d
  | kd, n, k, .share d => deliver kd n (k + 1) d
  | .fin, n, k, .task _ h d => sect (k + 1 + h) (deliver .fin n (k + 2 + h) d)
  | .next, _, k, .task _ _ _ => sect k [] ++ sect k []
  | .term e, n, k, .task dl h d =>
      if e && dl then sect (k + 1 + h) (deliver (.term e) n (k + 2 + h) d)
      else sect k [] ++ sect k []
/-- The body of a subject's broadcast section: the subscribers in list order,
    subscriber `i` = slot `kᵢ` in front of `dᵢ` (cells from `kᵢ+1`). -/
def bcast : Kind → Nat → Nat → Shapes → List Act
  | _, _, _, .nil => []
  | .term e, n, k, .cons d ds =>
      sect k (deliver (.term e) n (k + 1) d) ++ bcast (.term e) n (k + 1 + cells d) ds
  | .next, n, k, .cons d ds =>
      sect k (deliver .next n (k + 1) d) ++ bcast .next n (k + 1 + cells d) ds
  | .fin, n, k, .cons d ds =>
      (sect k (deliver .fin n (k + 1) d) ++ sect k []) ++ bcast .fin n (k + 1 + cells d) ds
end

def Below (hs : List Nat) (k : Nat) : Prop := ∀ h ∈ hs, h < k

theorem Below.nil (k : Nat) : Below [] k := fun _ h => nomatch h

theorem Below.cons {hs : List Nat} {k k' : Nat} (h : Below hs k) (hk : k < k') :
    Below (k :: hs) k' := by
  intro x hx
  rcases List.mem_cons.1 hx with e | m
  · subst e; exact hk
  · exact Nat.lt_trans (h x m) hk

theorem Below.mono {hs : List Nat} {k k' : Nat} (h : Below hs k) (hk : k ≤ k') : Below hs k' :=
  fun x hx => Nat.lt_of_lt_of_le (h x hx) hk

syntax "below" : tactic
macro_rules
  | `(tactic| below) =>
    `(tactic| first
      | assumption
      | exact Below.nil _
      | exact Below.mono (by assumption) (by omega)
      | (refine Below.cons ?_ (by omega); below))

theorem rk_nil (hs : List Nat) : RankedK hs [] hs := rfl
theorem rk_atom (hs : List Nat) (a : Nat) : RankedK hs [.atom a] hs := rfl
theorem rk_cb (hs : List Nat) (u n : Nat) : RankedK hs [.cb u n] hs := rfl

theorem rk_sect_nil {c : Nat} {hs : List Nat} (hlt : Below hs c) : RankedK hs (sect c []) hs :=
  RankedK.sect hlt (rk_nil _)

mutual
/-- A delivery into any shape, at any base above what the thread holds, is
    nested and rank-increasing and returns to the same stack. -/
theorem deliver_ranked : ∀ (d : Shape) (kd : Kind) (n k : Nat) (hs : List Nat),
    Below hs k → RankedK hs (deliver kd n k d) hs
  | .leaf u, kd, n, k, hs, _ => by
    cases kd <;> simp only [deliver]
    · exact rk_cb _ _ _
    · exact rk_cb _ _ _
    · exact rk_nil _
  | .plain d, kd, n, k, hs, hlt => by
    simp only [deliver]; exact deliver_ranked d kd n k hs hlt
  | .slot d, kd, n, k, hs, hlt => by
    simp only [deliver]
    exact RankedK.sect hlt (deliver_ranked d kd n (k + 1) _ (by below))
  | .cell d, kd, n, k, hs, hlt => by
    simp only [deliver]
    exact RankedK.sect hlt (deliver_ranked d kd n (k + 1) _ (by below))
  | .fin d, kd, n, k, hs, hlt => by
    cases kd <;> simp only [deliver]
    · exact deliver_ranked d .next n (k + 1) hs (by below)
    · exact RankedK.append (deliver_ranked d (.term _) n (k + 1) hs (by below))
        (RankedK.sect hlt (rk_atom _ _))
    · exact deliver_ranked d .fin n (k + 1) hs (by below)
  | .subject ds, kd, n, k, hs, hlt => by
    cases kd <;> simp only [deliver]
    · exact RankedK.append (RankedK.sect hlt (rk_sect_nil (by below)))
        (RankedK.sect hlt (bcast_ranked ds .next n (k + 2) _ (by below)))
    · exact RankedK.append (RankedK.sect hlt (rk_sect_nil (by below)))
        (RankedK.sect hlt (bcast_ranked ds (.term _) n (k + 2) _ (by below)))
    · exact rk_sect_nil hlt
  | .behavior d, kd, n, k, hs, hlt => by
    cases kd <;> simp only [deliver]
    · exact RankedK.append (RankedK.sect hlt (rk_atom _ _))
        (deliver_ranked d .next n (k + 1) hs (by below))
    · exact deliver_ranked d (.term _) n (k + 1) hs (by below)
    · exact deliver_ranked d .fin n (k + 1) hs (by below)
  | .share d, kd, n, k, hs, hlt => by
    simp only [deliver]; exact deliver_ranked d kd n (k + 1) hs (by below)
  | .task dl h d, kd, n, k, hs, hlt => by
    cases kd <;> simp only [deliver]
    · exact RankedK.append (rk_sect_nil hlt) (rk_sect_nil hlt)
    · split
      · exact RankedK.sect (by below) (deliver_ranked d (.term _) n (k + 2 + h) _ (by below))
      · exact RankedK.append (rk_sect_nil hlt) (rk_sect_nil hlt)
    · exact RankedK.sect (by below) (deliver_ranked d .fin n (k + 2 + h) _ (by below))
theorem bcast_ranked : ∀ (ds : Shapes) (kd : Kind) (n k : Nat) (hs : List Nat),
    Below hs k → RankedK hs (bcast kd n k ds) hs
  | .nil, kd, n, k, hs, _ => by
    cases kd <;> exact rk_nil _
  | .cons d ds, kd, n, k, hs, hlt => by
    cases kd <;> simp only [bcast]
    · exact RankedK.append (RankedK.sect hlt (deliver_ranked d .next n (k + 1) _ (by below)))
        (bcast_ranked ds .next n (k + 1 + cells d) hs (by below))
    · exact RankedK.append (RankedK.sect hlt (deliver_ranked d (.term _) n (k + 1) _ (by below)))
        (bcast_ranked ds (.term _) n (k + 1 + cells d) hs (by below))
    · exact RankedK.append
        (RankedK.append (RankedK.sect hlt (deliver_ranked d .fin n (k + 1) _ (by below)))
          (rk_sect_nil hlt))
        (bcast_ranked ds .fin n (k + 1 + cells d) hs (by below))
end

/-- Operations addressed to the stage at the root of a shape. -/
inductive BaseOp where
  /-- `next` / `error` / `complete` / `is_finished` arriving from upstream. -/
  | deliver (kd : Kind) (n : Nat)
  /-- `actual_subscribe(new)`.  Subject (src/subject.rs:232-239):
      `if let Some(chamber) = self.chamber.rc_deref_mut().as_mut() { chamber.push(..) }`
      — the chamber cell alone.  BehaviorSubject (behavior_subject.rs:88-91):
      `observer.next(self.value.rc_deref().clone());` — the guard temporary lives to
      the end of that statement, so the new observer's `next` (label `n`) runs under
      the value cell — then the subject's subscribe.  Connected `ShareOpThreads`
      (ref_count.rs:61,77-80): share cell ▸ chamber.  The new observer's cells are
      numbered after all existing ones. -/
  | subscribe (new : Shape) (n : Nat)
  /-- `Subject::unsubscribe` (subject.rs:75-78): two statements, two sections. -/
  | unsubAll
  /-- `is_empty` / `len` (subject.rs:85-101): observers ▸ chamber. -/
  | size
  /-- `retain` (subject.rs:125-128): observers ▸ `p_is_closed` of every subscriber. -/
  | retain
  /-- `Subscriber::unsubscribe` / `is_closed` (subscriber.rs:67-77), the blanket
      `Subscription for MutArc<Option<S>>` (subscription.rs:165-173): the slot alone. -/
  | slotUnsub
  /-- `FinalizerSubscription::unsubscribe` (finalize.rs:100-105), after the inner
      subscription's own unsubscribe: the func cell with the callback inside. -/
  | finUnsub
  /-- `Remote::poll` of the `i`-th task on a pool thread delivering `kd n`
      (scheduler.rs:249-264): handle ▸ slot ▸ downstream. -/
  | taskPoll (i : Nat) (kd : Kind) (n : Nat)
  /-- `Remote::poll` of the `i`-th task while its body is not ready (`delay_threads`:
      `new_timer(dur).await` has not fired, scheduler.rs:311-316) or after it was
      cancelled (scheduler.rs:267-270): the handle cell alone. -/
  | taskPend (i : Nat)
  /-- `TaskHandle::unsubscribe` (scheduler.rs:195-220): the handle cell alone. -/
  | taskCancel (i : Nat)
  /-- `MultiSubscription::unsubscribe` (subscription.rs:80-90): `let vec =
      self.0.rc_deref_mut().take();` (released), then every handle in turn. -/
  | multiUnsub
  /-- First `ShareOpThreads::actual_subscribe` (ref_count.rs:60-76): under the share
      cell: subscribe to the subject (chamber), then `connect()`: the source is
      subscribed with the subject as observer and emits `es` synchronously from
      inside its `actual_subscribe` (nothing for a hot source, `[next, complete]`
      for `of(v)`, …). -/
  | shareConnect (es : List (Kind × Nat))

/-- The section of the `i`-th of `h` handle cells of a task stage at `k`, alone. -/
def handleAlone (k h i : Nat) : List Act :=
  if i < h then sect (k + 1 + i) [] else []

/-- The first `j` of `h` handles cancelled in turn (`TaskHandle::unsubscribe` each). -/
def cancelAll (k h : Nat) : Nat → List Act
  | 0 => []
  | j + 1 => cancelAll k h j ++ handleAlone k h j

/-- A sequence of deliveries into one stage. -/
def deliverAll (k : Nat) (s : Shape) : List (Kind × Nat) → List Act
  | [] => []
  | e :: es => deliver e.1 e.2 k s ++ deliverAll k s es

/-- `p_is_closed` of every subscriber. -/
def closedChecks (n : Nat) : Nat → Shapes → List Act := bcast .fin n

def opAt : Nat → Shape → BaseOp → List Act
  | k, s, .deliver kd n => deliver kd n k s
  | k, .subject _, .subscribe _ _ => sect (k + 1) []
  | k, .behavior (.subject ds), .subscribe new n =>
      sect k [] ++ deliver .next n (k + 3 + cellsL ds) new ++ sect (k + 2) []
  | k, .share (.subject _), .subscribe _ _ => sect k (sect (k + 2) [])
  | k, .share (.subject ds), .shareConnect es =>
      sect k (sect (k + 2) [] ++ deliverAll (k + 1) (.subject ds) es)
  | k, .subject _, .unsubAll => sect k [] ++ sect (k + 1) []
  | k, .subject _, .size => sect k (sect (k + 1) [])
  | k, .subject ds, .retain => sect k (closedChecks 0 (k + 2) ds)
  | k, .slot _, .slotUnsub => sect k []
  | k, .fin _, .finUnsub => sect k [.atom 0]
  | k, .task _ h d, .taskPoll i kd n =>
      if i < h then sect (k + 1 + i) (sect (k + 1 + h) (deliver kd n (k + 2 + h) d)) else []
  | k, .task _ h _, .taskPend i => handleAlone k h i
  | k, .task _ h _, .taskCancel i => handleAlone k h i
  | k, .task _ h _, .multiUnsub => sect k [] ++ cancelAll k h h
  | _, _, _ => []

/-- An operation addressed to any stage of a pipeline: at the root, at the single
    downstream stage, or at the `i`-th subscriber of a subject (which is a `slot`
    stage: its `SubscriberThreads`). -/
inductive Op where
  | here (b : BaseOp)
  | inner (o : Op)
  | sub (i : Nat) (o : Op)

/-- Apply `f` to the `i`-th subscriber (as a `slot` stage) at its base. -/
def atSub (f : Nat → Shape → List Act) : Nat → Shapes → Nat → List Act
  | _, .nil, _ => []
  | k, .cons d _, 0 => f k (.slot d)
  | k, .cons d ds, i + 1 => atSub f (k + 1 + cells d) ds i

def innerOf : Nat → Shape → Option (Nat × Shape)
  | k, .plain d => some (k, d)
  | k, .slot d => some (k + 1, d)
  | k, .cell d => some (k + 1, d)
  | k, .fin d => some (k + 1, d)
  | k, .behavior d => some (k + 1, d)
  | k, .share d => some (k + 1, d)
  | k, .task _ h d => some (k + 2 + h, d)
  | _, .leaf _ => none
  | _, .subject _ => none

/-- **The footprint of an operation on a pipeline shape whose first cell is `k`.** -/
def footprintAt : Op → Nat → Shape → List Act
  | .here b, k, s => opAt k s b
  | .inner o, k, s => match innerOf k s with
    | some (k', d) => footprintAt o k' d
    | none => []
  | .sub i o, k, s => match s with
    | .subject ds => atSub (footprintAt o) (k + 2) ds i
    | _ => []

/-- Footprint on a whole pipeline (cells numbered from 0). -/
def footprint (s : Shape) (o : Op) : List Act := footprintAt o 0 s

theorem handleAlone_ranked (k h i : Nat) (hs : List Nat) (hlt : Below hs (k + 1)) :
    RankedK hs (handleAlone k h i) hs := by
  simp only [handleAlone]
  split
  · exact rk_sect_nil (by below)
  · exact rk_nil _

theorem cancelAll_ranked (k h : Nat) (hs : List Nat) (hlt : Below hs (k + 1)) :
    ∀ j, RankedK hs (cancelAll k h j) hs
  | 0 => rk_nil _
  | j + 1 => RankedK.append (cancelAll_ranked k h hs hlt j) (handleAlone_ranked k h j hs hlt)

theorem deliverAll_eq (k : Nat) (s : Shape) :
    ∀ es, deliverAll k s es = es.flatMap fun e => deliver e.1 e.2 k s
  | [] => rfl
  | e :: es => by rw [deliverAll, deliverAll_eq k s es, List.flatMap_cons]

theorem deliverAll_ranked (k : Nat) (s : Shape) (hs : List Nat) (hlt : Below hs k)
    (es : List (Kind × Nat)) : RankedK hs (deliverAll k s es) hs := by
  rw [deliverAll_eq]
  exact RankedK.flatMap (fun e => deliver_ranked s e.1 e.2 k hs hlt) es

/-- One case per clause of `opAt`, in its order. -/
theorem opAt_ranked (b : BaseOp) (s : Shape) (k : Nat) (hs : List Nat) (hlt : Below hs k) :
    RankedK hs (opAt k s b) hs := by
  unfold opAt
  split
  -- deliver
  · exact deliver_ranked _ _ _ k hs hlt
  -- subscribe: subject / behaviour subject / share
  · exact rk_sect_nil (by below)
  · exact RankedK.append (RankedK.append (rk_sect_nil (by below)) (deliver_ranked _ .next _ _ _ (by below)))
      (rk_sect_nil (by below))
  · exact RankedK.sect hlt (rk_sect_nil (by below))
  -- shareConnect
  · exact RankedK.sect hlt (RankedK.append (rk_sect_nil (by below))
      (deliverAll_ranked (k + 1) _ _ (by below) _))
  -- unsubAll, size, retain
  · exact RankedK.append (rk_sect_nil hlt) (rk_sect_nil (by below))
  · exact RankedK.sect hlt (rk_sect_nil (by below))
  · exact RankedK.sect hlt (bcast_ranked _ .fin 0 (k + 2) _ (by below))
  -- slotUnsub, finUnsub
  · exact rk_sect_nil hlt
  · exact RankedK.sect hlt (rk_atom _ _)
  -- taskPoll
  · split
    · exact RankedK.sect (by below) (RankedK.sect (by below) (deliver_ranked _ _ _ _ _ (by below)))
    · exact rk_nil _
  -- taskPend, taskCancel, multiUnsub
  · exact handleAlone_ranked k _ _ hs (by below)
  · exact handleAlone_ranked k _ _ hs (by below)
  · exact RankedK.append (rk_sect_nil hlt) (cancelAll_ranked k _ hs (by below) _)
  -- an operation that does not fit the shape
  · exact rk_nil _

theorem atSub_ranked {f : Nat → Shape → List Act} {hs : List Nat}
    (hf : ∀ k s, Below hs k → RankedK hs (f k s) hs) :
    ∀ (ds : Shapes) (k i : Nat), Below hs k → RankedK hs (atSub f k ds i) hs
  | .nil, _, _, _ => by simp only [atSub]; exact rk_nil _
  | .cons d _, k, 0, hlt => by simp only [atSub]; exact hf k (.slot d) hlt
  | .cons d ds, k, i + 1, hlt => by
    simp only [atSub]; exact atSub_ranked hf ds (k + 1 + cells d) i (by below)

theorem footprintAt_ranked : ∀ (o : Op) (s : Shape) (k : Nat) (hs : List Nat),
    Below hs k → RankedK hs (footprintAt o k s) hs
  | .here b, s, k, hs, hlt => opAt_ranked b s k hs hlt
  | .inner o, s, k, hs, hlt => by
    simp only [footprintAt]
    cases s <;> simp only [innerOf]
    all_goals first
      | exact rk_nil _
      | exact footprintAt_ranked o _ _ hs (by below)
  | .sub i o, s, k, hs, hlt => by
    cases s with
    | subject ds =>
      simp only [footprintAt]
      exact atSub_ranked (fun k' s' h' => footprintAt_ranked o s' k' hs h') ds (k + 2) i (by below)
    | _ => exact rk_nil _

/-- **C10_ranked.**  For every pipeline shape (any depth, any fan-out) the
    footprint of every operation at every stage is `Ranked []`: properly nested,
    acquiring cells in strictly increasing rank. -/
theorem C10_ranked (s : Shape) (o : Op) : Ranked [] (footprint s o) :=
  rankedK_nil_iff.1 (footprintAt_ranked o s 0 [] (Below.nil _))

/-- Any sequence of operations by one thread (a script) is `Ranked []`. -/
theorem script_ranked (s : Shape) (os : List Op) : Ranked [] (os.flatMap (footprint s)) :=
  rankedK_nil_iff.1 (RankedK.flatMap (fun o => footprintAt_ranked o s 0 [] (Below.nil _)) os)

/-! ## The negative fact: `merge_all_threads` re-locks the cell it holds

  src/ops/merge_all.rs:162-175 (`InnerObserverThreads::complete`):
  ```
  let mut inner = self.0.rc_deref_mut();                 // acq cell   (guard bound by `let`)
  if let Some(data) = inner.as_mut() {
    if let Some(task) = data.subscribe_tasks.pop_front() {
      task();                                            // still holding `inner`
  ```
  and the queued closure (merge_all.rs:205-211) is
  `value.actual_subscribe(InnerObserverThreads::new(observer_data))`.  If the
  queued inner observable emits during `actual_subscribe` (any cold source:
  `of`, `from_iter`, …), `InnerObserverThreads::next` runs
  `self.0.rc_deref_mut()` on the *same* cell on the *same* thread.
  `std::sync::Mutex` is not re-entrant: the thread deadlocks on itself (or
  panics).  The footprint of that path acquires a cell it already holds. -/

/-- Inner completion that starts a queued, synchronously emitting inner
    observable: cell `k`, downstream `d` from `k+1`. -/
def mergeAllInnerCompleteQueued (k n : Nat) (d : Shape) : List Act :=
  .acq k :: (sect k (deliver .next n (k + 1) d)) ++ [.rel k]

/-- Not `Ranked`, for every base and every downstream. -/
theorem C10_merge_all_relock_witness (k n : Nat) (d : Shape) (hs : List Cell) :
    ¬ Ranked hs (mergeAllInnerCompleteQueued k n d) := by
  intro h
  have h2 : Ranked (k :: hs) (sect k (deliver .next n (k + 1) d) ++ [.rel k]) := h.2
  exact Nat.lt_irrefl k (h2.1 k List.mem_cons_self)

/-- Concretely: one thread alone running that path blocks on itself — after its
    first step it is unfinished and can never move again. -/
theorem C10_merge_all_self_deadlock :
    ∃ s, Reach (mkState [mergeAllInnerCompleteQueued 0 1 (.leaf 0)]) s ∧ Blocked s 0 ∧
      ∀ t s', ¬ Step s t s' := by
  have hr := exec_run (s := mkState [mergeAllInnerCompleteQueued 0 1 (.leaf 0)]) (ts := [0]) rfl
  have hstuck : ∀ t s', ¬ Step _ t s' := fun t s' st => by
    -- only thread 0 exists
    match t, ((mkState_support _).run hr).tid_lt st, enabled_of_step st with
    | 0, _, he => revert he; decide
  exact ⟨_, hr.reach, ⟨by decide, fun ⟨s', st⟩ => hstuck 0 s' st⟩, hstuck⟩

end Rx.Conc
