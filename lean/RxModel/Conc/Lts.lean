/-
  Conc/Lts.lean — the generic lock-level labelled transition system (DESIGN §3.3).

  What is modelled.  The thread-safe flavour of rxRust keeps every shared state in
  a `MutArc<T> = Arc<Mutex<T>>` (src/rc.rs:32,68-95).  Every `rc_deref()` /
  `rc_deref_mut()` scope is a critical section `acq c … rel c`; a call to the
  downstream observer made while the guard is alive is an event *inside* that
  section.  A thread is a straight-line remaining program `List Act`; the state
  is the holder map of the cells plus the programs of all threads.

  Cells are natural numbers and the number *is* the rank.

  Nothing here bounds the number of threads, the length of the programs or the
  number of preemptions.  The only finiteness that deadlock-freedom needs is
  "finitely many cells are held" (`∃ B, every held cell < B`), which is part of
  `Inv`, holds trivially initially (nothing held) and is preserved by every step.
  It is implied by "finitely many threads", but does not need it.

  Core Lean only.
-/
namespace Rx.Conc

abbrev Cell := Nat
abbrev Tid := Nat

/-- Actions of a thread.  `cb sub n`: the callback of subscriber `sub` for
    notification number `n`; `atom a`: any other single step (atomics, data
    updates under a lock, markers). -/
inductive Act where
  | acq (c : Cell)
  | rel (c : Cell)
  | cb (sub : Nat) (n : Nat)
  | atom (a : Nat)
  deriving DecidableEq, Repr

def upd {α : Type} {β : Type} [DecidableEq α] (f : α → β) (a : α) (b : β) : α → β :=
  fun x => if x = a then b else f x

@[simp] theorem upd_same {α β : Type} [DecidableEq α] (f : α → β) (a : α) (b : β) :
    upd f a b a = b := by simp [upd]

@[simp] theorem upd_other {α β : Type} [DecidableEq α] (f : α → β) {a x : α} (b : β)
    (h : x ≠ a) : upd f a b x = f x := by simp [upd, h]

@[simp] theorem upd_self {α β : Type} [DecidableEq α] (f : α → β) (a : α) : upd f a (f a) = f := by
  funext x; by_cases h : x = a <;> simp [upd, h]

structure State where
  holder : Cell → Option Tid
  prog : Tid → List Act

/-- `Step s t s'`: thread `t` executes the head action of its program.
    `acq c` is enabled iff `c` is free; `rel c` frees `c` (and is only ever
    executed by the holder: a `MutexGuard` is dropped by its owner). -/
inductive Step : State → Tid → State → Prop where
  | acq {s : State} {t : Tid} {c : Cell} {p : List Act} :
      s.prog t = .acq c :: p → s.holder c = none →
      Step s t ⟨upd s.holder c (some t), upd s.prog t p⟩
  | rel {s : State} {t : Tid} {c : Cell} {p : List Act} :
      s.prog t = .rel c :: p → s.holder c = some t →
      Step s t ⟨upd s.holder c none, upd s.prog t p⟩
  | cb {s : State} {t : Tid} {u n : Nat} {p : List Act} :
      s.prog t = .cb u n :: p → Step s t ⟨s.holder, upd s.prog t p⟩
  | atom {s : State} {t : Tid} {a : Nat} {p : List Act} :
      s.prog t = .atom a :: p → Step s t ⟨s.holder, upd s.prog t p⟩

/-- Reachability (any number of steps of any threads, any schedule). -/
inductive Reach : State → State → Prop where
  | refl {s : State} : Reach s s
  | step {s s1 s2 : State} {t : Tid} : Reach s s1 → Step s1 t s2 → Reach s s2

def Init (s : State) : Prop := ∀ c, s.holder c = none

theorem Step.prog_eq {s s' : State} {t : Tid} (st : Step s t s') :
    ∃ a p, s.prog t = a :: p ∧ s'.prog = upd s.prog t p := by
  cases st with
  | acq hp _ => exact ⟨_, _, hp, rfl⟩
  | rel hp _ => exact ⟨_, _, hp, rfl⟩
  | cb hp => exact ⟨_, _, hp, rfl⟩
  | atom hp => exact ⟨_, _, hp, rfl⟩

/-- What a step of `t` with head action `a` needs and does. -/
theorem Step.inv {s s' : State} {t : Tid} {a : Act} {p : List Act} (st : Step s t s')
    (hp : s.prog t = a :: p) :
    s'.prog = upd s.prog t p ∧
      match a with
      | .acq c => s.holder c = none ∧ s'.holder = upd s.holder c (some t)
      | .rel c => s.holder c = some t ∧ s'.holder = upd s.holder c none
      | _ => s'.holder = s.holder := by
  cases st with
  | acq hq hf => rw [hp] at hq; cases hq; exact ⟨rfl, hf, rfl⟩
  | rel hq hh => rw [hp] at hq; cases hq; exact ⟨rfl, hh, rfl⟩
  | cb hq => rw [hp] at hq; cases hq; exact ⟨rfl, rfl⟩
  | atom hq => rw [hp] at hq; cases hq; exact ⟨rfl, rfl⟩

/-- `Ranked held prog`: with the stack `held` of cells currently held (innermost
    first), the program acquires only cells larger than everything held,
    releases are properly nested, and at the end nothing is held. -/
def Ranked : List Cell → List Act → Prop
  | hs, [] => hs = []
  | hs, .acq c :: p => (∀ h ∈ hs, h < c) ∧ Ranked (c :: hs) p
  | hs, .rel c :: p => hs.head? = some c ∧ Ranked hs.tail p
  | hs, .cb _ _ :: p => Ranked hs p
  | hs, .atom _ :: p => Ranked hs p

instance Ranked.decide : (hs : List Cell) → (p : List Act) → Decidable (Ranked hs p)
  | hs, [] => inferInstanceAs (Decidable (hs = []))
  | hs, .acq c :: p =>
      have := Ranked.decide (c :: hs) p
      inferInstanceAs (Decidable ((∀ h ∈ hs, h < c) ∧ Ranked (c :: hs) p))
  | hs, .rel c :: p =>
      have := Ranked.decide hs.tail p
      inferInstanceAs (Decidable (hs.head? = some c ∧ Ranked hs.tail p))
  | hs, .cb _ _ :: p => Ranked.decide hs p
  | hs, .atom _ :: p => Ranked.decide hs p

/-- `Guarded slot held prog`: releases are properly nested and every callback
    `cb sub _` occurs while `slot sub` is held, i.e. between `acq (slot sub)`
    and the matching `rel`. -/
def Guarded (slot : Nat → Cell) : List Cell → List Act → Prop
  | _, [] => True
  | hs, .acq c :: p => Guarded slot (c :: hs) p
  | hs, .rel c :: p => hs.head? = some c ∧ Guarded slot hs.tail p
  | hs, .cb u _ :: p => slot u ∈ hs ∧ Guarded slot hs p
  | hs, .atom _ :: p => Guarded slot hs p

instance Guarded.decide (slot : Nat → Cell) :
    (hs : List Cell) → (p : List Act) → Decidable (Guarded slot hs p)
  | _, [] => inferInstanceAs (Decidable True)
  | hs, .acq c :: p => Guarded.decide slot (c :: hs) p
  | hs, .rel c :: p =>
      have := Guarded.decide slot hs.tail p
      inferInstanceAs (Decidable (hs.head? = some c ∧ Guarded slot hs.tail p))
  | hs, .cb u _ :: p =>
      have := Guarded.decide slot hs p
      inferInstanceAs (Decidable (slot u ∈ hs ∧ Guarded slot hs p))
  | hs, .atom _ :: p => Guarded.decide slot hs p

/-- A *stack discipline*: a predicate on (held stack, remaining program) that is
    carried along by the execution of the head action.  `Ranked`, `Guarded slot`
    and conjunctions of disciplines are disciplines. -/
structure Disc (P : List Cell → List Act → Prop) : Prop where
  acq : ∀ {hs c p}, P hs (.acq c :: p) → P (c :: hs) p
  rel : ∀ {hs c p}, P hs (.rel c :: p) → hs.head? = some c ∧ P hs.tail p
  cb : ∀ {hs u n p}, P hs (.cb u n :: p) → P hs p
  atom : ∀ {hs a p}, P hs (.atom a :: p) → P hs p

theorem Ranked.disc : Disc Ranked where
  acq h := h.2
  rel h := h
  cb h := h
  atom h := h

theorem Guarded.disc (slot : Nat → Cell) : Disc (Guarded slot) where
  acq h := h
  rel h := h
  cb h := h.2
  atom h := h

theorem Disc.and {P Q : List Cell → List Act → Prop} (hP : Disc P) (hQ : Disc Q) :
    Disc (fun hs p => P hs p ∧ Q hs p) where
  acq h := ⟨hP.acq h.1, hQ.acq h.2⟩
  rel h := ⟨(hP.rel h.1).1, (hP.rel h.1).2, (hQ.rel h.2).2⟩
  cb h := ⟨hP.cb h.1, hQ.cb h.2⟩
  atom h := ⟨hP.atom h.1, hQ.atom h.2⟩

/-- The held stack after an action. -/
def Act.push : Act → List Cell → List Cell
  | .acq c, hs => c :: hs
  | .rel _, hs => hs.tail
  | _, hs => hs

theorem Disc.step {P : List Cell → List Act → Prop} (hP : Disc P) {hs : List Cell}
    {p : List Act} : ∀ {a : Act}, P hs (a :: p) → P (a.push hs) p
  | .acq _, h => hP.acq h
  | .rel _, h => (hP.rel h).2
  | .cb _ _, h => hP.cb h
  | .atom _, h => hP.atom h

/-- The held stacks after thread `t` has executed its head action. -/
def nextHeld (s : State) (t : Tid) (held : Tid → List Cell) : Tid → List Cell :=
  match s.prog t with
  | a :: _ => upd held t (a.push (held t))
  | [] => held

/-- The invariant relative to a discipline `P` and an explicit assignment of
    held stacks: the stacks are exactly what the holder map says (`cons`), have
    no repetition, and every thread's remaining program satisfies `P` w.r.t.
    exactly the cells it holds. -/
structure HInv (P : List Cell → List Act → Prop) (s : State) (held : Tid → List Cell) :
    Prop where
  cons : ∀ t c, c ∈ held t ↔ s.holder c = some t
  nodup : ∀ t, (held t).Nodup
  disc : ∀ t, P (held t) (s.prog t)

theorem HInv.init {P : List Cell → List Act → Prop} {s : State} (h0 : Init s)
    (hp : ∀ t, P [] (s.prog t)) : HInv P s (fun _ => []) where
  cons t c := by simp [h0 c]
  nodup _ := List.nodup_nil
  disc := hp

theorem HInv.step {P : List Cell → List Act → Prop} (hP : Disc P) {s s' : State}
    {t : Tid} {held : Tid → List Cell} (h : HInv P s held) (st : Step s t s') :
    HInv P s' (nextHeld s t held) := by
  obtain ⟨a, p, hp, _⟩ := st.prog_eq
  obtain ⟨he, hh⟩ := st.inv hp
  have hd := h.disc t
  rw [hp] at hd
  simp only [nextHeld, hp]
  have hdisc : ∀ t', P (upd held t (a.push (held t)) t') (s'.prog t') := fun t' => by
    rw [he]
    by_cases ht : t' = t
    · subst ht; simpa using hP.step hd
    · simpa [ht] using h.disc t'
  cases a with
  | acq c =>
    obtain ⟨hfree, hho⟩ := hh
    have hnot : ∀ t', c ∉ held t' := fun t' hc => by rw [h.cons, hfree] at hc; cases hc
    refine ⟨fun t' c' => ?_, fun t' => ?_, hdisc⟩
    · rw [hho]
      by_cases ht : t' = t <;> by_cases hc : c' = c
      · simp [ht, hc, Act.push]
      · simp [ht, hc, Act.push, h.cons]
      · simp [ht, hc, hnot t', Ne.symm ht]
      · simp [ht, hc, h.cons]
    · by_cases ht : t' = t
      · simp [ht, Act.push, hnot t, h.nodup t]
      · simp [ht, h.nodup t']
  | rel c =>
    obtain ⟨hheld, hho⟩ := hh
    obtain ⟨tl, htl⟩ := List.head?_eq_some_iff.1 (hP.rel hd).1
    have hnd := h.nodup t
    rw [htl] at hnd
    refine ⟨fun t' c' => ?_, fun t' => ?_, hdisc⟩
    · rw [hho]
      have := h.cons t' c'
      by_cases ht : t' = t <;> by_cases hc : c' = c
      · simp [ht, hc, Act.push, htl, (List.nodup_cons.1 hnd).1]
      · rw [ht, htl] at this; simpa [ht, hc, Act.push, htl] using this
      · rw [hc, hheld] at this; simpa [ht, hc, Ne.symm ht] using this
      · simpa [ht, hc] using this
    · by_cases ht : t' = t
      · simp [ht, Act.push, htl, (List.nodup_cons.1 hnd).2]
      · simp [ht, h.nodup t']
  | _ =>
    simp only [Act.push, upd_self] at hdisc ⊢
    exact ⟨fun t' c' => by rw [hh]; exact h.cons t' c', h.nodup, hdisc⟩

/-- The discipline invariant with the stacks hidden. -/
def DInv (P : List Cell → List Act → Prop) (s : State) : Prop := ∃ held, HInv P s held

theorem DInv.init {P : List Cell → List Act → Prop} {s : State} (h0 : Init s)
    (hp : ∀ t, P [] (s.prog t)) : DInv P s := ⟨_, HInv.init h0 hp⟩

theorem DInv.step {P : List Cell → List Act → Prop} (hP : Disc P) {s s' : State} {t : Tid}
    (h : DInv P s) (st : Step s t s') : DInv P s' :=
  let ⟨_, hh⟩ := h; ⟨_, hh.step hP st⟩

/-- A predicate closed under steps holds of everything reachable. -/
theorem Reach.closed {Q : State → Prop} (hstep : ∀ {s s' t}, Q s → Step s t s' → Q s')
    {s s' : State} (h : Q s) (r : Reach s s') : Q s' := by
  induction r with
  | refl => exact h
  | step _ st ih => exact hstep ih st

theorem DInv.reach {P : List Cell → List Act → Prop} (hP : Disc P) {s s' : State}
    (h : DInv P s) (r : Reach s s') : DInv P s' :=
  r.closed (DInv.step hP) h

/-- Finitely many cells are held. -/
def HeldBounded (s : State) : Prop := ∃ B, ∀ c t, s.holder c = some t → c < B

theorem HeldBounded.step {s s' : State} {t : Tid} (h : HeldBounded s) (st : Step s t s') :
    HeldBounded s' := by
  obtain ⟨B, hB⟩ := h
  cases st with
  | @acq c p hp hfree =>
    refine ⟨max B (c + 1), ?_⟩
    intro c' t' hc'
    by_cases hc : c' = c
    · subst hc; exact Nat.lt_of_lt_of_le (Nat.lt_succ_self _) (Nat.le_max_right _ _)
    · simp [hc] at hc'
      exact Nat.lt_of_lt_of_le (hB c' t' hc') (Nat.le_max_left _ _)
  | @rel c p hp hheld =>
    refine ⟨B, ?_⟩
    intro c' t' hc'
    by_cases hc : c' = c
    · subst hc; simp at hc'
    · simp [hc] at hc'
      exact hB c' t' hc'
  | cb hp => exact ⟨B, hB⟩
  | atom hp => exact ⟨B, hB⟩

/-- The invariant: every thread's remaining program is `Ranked` w.r.t. exactly
    the cells it holds, the holder map is consistent with those stacks, and
    finitely many cells are held. -/
def Inv (s : State) : Prop := DInv Ranked s ∧ HeldBounded s

theorem Inv.init {s : State} (h0 : Init s) (hp : ∀ t, Ranked [] (s.prog t)) : Inv s :=
  ⟨DInv.init h0 hp, 0, fun c t h => by rw [h0 c] at h; cases h⟩

/-- **`Inv` is preserved by every step of every thread.** -/
theorem ranked_invariant {s s' : State} {t : Tid} (h : Inv s) (st : Step s t s') : Inv s' :=
  ⟨h.1.step Ranked.disc st, h.2.step st⟩

theorem Inv.reach {s s' : State} (h : Inv s) (r : Reach s s') : Inv s' :=
  r.closed ranked_invariant h

/-- `Owes c p`: in the remaining program `p` the first lock action on cell `c`
    is a release — the thread has entered a section of `c` and has not left
    it yet. -/
def Owes (c : Cell) : List Act → Prop
  | [] => False
  | .acq c' :: p => c' ≠ c ∧ Owes c p
  | .rel c' :: p => c' = c ∨ Owes c p
  | .cb _ _ :: p => Owes c p
  | .atom _ :: p => Owes c p

/-- Thread `t` is inside a critical section of cell `c`. -/
def InSection (s : State) (t : Tid) (c : Cell) : Prop := Owes c (s.prog t)

theorem owes_mem_held {P : List Cell → List Act → Prop} (hP : Disc P) {c : Cell} :
    ∀ {p : List Act} {hs : List Cell}, P hs p → Owes c p → c ∈ hs
  | [], _, _, ho => ho.elim
  | .acq c' :: p, hs, h, ho => by
    have := owes_mem_held hP (hP.acq h) ho.2
    rcases List.mem_cons.1 this with e | m
    · exact (ho.1 e.symm).elim
    · exact m
  | .rel c' :: p, hs, h, ho => by
    obtain ⟨hh, ht⟩ := hP.rel h
    rcases ho with e | ho
    · exact e ▸ List.mem_of_mem_head? hh
    · exact List.mem_of_mem_tail (owes_mem_held hP ht ho)
  | .cb _ _ :: p, _, h, ho => owes_mem_held hP (hP.cb h) ho
  | .atom _ :: p, _, h, ho => owes_mem_held hP (hP.atom h) ho

/-- For ranked programs the syntactic notion coincides with holding. -/
theorem ranked_owes_iff {c : Cell} :
    ∀ {p : List Act} {hs : List Cell}, Ranked hs p → (Owes c p ↔ c ∈ hs) := by
  intro p hs h
  refine ⟨owes_mem_held Ranked.disc h, ?_⟩
  induction p generalizing hs with
  | nil => intro hc; rw [h] at hc; cases hc
  | cons a p ih =>
    intro hc
    cases a with
    | acq c' =>
      refine ⟨?_, ih h.2 (List.mem_cons_of_mem _ hc)⟩
      intro e; subst e; exact Nat.lt_irrefl _ (h.1 _ hc)
    | rel c' =>
      cases hs with
      | nil => cases hc
      | cons x tl =>
        have hx : x = c' := by simpa using h.1
        subst hx
        rcases List.mem_cons.1 hc with e | m
        · exact Or.inl e.symm
        · exact Or.inr (ih h.2 m)
    | cb _ _ => exact ih h hc
    | atom _ => exact ih h hc

/-- A thread inside a section of `c` is the holder of `c`. -/
theorem section_holder {P : List Cell → List Act → Prop} (hP : Disc P) {s : State}
    (h : DInv P s) {t : Tid} {c : Cell} (hin : InSection s t c) : s.holder c = some t :=
  let ⟨_, hh⟩ := h
  (hh.cons t c).1 (owes_mem_held hP (hh.disc t) hin)

/-- Mutual exclusion from the invariant (no reference to an initial state). -/
theorem lts_mutex_inv {s : State} (h : Inv s) {t1 t2 : Tid} {c : Cell}
    (h1 : InSection s t1 c) (h2 : InSection s t2 c) : t1 = t2 :=
  Option.some.inj ((section_holder Ranked.disc h.1 h1).symm.trans
    (section_holder Ranked.disc h.1 h2))

/-- **Mutual exclusion.**  In every state reachable from an initial state whose
    programs are `Ranked []`, a cell has at most one holder (`holder` is a
    function), every thread inside a section of `c` *is* that holder, hence two
    threads are never both inside sections of the same cell. -/
theorem lts_mutex {s0 s : State} (h0 : Init s0) (hp : ∀ t, Ranked [] (s0.prog t))
    (r : Reach s0 s) {t1 t2 : Tid} {c : Cell}
    (h1 : InSection s t1 c) (h2 : InSection s t2 c) : t1 = t2 :=
  lts_mutex_inv ((Inv.init h0 hp).reach r) h1 h2

/-- Under `Inv`, being inside a section and being the holder are the same. -/
theorem holder_iff_section {s : State} (h : Inv s) {t : Tid} {c : Cell} :
    s.holder c = some t ↔ InSection s t c := by
  obtain ⟨⟨_, hh⟩, _⟩ := h
  rw [← hh.cons t c]
  exact (ranked_owes_iff (hh.disc t)).symm

/-- A thread moves unless its head action acquires a cell that is held: a
    release is always possible, the cell on top of the stack is held by the thread. -/
theorem HInv.move_or_waits {P : List Cell → List Act → Prop} (hP : Disc P) {s : State}
    {held : Tid → List Cell} (hh : HInv P s held) {t : Tid} {a : Act} {p : List Act}
    (hp : s.prog t = a :: p) :
    (∃ s', Step s t s') ∨ ∃ c t1, a = .acq c ∧ s.holder c = some t1 := by
  cases a with
  | acq c =>
    cases hc : s.holder c with
    | none => exact .inl ⟨_, Step.acq hp hc⟩
    | some t1 => exact .inr ⟨c, t1, rfl, hc⟩
  | rel c =>
    have hr := hh.disc t
    rw [hp] at hr
    exact .inl ⟨_, Step.rel hp ((hh.cons t c).1 (List.mem_of_mem_head? (hP.rel hr).1))⟩
  | cb u n => exact .inl ⟨_, Step.cb hp⟩
  | atom a => exact .inl ⟨_, Step.atom hp⟩

/-- Follow the chain "waits for a cell held by …": the awaited cells increase
    strictly and stay below the bound `B`, so it ends at a thread that can move. -/
private theorem progress_aux {s : State} {held : Tid → List Cell} (hh : HInv Ranked s held)
    {B : Nat} (hB : ∀ c t, s.holder c = some t → c < B) :
    ∀ (d : Nat) (t : Tid) (c : Cell) (p : List Act),
      s.prog t = .acq c :: p → B - c < d → ∃ t' s', Step s t' s'
  | 0, _, _, _, _, hd => absurd hd (Nat.not_lt_zero _)
  | d + 1, t, c, p, hp, hd => by
    cases hc : s.holder c with
    | none => exact ⟨t, _, Step.acq hp hc⟩
    | some t1 =>
      have hmem : c ∈ held t1 := (hh.cons t1 c).2 hc
      have hr := hh.disc t1
      cases hp1 : s.prog t1 with
      | nil => rw [hp1] at hr; rw [show held t1 = [] from hr] at hmem; cases hmem
      | cons a1 p1 =>
        rcases hh.move_or_waits Ranked.disc hp1 with ⟨s', st⟩ | ⟨c1, _, rfl, _⟩
        · exact ⟨t1, s', st⟩
        · rw [hp1] at hr
          exact progress_aux hh hB d t1 c1 p1 hp1 (Nat.lt_of_lt_of_le
            (Nat.sub_lt_sub_left (hB c t1 hc) (hr.1 c hmem)) (Nat.le_of_lt_succ hd))

/-- **Rank ⇒ no deadlock.**  In every state satisfying `Inv` in which some
    thread is unfinished, some thread can step.  No bound on the number of
    threads, on program lengths or on preemptions. -/
theorem rank_deadlock_free {s : State} (h : Inv s) (hu : ∃ t, s.prog t ≠ []) :
    ∃ t s', Step s t s' := by
  obtain ⟨⟨held, hh⟩, B, hB⟩ := h
  obtain ⟨t, ht⟩ := hu
  cases hp : s.prog t with
  | nil => exact (ht hp).elim
  | cons a p =>
    rcases hh.move_or_waits Ranked.disc hp with ⟨s', st⟩ | ⟨c, _, rfl, _⟩
    · exact ⟨t, s', st⟩
    · exact progress_aux hh hB (B + 1) t c p hp (Nat.lt_succ_of_le (Nat.sub_le B c))

/-- A thread that is *blocked* (cannot step although unfinished) waits for a cell
    held by another thread.  Used to phrase deadlock-freedom per thread. -/
def Blocked (s : State) (t : Tid) : Prop := s.prog t ≠ [] ∧ ¬ ∃ s', Step s t s'

/-- Under `Inv` a blocked thread is waiting to acquire a cell held by some thread. -/
theorem blocked_waits {s : State} (h : Inv s) {t : Tid} (hb : Blocked s t) :
    ∃ c p t1, s.prog t = .acq c :: p ∧ s.holder c = some t1 := by
  obtain ⟨⟨held, hh⟩, _⟩ := h
  cases hp : s.prog t with
  | nil => exact (hb.1 hp).elim
  | cons a p =>
    rcases hh.move_or_waits Ranked.disc hp with hm | ⟨c, t1, rfl, hc⟩
    · exact (hb.2 hm).elim
    · exact ⟨c, p, t1, rfl, hc⟩

/-- Thread `t` is *inside a callback of subscriber `u`*: the callback action is
    at the head of its program.  (A callback is entered when the thread reaches
    the `cb` action and returns with the step that consumes it; whatever the
    callback body does happens while the state has this shape.) -/
def InCb (s : State) (t : Tid) (u : Nat) : Prop := ∃ n p, s.prog t = .cb u n :: p

/-- A thread inside a callback of `u` holds `slot u`. -/
theorem incb_holder {slot : Nat → Cell} {s : State} (h : DInv (Guarded slot) s) {t : Tid}
    {u : Nat} (hin : InCb s t u) : s.holder (slot u) = some t := by
  obtain ⟨held, hh⟩ := h
  obtain ⟨n, p, hp⟩ := hin
  have := hh.disc t
  rw [hp] at this
  exact (hh.cons t (slot u)).1 this.1

/-- **Callbacks are serialised.**  If in every program every `cb sub _` occurs
    between `acq (slot sub)` and the matching `rel` (`Guarded slot []`), then in
    no reachable state are two threads inside a callback of the same subscriber. -/
theorem callbacks_serialised {slot : Nat → Cell} {s0 s : State} (h0 : Init s0)
    (hg : ∀ t, Guarded slot [] (s0.prog t)) (r : Reach s0 s) {t1 t2 : Tid} {u : Nat}
    (h1 : InCb s t1 u) (h2 : InCb s t2 u) : t1 = t2 := by
  have hi : DInv (Guarded slot) s := (DInv.init h0 hg).reach (Guarded.disc slot) r
  exact Option.some.inj ((incb_holder hi h1).symm.trans (incb_holder hi h2))

/-- Slightly more: a callback of `u` never runs while another thread is inside
    *any* section of `slot u` (e.g. `Subscriber::unsubscribe`, which takes the
    slot to empty it). -/
theorem callback_excludes_section {slot : Nat → Cell} {s0 s : State} (h0 : Init s0)
    (hg : ∀ t, Guarded slot [] (s0.prog t)) (r : Reach s0 s) {t1 t2 : Tid} {u : Nat}
    (h1 : InCb s t1 u) (h2 : InSection s t2 (slot u)) : t1 = t2 := by
  have hi : DInv (Guarded slot) s := (DInv.init h0 hg).reach (Guarded.disc slot) r
  exact Option.some.inj ((incb_holder hi h1).symm.trans (section_holder (Guarded.disc slot) hi h2))

/-- A critical section. -/
def sect (c : Cell) (body : List Act) : List Act := .acq c :: body ++ [.rel c]

/-- `Ranked` composes sequentially: a program that returns to the stack `hs`
    followed by a program ranked from `hs`.  `RankedTo hs p`: `p` is properly
    nested and rank-increasing starting from stack `hs` and ends with stack `hs`. -/
def RankedK : List Cell → List Act → List Cell → Prop
  | hs, [], k => hs = k
  | hs, .acq c :: p, k => (∀ h ∈ hs, h < c) ∧ RankedK (c :: hs) p k
  | hs, .rel c :: p, k => hs.head? = some c ∧ RankedK hs.tail p k
  | hs, .cb _ _ :: p, k => RankedK hs p k
  | hs, .atom _ :: p, k => RankedK hs p k

theorem rankedK_nil_iff {hs : List Cell} {p : List Act} : RankedK hs p [] ↔ Ranked hs p := by
  induction p generalizing hs with
  | nil => exact Iff.rfl
  | cons a p ih =>
    cases a with
    | acq c => exact and_congr Iff.rfl ih
    | rel c => exact and_congr Iff.rfl ih
    | cb _ _ => exact ih
    | atom _ => exact ih

theorem RankedK.append {p q : List Act} {hs k k' : List Cell} :
    RankedK hs p k → RankedK k q k' → RankedK hs (p ++ q) k' := by
  induction p generalizing hs with
  | nil => intro h1 h2; cases h1; exact h2
  | cons a p ih =>
    intro h1 h2
    cases a with
    | acq c => exact ⟨h1.1, ih h1.2 h2⟩
    | rel c => exact ⟨h1.1, ih h1.2 h2⟩
    | cb _ _ => exact ih h1 h2
    | atom _ => exact ih h1 h2

theorem RankedK.sect {c : Cell} {body : List Act} {hs : List Cell}
    (hlt : ∀ h ∈ hs, h < c) (hb : RankedK (c :: hs) body (c :: hs)) :
    RankedK hs (sect c body) hs :=
  ⟨hlt, RankedK.append hb ⟨rfl, rfl⟩⟩

theorem RankedK.flatMap {α : Type} {f : α → List Act} {hs : List Cell}
    (h : ∀ x, RankedK hs (f x) hs) : ∀ xs : List α, RankedK hs (xs.flatMap f) hs
  | [] => rfl
  | x :: xs => by rw [List.flatMap_cons]; exact RankedK.append (h x) (RankedK.flatMap h xs)

end Rx.Conc
