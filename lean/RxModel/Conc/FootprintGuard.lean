import RxModel.Conc.Footprint
/-
  Conc/FootprintGuard.lean — in the delivery footprints every subscriber callback
  is issued inside a section of the cell that guards that subscriber, so
  `callbacks_serialised` applies to pipelines of the `_threads` building blocks.

  `WL sl g k d`: the shape `d` (first cell `k`, innermost enclosing guard `g`) is
  *well labelled* by `sl : subscriber → cell`: every leaf `u` sits behind at
  least one `MutArc` gate and `sl u` is the innermost one (its
  `SubscriberThreads` slot, the merge/zip/combine_latest cell, the take_until /
  observe_on slot).  A leaf with no gate at all in front of it is excluded: such
  an observer is reached through `&mut self` only and Rust's borrow checker, not
  a lock, makes its caller unique.
-/
namespace Rx.Conc

/-- `Guarded` with an explicit final stack (so that it composes). -/
def GuardedK (slot : Nat → Cell) : List Cell → List Act → List Cell → Prop
  | hs, [], k => hs = k
  | hs, .acq c :: p, k => GuardedK slot (c :: hs) p k
  | hs, .rel c :: p, k => hs.head? = some c ∧ GuardedK slot hs.tail p k
  | hs, .cb u _ :: p, k => slot u ∈ hs ∧ GuardedK slot hs p k
  | hs, .atom _ :: p, k => GuardedK slot hs p k

theorem GuardedK.guarded {slot : Nat → Cell} {p : List Act} {hs k : List Cell} :
    GuardedK slot hs p k → Guarded slot hs p := by
  induction p generalizing hs with
  | nil => intro _; trivial
  | cons a p ih =>
    intro h
    cases a with
    | acq c => exact ih h
    | rel c => exact ⟨h.1, ih h.2⟩
    | cb u n => exact ⟨h.1, ih h.2⟩
    | atom a => exact ih h

theorem GuardedK.append {slot : Nat → Cell} {p q : List Act} {hs k k' : List Cell} :
    GuardedK slot hs p k → GuardedK slot k q k' → GuardedK slot hs (p ++ q) k' := by
  induction p generalizing hs with
  | nil => intro h1 h2; cases h1; exact h2
  | cons a p ih =>
    intro h1 h2
    cases a with
    | acq c => exact ih h1 h2
    | rel c => exact ⟨h1.1, ih h1.2 h2⟩
    | cb u n => exact ⟨h1.1, ih h1.2 h2⟩
    | atom a => exact ih h1 h2

theorem GuardedK.sect {slot : Nat → Cell} {c : Cell} {body : List Act} {hs : List Cell}
    (hb : GuardedK slot (c :: hs) body (c :: hs)) : GuardedK slot hs (sect c body) hs :=
  GuardedK.append (p := .acq c :: body) hb ⟨rfl, rfl⟩

theorem GuardedK.flatMap {α : Type} {slot : Nat → Cell} {f : α → List Act} {hs : List Cell}
    (h : ∀ x, GuardedK slot hs (f x) hs) : ∀ xs : List α, GuardedK slot hs (xs.flatMap f) hs
  | [] => rfl
  | x :: xs => by rw [List.flatMap_cons]; exact GuardedK.append (h x) (GuardedK.flatMap h xs)

theorem gk_nil (slot : Nat → Cell) (hs : List Cell) : GuardedK slot hs [] hs := rfl
theorem gk_atom (slot : Nat → Cell) (hs : List Cell) (a : Nat) :
    GuardedK slot hs [.atom a] hs := rfl
theorem gk_sect_nil (slot : Nat → Cell) (c : Cell) (hs : List Cell) :
    GuardedK slot hs (sect c []) hs := GuardedK.sect (gk_nil _ _)

mutual
def WL (sl : Nat → Cell) : Option Cell → Nat → Shape → Prop
  | g, _, .leaf u => g = some (sl u)
  | g, k, .plain d => WL sl g k d
  | _, k, .slot d => WL sl (some k) (k + 1) d
  | _, k, .cell d => WL sl (some k) (k + 1) d
  | g, k, .fin d => WL sl g (k + 1) d
  | _, k, .subject ds => WLs sl (k + 2) ds
  | g, k, .behavior d => WL sl g (k + 1) d
  | g, k, .share d => WL sl g (k + 1) d
  | _, k, .task _ h d => WL sl (some (k + 1 + h)) (k + 2 + h) d
def WLs (sl : Nat → Cell) : Nat → Shapes → Prop
  | _, .nil => True
  | k, .cons d ds => WL sl (some k) (k + 1) d ∧ WLs sl (k + 1 + cells d) ds
end

/-- The gate just taken is on the stack (the form the guard hypothesis of
    `deliver_guarded` asks for). -/
theorem mem_cons_of_some_eq {α : Type} {a : α} {l : List α} :
    ∀ c, some a = some c → c ∈ a :: l :=
  fun _ h => Option.some.inj h ▸ List.mem_cons_self

mutual
theorem deliver_guarded (sl : Nat → Cell) : ∀ (d : Shape) (kd : Kind) (n k : Nat)
    (g : Option Cell) (hs : List Cell), WL sl g k d → (∀ c, g = some c → c ∈ hs) →
    GuardedK sl hs (deliver kd n k d) hs
  | .leaf u, kd, n, k, g, hs, hw, hg => by
    have hm : sl u ∈ hs := hg _ hw
    cases kd <;> simp only [deliver]
    · exact ⟨hm, rfl⟩
    · exact ⟨hm, rfl⟩
    · exact gk_nil _ _
  | .plain d, kd, n, k, g, hs, hw, hg => by
    simp only [deliver]; exact deliver_guarded sl d kd n k g hs hw hg
  | .slot d, kd, n, k, g, hs, hw, _ => by
    simp only [deliver]
    exact GuardedK.sect (deliver_guarded sl d kd n (k + 1) (some k) _ hw mem_cons_of_some_eq)
  | .cell d, kd, n, k, g, hs, hw, _ => by
    simp only [deliver]
    exact GuardedK.sect (deliver_guarded sl d kd n (k + 1) (some k) _ hw mem_cons_of_some_eq)
  | .fin d, kd, n, k, g, hs, hw, hg => by
    cases kd <;> simp only [deliver]
    · exact deliver_guarded sl d .next n (k + 1) g hs hw hg
    · exact GuardedK.append (deliver_guarded sl d (.term _) n (k + 1) g hs hw hg)
        (GuardedK.sect (gk_atom _ _ _))
    · exact deliver_guarded sl d .fin n (k + 1) g hs hw hg
  | .subject ds, kd, n, k, g, hs, hw, _ => by
    cases kd <;> simp only [deliver]
    · exact GuardedK.append (GuardedK.sect (gk_sect_nil _ _ _))
        (GuardedK.sect (bcast_guarded sl ds .next n (k + 2) _ hw))
    · exact GuardedK.append (GuardedK.sect (gk_sect_nil _ _ _))
        (GuardedK.sect (bcast_guarded sl ds (.term _) n (k + 2) _ hw))
    · exact gk_sect_nil _ _ _
  | .behavior d, kd, n, k, g, hs, hw, hg => by
    cases kd <;> simp only [deliver]
    · exact GuardedK.append (GuardedK.sect (gk_atom _ _ _))
        (deliver_guarded sl d .next n (k + 1) g hs hw hg)
    · exact deliver_guarded sl d (.term _) n (k + 1) g hs hw hg
    · exact deliver_guarded sl d .fin n (k + 1) g hs hw hg
  | .share d, kd, n, k, g, hs, hw, hg => by
    simp only [deliver]; exact deliver_guarded sl d kd n (k + 1) g hs hw hg
  | .task dl h d, kd, n, k, g, hs, hw, _ => by
    cases kd <;> simp only [deliver]
    · exact GuardedK.append (gk_sect_nil _ _ _) (gk_sect_nil _ _ _)
    · split
      · exact GuardedK.sect
          (deliver_guarded sl d (.term _) n (k + 2 + h) (some (k + 1 + h)) _ hw mem_cons_of_some_eq)
      · exact GuardedK.append (gk_sect_nil _ _ _) (gk_sect_nil _ _ _)
    · exact GuardedK.sect
        (deliver_guarded sl d .fin n (k + 2 + h) (some (k + 1 + h)) _ hw mem_cons_of_some_eq)
theorem bcast_guarded (sl : Nat → Cell) : ∀ (ds : Shapes) (kd : Kind) (n k : Nat)
    (hs : List Cell), WLs sl k ds → GuardedK sl hs (bcast kd n k ds) hs
  | .nil, kd, n, k, hs, _ => by cases kd <;> exact gk_nil _ _
  | .cons d ds, kd, n, k, hs, hw => by
    have hd := fun kd' =>
      deliver_guarded sl d kd' n (k + 1) (some k) (k :: hs) hw.1 mem_cons_of_some_eq
    have hr := fun kd' => bcast_guarded sl ds kd' n (k + 1 + cells d) hs hw.2
    cases kd <;> simp only [bcast]
    · exact GuardedK.append (GuardedK.sect (hd .next)) (hr .next)
    · exact GuardedK.append (GuardedK.sect (hd (.term _))) (hr (.term _))
    · exact GuardedK.append (GuardedK.append (GuardedK.sect (hd .fin)) (gk_sect_nil _ _ _))
        (hr .fin)
end

/-- A script of deliveries at the root of a well-labelled pipeline. -/
def deliveries (p : Shape) (es : List (Kind × Nat)) : List Act :=
  es.flatMap fun e => deliver e.1 e.2 0 p

theorem deliveries_guarded (sl : Nat → Cell) (p : Shape) (hw : WL sl none 0 p)
    (es : List (Kind × Nat)) : Guarded sl [] (deliveries p es) :=
  GuardedK.guarded (GuardedK.flatMap (f := fun e => deliver e.1 e.2 0 p)
    (fun e => deliver_guarded sl p e.1 e.2 0 none [] hw (fun _ h => nomatch h)) es)

theorem deliveries_ranked (p : Shape) : ∀ es, Ranked [] (deliveries p es) := fun es =>
  rankedK_nil_iff.1 (RankedK.flatMap (f := fun e => deliver e.1 e.2 0 p)
    (fun e => deliver_ranked p e.1 e.2 0 [] (Below.nil _)) es)

end Rx.Conc
