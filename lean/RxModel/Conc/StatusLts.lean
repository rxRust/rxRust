import RxModel.Conc.DLts
/-
  Conc/StatusLts.lean — `complete_status`: producer ∥ waiter (C14, schedules clause).

  src/ops/complete_status.rs
    StatusObserver::complete/error (65-75):
        self.observer.complete();
        self.status.flag.store(1, Ordering::Relaxed);      -- atom 0
        self.status.waker.wake();                          -- atom 1
    StatusFuture::poll (105-119):
        if self.0.is_closed() {                            -- atom 2  (flag.load() != 0)
          Poll::Ready(..)
        } else {
          self.0.waker.register(cx.waker());               -- atom 3  (register, return Pending)
          Poll::Pending
        }
  No mutex is involved: `AtomicI8` and `futures::task::AtomicWaker` operations are
  single steps (DESIGN §3.3).  `AtomicWaker::wake` takes the registered waker, if
  any, and wakes it; with none registered it does nothing.

  The repaired waiter (the documented AtomicWaker pattern):
        self.0.waker.register(cx.waker());                 -- atom 4
        if self.0.is_closed() { Ready } else { Pending }   -- atom 5
-/
namespace Rx.Conc.Status

structure D where
  flag : Bool            -- flag ≠ 0
  waker : Bool           -- a waker is registered
  woken : Bool           -- the registered waker has been woken (the executor will poll again)
  seen : Bool            -- waiter-local: what `is_closed()` returned
  res : Option Bool      -- result of the poll: `some true` = Ready, `some false` = Pending
  deriving DecidableEq, Repr

def d0 : D := ⟨false, false, false, false, none⟩

def sem (_ : Tid) (a : Act) (d : D) : D :=
  match a with
  | .atom 0 => { d with flag := true }
  | .atom 1 => if d.waker then { d with woken := true, waker := false } else d
  | .atom 2 => { d with seen := d.flag }
  | .atom 3 => if d.seen then { d with res := some true }
               else { d with waker := true, res := some false }
  | .atom 4 => { d with waker := true }
  | .atom 5 => { d with res := some d.flag }
  | _ => d

/-- Thread 0: the producer's terminal (downstream first, then store, then wake). -/
def producer : List Act := [.cb 0 0, .atom 0, .atom 1]

/-- Thread 1: `StatusFuture::poll` as written: check, then register. -/
def waiterAsWritten : List Act := [.atom 2, .atom 3]

/-- Thread 1: repaired: register, then re-check. -/
def waiterFixed : List Act := [.atom 4, .atom 5]

/-- The waiter does not hang: its poll returned Ready, or its waker has been
    woken (so the executor polls again) and the flag is already set (so that
    poll returns Ready, whichever of the two poll bodies is used). -/
def Good (fin : Bool) (d : D) : Prop :=
  fin = true → d.res = some true ∨ (d.woken = true ∧ d.flag = true)

instance (fin : Bool) (d : D) : Decidable (Good fin d) := by unfold Good; exact inferInstance

theorem visitedFixed :
    ∀ x ∈ visited sem 2 (size 2 (mkState [producer, waiterFixed])) (mkState [producer, waiterFixed])
      d0, Good x.1 x.2 := by
  decide +kernel

end Rx.Conc.Status
