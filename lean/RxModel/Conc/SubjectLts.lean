import RxModel.Conc.Exec
/-
  Conc/SubjectLts.lean — `SubjectThreads` under concurrent producers: one common
  order (C10 "common order", C06_threads).

  src/subject.rs:162-169 (`next`), 171-194 (`error`/`complete`): after `load()`,
  the broadcast is ONE critical section of the `observers` cell, inside which the
  live list is iterated in list order and each subscriber is called (through its
  own slot section).  Mutual exclusion of `observers` sections therefore fixes a
  single global order of broadcasts — the order in which the broadcasting
  threads acquire `observers` — and every subscriber sees (a subsequence of)
  exactly that order.

  Model.  Cell `obs` is the observers cell.  A broadcast of emission `n` is a
  section of `obs` that starts with the marker `atom n` (the first thing done
  under the lock: it stands for the acquisition itself) and then contains the
  callbacks `cb u n` of the receivers, each receiver at most once, possibly
  wrapped in sections of other cells (slots).  Sections of `obs` without a marker
  (`load`, `unsubscribe`, `len`, `retain`, …) contain no callbacks.  Outside `obs`
  sections threads may lock other cells (`subscribe` = chamber, `unsubscribe` of
  a subscriber = its slot) but issue no callbacks of this subject.  This
  discipline is the per-thread typestate `Bc`; `next`/`error`/`complete`
  footprints satisfy it (`bc_next`).

  Result (`common_order`): under every schedule, for every subscriber `u`, the
  sequence of emissions delivered to `u` is a subsequence of the global marker
  order.  Any number of threads, any number of emissions.
-/
namespace Rx.Conc

/-- Run with the trace of executed actions (`(thread, action)` in execution order). -/
inductive TRun : State → List (Tid × Act) → State → Prop where
  | nil {s : State} : TRun s [] s
  | snoc {s s1 s2 : State} {tr : List (Tid × Act)} {t : Tid} {a : Act} {p : List Act} :
      TRun s tr s1 → s1.prog t = a :: p → Step s1 t s2 → TRun s (tr ++ [(t, a)]) s2

theorem TRun.reach {s s' : State} {tr : List (Tid × Act)} (r : TRun s tr s') : Reach s s' := by
  induction r with
  | nil => exact Reach.refl
  | snoc _ _ st ih => exact Reach.step ih st

/-- What subscriber `u` has received: the emission numbers of its callbacks, in order. -/
def logOf (u : Nat) (tr : List (Tid × Act)) : List Nat :=
  tr.filterMap fun x => match x.2 with
    | .cb u' n => if u' = u then some n else none
    | _ => none

/-- The global broadcast order: the markers, i.e. the order in which broadcasting
    threads entered their `observers` section. -/
def gorder (tr : List (Tid × Act)) : List Nat :=
  tr.filterMap fun x => match x.2 with
    | .atom n => some n
    | _ => none

def logD (u : Nat) : Act → List Nat
  | .cb u' n => if u' = u then [n] else []
  | _ => []

def gD : Act → List Nat
  | .atom n => [n]
  | _ => []

theorem logOf_snoc (u : Nat) (tr : List (Tid × Act)) (t : Tid) (a : Act) :
    logOf u (tr ++ [(t, a)]) = logOf u tr ++ logD u a := by
  unfold logOf
  rw [List.filterMap_append]
  congr 1
  cases a with
  | cb u' n => by_cases h : u' = u <;> simp [logD, h]
  | _ => rfl

theorem gorder_snoc (tr : List (Tid × Act)) (t : Tid) (a : Act) :
    gorder (tr ++ [(t, a)]) = gorder tr ++ gD a := by
  unfold gorder
  rw [List.filterMap_append]
  cases a <;> rfl

/-- Typestate of a thread w.r.t. the observers cell. -/
inductive BcSt where
  | out
  | fresh
  | marked (n : Nat) (seen : List Nat)

def nextSt (obs : Cell) : BcSt → Act → BcSt
  | .out, .acq c => if c = obs then .fresh else .out
  | .fresh, .rel c => if c = obs then .out else .fresh
  | .fresh, .atom n => .marked n []
  | .marked n seen, .rel c => if c = obs then .out else .marked n seen
  | .marked n seen, .cb u _ => .marked n (u :: seen)
  | st, _ => st

/-- Is action `a` admissible in typestate `st`? -/
def Ok (obs : Cell) : BcSt → Act → Prop
  | .out, .acq _ => True
  | .out, .rel c => c ≠ obs
  | .out, .cb _ _ => False
  | .out, .atom _ => False
  | .fresh, .acq c => c ≠ obs
  | .fresh, .rel _ => True
  | .fresh, .atom _ => True
  | .fresh, .cb _ _ => False
  | .marked _ _, .acq c => c ≠ obs
  | .marked _ _, .rel _ => True
  | .marked n seen, .cb u m => m = n ∧ u ∉ seen
  | .marked _ _, .atom _ => False

/-- The broadcast discipline of a remaining program. -/
def Bc (obs : Cell) : BcSt → List Act → Prop
  | st, [] => st = .out
  | st, a :: p => Ok obs st a ∧ Bc obs (nextSt obs st a) p

/-- An action that is not a lock action on `obs` does not change "outside". -/
theorem nextSt_out_iff {obs : Cell} {st : BcSt} {a : Act} (hok : Ok obs st a)
    (h1 : a ≠ .acq obs) (h2 : a ≠ .rel obs) : nextSt obs st a = .out ↔ st = .out := by
  cases st <;> cases a <;> simp_all [nextSt, Ok]

/-- Lock actions do not start a marked section. -/
theorem nextSt_marked {obs : Cell} {st : BcSt} {a : Act} {n : Nat} {seen : List Nat}
    (h : nextSt obs st a = .marked n seen) (ha : ∀ u m, a ≠ .cb u m) (hb : ∀ m, a ≠ .atom m) :
    st = .marked n seen := by
  cases a with
  | acq c | rel c => by_cases hc : c = obs <;> cases st <;> simp_all [nextSt]
  | cb u m => exact (ha u m rfl).elim
  | atom m => exact (hb m rfl).elim

theorem Ok.of_cb {obs : Cell} {st : BcSt} {u m : Nat} (h : Ok obs st (.cb u m)) :
    ∃ seen, st = .marked m seen ∧ u ∉ seen := by
  cases st with
  | marked n seen => exact ⟨seen, by rw [h.1], h.2⟩
  | _ => exact h.elim

theorem Ok.of_atom {obs : Cell} {st : BcSt} {n : Nat} (h : Ok obs st (.atom n)) : st = .fresh := by
  cases st with
  | fresh => rfl
  | _ => exact h.elim

/-- The global invariant.  `cur`: while a thread is in the section it marked `n`,
    `n` is the last entry of the global order and a receiver it has not called
    yet has a log that fits before that entry. -/
structure GInv (obs : Cell) (tr : List (Tid × Act)) (s : State) (st : Tid → BcSt) : Prop where
  bc : ∀ t, Bc obs (st t) (s.prog t)
  hold : ∀ t, st t ≠ .out ↔ s.holder obs = some t
  sub : ∀ u, List.Sublist (logOf u tr) (gorder tr)
  cur : ∀ t n seen, st t = .marked n seen →
    ∃ g, gorder tr = g ++ [n] ∧ ∀ u, u ∉ seen → List.Sublist (logOf u tr) g

theorem GInv.init {obs : Cell} {s : State} (h0 : Init s) (hp : ∀ t, Bc obs .out (s.prog t)) :
    GInv obs [] s (fun _ => .out) where
  bc := hp
  hold t := by simp [h0 obs]
  sub u := List.Sublist.refl _
  cur _ _ _ h := nomatch h

/-- `hold` makes the threads inside an `obs` section unique. -/
theorem GInv.excl {obs : Cell} {tr : List (Tid × Act)} {s : State} {st : Tid → BcSt}
    (h : GInv obs tr s st) {t t' : Tid} (ht : st t ≠ .out) (hne : t' ≠ t) : st t' = .out :=
  Classical.byContradiction fun ht' =>
    hne (Option.some.inj (((h.hold t').1 ht').symm.trans ((h.hold t).1 ht)))

theorem GInv.step {obs : Cell} {tr : List (Tid × Act)} {s s' : State} {st : Tid → BcSt}
    (h : GInv obs tr s st) {t : Tid} {a : Act} {p : List Act} (hp : s.prog t = a :: p)
    (stp : Step s t s') :
    GInv obs (tr ++ [(t, a)]) s' (upd st t (nextSt obs (st t) a)) := by
  have hbt := h.bc t
  rw [hp] at hbt
  obtain ⟨hok, hbn⟩ := hbt
  obtain ⟨hprog, hh⟩ := stp.inv hp
  have hbc : ∀ t', Bc obs (upd st t (nextSt obs (st t) a) t') (s'.prog t') := fun t' => by
    by_cases ht : t' = t
    · subst ht; simpa [hprog] using hbn
    · simpa [hprog, ht] using h.bc t'
  have hhold : ∀ t', upd st t (nextSt obs (st t) a) t' ≠ .out ↔ s'.holder obs = some t' := by
    intro t'
    by_cases h1 : a = .acq obs
    · -- `obs` was free, so everybody was outside; `t` enters
      subst h1
      have hall : ∀ t'', st t'' = .out := fun t'' => Classical.byContradiction fun hne => by
        have := (h.hold t'').1 hne
        rw [hh.1] at this; cases this
      rw [hh.2, hall t]
      by_cases ht : t' = t
      · simp [ht, nextSt]
      · simp [ht, hall t', Ne.symm ht]
    · by_cases h2 : a = .rel obs
      · -- `t` held `obs`, so the others were outside; `t` leaves
        subst h2
        have hin : st t ≠ .out := (h.hold t).2 hh.1
        have hnext : nextSt obs (st t) (.rel obs) = .out := by
          cases hst : st t <;> simp [nextSt, hst] at hin ⊢
        rw [hh.2, hnext]
        by_cases ht : t' = t
        · simp [ht]
        · simp [ht, h.excl hin ht]
      · have hho : s'.holder obs = s.holder obs := by
          cases a with
          | acq c => rw [hh.2, upd_other]; rintro rfl; exact h1 rfl
          | rel c => rw [hh.2, upd_other]; rintro rfl; exact h2 rfl
          | _ => exact congrFun hh obs
        rw [hho]
        by_cases ht : t' = t
        · subst ht
          rw [upd_same, ← h.hold t']
          exact not_congr (nextSt_out_iff hok h1 h2)
        · rw [upd_other _ _ ht]; exact h.hold t'
  -- a thread other than `t` that is in a marked section: then `t` is outside
  have hoth : ∀ {t' n' seen'}, t' ≠ t → st t' = .marked n' seen' → st t = .out :=
    fun ht' hm => h.excl (by rw [hm]; exact BcSt.noConfusion) (Ne.symm ht')
  cases a with
  | cb u' m =>
      obtain ⟨seen, hst, hu'⟩ := hok.of_cb
      obtain ⟨g, hg, hlog⟩ := h.cur t _ _ hst
      refine ⟨hbc, hhold, fun u => ?_, fun t' n' seen' hm => ?_⟩
      · rw [logOf_snoc, gorder_snoc, hg]
        by_cases hu : u' = u
        · subst hu; simpa [logD, gD] using (hlog u' hu').append (List.Sublist.refl [m])
        · simpa [logD, gD, hu, hg] using h.sub u
      · by_cases ht : t' = t
        · subst ht
          obtain ⟨rfl, rfl⟩ : m = n' ∧ u' :: seen = seen' := by simpa [hst, nextSt] using hm
          refine ⟨g, by simpa [gorder_snoc, gD] using hg, fun u hu => ?_⟩
          rw [List.mem_cons, not_or] at hu
          simpa [logOf_snoc, logD, Ne.symm hu.1] using hlog u hu.2
        · rw [upd_other _ _ ht] at hm
          have := hoth ht hm
          rw [hst] at this; cases this
  | atom n =>
      have hst := hok.of_atom
      refine ⟨hbc, hhold, fun u => ?_, fun t' n' seen' hm => ?_⟩
      · simpa [logOf_snoc, gorder_snoc, logD, gD] using
          (h.sub u).trans (List.sublist_append_left _ _)
      · by_cases ht : t' = t
        · subst ht
          obtain ⟨rfl, rfl⟩ : n = n' ∧ [] = seen' := by simpa [hst, nextSt] using hm
          exact ⟨gorder tr, by simp [gorder_snoc, gD], fun u _ => by
            simpa [logOf_snoc, logD] using h.sub u⟩
        · rw [upd_other _ _ ht] at hm
          have := hoth ht hm
          rw [hst] at this; cases this
  | acq c | rel c =>
    refine ⟨hbc, hhold, fun u => ?_, fun t' n' seen' hm => ?_⟩
    · simpa [logOf_snoc, gorder_snoc, logD, gD] using h.sub u
    · have hm' : st t' = .marked n' seen' := by
        by_cases ht : t' = t
        · subst ht
          rw [upd_same] at hm
          exact nextSt_marked hm (fun _ _ e => nomatch e) (fun _ e => nomatch e)
        · rwa [upd_other _ _ ht] at hm
      simpa [logOf_snoc, gorder_snoc, logD, gD] using h.cur t' n' seen' hm'

theorem GInv.run {obs : Cell} {s0 s : State} {tr : List (Tid × Act)} (h0 : Init s0)
    (hp : ∀ t, Bc obs .out (s0.prog t)) (r : TRun s0 tr s) : ∃ st, GInv obs tr s st := by
  induction r with
  | nil => exact ⟨_, GInv.init h0 hp⟩
  | snoc _ hq stp ih => obtain ⟨st, h⟩ := ih; exact ⟨_, h.step hq stp⟩

/-- **One common order.**  Under every schedule, what each subscriber has
    received so far is a subsequence of the global broadcast order. -/
theorem common_order {obs : Cell} {s0 s : State} {tr : List (Tid × Act)} (h0 : Init s0)
    (hp : ∀ t, Bc obs .out (s0.prog t)) (r : TRun s0 tr s) (u : Nat) :
    List.Sublist (logOf u tr) (gorder tr) :=
  let ⟨_, h⟩ := GInv.run h0 hp r
  h.sub u

/-- In a duplicate-free list two elements cannot occur in both orders. -/
theorem no_both_orders {m n : Nat} (hmn : m ≠ n) :
    ∀ {g : List Nat}, g.Nodup → List.Sublist [m, n] g → List.Sublist [n, m] g → False
  | [], _, h, _ => by cases h
  | x :: g, hnd, h1, h2 => by
    have hnd' := List.nodup_cons.1 hnd
    cases h1 with
    | cons _ h1' =>
      cases h2 with
      | cons _ h2' => exact no_both_orders hmn hnd'.2 h1' h2'
      | cons_cons _ h2' =>
        -- x = n, and [m, n] ⊆ g: n ∈ g, contradiction
        have : n ∈ g := h1'.subset (by simp)
        exact hnd'.1 this
    | cons_cons _ h1' =>
      -- x = m, [n] ⊆ g
      cases h2 with
      | cons _ h2' =>
        have : m ∈ g := h2'.subset (by simp)
        exact hnd'.1 this
      | cons_cons _ h2' => exact hmn rfl

/-- Body of a broadcast: each receiver called inside its slot section. -/
def bcBody (slot : Nat → Cell) (n : Nat) : List Nat → List Act
  | [] => []
  | u :: us => sect (slot u) [.cb u n] ++ bcBody slot n us

/-- `SubjectThreads::next` of emission `n` to the live list `subs`:
    `load` (observers ▸ chamber) then the broadcast section. -/
def subjNext (obs chamber : Cell) (slot : Nat → Cell) (n : Nat) (subs : List Nat) : List Act :=
  sect obs (sect chamber []) ++ sect obs (.atom n :: bcBody slot n subs)

theorem bc_body {obs : Cell} {slot : Nat → Cell} {n : Nat} (hs : ∀ u, slot u ≠ obs)
    {rest : List Act} (hrest : Bc obs .out rest) :
    ∀ (us seen : List Nat), us.Nodup → (∀ u ∈ us, u ∉ seen) →
      Bc obs (.marked n seen) (bcBody slot n us ++ .rel obs :: rest)
  | [], seen, _, _ => by simpa [bcBody, Bc, Ok, nextSt] using hrest
  | u :: us, seen, hnd, hseen => by
    have hnd' := List.nodup_cons.1 hnd
    have ih := bc_body (n := n) hs hrest us (u :: seen) hnd'.2 (by
      intro v hv hvs
      rcases List.mem_cons.1 hvs with e | m
      · subst e; exact hnd'.1 hv
      · exact hseen v (List.mem_cons_of_mem _ hv) m)
    simpa [bcBody, sect, Bc, Ok, nextSt, hs u, hseen u List.mem_cons_self] using ih

/-- A script of `next`s (distinct receivers per emission, slots and chamber
    different from the observers cell) satisfies the broadcast discipline. -/
theorem bc_next {obs chamber : Cell} {slot : Nat → Cell} (hc : chamber ≠ obs)
    (hs : ∀ u, slot u ≠ obs) {n : Nat} {subs : List Nat} (hnd : subs.Nodup)
    {rest : List Act} (hrest : Bc obs .out rest) :
    Bc obs .out (subjNext obs chamber slot n subs ++ rest) := by
  simpa [subjNext, sect, Bc, Ok, nextSt, hc] using
    bc_body (n := n) hs hrest subs [] hnd (fun _ _ h => nomatch h)

/-- A script of emissions by one thread: `(n, receivers)` in order. -/
def subjScript (obs chamber : Cell) (slot : Nat → Cell) : List (Nat × List Nat) → List Act
  | [] => []
  | (n, subs) :: es => subjNext obs chamber slot n subs ++ subjScript obs chamber slot es

theorem bc_script {obs chamber : Cell} {slot : Nat → Cell} (hc : chamber ≠ obs)
    (hs : ∀ u, slot u ≠ obs) :
    ∀ (es : List (Nat × List Nat)), (∀ e ∈ es, e.2.Nodup) →
      Bc obs .out (subjScript obs chamber slot es)
  | [], _ => rfl
  | (n, subs) :: es, h =>
    bc_next hc hs (h (n, subs) List.mem_cons_self)
      (bc_script hc hs es (fun e he => h e (List.mem_cons_of_mem _ he)))

/-- Executable traced execution of a schedule. -/
def texec : State → List Tid → Option (List (Tid × Act) × State)
  | s, [] => some ([], s)
  | s, t :: ts => match s.prog t, step? s t with
    | a :: _, some s1 => (texec s1 ts).map fun x => ((t, a) :: x.1, x.2)
    | _, _ => none

theorem TRun.cons {s s1 s2 : State} {t : Tid} {a : Act} {p : List Act} {tr : List (Tid × Act)}
    (hp : s.prog t = a :: p) (st : Step s t s1) (r : TRun s1 tr s2) :
    TRun s ((t, a) :: tr) s2 := by
  induction r with
  | nil => exact TRun.snoc (tr := []) TRun.nil hp st
  | snoc _ hq st' ih => exact TRun.snoc (tr := _ :: _) ih hq st'

theorem texec_sound : ∀ {ts : List Tid} {s s' : State} {tr : List (Tid × Act)},
    texec s ts = some (tr, s') → TRun s tr s'
  | [], s, s', tr, h => by simp [texec] at h; obtain ⟨rfl, rfl⟩ := h; exact TRun.nil
  | t :: ts, s, s', tr, h => by
    simp only [texec] at h
    split at h
    · rename_i a p s1 hp hs
      cases hx : texec s1 ts with
      | none => rw [hx] at h; cases h
      | some x =>
        rw [hx] at h
        simp at h
        obtain ⟨rfl, rfl⟩ := h
        exact TRun.cons hp (step?_sound hs) (texec_sound (by rw [hx]))
    · cases h

/-! ## Which subscribers receive an emission (sections as atomic steps)

  `observers` is only touched under the observers cell and `chamber` only under
  the chamber cell (`load` holds both), so by `lts_mutex` the sections are
  atomic with respect to each other and can be taken as single events:
    `push u`  — `actual_subscribe`: `chamber.push(u)`            (subject.rs:232-239)
    `load`    — `observers.append(chamber)`                      (subject.rs:129-133)
    `call n`  — a thread enters `next(n)` (no effect; it marks the moment)
    `bcast n` — the broadcast section of `next(n)`: receivers := `observers`
  Events of any number of threads interleave arbitrarily; the only constraint on
  the thread that emits `n` is its program order `call n … load … bcast n`. -/

inductive SEv where
  | call (n : Nat)
  | load
  | bcast (n : Nat)
  | push (u : Nat)

structure SD where
  obs : List Nat
  cham : List Nat

def sstep (d : SD) : SEv → SD
  | .load => ⟨d.obs ++ d.cham, []⟩
  | .push u => ⟨d.obs, d.cham ++ [u]⟩
  | _ => d

def srun (d : SD) (tr : List SEv) : SD := tr.foldl sstep d

def pushes (tr : List SEv) : List Nat :=
  tr.filterMap fun e => match e with
    | .push u => some u
    | _ => none

theorem pushes_append (a b : List SEv) : pushes (a ++ b) = pushes a ++ pushes b :=
  List.filterMap_append

theorem srun_all (tr : List SEv) : ∀ d : SD,
    (srun d tr).obs ++ (srun d tr).cham = d.obs ++ d.cham ++ pushes tr := by
  induction tr with
  | nil => intro d; simp [srun, pushes]
  | cons e tr ih =>
    intro d
    have := ih (sstep d e)
    simp only [srun, List.foldl_cons] at this ⊢
    rw [this]
    cases e <;> simp [sstep, pushes]

theorem srun_obs_mono (tr : List SEv) : ∀ (d : SD) (u : Nat), u ∈ d.obs → u ∈ (srun d tr).obs := by
  induction tr with
  | nil => intro d u h; exact h
  | cons e tr ih =>
    intro d u h
    simp only [srun, List.foldl_cons]
    apply ih
    cases e <;> simp [sstep, h]

theorem srun_append (d : SD) (a b : List SEv) : srun d (a ++ b) = srun (srun d a) b := by
  simp [srun, List.foldl_append]

/-- **Receiver set.**  The broadcast of emission `n`, whose thread entered `next`
    after `pre`, loaded after `m1` and broadcast after `m2` (arbitrary events of
    other threads in `pre`, `m1`, `m2`): the receivers (the `observers` list at
    the broadcast) contain every subscriber pushed before the call and only
    subscribers pushed before the broadcast section. -/
theorem receivers_between (pre m1 m2 : List SEv) (n : Nat) :
    let tr := pre ++ [.call n] ++ m1 ++ [.load] ++ m2
    let recv := (srun ⟨[], []⟩ tr).obs
    (∀ u ∈ pushes pre, u ∈ recv) ∧ (∀ u ∈ recv, u ∈ pushes tr) := by
  intro tr recv
  constructor
  · intro u hu
    -- at the emitter's `load` everything pushed so far moves into `observers`
    have hmem : u ∈ (sstep (srun ⟨[], []⟩ (pre ++ [.call n] ++ m1)) .load).obs := by
      show u ∈ _ ++ _
      rw [srun_all]
      simp [pushes_append, hu]
    show u ∈ (srun ⟨[], []⟩ (pre ++ [.call n] ++ m1 ++ [.load] ++ m2)).obs
    rw [srun_append, srun_append]
    exact srun_obs_mono m2 _ u hmem
  · intro u hu
    have : u ∈ (srun ⟨[], []⟩ tr).obs ++ (srun ⟨[], []⟩ tr).cham := List.mem_append_left _ hu
    rw [srun_all] at this
    simpa using this

end Rx.Conc
