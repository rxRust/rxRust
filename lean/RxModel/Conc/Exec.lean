import RxModel.Conc.Lts
/-
  Conc/Exec.lean — executions along schedules, the termination measure, and
  "every maximal execution is finite and ends with all programs empty".

  Finitely many *active* threads are assumed here (`Support n s`: threads `≥ n`
  have the empty program) — `n` is arbitrary, nothing is bounded.
-/
namespace Rx.Conc

/-- `Run s ts s'`: starting in `s`, the schedule `ts` (the list of thread ids
    that move, in order) can be executed and leads to `s'`. -/
inductive Run : State → List Tid → State → Prop where
  | nil {s : State} : Run s [] s
  | cons {s s1 s2 : State} {t : Tid} {ts : List Tid} :
      Step s t s1 → Run s1 ts s2 → Run s (t :: ts) s2

theorem Reach.head {z a b : State} {t : Tid} (st : Step z t a) (r : Reach a b) : Reach z b := by
  induction r with
  | refl => exact .step .refl st
  | step _ st2 ih => exact .step ih st2

theorem Run.reach {s s' : State} {ts : List Tid} (r : Run s ts s') : Reach s s' := by
  induction r with
  | nil => exact .refl
  | cons st _ ih => exact ih.head st

theorem Run.snoc {s s1 s2 : State} {ts : List Tid} {t : Tid} (r : Run s ts s1)
    (st : Step s1 t s2) : Run s (ts ++ [t]) s2 := by
  induction r with
  | nil => exact Run.cons st Run.nil
  | cons st1 _ ih => exact Run.cons st1 (ih st)

theorem Reach.run {s s' : State} (r : Reach s s') : ∃ ts, Run s ts s' := by
  induction r with
  | refl => exact ⟨[], Run.nil⟩
  | step _ st ih => obtain ⟨ts, h⟩ := ih; exact ⟨_, h.snoc st⟩

theorem Inv.run {s s' : State} {ts : List Tid} (h : Inv s) (r : Run s ts s') : Inv s' :=
  h.reach r.reach

/-- Threads `≥ n` are finished (never existed). -/
def Support (n : Nat) (s : State) : Prop := ∀ t, n ≤ t → s.prog t = []

/-- Total remaining program length of threads `< n`. -/
def psize : Nat → (Tid → List Act) → Nat
  | 0, _ => 0
  | n + 1, f => psize n f + (f n).length

def size (n : Nat) (s : State) : Nat := psize n s.prog

theorem psize_upd_ge {f : Tid → List Act} {t : Tid} {p : List Act} :
    ∀ {n : Nat}, n ≤ t → psize n (upd f t p) = psize n f
  | 0, _ => rfl
  | n + 1, h => by
    have hne : n ≠ t := by intro e; subst e; exact Nat.lt_irrefl _ h
    simp only [psize, upd_other f p hne]
    rw [psize_upd_ge (Nat.le_of_succ_le h)]

theorem psize_upd_lt {f : Tid → List Act} {t : Tid} {a : Act} {p : List Act}
    (hf : f t = a :: p) : ∀ {n : Nat}, t < n → psize n (upd f t p) + 1 = psize n f
  | 0, h => absurd h (Nat.not_lt_zero _)
  | n + 1, h => by
    by_cases e : t = n
    · subst e
      simp only [psize, upd_same, psize_upd_ge (Nat.le_refl _), hf, List.length_cons]
      omega
    · have hlt : t < n := Nat.lt_of_le_of_ne (Nat.le_of_lt_succ h) e
      have hne : n ≠ t := fun e' => e e'.symm
      have ih := psize_upd_lt hf hlt
      simp only [psize, upd_other f p hne]
      omega

theorem Support.tid_lt {n : Nat} {s s' : State} {t : Tid} (hs : Support n s)
    (st : Step s t s') : t < n := by
  obtain ⟨a, p, hp, _⟩ := st.prog_eq
  apply Nat.lt_of_not_le
  intro h
  rw [hs t h] at hp; cases hp

theorem Support.step {n : Nat} {s s' : State} {t : Tid} (hs : Support n s)
    (st : Step s t s') : Support n s' := by
  have hlt := hs.tid_lt st
  obtain ⟨a, p, hp, he⟩ := st.prog_eq
  intro t' ht'
  have hne : t' ≠ t := by intro e; subst e; exact Nat.lt_irrefl _ (Nat.lt_of_lt_of_le hlt ht')
  rw [he, upd_other _ _ hne]
  exact hs t' ht'

theorem Support.run {n : Nat} {s s' : State} {ts : List Tid} (hs : Support n s)
    (r : Run s ts s') : Support n s' := by
  induction r with
  | nil => exact hs
  | cons st _ ih => exact ih (hs.step st)

/-- Every step consumes exactly one action: the measure drops by one. -/
theorem step_size {n : Nat} {s s' : State} {t : Tid} (hs : Support n s) (st : Step s t s') :
    size n s' + 1 = size n s := by
  have hlt := hs.tid_lt st
  obtain ⟨a, p, hp, he⟩ := st.prog_eq
  unfold size
  rw [he]
  exact psize_upd_lt hp hlt

/-- An execution of `k` steps lowers the measure by `k`: executions are no longer
    than the total program length. -/
theorem run_size {n : Nat} {s s' : State} {ts : List Tid} (hs : Support n s)
    (r : Run s ts s') : size n s' + ts.length = size n s := by
  induction r with
  | nil => simp
  | cons st _ ih =>
    have h1 := step_size hs st
    have h2 := ih (hs.step st)
    simp only [List.length_cons]
    omega

/-- No infinite execution. -/
theorem no_infinite_run {n : Nat} {s : State} (hs : Support n s) :
    ¬ ∃ f : Nat → State, f 0 = s ∧ ∀ i, ∃ t, Step (f i) t (f (i + 1)) := by
  intro ⟨f, h0, hstep⟩
  have key : ∀ i, Support n (f i) ∧ size n (f i) + i = size n s := by
    intro i
    induction i with
    | zero => rw [h0]; exact ⟨hs, rfl⟩
    | succ i ih =>
      obtain ⟨t, st⟩ := hstep i
      have := step_size ih.1 st
      exact ⟨ih.1.step st, by omega⟩
  have := (key (size n s + 1)).2
  omega

theorem psize_zero {f : Tid → List Act} : ∀ {n : Nat}, psize n f = 0 → ∀ t, t < n → f t = []
  | 0, _, t, h => absurd h (Nat.not_lt_zero _)
  | n + 1, h, t, ht => by
    simp only [psize] at h
    by_cases e : t = n
    · subst e; exact List.eq_nil_of_length_eq_zero (by omega)
    · exact psize_zero (by omega) t (Nat.lt_of_le_of_ne (Nat.le_of_lt_succ ht) e)

/-- A state from which no thread can step (a *maximal* execution ends there)
    has, under `Inv`, all programs empty: nobody is stuck inside a call. -/
theorem stuck_done {s : State} (h : Inv s) (hstuck : ∀ t s', ¬ Step s t s') :
    ∀ t, s.prog t = [] := by
  intro t
  apply Classical.byContradiction
  intro hne
  obtain ⟨t', s', st⟩ := rank_deadlock_free h ⟨t, hne⟩
  exact hstuck t' s' st

/-- From every `Inv` state with finitely many active threads, *any* way of
    continuing reaches the state with all programs empty; in particular one
    exists.  (Strong induction on the measure.) -/
theorem exists_complete_run {n : Nat} :
    ∀ (k : Nat) {s : State}, size n s = k → Inv s → Support n s →
      ∃ ts s', Run s ts s' ∧ ∀ t, s'.prog t = []
  | 0, s, hk, _, hs => by
    refine ⟨[], s, Run.nil, ?_⟩
    intro t
    by_cases ht : t < n
    · exact psize_zero hk t ht
    · exact hs t (Nat.le_of_not_lt ht)
  | k + 1, s, hk, hi, hs => by
    by_cases hdone : ∀ t, s.prog t = []
    · exact ⟨[], s, Run.nil, hdone⟩
    · have : ∃ t, s.prog t ≠ [] := Classical.not_forall.1 hdone
      obtain ⟨t, s1, st⟩ := rank_deadlock_free hi this
      have h1 := step_size hs st
      obtain ⟨ts, s', r, hd⟩ :=
        exists_complete_run k (s := s1) (by omega) (ranked_invariant hi st) (hs.step st)
      exact ⟨t :: ts, s', Run.cons st r, hd⟩

/-- The (unique) successor when thread `t` moves, if it can. -/
def step? (s : State) (t : Tid) : Option State :=
  match s.prog t with
  | [] => none
  | .acq c :: p =>
      if s.holder c = none then some ⟨upd s.holder c (some t), upd s.prog t p⟩ else none
  | .rel c :: p =>
      if s.holder c = some t then some ⟨upd s.holder c none, upd s.prog t p⟩ else none
  | .cb _ _ :: p => some ⟨s.holder, upd s.prog t p⟩
  | .atom _ :: p => some ⟨s.holder, upd s.prog t p⟩

theorem step?_sound {s s' : State} {t : Tid} (h : step? s t = some s') : Step s t s' := by
  unfold step? at h
  split at h
  · cases h
  · rename_i c p hp
    split at h
    · rename_i hc; cases h; exact Step.acq hp hc
    · cases h
  · rename_i c p hp
    split at h
    · rename_i hc; cases h; exact Step.rel hp hc
    · cases h
  · rename_i u n p hp; cases h; exact Step.cb hp
  · rename_i a p hp; cases h; exact Step.atom hp

theorem step?_complete {s s' : State} {t : Tid} (st : Step s t s') : step? s t = some s' := by
  cases st with
  | acq hp hc => simp [step?, hp, hc]
  | rel hp hc => simp [step?, hp, hc]
  | cb hp => simp [step?, hp]
  | atom hp => simp [step?, hp]

theorem step?_iff {s s' : State} {t : Tid} : step? s t = some s' ↔ Step s t s' :=
  ⟨step?_sound, step?_complete⟩

/-- Steps are deterministic per thread. -/
theorem Step.det {s s1 s2 : State} {t : Tid} (h1 : Step s t s1) (h2 : Step s t s2) : s1 = s2 := by
  have e1 := step?_complete h1
  have e2 := step?_complete h2
  rw [e1] at e2; exact Option.some.inj e2

def exec : State → List Tid → Option State
  | s, [] => some s
  | s, t :: ts => match step? s t with
    | none => none
    | some s1 => exec s1 ts

theorem exec_sound : ∀ {ts : List Tid} {s s' : State}, exec s ts = some s' → Run s ts s'
  | [], s, s', h => by simp [exec] at h; subst h; exact Run.nil
  | t :: ts, s, s', h => by
    simp only [exec] at h
    cases hs : step? s t with
    | none => rw [hs] at h; cases h
    | some s1 => rw [hs] at h; exact Run.cons (step?_sound hs) (exec_sound h)

theorem exec_complete {s s' : State} {ts : List Tid} (r : Run s ts s') : exec s ts = some s' := by
  induction r with
  | nil => rfl
  | cons st _ ih => simp only [exec, step?_complete st]; exact ih

/-- The end state of a schedule that can be executed, named without writing it
    out (`(exec s ts).getD s`): concrete witnesses are then judged by `decide`. -/
theorem exec_run {s : State} {ts : List Tid} (h : (exec s ts).isSome = true) :
    Run s ts ((exec s ts).getD s) :=
  exec_sound (by cases hx : exec s ts with | none => rw [hx] at h; cases h | some _ => rfl)

def enabled (s : State) (t : Tid) : Bool := (step? s t).isSome

theorem enabled_of_step {s s' : State} {t : Tid} (st : Step s t s') : enabled s t = true := by
  simp [enabled, step?_complete st]

/-- Thread `i` runs `progs[i]`; nothing is held. -/
def mkState (progs : List (List Act)) : State := ⟨fun _ => none, fun t => progs.getD t []⟩

theorem mkState_init (progs : List (List Act)) : Init (mkState progs) := fun _ => rfl

theorem getD_all {P : List Act → Prop} (h0 : P []) :
    ∀ {progs : List (List Act)}, (∀ p ∈ progs, P p) → ∀ t, P (progs.getD t [])
  | [], _, t => by simpa using h0
  | p :: ps, h, 0 => by simpa using h p List.mem_cons_self
  | p :: ps, h, t + 1 => by
    simpa using getD_all h0 (fun q hq => h q (List.mem_cons_of_mem _ hq)) t

theorem mkState_ranked {progs : List (List Act)} (h : ∀ p ∈ progs, Ranked [] p) :
    ∀ t, Ranked [] ((mkState progs).prog t) := getD_all (P := Ranked []) rfl h

theorem mkState_guarded {slot : Nat → Cell} {progs : List (List Act)}
    (h : ∀ p ∈ progs, Guarded slot [] p) :
    ∀ t, Guarded slot [] ((mkState progs).prog t) := getD_all (P := Guarded slot []) trivial h

theorem mkState_support (progs : List (List Act)) : Support progs.length (mkState progs) := by
  intro t ht
  simp [mkState, List.getD, List.getElem?_eq_none ht]

theorem mkState_inv {progs : List (List Act)} (h : ∀ p ∈ progs, Ranked [] p) :
    Inv (mkState progs) := Inv.init (mkState_init _) (mkState_ranked h)

end Rx.Conc
